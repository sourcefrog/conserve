import ConserveModel.Props.C07
import ConserveModel.Props.C05
/-
C07d — the second half of C07's delete clause: "only an explicit delete or gc removes files, and
then only the requested versions' directories, UNREFERENCED blocks and its own lock file".

`C07.delete_removes_unreferenced_Statement` (Props/C07.lean) is proved here, as a corollary of a
stronger theorem about EVERY world (`delete_removes_only_full`, `delete_removes_unreferenced_trace`): with the strict
reference scan (the code after the repair of D6), whatever faults are injected and wherever the run
is killed, no `removeFile d/xxx/<h>` is even ISSUED for a hash `h` that a decodable hunk of a band
outside `D` names.  (The statement is about the operations in the trace, successful or not.)

Proof route: the footprint of the run (`deleteBands_runOps`, Proofs/DeleteSafe.lean): in any world
the operations a run of `delete_bands D` executes are reads, the write and the removal of `GC_LOCK`,
`removeDirAll` of directories of `D`, and `removeFile` of blocks that no band outside `D` names.
What the run appends to the trace is among them (`Prog.RunOps.trace`).

Hypotheses actually used by the any-world theorem: only `HunkTreeOk s` — every hunk FILE sits in a
subdirectory that is a directory, inside a band directory that is a directory.  The `Statement`
assumes instead "every stored key's parent is a directory", which speaks of `get?`; `NoDupKeys` is
what turns it into `DirsOk` (a fact about the list's entries, `dirsOk_of_parentOk`) and hence into
`HunkTreeOk`, and is used for nothing else.  `b ∈ bandIdsOf s` is not needed (a hunk file under a
band implies its directory).
-/
namespace Conserve.C07d
open Conserve Prog

/-- **The complete delete clause about runs, for every world** with a `HunkTreeOk` store (any injected
faults, any crash point, dead or alive), strict reference scan: every removal a run of
`delete_bands D` records is `removeDirAll` of a requested version's directory, `removeFile` of the gc
lock, or `removeFile` of a block that no decodable hunk of a band outside `D` names; no write
overwrites.  (The statement is about the operations in the trace, successful or not.) -/
theorem delete_removes_only_full (D : List Nat) (o : DeleteOpts) (w : World) (hok : HunkTreeOk w.store) :
    ∃ new, ((deleteBands true D o).run w).2.trace = new ++ w.trace ∧
      (∀ ev ∈ new, ∀ k, ev.op = .removeDirAll k → ∃ b, b ∈ D ∧ k = .bandDir b) ∧
      (∀ ev ∈ new, ∀ k, ev.op = .removeFile k →
        k = .gcLock ∨ ∃ h, k = .block h ∧ ¬ referencedOutside w.store D h) ∧
      (∀ ev ∈ new, ∀ k v m, ev.op = .write k v m → m = .createNew) := by
  obtain ⟨new, ht, hP⟩ := (deleteBands_runOps D o w hok).trace
  refine ⟨new, ht, fun ev hev k hop => ?_, fun ev hev k hop => ?_, fun ev hev k v m hop => ?_⟩ <;>
    have := hP ev hev <;> rw [hop] at this <;> cases this
  · rename_i h; cases h
  · exact ⟨_, ‹_›, rfl⟩
  · rename_i h; cases h
  · exact .inl rfl
  · exact .inr ⟨_, rfl, ‹_›⟩
  · rename_i h; cases h
  · rfl

/-- **Delete never asks for the removal of a referenced block — in any world.** -/
theorem delete_removes_unreferenced_trace (D : List Nat) (o : DeleteOpts) (w : World)
    (hok : HunkTreeOk w.store) :
    ∃ new, ((deleteBands true D o).run w).2.trace = new ++ w.trace ∧
      ∀ ev ∈ new, ∀ h, ev.op = .removeFile (.block h) →
        ∀ b, b ∉ D → ∀ n es, hunkAt w.store b n = some es → ∀ e ∈ es, ∀ a ∈ e.addrs, a.hash ≠ h := by
  obtain ⟨new, ht, _, h2, _⟩ := delete_removes_only_full D o w hok
  refine ⟨new, ht, fun ev hev h hop b hb n es hes e he a ha heq => ?_⟩
  rcases h2 ev hev _ hop with hl | ⟨h', hk, hn⟩
  · cases hl
  · cases hk; exact hn ⟨b, hb, n, es, hes, e, he, a, ha, heq⟩

/-- "Every stored key's parent is a directory" (as hypothesised in the C07 statement) gives `DirsOk`. -/
theorem dirsOk_of_parentOk {s : Store} (hs : s.NoDupKeys)
    (hp : ∀ k v, s.get? k = some v → s.parentOk k = true) : DirsOk s := by
  rintro ⟨k, v⟩ hkv
  exact hp k v (Store.get?_of_mem_nodup hs hkv)

/-- **`C07.delete_removes_unreferenced_Statement` holds**, as stated: on a clean world over a store
with distinct keys in which every stored key's parent is a directory, with the strict reference
scan, no block whose removal `delete_bands D` issues is referenced by a hunk of a band that is kept
(a band directory of `s` not in `D`). -/
theorem delete_removes_unreferenced : C07.delete_removes_unreferenced_Statement := by
  intro D opts s hs hp ev hev h hop b _ hbD n es hes e he a ha
  obtain ⟨new, ht, hn⟩ := delete_removes_unreferenced_trace D opts (World.clean s)
    (dirsOk_of_parentOk hs hp).hunkTreeOk
  rw [ht, show (World.clean s).trace = [] from rfl, List.append_nil] at hev
  exact hn ev hev h hop b hbD n es hes e he a ha

/-- The hypotheses of the statement hold for the two-version example archive of C05 … -/
example : C05.exStore.NoDupKeys ∧ (∀ k v, C05.exStore.get? k = some v → C05.exStore.parentOk k = true) := by
  refine ⟨by show (C05.exStore.map Prod.fst).Nodup; decide, ?_⟩
  intro k v hv
  exact C05.ex_dirsOk (k, v) (Store.mem_of_get? hv)

/-- … and the conclusion is not about an empty set of events: deleting version 0 there does issue a
block removal (of the garbage block `ccc3`), and version 1, which is kept, names blocks. -/
example : ((deleteBands true [0] {}).run (World.clean C05.exStore)).2.store.get? (.block C05.hG) = none ∧
    C05.exStore.get? (.block C05.hG) ≠ none ∧
    referencedOutside C05.exStore [0] C05.hB := by
  obtain ⟨_, h2, _⟩ := C05.delete_exact_store C05.exStore [0] {} C05.ex_archOK0 C05.ex_lockFree C05.ex_newest rfl
    (by decide) (by rw [C05.ex_bands]; decide)
  refine ⟨?_, by decide, ?_⟩
  · rw [h2, get?_deleted_block, C05.ex_unref0]; simp
  · exact ⟨1, by decide, 0, _, rfl, C05.fileEntry [47, 98] [⟨C05.hB, 0, 2⟩], by simp,
      ⟨C05.hB, 0, 2⟩, by simp [C05.fileEntry], rfl⟩

/-- A world with a fault and a crash point also satisfies the hypothesis of the any-world theorem. -/
example : ∃ w : World, w.faults ≠ [] ∧ w.crashAt = some 2 ∧ HunkTreeOk w.store :=
  ⟨{ store := C05.exStore, faults := [⟨⟨.read, .hunk 1 0, 0⟩, .other⟩], crashAt := some 2 }, by simp, rfl,
    C05.ex_dirsOk.hunkTreeOk⟩

end Conserve.C07d
