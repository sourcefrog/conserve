import ConserveModel.Proofs.BackupPrelude
/-
C04 — Storage errors never make the archive record wrong content.
(The same theorems, instantiated at crash points, are C03; see Props/C03.lean.)

Everything here is about `(backup H o src).run w` for an ARBITRARY world `w` that enforces
`CreateNew`: any list of injected faults (any operation, any error kind, any number of them),
any crash point `crashAt := some j` (counted in micro-steps: a write is "create empty" then
"fill"), already dead or not.  The theorems are consequences of one invariant (`Good`,
Proofs/BackupStore.lean) that every single `World.exec` step of `backup` preserves
(`backup_sat`, Proofs/BackupPrelude.lean).

What is NOT covered here (and not claimed): that `backup` does not panic (it can, in the model as
in the code, on an out-of-range stored mtime in the basis or an invalid stored apath), and the
"no false success" half of C04 (success with no error reported ⇒ the new version restores to the
whole source), which is Props/C04r.lean.
-/
namespace Conserve.C04
open Conserve Conserve.Inv

variable {H : Str → Str} {o : BackupOpts} {src : List SrcEntry} {w : World}

/-- The setting of the C04 theorems: an injective block hash, a positive block size, a source
whose file sizes are the lengths of what reading returns, and a world `w` (arbitrary faults and
crash point) that enforces `CreateNew`, whose store is a map (`NoDupKeys`), whose block files are
named by their content's hash or are zero-length leftovers (`BlocksGood`), and — `basis` — for
which the assumption the tool itself makes when it skips an "unchanged" file holds of the basis
listing this run computes (`HeuristicSound`), or which has no band directory at all. -/
structure Setting (H : Str → Str) (o : BackupOpts) (src : List SrcEntry) (w : World) : Prop where
  inj : Function.Injective H
  maxBlock : 0 < o.maxBlockSize
  srcWF : SrcWF src
  enforce : w.enforceCreateNew = true
  noDup : NoDupKeys w.store
  blocksGood : BlocksGood H w.store
  basis : NoBands w.store ∨ HeuristicSound H src w

/-- The setting from hypotheses on the initial archive alone: no dangling references, and the
heuristic assumption stated over the file entries of its hunks (`HeuristicSoundStore`). -/
theorem Setting.of_store (hinj : Function.Injective H) (hmax : 0 < o.maxBlockSize) (hwf : SrcWF src)
    (he : w.enforceCreateNew = true) (hnd : NoDupKeys w.store) (hbg : BlocksGood H w.store)
    (hd : NoDangling H w.store) (hs : HeuristicSoundStore H src w.store) : Setting H o src w :=
  ⟨hinj, hmax, hwf, he, hnd, hbg, Or.inr (heuristicSound_of_store hinj w he hnd hbg hd hs)⟩

/-- The setting for an archive without any band directory (first backup): no assumption about a
basis is needed. -/
theorem Setting.nobasis (hinj : Function.Injective H) (hmax : 0 < o.maxBlockSize) (hwf : SrcWF src)
    (he : w.enforceCreateNew = true) (hnd : NoDupKeys w.store) (hbg : BlocksGood H w.store)
    (hnb : NoBands w.store) : Setting H o src w :=
  ⟨hinj, hmax, hwf, he, hnd, hbg, Or.inl hnb⟩

theorem backup_frame (h : Setting H o src w) :
    Frame H src w.store w ((backup H o src).run w).2 := by
  have hw : WOK H src w.store w :=
    ⟨h.enforce, ⟨h.noDup, h.blocksGood, fun hd => hd, fun b n es h0 h1 => by rw [h0] at h1; cases h1⟩⟩
  exact (backup_sat h.inj o h.maxBlock h.srcWF w hw h.basis).1

/-- **Frame / write-once.**  Whatever storage operations fail and wherever the run is killed,
every file of the archive is still there afterwards with the same value; the only change an
existing file can see is a zero-length leftover being completed. -/
theorem faults_extends (h : Setting H o src w) :
    Extends w.store ((backup H o src).run w).2.store :=
  (backup_frame h).ext

/-- **No dangling reference, ever.**  If no index entry of the archive referred to a missing,
corrupt or too-short block before, none does afterwards — whatever failed, wherever the run was
killed (including between the two micro-steps of any write). -/
theorem faults_no_dangling (h : Setting H o src w) (hd : NoDangling H w.store) :
    NoDangling H ((backup H o src).run w).2.store :=
  (backup_frame h).wok.good.noDangling hd

/-- **Recorded content is the source's content.**  Every file entry of every index hunk that
this run wrote (a hunk that was not decodably there before; they all belong to the band
`Band::create` chose) restores — `readBack`, the concatenation of its addresses — to exactly the
bytes of the source file WITH THE SAME PATH: never another file's bytes, never a missing or short
block.  For every fault list and every crash point. -/
theorem faults_recorded_content (h : Setting H o src w) :
    ∀ b n es, hunkAt w.store b n = none → hunkAt ((backup H o src).run w).2.store b n = some es →
      ∀ e ∈ es, e.kind = .file → RecOK H src ((backup H o src).run w).2.store e :=
  (backup_frame h).wok.good.newRec

/-- The same with the content spelled out: `sf.content` itself. -/
theorem faults_recorded_content_exact (h : Setting H o src w) :
    ∀ b n es, hunkAt w.store b n = none → hunkAt ((backup H o src).run w).2.store b n = some es →
      ∀ e ∈ es, e.kind = .file →
        ∃ sf ∈ src, sf.apath = e.apath ∧ sf.kind = .file ∧
          readBack H ((backup H o src).run w).2.store e.addrs = some sf.content := by
  intro b n es h0 h1 e he hk
  obtain ⟨sf, hsf, hap, hkf, hrb⟩ := faults_recorded_content h b n es h0 h1 e he hk
  refine ⟨sf, hsf, hap, hkf, ?_⟩
  rw [hrb, h.srcWF sf hsf hkf, List.take_length]

/-- **Blocks stay content-addressed.**  Every block file is named by the hash of its content or is
a zero-length leftover of a killed write — never wrong bytes under a name. -/
theorem faults_blocks_good (h : Setting H o src w) :
    BlocksGood H ((backup H o src).run w).2.store :=
  (backup_frame h).wok.good.blocks

theorem faults_no_dup (h : Setting H o src w) : NoDupKeys ((backup H o src).run w).2.store :=
  (backup_frame h).wok.good.noDup

/-- Old versions are untouched: every hunk that was decodable before still decodes to the same
entries, and every address that resolved before resolves to the same bytes. -/
theorem faults_old_hunks (h : Setting H o src w) {b n : Nat} {es : List IndexEntry}
    (h0 : hunkAt w.store b n = some es) : hunkAt ((backup H o src).run w).2.store b n = some es :=
  hunkAt_mono h0 (faults_extends h)

theorem faults_old_content (h : Setting H o src w) {as : List Addr} {x : Str}
    (h0 : readBack H w.store as = some x) : readBack H ((backup H o src).run w).2.store as = some x :=
  readBack_mono H h0 (faults_extends h)

theorem faults_extends_nobasis (hinj : Function.Injective H) (hmax : 0 < o.maxBlockSize) (hwf : SrcWF src)
    (he : w.enforceCreateNew = true) (hnd : NoDupKeys w.store) (hbg : BlocksGood H w.store)
    (hnb : NoBands w.store) : Extends w.store ((backup H o src).run w).2.store :=
  faults_extends (Setting.nobasis hinj hmax hwf he hnd hbg hnb)

theorem faults_no_dangling_nobasis (hinj : Function.Injective H) (hmax : 0 < o.maxBlockSize) (hwf : SrcWF src)
    (he : w.enforceCreateNew = true) (hnd : NoDupKeys w.store) (hbg : BlocksGood H w.store)
    (hnb : NoBands w.store) (hd : NoDangling H w.store) :
    NoDangling H ((backup H o src).run w).2.store :=
  faults_no_dangling (Setting.nobasis hinj hmax hwf he hnd hbg hnb) hd

theorem faults_recorded_content_nobasis (hinj : Function.Injective H) (hmax : 0 < o.maxBlockSize)
    (hwf : SrcWF src) (he : w.enforceCreateNew = true) (hnd : NoDupKeys w.store)
    (hbg : BlocksGood H w.store) (hnb : NoBands w.store) :
    ∀ b n es, hunkAt w.store b n = none → hunkAt ((backup H o src).run w).2.store b n = some es →
      ∀ e ∈ es, e.kind = .file → RecOK H src ((backup H o src).run w).2.store e :=
  faults_recorded_content (Setting.nobasis hinj hmax hwf he hnd hbg hnb)

/-- Before the repair, a failed store of a combined block lost the buffer but kept the queue:
the combiner invariant on which `faults_recorded_content` rests is violated on a two-file
example (see `Conserve.Inv.combinerFlushLosing_breaks`). -/
theorem combiner_losing_refuted :
    ∃ (src : List SrcEntry) (wr wr' : Writer) (w : World) (e : Err),
      CombOK src wr ∧ ((combinerFlushLosing id wr).run w).1 = .ok (wr', .error e) ∧ ¬ CombOK src wr' :=
  combinerFlushLosing_breaks

/-! ### Non-vacuity: the hypotheses hold of a concrete archive, source and faulty world -/

namespace Example

/-- A freshly initialised archive. -/
def archive : Store := [(.root, .dir), (.header, .header [48, 46, 54]), (.blockRoot, .dir)]

def fa : SrcEntry := { apath := [47, 97], kind := .file, mtimeNs := 0, unixMode := 420, user := none,
                       group := none, size := 2, content := [1, 2] }
def fb : SrcEntry := { apath := [47, 98], kind := .file, mtimeNs := 0, unixMode := 420, user := none,
                       group := none, size := 3, content := [3, 4, 5] }
def root : SrcEntry := { apath := [47], kind := .dir, mtimeNs := 0, unixMode := 493, user := none, group := none }
def source : List SrcEntry := [root, fa, fb]
def opts : BackupOpts := { maxEntriesPerHunk := 2, maxBlockSize := 2, smallFileCap := 2 }

/-- A world with two injected faults and a crash point. -/
def world : World :=
  { store := archive,
    faults := [{ at_ := { verb := .write, key := .block [1, 2], nth := 0 }, kind := .other },
               { at_ := { verb := .createDir, key := .blockDir [3, 4], nth := 0 }, kind := .permissionDenied }],
    crashAt := some 7 }

theorem source_wf : SrcWF source := by
  intro sf hsf _
  simp only [source, List.mem_cons, List.not_mem_nil, or_false] at hsf
  rcases hsf with rfl | rfl | rfl <;> rfl

theorem archive_noDup : NoDupKeys archive := by
  unfold NoDupKeys archive
  decide

theorem archive_blocksGood : BlocksGood id archive := by
  intro h v hv
  have hm := Store.mem_of_get? hv
  simp [archive] at hm

theorem archive_noBands : NoBands archive := by
  intro kv hkv b
  simp only [archive, List.mem_cons, List.not_mem_nil, or_false] at hkv
  rcases hkv with rfl | rfl | rfl <;> simp

theorem archive_noHunks (b n : Nat) : hunkAt archive b n = none := by
  cases h : hunkAt archive b n with
  | none => rfl
  | some es =>
    have hm := Store.mem_of_get? (hunkAt_eq_some_iff.mp h)
    simp [archive] at hm

theorem archive_noDangling : NoDangling id archive := by
  intro b n es h
  rw [archive_noHunks] at h; cases h

theorem setting : Setting id opts source world :=
  Setting.nobasis (fun _ _ h => h) (by decide) source_wf rfl archive_noDup archive_blocksGood archive_noBands

-- all the theorems apply to this faulty, killed run
example : NoDangling id ((backup id opts source).run world).2.store :=
  faults_no_dangling setting archive_noDangling

example : Extends archive ((backup id opts source).run world).2.store := faults_extends setting

/-! A second archive: one complete version holding `/a`, so that there IS a basis. -/

def ea : IndexEntry := { apath := [47, 97], kind := .file, mtime := 0, mtimeNanos := 0, unixMode := some 420,
                         user := none, group := none, addrs := [{ hash := [1, 2], start := 0, len := 2 }],
                         target := none }

def archive2 : Store :=
  [(.root, .dir), (.header, .header [48, 46, 54]), (.blockRoot, .dir),
   (.blockDir [1, 2], .dir), (.block [1, 2], .blockData [1, 2]),
   (.bandDir 0, .dir), (.bandHead 0, .head .ok []), (.indexDir 0, .dir), (.hunkDir 0 0, .dir),
   (.hunk 0 0, .hunk [ea]), (.bandTail 0, .tail (some 1))]

def world2 : World :=
  { store := archive2,
    faults := [{ at_ := { verb := .write, key := .hunk 1 0, nth := 0 }, kind := .other }],
    crashAt := some 9 }

theorem archive2_hunk {b n : Nat} {es : List IndexEntry} (h : hunkAt archive2 b n = some es) :
    b = 0 ∧ n = 0 ∧ es = [ea] := by
  have hm := Store.mem_of_get? (hunkAt_eq_some_iff.mp h)
  simpa [archive2, and_assoc] using hm

theorem archive2_noDup : NoDupKeys archive2 := by
  unfold NoDupKeys archive2
  decide

theorem archive2_blocksGood : BlocksGood id archive2 := by
  intro h v hv
  have hm := Store.mem_of_get? hv
  simp only [archive2, List.mem_cons, Prod.mk.injEq, reduceCtorEq, false_and, false_or, Key.block.injEq,
    List.not_mem_nil, or_false] at hm
  obtain ⟨rfl, rfl⟩ := hm
  exact Or.inr ⟨_, rfl, rfl⟩

theorem archive2_readBack : readBack id archive2 ea.addrs = some [1, 2] := by decide

theorem archive2_noDangling : NoDangling id archive2 := by
  intro b n es h e he
  obtain ⟨_, _, rfl⟩ := archive2_hunk h
  simp only [List.mem_singleton] at he
  subst he
  exact readBack_addr_isSome id archive2_readBack

theorem archive2_heuristic : HeuristicSoundStore id source archive2 := by
  intro b n es h e he sf hsf hk hap _ _
  obtain ⟨_, _, rfl⟩ := archive2_hunk h
  simp only [List.mem_singleton] at he
  subst he
  simp only [source, List.mem_cons, List.not_mem_nil, or_false] at hsf
  rcases hsf with rfl | rfl | rfl
  · cases hk
  · exact archive2_readBack
  · simp [ea, fb] at hap

/-- The general (with-basis) setting holds of this archive, for a faulty, killed world. -/
theorem setting2 : Setting id opts source world2 :=
  Setting.of_store (fun _ _ h => h) (by decide) source_wf rfl archive2_noDup archive2_blocksGood
    archive2_noDangling archive2_heuristic

-- the heuristic's premise is met: `/a` in the source looks unchanged against the stored entry
example : heuristicallyUnchanged fa ea = some true := by decide

example : NoDangling id ((backup id opts source).run world2).2.store :=
  faults_no_dangling setting2 archive2_noDangling

end Example

end Conserve.C04
