import ConserveModel.Props.C04
/-
C03 — A backup killed at any point leaves a consistent, usable archive (store-level part).

The crash instances of the all-worlds theorems of Props/C04.lean: no faults, the world stops
before mutating micro-step `j` (`crashAt := some j`; a write is two micro-steps — the file comes
into existence empty, then it is filled — every other mutating operation one), for EVERY `j`.
Because the invariant behind C04 is preserved by every single `World.exec` step, including both
halves of a write, nothing more is needed than to instantiate it.

Elsewhere: `Crash.killed_store` (Proofs/CrashPrefix.lean, from `Prog.run_killed`: the store the killed run
leaves IS the store of the crash-free run after its first `j` micro-steps, `Prog.storeAt`) and
`Crash.crash_prefix` (for a program that only creates it is therefore extended by the store the crash-free
run leaves — every file it wrote is a file of the complete run, or the zero-length leftover of the killed
write); none of the theorems below depends on them, they hold of every killed run directly; and the
listing/resume clauses of DESIGN §4 C03 (Props/C03r.lean).
-/
namespace Conserve.C03
open Conserve Conserve.Inv

variable {H : Str → Str}

/-- The world of an uninterrupted run on archive `s`. -/
def cleanWorld (s : Store) : World := World.clean s

/-- The world that is killed before mutating micro-step `j` (no injected faults). -/
def crashWorld (s : Store) (j : Nat) : World := { store := s, crashAt := some j }

/-- What C03 assumes of the archive the backup starts from: it is a map, its block files are named
by the hash of their content (or are zero-length leftovers of earlier kills), no index entry
dangles, and the tool's own "looks unchanged ⇒ is unchanged" assumption holds of its file entries. -/
structure ArchiveOK (H : Str → Str) (src : List SrcEntry) (s : Store) : Prop where
  noDup : NoDupKeys s
  blocksGood : BlocksGood H s
  noDangling : NoDangling H s
  heuristic : HeuristicSoundStore H src s

theorem setting (hinj : Function.Injective H) {o : BackupOpts} (hmax : 0 < o.maxBlockSize)
    {src : List SrcEntry} (hwf : SrcWF src) {s : Store} (ha : ArchiveOK H src s) (j : Nat) :
    C04.Setting H o src (crashWorld s j) :=
  C04.Setting.of_store hinj hmax hwf rfl ha.noDup ha.blocksGood ha.noDangling ha.heuristic

/-- Killed at any micro-step, the archive still holds every file it held, unchanged (a
zero-length leftover may have been completed). -/
theorem crash_extends (hinj : Function.Injective H) {o : BackupOpts} (hmax : 0 < o.maxBlockSize)
    {src : List SrcEntry} (hwf : SrcWF src) {s : Store} (ha : ArchiveOK H src s) (j : Nat) :
    Extends s ((backup H o src).run (crashWorld s j)).2.store :=
  C04.faults_extends (setting hinj hmax hwf ha j)

/-- Killed at any micro-step — before an operation, or between the creation of a file and its
content arriving — no index entry anywhere refers to a block that is missing, corrupt, or shorter
than the entry needs. -/
theorem crash_no_dangling (hinj : Function.Injective H) {o : BackupOpts} (hmax : 0 < o.maxBlockSize)
    {src : List SrcEntry} (hwf : SrcWF src) {s : Store} (ha : ArchiveOK H src s) (j : Nat) :
    NoDangling H ((backup H o src).run (crashWorld s j)).2.store :=
  C04.faults_no_dangling (setting hinj hmax hwf ha j) ha.noDangling

/-- Killed at any micro-step, every file entry the interrupted run got as far as recording (in a
hunk that was not there before) restores to exactly the bytes of the source file with that path. -/
theorem crash_recorded_content (hinj : Function.Injective H) {o : BackupOpts} (hmax : 0 < o.maxBlockSize)
    {src : List SrcEntry} (hwf : SrcWF src) {s : Store} (ha : ArchiveOK H src s) (j : Nat) :
    ∀ b n es, hunkAt s b n = none →
      hunkAt ((backup H o src).run (crashWorld s j)).2.store b n = some es →
      ∀ e ∈ es, e.kind = .file →
        ∃ sf ∈ src, sf.apath = e.apath ∧ sf.kind = .file ∧
          readBack H ((backup H o src).run (crashWorld s j)).2.store e.addrs = some sf.content :=
  C04.faults_recorded_content_exact (setting hinj hmax hwf ha j)

/-- Killed at any micro-step, every block file is named by the hash of its content or is the
zero-length leftover of the killed write. -/
theorem crash_blocks_good (hinj : Function.Injective H) {o : BackupOpts} (hmax : 0 < o.maxBlockSize)
    {src : List SrcEntry} (hwf : SrcWF src) {s : Store} (ha : ArchiveOK H src s) (j : Nat) :
    BlocksGood H ((backup H o src).run (crashWorld s j)).2.store :=
  C04.faults_blocks_good (setting hinj hmax hwf ha j)

/-- Killed at any micro-step, every earlier version's index hunks and file contents read back
exactly as before. -/
theorem crash_old_versions (hinj : Function.Injective H) {o : BackupOpts} (hmax : 0 < o.maxBlockSize)
    {src : List SrcEntry} (hwf : SrcWF src) {s : Store} (ha : ArchiveOK H src s) (j : Nat) :
    (∀ b n es, hunkAt s b n = some es →
      hunkAt ((backup H o src).run (crashWorld s j)).2.store b n = some es) ∧
    (∀ as x, readBack H s as = some x →
      readBack H ((backup H o src).run (crashWorld s j)).2.store as = some x) :=
  ⟨fun _ _ _ h => C04.faults_old_hunks (setting hinj hmax hwf ha j) h,
   fun _ _ h => C04.faults_old_content (setting hinj hmax hwf ha j) h⟩

/-- The archive a killed backup leaves satisfies `ArchiveOK` again except for the heuristic clause
(which speaks about the NEXT source): the next backup — the resumed one — starts from a store that
is a map, content-addressed and free of dangling references. -/
theorem crash_leaves_archive_ok (hinj : Function.Injective H) {o : BackupOpts} (hmax : 0 < o.maxBlockSize)
    {src : List SrcEntry} (hwf : SrcWF src) {s : Store} (ha : ArchiveOK H src s) (j : Nat) :
    NoDupKeys ((backup H o src).run (crashWorld s j)).2.store ∧
    BlocksGood H ((backup H o src).run (crashWorld s j)).2.store ∧
    NoDangling H ((backup H o src).run (crashWorld s j)).2.store :=
  ⟨C04.faults_no_dup (setting hinj hmax hwf ha j), crash_blocks_good hinj hmax hwf ha j,
   crash_no_dangling hinj hmax hwf ha j⟩

/-- The uninterrupted run is the instance without crash point. -/
theorem clean_no_dangling (hinj : Function.Injective H) {o : BackupOpts} (hmax : 0 < o.maxBlockSize)
    {src : List SrcEntry} (hwf : SrcWF src) {s : Store} (ha : ArchiveOK H src s) :
    NoDangling H ((backup H o src).run (cleanWorld s)).2.store :=
  C04.faults_no_dangling
    (C04.Setting.of_store hinj hmax hwf rfl ha.noDup ha.blocksGood ha.noDangling ha.heuristic) ha.noDangling

/-! ### Non-vacuity -/

open C04.Example in
example : ArchiveOK id source archive :=
  ⟨archive_noDup, archive_blocksGood, archive_noDangling,
   fun b n es h => by rw [archive_noHunks] at h; cases h⟩

open C04.Example in
example : ArchiveOK id source archive2 :=
  ⟨archive2_noDup, archive2_blocksGood, archive2_noDangling, archive2_heuristic⟩

open C04.Example in
example (j : Nat) : NoDangling id ((backup id opts source).run (crashWorld archive2 j)).2.store :=
  crash_no_dangling (fun _ _ h => h) (by decide) source_wf
    ⟨archive2_noDup, archive2_blocksGood, archive2_noDangling, archive2_heuristic⟩ j

end Conserve.C03
