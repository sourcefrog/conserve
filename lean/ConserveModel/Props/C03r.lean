import ConserveModel.Proofs.CrashRestore
import ConserveModel.Proofs.ProducedHeads
import ConserveModel.Proofs.CrashResume
import ConserveModel.Proofs.GapCrashTail
/-
C03, the sentences about the INTERRUPTED version — "Once its header exists the interrupted version is
listed as incomplete, and listing or restoring it gives the new content for every path up to the last
one it recorded and the previous version's content after that.  A later backup of the same source
completes and restores exactly."

Setting: a good archive `s` (`Start`: C01a's `ArchiveGood`, C13's `CI`, stored values in range) whose
newest version directory `p` holds a complete version; `backup H o src` of a good source listing, killed
before mutating micro-step `j` — EVERY `j` — with no injected faults (`crashWorld s j`); `s'` is the
archive it leaves, `n = newBandOf s = p + 1` the id of the version it was writing.

* `interrupted_listing_spec` (2a): the entries `n` contributes to a listing (`bandEntries s' n`: its usable
  hunks if its head is readable, nothing otherwise) record, entry by entry and in order, a PREFIX `pre` of
  the source listing; and `listSpec s' n` (C08's rule = what the code lists) is those entries followed —
  unless `n`'s tail file already exists — by the entries of `listSpec s p` whose path sorts after the
  last recorded path.  (Entries still queued in the combiner or pending in the index writer are in no
  hunk: the hunks present are an initial segment of the hunks of the uninterrupted run.)
* `interrupted_restore_spec` (2b): with `n`'s head readable and nothing listed lying below a listed
  symlink, restoring `n` on `s'` returns `pre.map (expectedNode o)` — the NEW content — followed by the
  nodes the previous version's entries restore to in `s` — the OLD content — and reports nothing.
  `previous_restore_nodes`: those are exactly the nodes restoring `p` yields for these entries.
* `resume_completes_exact` (2c): if `n`'s head is readable (or no directory was made for `n`), `s'` is
  `ArchiveGood` for the same source, so a later fault-free backup of it — any options — satisfies all of
  `C01a.Exact`: completes, counts and reports no error, and its version restores exactly.
  `resume_completes_exact_late`: every crash point `j ≥ 4` (past `mkdir bNNNN`, `mkdir bNNNN/i` and the two
  micro-steps of the head write) qualifies.

How: the killed run leaves a micro-state of the uninterrupted run (`Prog.run_killed`; `Crash.crash_prefix`:
its store is extended by the complete run's store), whose final store C01a describes (`Exact.Summary`);
C13's `CI` (kept in every world) says which hunk files of `n` can be present; C04 gives the content of
what was recorded.

FINDING recorded by the hypothesis of 2c (not a model artefact — `Stitch` reports what `Band::open`
returns): a backup killed between `mkdir bNNNN` and the completion of the head write leaves a version
directory without readable head; the NEXT backup takes it as its basis version, `Band::open` fails, and
the resumed backup — which does complete and restore exactly as far as C04r shows — REPORTS an error
(`monitor.error(BandHeadMissing)` resp. a JSON error for the zero-length head): "completes without
reporting errors" fails for exactly those three crash points.  Proved as `resume_after_early_kill_reports`
(for every archive whose newest version directory has no readable head), with the store the model leaves
at `crashAt := some 1` as example (`Example.t1`; `#eval` of the model: killed at micro-step 1 or 2 the
next backup emits `BandHeadMissing 0`, at 3 `Json`, from 4 on nothing).
`interrupted_incomplete_iff`: "listed as incomplete" = no tail file; the tail is the last thing written.
-/
namespace Conserve.C03r
open Conserve Conserve.Exact Conserve.Inv Conserve.Conf Conserve.Fault Conserve.Crash Conserve.Rng

variable {H : Str → Str}

/-- The world that is killed before mutating micro-step `j` (no injected faults) — C03's. -/
abbrev crashWorld (s : Store) (j : Nat) : World := C03.crashWorld s j

/-- What is assumed of the archive: good in C01a's sense and in C13's, stored values in range (C09), and
its newest version directory `p` holds a complete version. -/
abbrev Start (H : Str → Str) (src : List SrcEntry) (s : Store) (p : Nat) : Prop := CrashStart H src s p

/-- The restore the statements are about: version `b`, whole tree, nothing excluded, fault-free. -/
abbrev restoreOf (H : Str → Str) (b : Nat) (s : Store) : Outcome (List RNode) × World :=
  (restore H (.specified b) [slash] (fun _ => false)).run (World.clean s)

/-- What the listing of the interrupted version takes from the previous version: nothing once the tail
file exists; otherwise the previous listing's entries after the last recorded path. -/
def oldPart (s s' : Store) (p n : Nat) : List IndexEntry :=
  if isComplete s' n then []
  else (listSpec s p).filter (sortsAfter (lastOr (bandEntries s' n) none))

theorem mem_oldPart {s s' : Store} {p n : Nat} {e : IndexEntry} (he : e ∈ oldPart s s' p n) :
    e ∈ listSpec s p := by
  unfold oldPart at he
  split at he
  · cases he
  · exact (List.mem_filter.mp he).1

/-- **2a.**  `Records`: all metadata is `metadata_from` of the source entry; a file's addresses read back,
in `s'`, to exactly its bytes; nothing else has addresses.  `oldPart` is empty once `n`'s tail file exists
(the run was killed in its very last write, or not at all).  Last clause: once the tail DECODES, `pre` is
the whole source (`Crash.crashed_tail_all`: the tail write is the last thing the run does); the same with a
zero-length tail (a kill between the two micro-steps of the tail write): `Gaps.interrupted_listing_spec_full`. -/
theorem interrupted_listing_spec (H : Str → Str) (hinj : Function.Injective H) (hlen : HashLen H) (s : Store)
    (o : BackupOpts) (src : List SrcEntry) (p : Nat) (ho : 0 < o.maxBlockSize) (hsrc : SrcGood src)
    (hsw : C13.SrcSortedWeak src) (hst : Start H src s p) (j : Nat) :
    let s' := ((backup H o src).run (crashWorld s j)).2.store
    let n := newBandOf s
    ∃ pre, pre <+: src ∧ Paired (Records H o s') pre (bandEntries s' n) ∧
      listSpec s' n = bandEntries s' n ++ oldPart s s' p n ∧
      (bandReadable s' n = true → (∃ c, s'.get? (.bandTail n) = some (.tail c)) → pre = src) := by
  intro s' n
  obtain ⟨sF, hs, stats, evs, h⟩ := backup_summary (o := o) hinj (fun d => hlen d) ho hsrc hst.good
  have hci' : CI H s' :=
    C13.backup_ci_all_worlds (w := crashWorld s j) hinj hlen hsw rfl hst.ci
  obtain ⟨pre, hpre, hrec⟩ := crashed_records hinj ho hsrc hst.good h j hci'
  refine ⟨pre, hpre, hrec, crashed_listSpec hst j, fun _ ⟨c, hc⟩ => hpre.eq_of_length ?_⟩
  -- the tail is there: the store is the uninterrupted run's but for the tail's content
  have hown := (crashed_tail_all (fun d => hlen d) ho hsrc hst.good h j
    (show Option.isSome (s'.get? (.bandTail n)) = true by rw [hc]; rfl)).2.2
  have := congrArg List.length h.final.shape
  rw [List.length_map, List.length_map] at this
  rw [Paired.length_eq hrec, hown, this]

/-- The version is "incomplete" in the format's sense exactly as long as its tail file does not exist. -/
theorem interrupted_incomplete_iff (s' : Store) (n : Nat) :
    isComplete s' n = false ↔ (s'.get? (.bandTail n) = none ∨ s'.get? (.bandTail n) = some .dir) := by
  unfold isComplete
  cases hg : s'.get? (.bandTail n) with
  | none => simp
  | some v => cases v <;> simp [FileVal.isDir]

/-- The "old" nodes of 2b. -/
theorem previous_restore_nodes (H : Str → Str) (s : Store) (src : List SrcEntry) (p : Nat) (hst : Start H src s p)
    (hnb : NoneBelowSymlink (listSpec s p)) :
    (restoreOf H p s).1 = .ok ((listSpec s p).map (nodeOf H s)) ∧ (restoreOf H p s).2.events = [] :=
  restore_nodes_of_good hst.good (hst.good.bands p hst.mem).1 hnb

/-- **2b.**  `bandReadable s' n`: head written, index directory there — every `j ≥ 4`.  `NoneBelowSymlink`:
for a source that is the walk of a tree and a previous version of the same kind this can only fail when a
path that was a DIRECTORY in the previous version is a SYMLINK in the source and the run was killed
after recording it: the old listing then still supplies what was below it, and restore reports those
entries instead of restoring them. -/
theorem interrupted_restore_spec (H : Str → Str) (hinj : Function.Injective H) (hlen : HashLen H) (s : Store)
    (o : BackupOpts) (src : List SrcEntry) (p : Nat) (ho : 0 < o.maxBlockSize) (hsrc : SrcGood src)
    (hsw : C13.SrcSortedWeak src) (hst : Start H src s p) (j : Nat) :
    let s' := ((backup H o src).run (crashWorld s j)).2.store
    let n := newBandOf s
    bandReadable s' n = true → NoneBelowSymlink (listSpec s' n) →
    ∃ pre, pre <+: src ∧ Paired (Records H o s') pre (bandEntries s' n) ∧
      (restoreOf H n s').1 = .ok (pre.map (expectedNode o) ++ (oldPart s s' p n).map (nodeOf H s)) ∧
      (restoreOf H n s').2.events = [] := by
  intro s' n hread hnb
  obtain ⟨pre, hpre, hrec, hlist, _⟩ := interrupted_listing_spec H hinj hlen s o src p ho hsrc hsw hst j
  refine ⟨pre, hpre, hrec, ?_⟩
  -- unfolded by rewriting: matched by definitional unfolding, Lean would try to evaluate the run
  unfold restoreOf
  exact restore_new_then_old (crashed_archiveGood hinj hlen ho hsrc hsw hst j fun _ => hread)
    hread hnb (crashed_extends s j) hst.good.noDangling hrec hlist fun _ => mem_oldPart

/-- **2b when the previous version was made from the same source** (with any options `o0`): every listed
path and kind is then a source path and kind, a good source has nothing below a symlink, and the
hypothesis about symlinks holds by itself. -/
theorem interrupted_restore_same_source (H : Str → Str) (hinj : Function.Injective H) (hlen : HashLen H)
    (s : Store) (o o0 : BackupOpts) (src : List SrcEntry) (p : Nat) (ho : 0 < o.maxBlockSize) (hsrc : SrcGood src)
    (hsw : C13.SrcSortedWeak src) (hst : Start H src s p)
    (hprev : Paired (Records H o0 s) src (listSpec s p)) (j : Nat) :
    let s' := ((backup H o src).run (crashWorld s j)).2.store
    let n := newBandOf s
    bandReadable s' n = true →
    ∃ pre, pre <+: src ∧ Paired (Records H o s') pre (bandEntries s' n) ∧
      (restoreOf H n s').1 = .ok (pre.map (expectedNode o) ++ (oldPart s s' p n).map (nodeOf H s)) ∧
      (restoreOf H n s').2.events = [] := by
  intro s' n hread
  obtain ⟨pre, hpre, hrec, hlist, _⟩ := interrupted_listing_spec H hinj hlen s o src p ho hsrc hsw hst j
  have hl : listSpec s' n = bandEntries s' n ++ oldPart s s' p n := hlist
  have hnb : NoneBelowSymlink (listSpec s' n) := by
    rw [hl]
    refine noneBelow_of_src hsrc fun e he => ?_
    rcases List.mem_append.mp he with he | he
    · exact records_src hrec (fun _ h => hpre.subset h) e he
    · exact records_src hprev (fun _ h => h) e (mem_oldPart he)
  refine ⟨pre, hpre, hrec, ?_⟩
  unfold restoreOf
  exact restore_new_then_old (crashed_archiveGood hinj hlen ho hsrc hsw hst j fun _ => hread)
    hread hnb (crashed_extends s j) hst.good.noDangling hrec hl fun _ => mem_oldPart

/-- **2c.**  `ArchiveGood` holds again: in particular the recorded entries satisfy the tool's "looks
unchanged ⇒ is unchanged" assumption BECAUSE they are the source's (C04). -/
theorem resume_completes_exact (H : Str → Str) (hinj : Function.Injective H) (hlen : HashLen H) (s : Store)
    (o o2 : BackupOpts) (src : List SrcEntry) (p : Nat) (ho : 0 < o.maxBlockSize) (ho2 : 0 < o2.maxBlockSize)
    (hsrc : SrcGood src) (hsw : C13.SrcSortedWeak src) (hst : Start H src s p) (j : Nat) :
    let s' := ((backup H o src).run (crashWorld s j)).2.store
    (newBandOf s ∈ bandIdsOf s' → bandReadable s' (newBandOf s) = true) →
    ArchiveGood H src s' ∧ C01a.Exact H o2 src s' ((backup H o2 src).run (World.clean s')) := by
  intro s' hread
  have hg' : ArchiveGood H src s' := crashed_archiveGood hinj hlen ho hsrc hsw hst j hread
  exact ⟨hg', C01a.backup_restore_exact H hinj (fun d => hlen d) s' o2 src ho2 hsrc hg'⟩

/-- Every crash point at least four mutating micro-steps in — past `mkdir bNNNN`, `mkdir bNNNN/i`, and
both micro-steps of the head write — leaves a readable head. -/
theorem head_readable_late (H : Str → Str) (s : Store) (o : BackupOpts) (src : List SrcEntry) (p : Nat)
    (hst : Start H src s p) (j : Nat) (hj : 4 ≤ j) :
    let s' := ((backup H o src).run (crashWorld s j)).2.store
    ∀ b ∈ bandIdsOf s', bandReadable s' b = true := by
  intro s' b hb
  have hg := hst.good
  have hl : Late 4 (crashWorld s j) := ⟨rfl, rfl, rfl, fun j' hj' => by
    have : j' = j := by simpa [crashWorld, C03.crashWorld] using hj'.symm
    subst this
    show 0 + 4 ≤ j'
    omega⟩
  have h0 : HeadsOK s := fun b hb => (hg.bands b ((Exact.mem_bandIdsOf hg.st).2 hb)).1
  have h' : HeadsOK s' := backup_headsOK H o src (crashWorld s j) hl hg.st.noDup hg.st.dirsOk h0
  have hnd' : NoDupKeys s' := Prog.run_noDupKeys _ (crashWorld s j) hg.st.noDup
  exact h' b (Store.get?_of_mem_nodup hnd' (mem_bandIdsOf'.1 hb))

theorem resume_completes_exact_late (H : Str → Str) (hinj : Function.Injective H) (hlen : HashLen H) (s : Store)
    (o o2 : BackupOpts) (src : List SrcEntry) (p : Nat) (ho : 0 < o.maxBlockSize) (ho2 : 0 < o2.maxBlockSize)
    (hsrc : SrcGood src) (hsw : C13.SrcSortedWeak src) (hst : Start H src s p) (j : Nat) (hj : 4 ≤ j) :
    let s' := ((backup H o src).run (crashWorld s j)).2.store
    C01a.Exact H o2 src s' ((backup H o2 src).run (World.clean s')) :=
  (resume_completes_exact H hinj hlen s o o2 src p ho ho2 hsrc hsw hst j
    (fun hb => head_readable_late H s o src p hst j hj _ hb)).2

/-- The finding behind the hypothesis of 2c: `C01a.Exact.silent` FAILS for the resumed backup.  (`Stitch`
takes the newest version directory as basis, `Band::open` fails, and the iterator passes the error to
`monitor.error`.  The backup still completes and — C04r — restores exactly.) -/
theorem resume_after_early_kill_reports (H : Str → Str) (o2 : BackupOpts) (src : List SrcEntry) (t : Store)
    (b : Nat) (hst : StoreOK H t) (hlock : t.get? .gcLock = none) (hwf : ArchWF t)
    (hmax : maxNat? (bandIdsOf t) = some b) (hbad : bandReadable t b = false) :
    Event.error (unreadableError t b) ∈ ((backup H o2 src).run (World.clean t)).2.events ∧
      ¬ (∀ ev ∈ ((backup H o2 src).run (World.clean t)).2.events, ∀ e, ev ≠ .error e) := by
  have h := resume_reports_error (H := H) (o := o2) src hst hlock hwf hmax hbad
  exact ⟨h, fun hs => hs _ h _ rfl⟩

namespace Example
open C01a.Example C02h.Example

/-- The archive a first, fault-free backup of C01a's example source leaves satisfies `Start`, its newest
(and only) version being version 0. -/
theorem s1_start : Start exH source s1 0 := by
  obtain ⟨hss, stats, evs, h⟩ := backup_summary_run (o := opts) exH_inj exH_len (by decide) source_good archive_good
  refine ⟨?_, s1_ci, ?_, ?_, s1_version.complete⟩
  · exact C01a.backup_keeps_archive_good_same exH exH_inj exH_len archive opts source (by decide) source_good
      archive_good
  · exact C09p.backup_keeps_inRange opts (C09p.srcInRange_of_srcGood source_good) (World.clean archive) (by decide)
  · refine maxNat?_of_max ?_ ?_
    · rw [← new0]; exact h.bandIds_mem
    · intro x hx
      have := h.bandIds_le archive_ok x hx
      rw [new0] at this
      exact this

/-- 2a applies to it, for EVERY crash point. -/
example (j : Nat) :
    let s' := ((backup exH {} source).run (crashWorld s1 j)).2.store
    ∃ pre, pre <+: source ∧ Paired (Records exH {} s') pre (bandEntries s' (newBandOf s1)) ∧
      listSpec s' (newBandOf s1) = bandEntries s' (newBandOf s1) ++ oldPart s1 s' 0 (newBandOf s1) :=
  let ⟨pre, h1, h2, h3, _⟩ :=
    interrupted_listing_spec exH exH_inj hlen s1 {} source 0 (by decide) source_good source_sorted.weak s1_start j
  ⟨pre, h1, h2, h3⟩

/-- Version 0 of `s1` records the example source (C01a's summary of the first backup). -/
theorem s1_prev : Paired (Records exH opts s1) source (listSpec s1 0) := by
  obtain ⟨hss, stats, evs, h⟩ := backup_summary_run (o := opts) exH_inj exH_len (by decide) source_good archive_good
  rw [← new0]
  exact (final_listSpec h.final h.usable).symm ▸ h.records

/-- 2b applies: at every crash point that leaves a readable head, restoring the interrupted version gives
the new nodes for a prefix of the source followed by the previous version's nodes, silently. -/
example (j : Nat)
    (hread : bandReadable ((backup exH {} source).run (crashWorld s1 j)).2.store (newBandOf s1) = true) :
    let s' := ((backup exH {} source).run (crashWorld s1 j)).2.store
    ∃ pre, pre <+: source ∧ Paired (Records exH {} s') pre (bandEntries s' (newBandOf s1)) ∧
      (restoreOf exH (newBandOf s1) s').1 =
        .ok (pre.map (expectedNode {}) ++ (oldPart s1 s' 0 (newBandOf s1)).map (nodeOf exH s1)) ∧
      (restoreOf exH (newBandOf s1) s').2.events = [] :=
  interrupted_restore_same_source exH exH_inj hlen s1 {} opts source 0 (by decide) source_good source_sorted.weak
    s1_start s1_prev j hread

/-- … and the previous version's nodes are what restoring version 0 yields. -/
example : (restoreOf exH 0 s1).1 = .ok ((listSpec s1 0).map (nodeOf exH s1)) :=
  (previous_restore_nodes exH s1 source 0 s1_start
    (noneBelow_of_src source_good (records_src s1_prev fun _ h => h))).1

/-- 2c applies for every crash point `j ≥ 4`: the resumed backup (default options) completes and
restores exactly. -/
example (j : Nat) (hj : 4 ≤ j) :
    let s' := ((backup exH {} source).run (crashWorld s1 j)).2.store
    C01a.Exact exH opts source s' ((backup exH opts source).run (World.clean s')) :=
  resume_completes_exact_late exH exH_inj hlen s1 {} opts source 0 (by decide) (by decide) source_good
    source_sorted.weak s1_start j hj

/-- The archive a first backup of the example source into the empty archive leaves when it is killed
before its second mutating micro-step (`#eval` of the model: `crashAt := some 1`; `some 2` adds `b0000/i`,
`some 3` a zero-length `b0000/BANDHEAD`): the version directory `b0000`, nothing in it. -/
def t1 : Store := archive ++ [(.bandDir 0, .dir)]

theorem t1_ok : StoreOK exH t1 := StoreOK.of_checks (by decide +kernel)

theorem t1_newest : maxNat? (bandIdsOf t1) = some 0 := by
  refine maxNat?_of_max (Hist.mem_bandIdsOf_of_get? (by decide)) ?_
  intro x hx
  have := mem_bandIdsOf'.1 hx
  simp [t1, archive] at this
  omega

/-- The finding applies to it: the resumed backup reports `BandHeadMissing 0` (and `#eval` agrees). -/
example : Event.error (.bandHeadMissing 0) ∈ ((backup exH opts source).run (World.clean t1)).2.events :=
  (resume_after_early_kill_reports exH opts source t1 0 t1_ok (by decide) (by decide +kernel) t1_newest
    (by decide)).1

end Example

end Conserve.C03r
