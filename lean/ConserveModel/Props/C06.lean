import ConserveModel.Proofs.ProtocolInv1
import ConserveModel.Proofs.ProtocolInv2
import ConserveModel.Proofs.ProtocolInv3
import ConserveModel.Proofs.ProtocolInv4
import ConserveModel.Proofs.ProtocolInv5
import ConserveModel.Proofs.ProtocolInv6
/-
C06 — A garbage collection and a backup running together never lose data.

Statements are about the protocol skeleton (ConserveModel/Protocol.lean): one backup and one
gc / delete, advanced one storage-operation class at a time under an arbitrary schedule, over an
arbitrary archive (unboundedly many bands and blocks).  The harness (harness/src/c06.rs) validates
the abstraction: it projects real interleaved runs onto the skeleton's events and compares.

The skeleton is parametric in `Config.recheck`: `false` = the backup as it was when defect D7 was
found, `true` = the repaired backup (src/backup.rs, "backup looks for the gc lock again after
creating its band": a second lock check between `B.head` and `B.listBlocks`).

* `C06Statement` (= `C06For true`) is the property at full strength for the repaired code:
  PROVED, `c06_statement` / `c06_holds`, for all archives and all schedules.
* `c06_refuted_before_repair`: the same statement for `recheck = false` (`C06For false`) is FALSE
  (defect D7: the interlock was check-then-act on both sides).
* `c06_partial`: for ALL archives and ALL schedules and BOTH values of `recheck` the conclusion
  holds when the schedule has one of four safe orders (`SafeOrder`); only of interest for
  `recheck = false` now.
* `c06_old_versions_safe`, `c06_damage_confined`: both values of `recheck`, no condition on the
  schedule: versions other than the one being written are never damaged (for `recheck = false`
  this confines the damage of D7).
-/
namespace Conserve.C06
open Conserve.Proto

/-- All invariants together. -/
structure InvAll (c : Config) (p : State) : Prop where
  i1 : Inv1 c p
  i2 : Inv2 c p
  i3 : Inv3 c p
  i4 : Inv4 c p
  i5 : Inv5 c p
  i6 : Inv6 c p

theorem InvAll.start (c : Config) : InvAll c c.start :=
  ⟨Inv1.start c, Inv2.start c, Inv3.start c, Inv4.start c, Inv5.start c, Inv6.start c⟩

theorem InvAll.presB {c : Config} {p : State} (h : InvAll c p) : InvAll c (stepB p) :=
  have hs := stepB_spec p
  ⟨h.i1.presB hs, h.i2.presB hs, h.i3.presB hs, h.i4.presB hs h.i2, h.i5.presB hs h.i1 h.i2 h.i4,
   h.i6.presB hs h.i1 h.i2 h.i4⟩

theorem InvAll.presG {c : Config} {p : State} (h : InvAll c p) : InvAll c (stepG p) :=
  have hs := stepG_spec p
  ⟨h.i1.presG hs, h.i2.presG hs h.i1, h.i3.presG hs h.i1, h.i4.presG hs h.i1 h.i2 h.i3,
   h.i5.presG hs h.i1 h.i2 h.i3 h.i4, h.i6.presG hs h.i1 h.i2 h.i4⟩

/-- The invariants hold after every schedule, of any length. -/
theorem InvAll.run (c : Config) (sched : Schedule) : InvAll c (runProto sched c.start) :=
  runProto_inv (P := InvAll c) (fun _ h => h.presB) (fun _ h => h.presG) sched _ (InvAll.start c)

/-- No complete band of the archive dangles. -/
def GoodP (c : Config) : Prop :=
  ∀ b ∈ c.bands, b.complete = true → ∀ g ∈ b.refs, g ∈ c.present

instance (c : Config) : Decidable (GoodP c) := by unfold GoodP; infer_instance

/-- The property at full strength for one variant of the backup (`recheck = false`: before the
repair of D7, `recheck = true`: repaired): for every archive without dangling complete versions
and every interleaving of a backup with a gc / delete, once both have finished every version marked
complete has all its blocks. -/
def C06For (recheck : Bool) : Prop :=
  ∀ (c : Config) (sched : Schedule), c.recheck = recheck → GoodP c →
    let s' := runProto sched c.start
    ∀ b, complete s' b → ∀ g ∈ refs s' b, g ∈ present s'

/-- **C06 at full strength**, for the code as it is now (the repaired backup): for every archive
without dangling complete versions and every interleaving of a backup with a gc / delete, once both
have finished every version marked complete has all its blocks. -/
def C06Statement : Prop := C06For true

/-- Both actors have indeed finished (succeeded, refused or failed) at the end of every schedule:
the "once both have finished" of the property is not a hypothesis one could fail to meet. -/
theorem both_finished (c : Config) (sched : Schedule) :
    (runProto sched c.start).b.pc.fin = true ∧ (runProto sched c.start).g.pc.fin = true :=
  runProto_finished sched _

/-! ### The property was false of the code before the repair (D7) -/

/-- One complete version referring to block 1; block 7 is garbage; the new source needs 7
(`recheck = false`: the backup before the repair). -/
def witness : Config :=
  { bands := [⟨0, true, true, [1]⟩], present := [1, 7], needed := [7] }

/-- The backup checks the lock; gc runs up to and including `check()`; the backup creates its band
and lists the blocks (7 is still there); gc removes 7; the backup deduplicates against its stale
list and completes version 1, which refers to 7. -/
def witnessSched : Schedule :=
  [false] ++ List.replicate 9 true ++ List.replicate 5 false ++ [true]

/-- **D7**: before the repair (`recheck = false`) the full statement is refuted by a concrete
archive and schedule. -/
theorem c06_refuted_before_repair : ¬ C06For false := by
  intro h
  have := h witness witnessSched rfl (by decide) ⟨1, true, true, [7]⟩ (by decide) 7 (by decide)
  revert this
  decide

/-- What happens in the witness run, event by event (oldest first). -/
example : (runProto witnessSched witness.start).log.reverse =
    [.bLockCheck, .gLast, .gTailCheck, .gLockCheck, .gLockWrite, .gListKeep, .gReadRefs, .gListBlocks,
     .gStat 7, .gCheck, .bListBasis, .bListId, .bMkdir, .bHead, .bListBlocks, .gRmBlock 7,
     .bBlock 7 false, .bHunk, .bTail, .gUnlock] := by decide

/-- The shortest violating schedule the harness finds on the real code (`00` then 15 gc operations =
`B.lockCheck`, then gc up to and including `check()`, then the backup to its end, then gc) is, in
skeleton events, this one; it violates the statement in the same way. -/
example : danglingBands (runProto ([false] ++ List.replicate 9 true) witness.start) = [1] ∧
    (runProto ([false] ++ List.replicate 9 true) witness.start).log.reverse =
    [.bLockCheck, .gLast, .gTailCheck, .gLockCheck, .gLockWrite, .gListKeep, .gReadRefs, .gListBlocks,
     .gStat 7, .gCheck, .bListBasis, .bListId, .bMkdir, .bHead, .bListBlocks, .bBlock 7 false, .bHunk,
     .bTail, .gRmBlock 7, .gUnlock] := by decide

/-- Both commands report success in the witness run. -/
example : (runProto witnessSched witness.start).b.pc = .done ∧
    (runProto witnessSched witness.start).g.pc = .done := by decide

/-! ### What does hold -/

/-- One of the four orders that make the race harmless.  On the log of the run (newest first):
(i) every `G.check` has a `B.mkdir` before it (then `check()` fails, or the backup had finished
before gc looked at the newest band);
(ii) `G.lockWrite` comes before `B.lockCheck` (the backup refuses, or gc had finished);
(iii) the new source needs no block that is garbage in the initial archive (`garbage`: present and
referenced by no band that the command keeps);
(iv) no `G.rmBlock` comes after `B.listBlocks`. -/
def SafeOrder (sched : Schedule) (c : Config) : Prop :=
  let log := (runProto sched c.start).log
  mkdirBeforeCheck log = true ∨ lockWriteBeforeLockCheck log = true ∨
    (∀ g ∈ c.needed, ¬ garbage c g) ∨ rmBlocksBeforeListBlocks log = true

instance (c : Config) (g : Nat) : Decidable (garbage c g) := by unfold garbage; infer_instance
instance (sched : Schedule) (c : Config) : Decidable (SafeOrder sched c) := by
  unfold SafeOrder; infer_instance

/-- With no condition on the schedule: a complete version that is not the one the backup is
writing has all its blocks.  The damage of D7 is confined to the version being written. -/
theorem c06_damage_confined (c : Config) (sched : Schedule) (hgood : GoodP c) :
    let s' := runProto sched c.start
    ∀ b, complete s' b → ¬ isNew s' b → ∀ g ∈ refs s' b, g ∈ present s' := by
  intro s' b hb hnew g hg
  have h := InvAll.run c sched
  obtain ⟨hmem, hc⟩ := hb
  have hold : b ∈ c.bands := h.i2.old b hmem hnew
  have hg0 : g ∈ c.present := hgood b hold hc g hg
  rcases h.i3.removed g hg0 with hp | ⟨hu, hpass, htb⟩
  · exact hp
  · exfalso
    by_cases hd : b.id ∈ c.del
    · rcases h.i3.delBands hpass b hmem hd with h1 | h1
      · rw [htb] at h1; simp at h1
      · exact hnew h1
    · exact h.i3.unrefOld g hu b hold hd hg

/-- **`c06_partial`**: for all archives and all schedules (of any length), under one of the safe
orders every version marked complete at the end — old or just written — has all its blocks. -/
theorem c06_partial (c : Config) (sched : Schedule) (hgood : GoodP c) (hsafe : SafeOrder sched c) :
    let s' := runProto sched c.start
    ∀ b, complete s' b → ∀ g ∈ refs s' b, g ∈ present s' := by
  intro s' b hb g hg
  by_cases hnew : isNew s' b
  · exact (InvAll.run c sched).i5.newSafe hsafe b hb.1 hnew g hg
  · exact c06_damage_confined c sched hgood b hb hnew g hg

/-- **`c06_holds`**: the property at FULL strength for the repaired backup (`recheck = true`), for
all archives (unboundedly many bands and blocks) and all schedules (of any length): once both
commands have finished (`both_finished`), every version marked complete — old or just written — has
all its blocks.  (The new version by `Inv6`: gc in its sweep phase and the backup between its
second lock check and its tail never coexist; the others by `c06_damage_confined`.) -/
theorem c06_holds (c : Config) (sched : Schedule) (hr : c.recheck = true) (hgood : GoodP c) :
    let s' := runProto sched c.start
    ∀ b, complete s' b → ∀ g ∈ refs s' b, g ∈ present s' := by
  intro s' b hb g hg
  by_cases hnew : isNew s' b
  · have h := InvAll.run c sched
    exact h.i6.newSafeR (by rw [h.i1.recheck]; exact hr) b hb.1 hnew g hg
  · exact c06_damage_confined c sched hgood b hb hnew g hg

/-- **C06, full strength, proved** for the code as it is now. -/
theorem c06_statement : C06Statement :=
  fun c sched hr hgood => c06_holds c sched hr hgood

/-- The same with `danglingBands`, the observation the harness compares. -/
theorem c06_no_dangling (c : Config) (sched : Schedule) (hr : c.recheck = true) (hgood : GoodP c) :
    danglingBands (runProto sched c.start) = [] := by
  have h := c06_holds c sched hr hgood
  simp only [danglingBands, List.map_eq_nil_iff, List.filter_eq_nil_iff]
  intro b hb hbad
  simp only [Bool.and_eq_true, List.any_eq_true, decide_eq_true_eq] at hbad
  obtain ⟨hc, g, hg, hgp⟩ := hbad
  exact hgp (h b ⟨hb, hc⟩ g hg)

/-- The invariants hold at every point of every run. -/
theorem InvAll.steps (c : Config) (sched : Schedule) : InvAll c (runSteps sched c.start) :=
  runSteps_inv (P := InvAll c) (fun _ h => h.presB) (fun _ h => h.presG) sched _ (InvAll.start c)

/-- **Mutual exclusion** (the reason `c06_holds` is true): at every point of every run of the
repaired protocol, while gc is between a `check()` that passed and its unlock (the only phase in
which bands and blocks are removed), the backup is not between its second lock check and its tail:
it has not listed the blocks yet (and will refuse when it looks for the lock), or it had finished
before gc looked at the newest band. -/
theorem c06_exclusive (c : Config) (sched : Schedule) (hr : c.recheck = true) :
    let s := runSteps sched c.start
    s.g.pc = .sweep → s.b.pc ≠ .listBlocks ∧ s.b.pc ≠ .blocks ∧ s.b.pc ≠ .tail := by
  intro s hs
  have h := InvAll.steps c sched
  exact h.i6.exclusive hs (by rw [h.i1.recheck]; exact hr)

/-- Without the second lock check the exclusion fails: in the witness run gc is about to remove
block 7 while the backup is about to deduplicate against it. -/
example : (runSteps (witnessSched.take 15) witness.start).g.pc = .sweep ∧
    (runSteps (witnessSched.take 15) witness.start).g.todoBlocks = [7] ∧
    (runSteps (witnessSched.take 15) witness.start).b.pc = .blocks ∧
    (runSteps (witnessSched.take 15) witness.start).b.exists_ = [1, 7] := by decide

/-- (i) alone: `B.mkdir` before `G.check`. -/
theorem c06_partial_mkdir_before_check (c : Config) (sched : Schedule) (hgood : GoodP c)
    (h : mkdirBeforeCheck (runProto sched c.start).log = true) :
    ∀ b, complete (runProto sched c.start) b → ∀ g ∈ b.refs, g ∈ (runProto sched c.start).present :=
  c06_partial c sched hgood (Or.inl h)

/-- (ii) alone: `G.lockWrite` before `B.lockCheck`. -/
theorem c06_partial_lock_first (c : Config) (sched : Schedule) (hgood : GoodP c)
    (h : lockWriteBeforeLockCheck (runProto sched c.start).log = true) :
    ∀ b, complete (runProto sched c.start) b → ∀ g ∈ b.refs, g ∈ (runProto sched c.start).present :=
  c06_partial c sched hgood (Or.inr (Or.inl h))

/-- (iii) alone: the new source needs no garbage block — for every schedule. -/
theorem c06_partial_no_garbage_needed (c : Config) (hgood : GoodP c)
    (h : ∀ g ∈ c.needed, ¬ garbage c g) (sched : Schedule) :
    ∀ b, complete (runProto sched c.start) b → ∀ g ∈ b.refs, g ∈ (runProto sched c.start).present :=
  c06_partial c sched hgood (Or.inr (Or.inr (Or.inl h)))

/-- (iv) alone: every `G.rmBlock` before `B.listBlocks`. -/
theorem c06_partial_removals_first (c : Config) (sched : Schedule) (hgood : GoodP c)
    (h : rmBlocksBeforeListBlocks (runProto sched c.start).log = true) :
    ∀ b, complete (runProto sched c.start) b → ∀ g ∈ b.refs, g ∈ (runProto sched c.start).present :=
  c06_partial c sched hgood (Or.inr (Or.inr (Or.inr h)))

/-- **`c06_old_versions_safe`** (full strength, no condition on the schedule or the archive): a band
of the initial archive that the command does not delete is still there, unchanged, and every block
it referred to that was present is still present — gc never removes a block referenced by a band
it keeps. -/
theorem c06_old_versions_safe (c : Config) (sched : Schedule) :
    let s' := runProto sched c.start
    ∀ b ∈ c.bands, b.id ∉ c.del → b ∈ s'.bands ∧ ∀ g ∈ b.refs, g ∈ c.present → g ∈ s'.present := by
  intro s' b hb hd
  have h := InvAll.run c sched
  refine ⟨(h.i3.kept b hb hd).1, fun g hg hg0 => ?_⟩
  rcases h.i3.removed g hg0 with hp | ⟨hu, _, _⟩
  · exact hp
  · exact absurd hg (h.i3.unrefOld g hu b hb hd)

/-- In particular: every version that was complete before and is not deleted restores completely
afterwards, whatever the schedule. -/
theorem c06_old_complete_versions_restore (c : Config) (sched : Schedule) (hgood : GoodP c) :
    ∀ b ∈ c.bands, b.complete = true → b.id ∉ c.del →
      complete (runProto sched c.start) b ∧ ∀ g ∈ b.refs, g ∈ (runProto sched c.start).present := by
  intro b hb hc hd
  obtain ⟨h1, h2⟩ := c06_old_versions_safe c sched b hb hd
  exact ⟨⟨h1, hc⟩, fun g hg => h2 g hg (hgood b hb hc g hg)⟩

/-- If gc's `check()` did not pass (gc refused), no block of the archive was removed. -/
theorem c06_refused_gc_removes_nothing (c : Config) (sched : Schedule)
    (h : (runProto sched c.start).g.passed = false) :
    ∀ g ∈ c.present, g ∈ (runProto sched c.start).present := by
  intro g hg
  rcases (InvAll.run c sched).i3.removed g hg with hp | ⟨_, hpass, _⟩
  · exact hp
  · rw [h] at hpass; cases hpass

/-- Blocks are removed only from gc's `unref` list, computed before `check()`. -/
theorem c06_only_unref_removed (c : Config) (sched : Schedule) :
    ∀ g ∈ c.present, g ∉ (runProto sched c.start).present → g ∈ (runProto sched c.start).g.unref := by
  intro g hg hn
  rcases (InvAll.run c sched).i3.removed g hg with hp | ⟨hu, _, _⟩
  · exact absurd hp hn
  · exact hu

/-! ### Non-vacuity -/

/-- The witness archive with the repaired backup. -/
def witnessR : Config := { witness with recheck := true }

example : GoodP witnessR ∧ witnessR.recheck = true := by decide

/-- Under the schedule that broke the old code the repaired backup finds the lock at its second
check and refuses; its band 1 stays behind with a head and no tail (not complete); gc succeeds and
removes the garbage block 7; nothing dangles. -/
example : (runProto witnessSched witnessR.start).b.pc = .refused2 ∧
    (runProto witnessSched witnessR.start).g.pc = .done ∧
    danglingBands (runProto witnessSched witnessR.start) = [] ∧
    (runProto witnessSched witnessR.start).bands = [⟨0, true, true, [1]⟩, ⟨1, true, false, []⟩] ∧
    (runProto witnessSched witnessR.start).present = [1] ∧
    (runProto witnessSched witnessR.start).log.reverse =
    [.bLockCheck, .gLast, .gTailCheck, .gLockCheck, .gLockWrite, .gListKeep, .gReadRefs, .gListBlocks,
     .gStat 7, .gCheck, .bListBasis, .bListId, .bMkdir, .bHead, .bLockCheck2, .gRmBlock 7,
     .gUnlock] := by decide

/-- The shortest violating schedule the harness had found on the old code: same outcome. -/
example : (runProto ([false] ++ List.replicate 9 true) witnessR.start).b.pc = .refused2 ∧
    (runProto ([false] ++ List.replicate 9 true) witnessR.start).g.pc = .done ∧
    danglingBands (runProto ([false] ++ List.replicate 9 true) witnessR.start) = [] := by decide

/-- Both commands succeed, one after the other (backup first): the new version refers to 7 and gc
keeps 7. -/
example : (runProto [] witnessR.start).b.pc = .done ∧ (runProto [] witnessR.start).g.pc = .done ∧
    (runProto [] witnessR.start).g.passed = true ∧
    (runProto [] witnessR.start).bands = [⟨0, true, true, [1]⟩, ⟨1, true, true, [7]⟩] ∧
    (runProto [] witnessR.start).present = [1, 7] := by decide

/-- Both commands succeed in a true interleaving inside the old window: the backup checks the lock,
gc runs to its end (`check()` passes before the backup's `mkdir`, 7 is removed, the lock is
released), the backup's second lock check finds no lock, it lists the blocks (7 is gone) and writes
7 again. -/
example : (runProto ([false] ++ List.replicate 11 true) witnessR.start).b.pc = .done ∧
    (runProto ([false] ++ List.replicate 11 true) witnessR.start).g.pc = .done ∧
    mkdirBeforeCheck (runProto ([false] ++ List.replicate 11 true) witnessR.start).log = false ∧
    (runProto ([false] ++ List.replicate 11 true) witnessR.start).bands =
      [⟨0, true, true, [1]⟩, ⟨1, true, true, [7]⟩] ∧
    (runProto ([false] ++ List.replicate 11 true) witnessR.start).present = [7, 1] := by decide

/-- gc refuses: it starts after the backup created its band (`DeleteWithIncompleteBackup`), or its
`check()` sees the new band. -/
example : (runProto (List.replicate 4 false ++ [true, true]) witnessR.start).g.pc = .refused ∧
    (runProto (List.replicate 4 false ++ [true, true]) witnessR.start).b.pc = .done ∧
    (runProto (List.replicate 3 false ++ List.replicate 3 true ++ [false]) witnessR.start).g.pc = .failed ∧
    (runProto (List.replicate 3 false ++ List.replicate 3 true ++ [false]) witnessR.start).b.pc = .done := by
  decide

/-- The second lock check is what makes the difference: same archive, same schedule, `recheck`
off / on. -/
example : danglingBands (runProto witnessSched witness.start) = [1] ∧
    danglingBands (runProto witnessSched witnessR.start) = [] := by decide

/-! What the repair costs (no data is lost; availability only). -/

/-- Both commands can refuse each other: the backup allocates its id, gc writes its lock, the backup
creates its band and finds the lock at its second check (refuses), gc's `check()` finds the new band
(refuses).  Nothing was removed; band 1 stays behind with a head and no tail. -/
example : (runProto (List.replicate 3 false ++ List.replicate 4 true) witnessR.start).b.pc = .refused2 ∧
    (runProto (List.replicate 3 false ++ List.replicate 4 true) witnessR.start).g.pc = .failed ∧
    (runProto (List.replicate 3 false ++ List.replicate 4 true) witnessR.start).bands =
      [⟨0, true, true, [1]⟩, ⟨1, true, false, []⟩] ∧
    (runProto (List.replicate 3 false ++ List.replicate 4 true) witnessR.start).present = [1, 7] ∧
    (runProto (List.replicate 3 false ++ List.replicate 4 true) witnessR.start).lock = false := by decide

/-- The band a refusing backup leaves behind makes every later gc refuse
(`DeleteWithIncompleteBackup`) until a later backup has completed a newer band … -/
example : (runProto (List.replicate 20 true)
      { witnessR with bands := [⟨0, true, true, [1]⟩, ⟨1, true, false, []⟩], needed := [] }.start).g.pc = .refused := by
  decide

/-- … after which gc works again and keeps what the new version refers to (the leftover band 1 is
kept, it refers to nothing). -/
example : (runProto [] { witnessR with bands := [⟨0, true, true, [1]⟩, ⟨1, true, false, []⟩] }.start).g.pc = .done ∧
    (runProto [] { witnessR with bands := [⟨0, true, true, [1]⟩, ⟨1, true, false, []⟩] }.start).bands =
      [⟨0, true, true, [1]⟩, ⟨1, true, false, []⟩, ⟨2, true, true, [7]⟩] ∧
    (runProto [] { witnessR with bands := [⟨0, true, true, [1]⟩, ⟨1, true, false, []⟩] }.start).present = [1, 7] := by
  decide

/-- gc starting between the backup's `mkdir` and its head write (covered by `c06_holds`, every
schedule): gc sees a newest band without a tail and refuses; had it already passed `G.tailCheck`, its
reference scan fails on the band without a head (`Band::open`), or `check()` sees the new band. -/
example : (runProto (List.replicate 4 false ++ List.replicate 2 true) witnessR.start).g.pc = .refused ∧
    (runProto (List.replicate 3 false ++ List.replicate 4 true ++ [false] ++ List.replicate 2 true) witnessR.start).g.pc = .failed ∧
    (runProto (List.replicate 3 false ++ List.replicate 4 true ++ [false] ++ List.replicate 2 true) witnessR.start).b.pc = .refused2 ∧
    (runProto (List.replicate 3 false ++ List.replicate 4 true ++ [false] ++ List.replicate 2 true) witnessR.start).present = [1, 7] := by
  decide


/-- A delete of the version the backup takes as its basis, finished before the backup allocates its
id: the backup reuses id 0 and nothing dangles; one operation earlier the lock is still there and
the backup refuses.  (The skeleton does not model the basis: every reference of the new version
goes through `B.block`, whatever the basis contributes.) -/
example : (runProto ([false, false] ++ List.replicate 14 true) { witnessR with del := [0] }.start).bands =
      [⟨0, true, true, [7]⟩] ∧
    (runProto ([false, false] ++ List.replicate 14 true) { witnessR with del := [0] }.start).present = [7] ∧
    (runProto ([false, false] ++ List.replicate 14 true) { witnessR with del := [0] }.start).b.pc = .done ∧
    (runProto ([false, false] ++ List.replicate 14 true) { witnessR with del := [0] }.start).g.pc = .done ∧
    (runProto ([false, false] ++ List.replicate 12 true) { witnessR with del := [0] }.start).bands =
      [⟨0, true, false, []⟩] ∧
    (runProto ([false, false] ++ List.replicate 12 true) { witnessR with del := [0] }.start).b.pc = .refused2 := by
  decide

/-! The remaining examples are about the backup before the repair (`witness`, `recheck = false`). -/

/-- The witness archive is good, and its schedule has none of the safe orders. -/
example : GoodP witness := by decide
example : ¬ SafeOrder witnessSched witness := by decide
/-- Block 7 is garbage in the witness archive and the new source needs it. -/
example : garbage witness 7 ∧ 7 ∈ witness.needed := by decide

/-- (i) is satisfiable with both commands succeeding and gc passing `check()`: the backup runs
first (empty schedule = backup to its end, then gc); the new version refers to 7, gc keeps it. -/
example : SafeOrder [] witness ∧ (runProto [] witness.start).g.passed = true ∧
    danglingBands (runProto [] witness.start) = [] ∧
    (runProto [] witness.start).bands = [⟨0, true, true, [1]⟩, ⟨1, true, true, [7]⟩] := by decide

/-- (i) with a failing `check()`: gc starts, the backup creates its band, gc's `check()` refuses. -/
example : mkdirBeforeCheck (runProto (List.replicate 3 false ++ List.replicate 3 true ++ [false]) witness.start).log = true ∧
    (runProto (List.replicate 3 false ++ List.replicate 3 true ++ [false]) witness.start).g.pc = .failed ∧
    (runProto (List.replicate 3 false ++ List.replicate 3 true ++ [false]) witness.start).b.pc = .done := by decide

/-- (ii) is satisfiable: gc writes its lock first, the backup refuses, gc removes block 7. -/
example : lockWriteBeforeLockCheck (runProto (List.replicate 4 true) witness.start).log = true ∧
    (runProto (List.replicate 4 true) witness.start).b.pc = .refused ∧
    (runProto (List.replicate 4 true) witness.start).present = [1] := by decide

/-- (iii) is satisfiable under the very schedule of the witness: the source needs block 9, which is
not there, instead of the garbage block. -/
example : SafeOrder witnessSched { witness with needed := [9] } ∧
    (runProto witnessSched { witness with needed := [9] }.start).present = [9, 1] ∧
    danglingBands (runProto witnessSched { witness with needed := [9] }.start) = [] := by decide

/-- (iv) is satisfiable with a removal: gc passes `check()` in the window and removes 7 before the
backup lists the blocks; the backup writes 7 again. -/
example : rmBlocksBeforeListBlocks (runProto ([false] ++ List.replicate 10 true) witness.start).log = true ∧
    mkdirBeforeCheck (runProto ([false] ++ List.replicate 10 true) witness.start).log = false ∧
    (runProto ([false] ++ List.replicate 10 true) witness.start).present = [7, 1] ∧
    danglingBands (runProto ([false] ++ List.replicate 10 true) witness.start) = [] := by decide

/-- `c06_old_versions_safe` is not vacuous: in the witness run version 0 is kept, and it is the new
version 1 (and only it) that dangles. -/
example : danglingBands (runProto witnessSched witness.start) = [1] := by decide

/-- A delete of version 0 racing with the backup: version 0 is gone, block 1 with it, and the new
version (which needed only 7) is the one damaged. -/
example : (runProto ([false] ++ List.replicate 10 true ++ List.replicate 5 false ++ [true, true])
    { witness with del := [0] }.start).bands = [⟨1, true, true, [7]⟩] ∧
    (runProto ([false] ++ List.replicate 10 true ++ List.replicate 5 false ++ [true, true])
    { witness with del := [0] }.start).present = [] := by decide

end Conserve.C06
