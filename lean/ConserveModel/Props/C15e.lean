import ConserveModel.Proofs.ExclWalk
import ConserveModel.Proofs.ExclRestore
import ConserveModel.Props.C01a
/-
C15, end to end — Exclusions mean the same at backup, list and restore time.

"With the same exclusion patterns, (i) the entries a backup stores, (ii) the entries listed from a
full backup with the patterns applied, and (iii) the entries restored from a full backup with the
patterns applied are the same set of paths — an excluded directory takes its whole subtree with it
in all three."

The three code paths:
  (i)   src/source.rs `Iter` — PRUNES: an excluded child is dropped before it is looked at, so an
        excluded directory is never read (`C11.walk T ex`); the root entry is preloaded and NEVER tested;
  (ii)  src/index/stitch.rs `Stitch::next` — FILTERS every stored entry, the root entry "/" included
        (`filterEntries` / `listEntries` / `listVersion`);
  (iii) src/restore.rs `restore` — runs over the same `Stitch` (`restore H sel subtree excl`).

The root (part c).  In the code the root is special at BACKUP time only: `Iter::new` preloads the entry
for "/" and `visit_next_directory` tests children only, so no pattern can keep "/" out of a backup; but
`Stitch::next` applies `exclude.matches` to every stored entry, "/" included, and `restore` has no
exception for it (its only root special case is not calling `create_dir_all` for "/").  The model does
the same: `walkDeque` never calls `excl` on "/", `filterEntries` calls it on every entry.  So for a
pattern set that matches "/" (`C15.root_not_closed`, `C15.star_matches_root`: "/", "*", "", "**", "/**")
the three listings differ by exactly the root entry.  Checked against the real code
(tree of `Example.tree`): patterns ["*"] give stored ["/"], listed [], restored
nothing; patterns ["/"] give stored = everything, listed = everything but "/".  The exact guard under
which the property holds as stated is `E.matches "/" = false`; without it `root_excluded_differs`.
-/
set_option linter.unusedSimpArgs false
namespace Conserve.C15e
open Conserve Conserve.Exact

/-- `ex` is closed under descendants (by whole components) of every valid path other than the root:
what "an excluded directory takes its whole subtree with it" needs.  Nothing is asked of "/": the
pattern "/" excludes the root and nothing below it (`C15.root_not_closed`). -/
def DescClosed (ex : Str → Bool) : Prop :=
  ∀ a p, isValid a = true → isValid p = true → a ≠ [slash] → ex a = true → StrictDesc a p → ex p = true

/-- What the source walk keeps of the full walk: the root unconditionally (src/source.rs `Iter::new`
preloads it without asking `exclude`), everything else iff it is not excluded. -/
def keepAtBackup (ex : Str → Bool) (p : Str) : Bool := p == [slash] || !ex p

/-- **Every compiled pattern set is descendant-closed** below the root, whatever the patterns
(anchored or not, with `*`, `**`, classes …): `add_pattern` compiles `P/**` next to `P`. -/
theorem exclude_descClosed (pats : List Str) (E : Exclude) (h : Exclude.fromStrings pats = some E) :
    DescClosed E.matches :=
  exclude_desc_closed_nonroot pats E h

/-- **Pruning = filtering, with the exact guard.**  For a well-formed tree and a descendant-closed
predicate, the walk that skips excluded children and never descends into them emits exactly the
entries of the full walk that are the root or not excluded — whole entries, in the same order. -/
theorem walk_prune_eq_filter_guard (T : Node) (ex : Str → Bool) (hwf : T.WF = true) (hcl : DescClosed ex) :
    C11.walk T ex = (C11.walk T C11.noExcl).filter (fun e => keepAtBackup ex e.apath) := by
  rw [walk_prune_cons T ex hwf hcl, walk_filter_cons T (keepAtBackup ex)]
  simp only [keepAtBackup, beq_self_eq_true, Bool.true_or, if_true, List.singleton_append]
  congr 1
  apply List.filter_congr
  intro e he
  simp [walk_tail_ne_root T _ hwf e he]

/-- **walk_prune_eq_filter.**  If moreover the predicate does not hold of "/", pruning is plain
filtering: `walk T ex` is the full walk without the excluded entries, and so are its paths. -/
theorem walk_prune_eq_filter (T : Node) (ex : Str → Bool) (hwf : T.WF = true) (hcl : DescClosed ex)
    (hroot : ex [slash] = false) :
    C11.walk T ex = (C11.walk T C11.noExcl).filter (fun e => !ex e.apath) ∧
    (C11.walk T ex).map (·.apath) = ((C11.walk T C11.noExcl).map (·.apath)).filter (fun p => !ex p) := by
  have h := walk_prune_all T ex hwf hcl hroot
  refine ⟨h, ?_⟩
  rw [h, List.filter_map]
  rfl

theorem walk_prune_paths_guard (T : Node) (ex : Str → Bool) (hwf : T.WF = true) (hcl : DescClosed ex) :
    (C11.walk T ex).map (·.apath) = ((C11.walk T C11.noExcl).map (·.apath)).filter (keepAtBackup ex) := by
  rw [walk_prune_eq_filter_guard T ex hwf hcl, List.filter_map]
  rfl

/-- **For exclusion patterns**: for every list of patterns that `Exclude::from_strings` accepts, the
walk with the patterns is the full walk filtered with the exact guard; and with the plain test if the
patterns do not match "/". -/
theorem walk_prune_eq_filter_globs (T : Node) (hwf : T.WF = true) (pats : List Str) (E : Exclude)
    (h : Exclude.fromStrings pats = some E) :
    C11.walk T E.matches = (C11.walk T C11.noExcl).filter (fun e => keepAtBackup E.matches e.apath) ∧
    (E.matches [slash] = false →
      C11.walk T E.matches = (C11.walk T C11.noExcl).filter (fun e => !E.matches e.apath) ∧
      (C11.walk T E.matches).map (·.apath) =
        ((C11.walk T C11.noExcl).map (·.apath)).filter (fun p => !E.matches p)) :=
  ⟨walk_prune_eq_filter_guard T _ hwf (exclude_descClosed pats E h),
   walk_prune_eq_filter T _ hwf (exclude_descClosed pats E h)⟩

/-- The three results, for a source tree `T`, an exclusion predicate `ex`, two archives `s₁`, `s₂`
(they may be the same) and two option sets: `stored` are the source entries version (i) holds,
`kept` the entries (ii) and (iii) yield. -/
structure ThreeWay (H : Str → Str) (T : Node) (ex : Str → Bool) (o₁ o₂ : BackupOpts) (s₁ s₂ : Store)
    (stored kept : List SrcEntry) : Prop where
  /-- the backup WITH the exclusions succeeds silently and completes a version (all clauses of C01a) -/
  backupEx : C01a.Exact H o₁ (C11.walk T ex) s₁ ((backup H o₁ (C11.walk T ex)).run (World.clean s₁))
  /-- the FULL backup succeeds silently and completes a version -/
  backupAll : C01a.Exact H o₂ (C11.walk T C11.noExcl) s₂
    ((backup H o₂ (C11.walk T C11.noExcl)).run (World.clean s₂))
  /-- (i) what the backup with the exclusions stored, read back by a restore WITHOUT exclusions -/
  storedEq :
    ((restore H (.specified (newBandOf s₁)) [slash] (fun _ => false)).run
        (World.clean ((backup H o₁ (C11.walk T ex)).run (World.clean s₁)).2.store)).1
      = .ok (stored.map (expectedNode o₁))
  storedSilent :
    ((restore H (.specified (newBandOf s₁)) [slash] (fun _ => false)).run
        (World.clean ((backup H o₁ (C11.walk T ex)).run (World.clean s₁)).2.store)).2.events = []
  /-- (ii) listing the full backup with the exclusions applied: entries with exactly the metadata of
  the kept source entries, in order -/
  listedEq : ∃ es,
    ((listVersion (.specified (newBandOf s₂)) [slash] ex).run
        (World.clean ((backup H o₂ (C11.walk T C11.noExcl)).run (World.clean s₂)).2.store)).1 = .ok es ∧
    es.map strip = kept.map (Inv.metaOf o₂) ∧ es.map (·.apath) = kept.map (·.apath)
  listedSilent :
    ((listVersion (.specified (newBandOf s₂)) [slash] ex).run
        (World.clean ((backup H o₂ (C11.walk T C11.noExcl)).run (World.clean s₂)).2.store)).2.events = []
  /-- (iii) restoring the full backup with the exclusions applied -/
  restoredEq :
    ((restore H (.specified (newBandOf s₂)) [slash] ex).run
        (World.clean ((backup H o₂ (C11.walk T C11.noExcl)).run (World.clean s₂)).2.store)).1
      = .ok (kept.map (expectedNode o₂))
  restoredSilent :
    ((restore H (.specified (newBandOf s₂)) [slash] ex).run
        (World.clean ((backup H o₂ (C11.walk T C11.noExcl)).run (World.clean s₂)).2.store)).2.events = []
  /-- (iii) likewise when the version is selected as the latest complete one -/
  restoredLatestEq :
    ((restore H .latestClosed [slash] ex).run
        (World.clean ((backup H o₂ (C11.walk T C11.noExcl)).run (World.clean s₂)).2.store)).1
      = .ok (kept.map (expectedNode o₂))

theorem ThreeWay.paths {H : Str → Str} {T : Node} {ex : Str → Bool} {o₁ o₂ : BackupOpts} {s₁ s₂ : Store}
    {stored kept : List SrcEntry} (h : ThreeWay H T ex o₁ o₂ s₁ s₂ stored kept) :
    (∃ nodes, ((restore H (.specified (newBandOf s₁)) [slash] (fun _ => false)).run
        (World.clean ((backup H o₁ (C11.walk T ex)).run (World.clean s₁)).2.store)).1 = .ok nodes ∧
      nodes.map (·.apath) = stored.map (·.apath)) ∧
    (∃ es, ((listVersion (.specified (newBandOf s₂)) [slash] ex).run
        (World.clean ((backup H o₂ (C11.walk T C11.noExcl)).run (World.clean s₂)).2.store)).1 = .ok es ∧
      es.map (·.apath) = kept.map (·.apath)) ∧
    (∃ nodes, ((restore H (.specified (newBandOf s₂)) [slash] ex).run
        (World.clean ((backup H o₂ (C11.walk T C11.noExcl)).run (World.clean s₂)).2.store)).1 = .ok nodes ∧
      nodes.map (·.apath) = kept.map (·.apath)) := by
  refine ⟨⟨_, h.storedEq, map_expectedNode_apath _ _⟩, ?_, ⟨_, h.restoredEq, map_expectedNode_apath _ _⟩⟩
  obtain ⟨es, h1, _, h3⟩ := h.listedEq
  exact ⟨es, h1, h3⟩

/-- **C15 with the exact guard.**  For every well-formed source tree, every descendant-closed
exclusion predicate, every injective block hash, all options, and good archives (an initialised empty
archive, or any archive satisfying `ArchiveGood`; the metadata hypotheses are those of
`C01a.backup_restore_exact_tree`, asked of the FULL walk only):
(i) the backup made with the exclusions holds exactly the entries of the full walk that are the root
or not excluded; (ii) listing and (iii) restoring the FULL backup with the exclusions applied give
exactly the entries of the full walk that are not excluded — the same order, the same metadata and
file bytes, and none of the five runs reports an error. -/
theorem backup_list_restore_guard (H : Str → Str) (hinj : Function.Injective H)
    (hlen : ∀ d, subdirNameChars ≤ (H d).length) (s₁ s₂ : Store) (o₁ o₂ : BackupOpts) (T : Node)
    (ex : Str → Bool) (ho₁ : 0 < o₁.maxBlockSize) (ho₂ : 0 < o₂.maxBlockSize) (hwf : T.WF = true)
    (hcl : DescClosed ex)
    (hsize : ∀ sf ∈ C11.walk T C11.noExcl, sf.kind = .file → sf.size = sf.content.length)
    (htime : ∀ sf ∈ C11.walk T C11.noExcl,
      -377705023201 * nanosPerSec ≤ sf.mtimeNs ∧ sf.mtimeNs < 253402207201 * nanosPerSec)
    (hbytes : totalSize (C11.walk T C11.noExcl) < 18446744073709551616)
    (hs₁ : ArchiveGood H (C11.walk T C11.noExcl) s₁) (hs₂ : ArchiveGood H (C11.walk T C11.noExcl) s₂) :
    ThreeWay H T ex o₁ o₂ s₁ s₂
      ((C11.walk T C11.noExcl).filter fun e => keepAtBackup ex e.apath)
      ((C11.walk T C11.noExcl).filter fun e => !ex e.apath) := by
  have hw := walk_prune_eq_filter_guard T ex hwf hcl
  have hsub : ∀ sf ∈ C11.walk T ex, sf ∈ C11.walk T C11.noExcl := by
    intro sf hsf; rw [hw] at hsf; exact (List.mem_filter.mp hsf).1
  have hsrcA : SrcGood (C11.walk T C11.noExcl) := walk_srcGood T _ hwf hsize htime hbytes
  have hbytesX : totalSize (C11.walk T ex) < 18446744073709551616 := by
    have := totalSize_filter_le (fun e => keepAtBackup ex e.apath) (C11.walk T C11.noExcl)
    rw [hw]; omega
  have hsrcX : SrcGood (C11.walk T ex) :=
    walk_srcGood T ex hwf (fun sf h => hsize sf (hsub sf h)) (fun sf h => htime sf (hsub sf h)) hbytesX
  have eX := C01a.backup_restore_exact H hinj hlen s₁ o₁ _ ho₁ hsrcX (hs₁.mono hsub)
  have eA := C01a.backup_restore_exact H hinj hlen s₂ o₂ _ ho₂ hsrcA hs₂
  have sel := backup_then_select hinj hlen s₂ o₂ _ ho₂ hsrcA hs₂ [slash] ex
  have hf := filter_selKeep_root ex _ hsrcA.valid
  obtain ⟨es, hl1, hl2, hl3⟩ := sel.list
  refine ⟨eX, eA, ?_, eX.restoreSpecifiedSilent, ⟨es, hl1, ?_, ?_⟩, sel.listSilent, ?_,
    sel.restoreSpecifiedSilent, ?_⟩
  · exact eX.restoreSpecified.trans (congrArg (fun l => Outcome.ok (l.map (expectedNode o₁))) hw)
  · rw [hl2, hf]
  · rw [hl3, ← hf, List.filter_map]; rfl
  · rw [← hf]; exact sel.restoreSpecified
  · rw [← hf]; exact sel.restoreLatest

/-- **backup_list_restore_agree.**  If in addition the exclusion predicate does not hold of "/", the
three agree: (i), (ii) and (iii) are all exactly the full walk without the excluded entries (`kept`). -/
theorem backup_list_restore_agree (H : Str → Str) (hinj : Function.Injective H)
    (hlen : ∀ d, subdirNameChars ≤ (H d).length) (s₁ s₂ : Store) (o₁ o₂ : BackupOpts) (T : Node)
    (ex : Str → Bool) (ho₁ : 0 < o₁.maxBlockSize) (ho₂ : 0 < o₂.maxBlockSize) (hwf : T.WF = true)
    (hcl : DescClosed ex) (hroot : ex [slash] = false)
    (hsize : ∀ sf ∈ C11.walk T C11.noExcl, sf.kind = .file → sf.size = sf.content.length)
    (htime : ∀ sf ∈ C11.walk T C11.noExcl,
      -377705023201 * nanosPerSec ≤ sf.mtimeNs ∧ sf.mtimeNs < 253402207201 * nanosPerSec)
    (hbytes : totalSize (C11.walk T C11.noExcl) < 18446744073709551616)
    (hs₁ : ArchiveGood H (C11.walk T C11.noExcl) s₁) (hs₂ : ArchiveGood H (C11.walk T C11.noExcl) s₂) :
    ThreeWay H T ex o₁ o₂ s₁ s₂
      ((C11.walk T C11.noExcl).filter fun e => !ex e.apath)
      ((C11.walk T C11.noExcl).filter fun e => !ex e.apath) := by
  have h := backup_list_restore_guard H hinj hlen s₁ s₂ o₁ o₂ T ex ho₁ ho₂ hwf hcl hsize htime hbytes hs₁ hs₂
  have : ((C11.walk T C11.noExcl).filter fun e => keepAtBackup ex e.apath) =
      (C11.walk T C11.noExcl).filter fun e => !ex e.apath := by
    rw [← walk_prune_eq_filter_guard T ex hwf hcl, (walk_prune_eq_filter T ex hwf hcl hroot).1]
  rwa [this] at h

/-- **C15 for exclusion patterns.**  For every list of patterns `Exclude::from_strings` accepts and
that do not match "/" itself: the backup with the patterns, the listing of a full backup with the
patterns and the restore of a full backup with the patterns yield the same paths, as lists, equal to
the paths of the full walk that the patterns do not match; none of the runs reports an error. -/
theorem backup_list_restore_agree_globs (H : Str → Str) (hinj : Function.Injective H)
    (hlen : ∀ d, subdirNameChars ≤ (H d).length) (s₁ s₂ : Store) (o₁ o₂ : BackupOpts) (T : Node)
    (pats : List Str) (E : Exclude) (hE : Exclude.fromStrings pats = some E)
    (hroot : E.matches [slash] = false)
    (ho₁ : 0 < o₁.maxBlockSize) (ho₂ : 0 < o₂.maxBlockSize) (hwf : T.WF = true)
    (hsize : ∀ sf ∈ C11.walk T C11.noExcl, sf.kind = .file → sf.size = sf.content.length)
    (htime : ∀ sf ∈ C11.walk T C11.noExcl,
      -377705023201 * nanosPerSec ≤ sf.mtimeNs ∧ sf.mtimeNs < 253402207201 * nanosPerSec)
    (hbytes : totalSize (C11.walk T C11.noExcl) < 18446744073709551616)
    (hs₁ : ArchiveGood H (C11.walk T C11.noExcl) s₁) (hs₂ : ArchiveGood H (C11.walk T C11.noExcl) s₂) :
    let kept := ((C11.walk T C11.noExcl).map (·.apath)).filter (fun p => !E.matches p)
    (∃ nodes, ((restore H (.specified (newBandOf s₁)) [slash] (fun _ => false)).run
        (World.clean ((backup H o₁ (C11.walk T E.matches)).run (World.clean s₁)).2.store)).1 = .ok nodes ∧
      nodes.map (·.apath) = kept) ∧
    (∃ es, ((listVersion (.specified (newBandOf s₂)) [slash] E.matches).run
        (World.clean ((backup H o₂ (C11.walk T C11.noExcl)).run (World.clean s₂)).2.store)).1 = .ok es ∧
      es.map (·.apath) = kept) ∧
    (∃ nodes, ((restore H (.specified (newBandOf s₂)) [slash] E.matches).run
        (World.clean ((backup H o₂ (C11.walk T C11.noExcl)).run (World.clean s₂)).2.store)).1 = .ok nodes ∧
      nodes.map (·.apath) = kept) := by
  intro kept
  have h := (backup_list_restore_agree H hinj hlen s₁ s₂ o₁ o₂ T E.matches ho₁ ho₂ hwf
    (exclude_descClosed pats E hE) hroot hsize htime hbytes hs₁ hs₂).paths
  have hk : ((C11.walk T C11.noExcl).filter fun e => !E.matches e.apath).map (·.apath) = kept := by
    show _ = List.filter _ (List.map _ _)
    rw [List.filter_map]; rfl
  rwa [hk] at h

/-- **When the patterns match "/"** (`*`, `/`, `/**`, `**` …) the three do NOT agree, and differ by
exactly the root entry: the backup stores "/" (the walk never tests it) followed by the non-excluded
rest, while listing and restoring the full backup with the same patterns yield that rest WITHOUT "/"
(`Stitch::next` tests every entry, the root included). -/
theorem root_excluded_differs (H : Str → Str) (hinj : Function.Injective H)
    (hlen : ∀ d, subdirNameChars ≤ (H d).length) (s₁ s₂ : Store) (o₁ o₂ : BackupOpts) (T : Node)
    (ex : Str → Bool) (ho₁ : 0 < o₁.maxBlockSize) (ho₂ : 0 < o₂.maxBlockSize) (hwf : T.WF = true)
    (hcl : DescClosed ex) (hroot : ex [slash] = true)
    (hsize : ∀ sf ∈ C11.walk T C11.noExcl, sf.kind = .file → sf.size = sf.content.length)
    (htime : ∀ sf ∈ C11.walk T C11.noExcl,
      -377705023201 * nanosPerSec ≤ sf.mtimeNs ∧ sf.mtimeNs < 253402207201 * nanosPerSec)
    (hbytes : totalSize (C11.walk T C11.noExcl) < 18446744073709551616)
    (hs₁ : ArchiveGood H (C11.walk T C11.noExcl) s₁) (hs₂ : ArchiveGood H (C11.walk T C11.noExcl) s₂) :
    ∃ kept : List SrcEntry, ThreeWay H T ex o₁ o₂ s₁ s₂ (T.entry [slash] :: kept) kept ∧
      [slash] ∉ kept.map (·.apath) := by
  have h := backup_list_restore_guard H hinj hlen s₁ s₂ o₁ o₂ T ex ho₁ ho₂ hwf hcl hsize htime hbytes hs₁ hs₂
  refine ⟨(C11.walk T C11.noExcl).filter fun e => !ex e.apath, ?_, ?_⟩
  · have : ((C11.walk T C11.noExcl).filter fun e => keepAtBackup ex e.apath) =
        T.entry [slash] :: (C11.walk T C11.noExcl).filter fun e => !ex e.apath := by
      rw [← walk_prune_eq_filter_guard T ex hwf hcl, walk_prune_cons T ex hwf hcl,
        walk_filter_cons T (fun p => !ex p), hroot]
      rfl
    rwa [this] at h
  · intro hm
    obtain ⟨e, he, hea⟩ := List.mem_map.mp hm
    have := (List.mem_filter.mp he).2
    simp only [hea, hroot, Bool.not_true] at this
    exact absurd this (by decide)

/-! ### Non-vacuity and corner cases -/

namespace Example
open C01a.Example

/-- `/a` (file), `/build/` with `/build/x` and `/build/sub/y`, `/build2` (a sibling whose name has
"build" as a textual prefix), `/é/` (multi-byte name, bytes c3 a9) with a file `/é/build` — listed in an
arbitrary `read_dir` order. -/
def tree : Node :=
  .dir {} (.ofList [
    ([98, 117, 105, 108, 100, 50], .file {} 1 [5]),
    ([195, 169], .dir {} (.ofList [([98, 117, 105, 108, 100], .file {} 0 [])])),
    ([98, 117, 105, 108, 100], .dir {} (.ofList [
        ([120], .file { mtimeNs := 3 } 2 [1, 2]),
        ([115, 117, 98], .dir {} (.ofList [([121], .symlink {} [120])]))])),
    ([97], .file {} 1 [9])])

theorem tree_wf : tree.WF = true := by decide +kernel

example : tree.WF = true := tree_wf

/-- The full walk: "/", "/a", "/build", "/build2", "/é", "/build/sub", "/build/x", "/build/sub/y", "/é/build". -/
theorem full_paths : (C11.walk tree C11.noExcl).map (·.apath) =
    [[47], [47, 97], [47, 98, 117, 105, 108, 100], [47, 98, 117, 105, 108, 100, 50], [47, 195, 169],
     [47, 98, 117, 105, 108, 100, 47, 115, 117, 98], [47, 98, 117, 105, 108, 100, 47, 120],
     [47, 98, 117, 105, 108, 100, 47, 115, 117, 98, 47, 121],
     [47, 195, 169, 47, 98, 117, 105, 108, 100]] := by decide +kernel

/-- The anchored pattern "/build". -/
def patsAnchored : List Str := [[47, 98, 117, 105, 108, 100]]
/-- The unanchored pattern "build" (compiled as `**/build` and `**/build/**`). -/
def patsAnywhere : List Str := [[98, 117, 105, 108, 100]]
/-- The pattern "*" (compiled as `**/*`, `**/*/**`): matches every path, "/" included. -/
def patsStar : List Str := [[42]]

/-- The compiled sets (`from_strings` accepts all three pattern lists). -/
def exAnchored : Exclude := (Exclude.fromStrings patsAnchored).get (by decide +kernel)
def exAnywhere : Exclude := (Exclude.fromStrings patsAnywhere).get (by decide +kernel)
def exStar : Exclude := (Exclude.fromStrings patsStar).get (by decide +kernel)

theorem exAnchored_from : Exclude.fromStrings patsAnchored = some exAnchored := (Option.some_get _).symm
theorem exAnywhere_from : Exclude.fromStrings patsAnywhere = some exAnywhere := (Option.some_get _).symm
theorem exStar_from : Exclude.fromStrings patsStar = some exStar := (Option.some_get _).symm

/-- Neither "/build" nor "build" matches the root; "*" does (`C15.star_matches_root`). -/
theorem anchored_root : exAnchored.matches [slash] = false := by decide +kernel
theorem anywhere_root : exAnywhere.matches [slash] = false := by decide +kernel
/-- "*" matches the root. -/
theorem star_root : exStar.matches [slash] = true := by decide +kernel

/-- Backup with "/build": the directory goes with its whole subtree (three levels), the sibling
"/build2" stays (component-wise, not textual), and so does "/é/build" (the pattern is anchored). -/
example : (C11.walk tree exAnchored.matches).map (·.apath) =
    [[47], [47, 97], [47, 98, 117, 105, 108, 100, 50], [47, 195, 169],
     [47, 195, 169, 47, 98, 117, 105, 108, 100]] := by decide +kernel

/-- Backup with "build": "/é/build" goes as well. -/
example : (C11.walk tree exAnywhere.matches).map (·.apath) =
    [[47], [47, 97], [47, 98, 117, 105, 108, 100, 50], [47, 195, 169]] := by decide +kernel

/-- … and that is the filter of the full walk, by the theorem (not by evaluation). -/
example : (C11.walk tree exAnywhere.matches).map (·.apath) =
    ((C11.walk tree C11.noExcl).map (·.apath)).filter (fun p => !exAnywhere.matches p) :=
  ((walk_prune_eq_filter_globs tree tree_wf _ _ exAnywhere_from).2 anywhere_root).2

/-- The metadata hypotheses of the end-to-end theorems hold for the example tree. -/
theorem tree_size : ∀ sf ∈ C11.walk tree C11.noExcl, sf.kind = .file → sf.size = sf.content.length := by
  decide +kernel
theorem tree_time : ∀ sf ∈ C11.walk tree C11.noExcl,
    -377705023201 * nanosPerSec ≤ sf.mtimeNs ∧ sf.mtimeNs < 253402207201 * nanosPerSec := by decide +kernel
theorem tree_bytes : totalSize (C11.walk tree C11.noExcl) < 18446744073709551616 := by decide +kernel

theorem archive_good (src : List SrcEntry) : ArchiveGood exH src archive :=
  ArchiveGood.of_noBands archive_ok archive_noBands archive_noLock src

/-- All hypotheses of the end-to-end theorem hold for this tree, the fresh archive of `C01a.Example`,
its hash and options, and the pattern "build": the three path lists are equal to the four kept paths. -/
example :
    let kept : List Str := [[47], [47, 97], [47, 98, 117, 105, 108, 100, 50], [47, 195, 169]]
    (∃ nodes, ((restore exH (.specified (newBandOf archive)) [slash] (fun _ => false)).run
        (World.clean ((backup exH opts (C11.walk tree exAnywhere.matches)).run (World.clean archive)).2.store)).1
          = .ok nodes ∧ nodes.map (·.apath) = kept) ∧
    (∃ es, ((listVersion (.specified (newBandOf archive)) [slash] exAnywhere.matches).run
        (World.clean ((backup exH {} (C11.walk tree C11.noExcl)).run (World.clean archive)).2.store)).1
          = .ok es ∧ es.map (·.apath) = kept) ∧
    (∃ nodes, ((restore exH (.specified (newBandOf archive)) [slash] exAnywhere.matches).run
        (World.clean ((backup exH {} (C11.walk tree C11.noExcl)).run (World.clean archive)).2.store)).1
          = .ok nodes ∧ nodes.map (·.apath) = kept) := by
  have h := backup_list_restore_agree_globs exH exH_inj exH_len archive archive opts {} tree patsAnywhere
    exAnywhere exAnywhere_from anywhere_root (by decide) (by decide) tree_wf tree_size tree_time tree_bytes
    (archive_good _) (archive_good _)
  have hk : ((C11.walk tree C11.noExcl).map (·.apath)).filter (fun p => !exAnywhere.matches p) =
      [[47], [47, 97], [47, 98, 117, 105, 108, 100, 50], [47, 195, 169]] := by
    rw [full_paths]; decide +kernel
  simp only [hk] at h
  exact h

/-- **star_differs.**  The pattern "*" matches "/".  The backup made with it holds exactly the root
entry; listing or restoring a full backup with it yields nothing at all — not even the root. -/
theorem star_differs :
    ((restore exH (.specified (newBandOf archive)) [slash] (fun _ => false)).run
        (World.clean ((backup exH opts (C11.walk tree exStar.matches)).run (World.clean archive)).2.store)).1
      = .ok [expectedNode opts (tree.entry [slash])] ∧
    ((restore exH (.specified (newBandOf archive)) [slash] exStar.matches).run
        (World.clean ((backup exH opts (C11.walk tree C11.noExcl)).run (World.clean archive)).2.store)).1
      = .ok [] ∧
    ((listVersion (.specified (newBandOf archive)) [slash] exStar.matches).run
        (World.clean ((backup exH opts (C11.walk tree C11.noExcl)).run (World.clean archive)).2.store)).1
      = .ok [] := by
  have h0 := backup_list_restore_guard exH exH_inj exH_len archive archive opts opts tree exStar.matches
    (by decide) (by decide) tree_wf (exclude_descClosed _ _ exStar_from) tree_size tree_time
    tree_bytes (archive_good _) (archive_good _)
  have hk : ((C11.walk tree C11.noExcl).filter fun e => !exStar.matches e.apath) = [] := by decide +kernel
  have hs : ((C11.walk tree C11.noExcl).filter fun e => keepAtBackup exStar.matches e.apath) =
      [tree.entry [slash]] := by decide +kernel
  obtain ⟨es, hl1, hl2, _⟩ := h0.listedEq
  rw [hk] at hl2
  have : es = [] := by simpa using hl2
  subst this
  refine ⟨?_, ?_, hl1⟩
  · have := h0.storedEq; rw [hs] at this; exact this
  · have := h0.restoredEq; rw [hk] at this; exact this

/-- The pattern "/" alone: it excludes the root and nothing else (`C15.root_not_closed`), so the backup
made with it holds everything, while listing the full backup with it drops just "/". -/
example : (Exclude.fromStrings [[47]]).map (fun E =>
    ((C11.walk tree E.matches).map (·.apath) == (C11.walk tree C11.noExcl).map (·.apath),
     ((C11.walk tree C11.noExcl).map (·.apath)).filter (fun p => !E.matches p)
       == ((C11.walk tree C11.noExcl).map (·.apath)).tail)) = some (true, true) := by decide +kernel

end Example

end Conserve.C15e
