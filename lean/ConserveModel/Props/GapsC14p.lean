import ConserveModel.Props.C14p
import ConserveModel.Proofs.GapKindsSmall
import ConserveModel.Props.C13
/-
Gaps — the "C14p residuals".

`C14p.unchanged_statement_from_ci` derives the first clause of C14 from C13's format invariant `CI`
plus residual hypotheses, among them
* `KindsOK s`     — directories where the layout has directories, files where it has files, and
* `BlocksSmall s` — every block shorter than 2^64 bytes,
which `C14p.produced_store_facts` obtains only for archives PRODUCED by fault-free operations
(`C09p.ProducedOK`: no injected fault, a crash point at most).  This file shows that both are
invariants of `backup` and of `delete_bands` in EVERY world — any fault list, any crash point, dead or
alive, `CreateNew` enforced or not — and hence of every `C13` history (`history_kinds_small`), so they
hold after faulted and crashed histories too, and restates the C14p theorems for the archives such a
history visits without these two hypotheses (`unchanged_statement_after_history`, …).

What is needed, and what is not:
* `KindsOK` needs NOTHING: no format invariant, not even `NoDupKeys` (`erase`/`eraseTree` filter by
  key only), nothing of the source, the options, the hash or the world (`history_kinds`).
* `BlocksSmall` needs one thing of every backup step: the contents of the regular files of its source
  listing add up to less than 2^64 bytes — `srcBytes src < u64` (`StepSmall`).  A block is either a
  chunk of one file or the combiner's buffer, a concatenation of (prefixes of) distinct source files;
  since a failed flush puts the buffer back and later small files keep being appended to it, under
  faults only the SUM of the file sizes bounds it, not `maxBlockSize + smallFileCap`.  Nothing else:
  no `entriesInRange` of the store (`Rng.backup_irs` needs it), no representable source times, no
  sortedness, no `C13.HistOK`.  It follows from `SrcInRange` (C09p) and from `SrcGood` (C01a).
* `delete_bands` (either mode) keeps both unconditionally.
Not shown: that the bound is necessary (a witness needs a source file of 2^64 bytes).
-/
namespace Conserve.Gaps
open Conserve Conserve.Inv Conserve.Conf Conserve.Exact Conserve.Rng

variable {H : Str → Str}

/-! ## 1. One operation, every world -/

/-- **`backup_keeps_kinds_small`.**  `backup`, in EVERY world `w` (any faults, any crash point, dead
or alive, `CreateNew` enforced or not), from every store, with every hash, all options and a source
listing whose regular files hold fewer than 2^64 bytes in total: if directories are where the layout
has directories and every block is shorter than 2^64 bytes before, so after — however the run ended. -/
theorem backup_keeps_kinds_small (H : Str → Str) (o : BackupOpts) (src : List SrcEntry) (w : World)
    (hbytes : srcBytes src < u64) (hk : KindsOK w.store) (hb : BlocksSmall w.store) :
    KindsOK ((backup H o src).run w).2.store ∧ BlocksSmall ((backup H o src).run w).2.store :=
  ⟨backup_kindsOK H o src w hk, Kinds.backup_small H o hbytes w hb⟩

/-- **`delete_keeps_kinds_small`.**  `delete_bands` (strict or not), in EVERY world, from every store:
`KindsOK` and `BlocksSmall` survive, each on its own. -/
theorem delete_keeps_kinds_small (strict : Bool) (D : List Nat) (opts : DeleteOpts) (w : World) :
    (KindsOK w.store → KindsOK ((deleteBands strict D opts).run w).2.store) ∧
    (BlocksSmall w.store → BlocksSmall ((deleteBands strict D opts).run w).2.store) :=
  ⟨delete_kindsOK strict D opts w, Kinds.delete_small strict D opts w⟩

/-! ## 2. Histories -/

/-- What `BlocksSmall` needs of one step of a `C13` history: a backup's source listing holds fewer
than 2^64 bytes of file content in total; nothing of a delete.  The step's world is unconstrained. -/
def StepSmall : C13.Step → Prop
  | .backup _ src _ => srcBytes src < u64
  | .delete _ _ _ => True

def HistSmall (hist : List C13.Step) : Prop := ∀ st ∈ hist, StepSmall st

/-- C09p's in-range condition on a step (`SrcInRange`: representable times and the size bound)
implies the size bound. -/
theorem StepSmall.of_inRange {st : C13.Step} (h : C09p.StepInRange st) : StepSmall st := by
  cases st with
  | backup o src w => exact h.bytes
  | delete D opts w => trivial

theorem srcBytes_of_srcGood {src : List SrcEntry} (h : SrcGood src) : srcBytes src < u64 :=
  (C09p.srcInRange_of_srcGood h).bytes

theorem step_kinds (st : C13.Step) (s : Store) (hk : KindsOK s) : KindsOK (st.run H s) := by
  cases st with
  | backup o src w => exact backup_kindsOK H o src { w with store := s } hk
  | delete D opts w => exact delete_kindsOK true D opts { w with store := s } hk

theorem step_small (st : C13.Step) (s : Store) (hst : StepSmall st) (hb : BlocksSmall s) :
    BlocksSmall (st.run H s) := by
  cases st with
  | backup o src w => exact Kinds.backup_small H o hst { w with store := s } hb
  | delete D opts w => exact Kinds.delete_small true D opts { w with store := s } hb

/-- **`history_kinds`.**  Over ANY `C13` history — backup attempts and deletes, each with arbitrary
options in an arbitrary world, with arbitrary source listings — every archive visited has directories
where the layout has directories and files where it has files, if the first one does.  No hypothesis
on the history, the hash or the starting archive besides `KindsOK` itself. -/
theorem history_kinds (hist : List C13.Step) (s : Store) (hk : KindsOK s) :
    ∀ s' ∈ C13.states H hist s, KindsOK s' :=
  C13.states_invariant (A := fun _ => True) (fun st s _ h => step_kinds st s h) hist (fun _ _ => trivial) s hk

/-- **`history_kinds_small`.**  Over any `C13` history each of whose backup steps has a source with
fewer than 2^64 bytes of file content (`HistSmall`), every step running in an ARBITRARY world (any
faults, any crash point, dead or alive, `CreateNew` enforced or not): every archive visited — after
every step, completed, failed or interrupted — satisfies `KindsOK` and `BlocksSmall`, if the first
one does.  `C13.HistOK` (sorted sources, `CreateNew` enforced) is NOT needed, nor is any format
invariant of the starting archive. -/
theorem history_kinds_small (hist : List C13.Step) (hsm : HistSmall hist) (s : Store)
    (hk : KindsOK s) (hb : BlocksSmall s) :
    ∀ s' ∈ C13.states H hist s, KindsOK s' ∧ BlocksSmall s' :=
  C13.states_invariant (I := fun s => KindsOK s ∧ BlocksSmall s) (A := StepSmall)
    (fun st s hst h => ⟨step_kinds st s h.1, step_small st s hst h.2⟩) hist hsm s ⟨hk, hb⟩

/-- The same in the shape of `C13.history_conforms`, with `C13.HistOK` among the hypotheses (it is
not used). -/
theorem history_kinds_small_of_histOK (hist : List C13.Step) (_hok : C13.HistOK hist)
    (hsm : HistSmall hist) (s : Store) (hk : KindsOK s) (hb : BlocksSmall s) :
    ∀ s' ∈ C13.states H hist s, KindsOK s' ∧ BlocksSmall s' :=
  history_kinds_small hist hsm s hk hb

theorem emptyArchive_kinds_small : KindsOK C13.emptyArchive ∧ BlocksSmall C13.emptyArchive :=
  ⟨C14p.initArchive_kindsOK, C14p.initArchive_small⟩

/-- **`reachable_kinds_small`.**  Every archive reachable from the empty one by a history with the
size bound — in arbitrary worlds — satisfies `KindsOK` and `BlocksSmall`. -/
theorem reachable_kinds_small (hist : List C13.Step) (hsm : HistSmall hist) :
    ∀ s' ∈ C13.states H hist C13.emptyArchive, KindsOK s' ∧ BlocksSmall s' :=
  history_kinds_small hist hsm _ emptyArchive_kinds_small.1 emptyArchive_kinds_small.2

/-- **`history_ci`.**  C13's invariant over a history (`C13.history_conforms` states the `Conforms`
part only): every archive an admissible history visits from an archive satisfying `CI` satisfies
`CI` — conforming, every key's parent a directory, no key twice. -/
theorem history_ci (hinj : Function.Injective H) (hlen : HashLen H) (hist : List C13.Step)
    (hok : C13.HistOK hist) (s : Store) (hci : CI H s) : ∀ s' ∈ C13.states H hist s, CI H s' :=
  C13.states_invariant (I := CI H) (A := C13.Step.OK) (fun st s h hci => C13.step_ci hinj hlen st s h hci)
    hist hok s hci

/-- **`history_storeOK`.**  C01a's store hypothesis `StoreOK` (a map and a tree, kinds, `d/`, block
names, block lengths) holds of every archive an admissible history with the size bound visits —
faults, crashes and all — from an archive with `CI`, `KindsOK` and `BlocksSmall`. -/
theorem history_storeOK (hinj : Function.Injective H) (hlen : HashLen H) (hist : List C13.Step)
    (hok : C13.HistOK hist) (hsm : HistSmall hist) (s : Store) (hci : CI H s) (hk : KindsOK s)
    (hb : BlocksSmall s) : ∀ s' ∈ C13.states H hist s, StoreOK H s' := fun s' hs' =>
  let ⟨hk', hb'⟩ := history_kinds_small hist hsm s hk hb s' hs'
  storeOK_of_ci (history_ci hinj hlen hist hok s hci s' hs') hk' hb'

/-- **`history_in_range`** (the third store-only residual, for completeness; C09p proves it inside
`silent_on_reachable`): `entriesInRange` — representable times, no address overflow — holds of every
archive a history visits whose backup steps have in-range sources (`C09p.StepInRange`), in arbitrary
worlds, if it holds of the first. -/
theorem history_in_range (hist : List C13.Step) (hrng : ∀ st ∈ hist, C09p.StepInRange st) (s : Store)
    (hr : entriesInRange s = true) : ∀ s' ∈ C13.states H hist s, entriesInRange s' = true :=
  C13.states_invariant (I := fun s => entriesInRange s = true) (A := C09p.StepInRange)
    (fun st s h hr => C09p.step_inRange st s h hr) hist hrng s hr

/-! ## 3. The C14p theorems after a history -/

/-- **`archive_good_after_history`.**  C01a's hypothesis on the archive, for an archive `s` visited by
an admissible history with the size bound (arbitrary worlds) from an archive `s0` with `CI`, `KindsOK`
and `BlocksSmall`: what remains to assume of `s` is what a faulted or killed step CAN destroy or
what the store does not determine — readable heads, values in range, no `GC_LOCK`, the tool's
heuristic. -/
theorem archive_good_after_history (hinj : Function.Injective H) (hlen : HashLen H)
    (hist : List C13.Step) (hok : C13.HistOK hist) (hsm : HistSmall hist) (s0 : Store) (hci : CI H s0)
    (hk : KindsOK s0) (hb : BlocksSmall s0) {s : Store} (hs : s ∈ C13.states H hist s0)
    {src : List SrcEntry} (hheads : AllHeadsReadable s) (hrange : entriesInRange s = true)
    (hlock : s.get? .gcLock = none) (hheur : HeuristicSoundStore H src s) : ArchiveGood H src s :=
  let ⟨hk', hb'⟩ := history_kinds_small hist hsm s0 hk hb s hs
  archiveGood_of_ci (history_ci hinj hlen hist hok s0 hci s hs) hheads hrange hk' hb' hlock hheur

/-- **`unchanged_statement_after_history`.**  `C14p.unchanged_statement_from_ci` without the residual
hypotheses `KindsOK s` and `BlocksSmall s` (and with `CI H s` derived too): let `s` be ANY archive
visited by a history of backup attempts and deletes — each step with arbitrary options in an
arbitrary world that enforces `CreateNew` (injected faults, a crash point, dead or alive), sorted
valid sources holding fewer than 2^64 bytes — from an archive `s0` with `CI`, `KindsOK`, `BlocksSmall`
(e.g. the empty one).  If every version directory of `s` has a readable head, stored values are in
range, there is no `GC_LOCK`, the tool's heuristic is sound for `src`, `basis` is the listing of the
newest version and `src` matches it entry by entry with every file heuristically unchanged, then the
fault-free backup of `src` into `s` issues no `write` to any block file. -/
theorem unchanged_statement_after_history (hinj : Function.Injective H) (hlen : HashLen H)
    (hist : List C13.Step) (hok : C13.HistOK hist) (hsm : HistSmall hist) (s0 : Store) (hci : CI H s0)
    (hk : KindsOK s0) (hb : BlocksSmall s0) (s : Store) (hs : s ∈ C13.states H hist s0)
    (o : BackupOpts) (src : List SrcEntry) (basis : List IndexEntry) (b : Nat)
    (ho : 0 < o.maxBlockSize) (hsrc : SrcGood src)
    (hheads : AllHeadsReadable s) (hrange : entriesInRange s = true)
    (hlock : s.get? .gcLock = none) (hheur : HeuristicSoundStore H src s)
    (hmax : maxNat? (bandIdsOf s) = some b)
    (hlist : ((listVersion (.specified b) [slash] (fun _ => false)).run (World.clean s)).1 = .ok basis)
    (hzip : basis.length = src.length ∧ ∀ p ∈ basis.zip src,
        p.1.apath = p.2.apath ∧ p.1.kind = p.2.kind ∧
        (p.2.kind = .file → heuristicallyUnchanged p.2 p.1 = some true)) :
    let r := (backup H o src).run (World.clean s)
    ∀ ev ∈ r.2.trace, ∀ h v m, ev.op ≠ .write (.block h) v m :=
  let ⟨hk', hb'⟩ := history_kinds_small hist hsm s0 hk hb s hs
  C14p.unchanged_statement_from_ci hinj hlen s o src basis b ho hsrc
    (history_ci hinj hlen hist hok s0 hci s hs) hheads hrange hk' hb' hlock hheur hmax hlist hzip

/-- **`unchanged_statement_reachable`.**  The same from the empty archive, with `entriesInRange`
derived as well (the steps' sources in range, `C09p.StepInRange`, which contains the size bound):
left to assume of the visited archive are readable heads, no `GC_LOCK`, and the tool's heuristic. -/
theorem unchanged_statement_reachable (hinj : Function.Injective H) (hlen : HashLen H)
    (hist : List C13.Step) (hok : C13.HistOK hist) (hrng : ∀ st ∈ hist, C09p.StepInRange st)
    (s : Store) (hs : s ∈ C13.states H hist C13.emptyArchive)
    (o : BackupOpts) (src : List SrcEntry) (basis : List IndexEntry) (b : Nat)
    (ho : 0 < o.maxBlockSize) (hsrc : SrcGood src) (hheads : AllHeadsReadable s)
    (hlock : s.get? .gcLock = none) (hheur : HeuristicSoundStore H src s)
    (hmax : maxNat? (bandIdsOf s) = some b)
    (hlist : ((listVersion (.specified b) [slash] (fun _ => false)).run (World.clean s)).1 = .ok basis)
    (hzip : basis.length = src.length ∧ ∀ p ∈ basis.zip src,
        p.1.apath = p.2.apath ∧ p.1.kind = p.2.kind ∧
        (p.2.kind = .file → heuristicallyUnchanged p.2 p.1 = some true)) :
    let r := (backup H o src).run (World.clean s)
    ∀ ev ∈ r.2.trace, ∀ h v m, ev.op ≠ .write (.block h) v m :=
  unchanged_statement_after_history hinj hlen hist hok (fun st h => StepSmall.of_inRange (hrng st h))
    C13.emptyArchive C13.emptyArchive_ci emptyArchive_kinds_small.1 emptyArchive_kinds_small.2 s hs
    o src basis b ho hsrc hheads
    (history_in_range hist hrng C13.emptyArchive (by decide) s hs) hlock hheur hmax hlist hzip

/-- **`unchanged_backup_after_history`.**  Both conclusions of `C14p.unchanged_backup_from_ci` for an
archive visited by a history, without `KindsOK`/`BlocksSmall`/`CI` of it: no block write, and the new
version lists the same paths with, for every file, exactly the basis entry's addresses. -/
theorem unchanged_backup_after_history (hinj : Function.Injective H) (hlen : HashLen H)
    (hist : List C13.Step) (hok : C13.HistOK hist) (hsm : HistSmall hist) (s0 : Store) (hci : CI H s0)
    (hk : KindsOK s0) (hb : BlocksSmall s0) (s : Store) (hs : s ∈ C13.states H hist s0)
    (o : BackupOpts) (src : List SrcEntry) (ho : 0 < o.maxBlockSize) (hsrc : SrcGood src)
    (hheads : AllHeadsReadable s) (hrange : entriesInRange s = true)
    (hlock : s.get? .gcLock = none) (hheur : HeuristicSoundStore H src s)
    (hun : Paired (fun be sf => be.apath = sf.apath ∧
      (sf.kind = .file → heuristicallyUnchanged sf be = some true)) (basisListing s) src) :
    let r := (backup H o src).run (World.clean s)
    (∀ ev ∈ r.2.trace, ∀ h v m, ev.op ≠ .write (.block h) v m) ∧
    Paired (fun be e => e.apath = be.apath ∧ (e.kind = .file → e.addrs = be.addrs))
      (basisListing s) (listSpec r.2.store (newBandOf s)) :=
  let ⟨hk', hb'⟩ := history_kinds_small hist hsm s0 hk hb s hs
  C14p.unchanged_backup_from_ci hinj hlen s o src ho hsrc
    (history_ci hinj hlen hist hok s0 hci s hs) hheads hrange hk' hb' hlock hheur hun

/-! ## Non-vacuity -/

namespace Example

/-- The source of `C04.Example` (`/`, `/a`, `/b`: five bytes of file content) is within the bound. -/
theorem source_small : srcBytes C04.Example.source < u64 := C09p.Example.source_inRange.bytes

/-- `backup_keeps_kinds_small` applies to the faulty, killed world of `C13.Example` (two injected
faults and a crash point, on the empty archive) … -/
example :
    KindsOK ((backup C13.Example.exH C04.Example.opts C04.Example.source).run C13.Example.world).2.store ∧
    BlocksSmall ((backup C13.Example.exH C04.Example.opts C04.Example.source).run C13.Example.world).2.store :=
  backup_keeps_kinds_small _ _ _ C13.Example.world source_small
    emptyArchive_kinds_small.1 emptyArchive_kinds_small.2

/-- `C13.Example.archive2` (one complete version holding `/a` in one block) has directories where
directories belong … -/
theorem archive2_kinds : KindsOK C13.Example.archive2 := by
  intro k v h
  have := Store.mem_of_get? h
  simp only [C13.Example.archive2, List.mem_cons, Prod.mk.injEq, List.not_mem_nil, or_false] at this
  rcases this with ⟨rfl, rfl⟩ | ⟨rfl, rfl⟩ | ⟨rfl, rfl⟩ | ⟨rfl, rfl⟩ | ⟨rfl, rfl⟩ | ⟨rfl, rfl⟩ | ⟨rfl, rfl⟩ |
    ⟨rfl, rfl⟩ | ⟨rfl, rfl⟩ | ⟨rfl, rfl⟩ | ⟨rfl, rfl⟩ <;> rfl

theorem archive2_small : BlocksSmall C13.Example.archive2 := by
  intro h c hg
  have := Store.mem_of_get? hg
  simp only [C13.Example.archive2, List.mem_cons, Prod.mk.injEq, List.not_mem_nil, or_false,
    reduceCtorEq, false_and, false_or, or_false, Key.block.injEq, FileVal.blockData.injEq] at this
  rw [this.2]; decide

/-- … and to a world on `archive2` that does NOT enforce `CreateNew`, with an unsorted source (`/b`
before `/a`) and a crash point, where `C13`'s theorems do not apply. -/
example :
    let w : World := { store := C13.Example.archive2, enforceCreateNew := false, crashAt := some 5 }
    let src := [C04.Example.fb, C04.Example.fa]
    KindsOK ((backup id {} src).run w).2.store ∧ BlocksSmall ((backup id {} src).run w).2.store :=
  backup_keeps_kinds_small _ _ _ _ (by decide) archive2_kinds archive2_small

/-- A world on `archive2` with an injected fault and a crash point. -/
def delWorld : World :=
  { store := C13.Example.archive2,
    faults := [{ at_ := { verb := .removeFile, key := .block [0, 0, 0, 1, 2], nth := 0 }, kind := .other }],
    crashAt := some 2 }

/-- `delete_keeps_kinds_small`: deleting the only version of `archive2` in that world. -/
example : KindsOK ((deleteBands true [0] {}).run delWorld).2.store ∧
    BlocksSmall ((deleteBands true [0] {}).run delWorld).2.store :=
  ⟨(delete_keeps_kinds_small true [0] {} delWorld).1 archive2_kinds,
   (delete_keeps_kinds_small true [0] {} delWorld).2 archive2_small⟩

/-- The two-step history of `C13.Example` — a faulty, killed backup, then a delete — satisfies the
size bound … -/
theorem hist_small : HistSmall [.backup C04.Example.opts C04.Example.source C13.Example.world,
    .delete [0] {} (World.clean [])] := by
  intro st hst
  simp only [List.mem_cons, List.not_mem_nil, or_false] at hst
  rcases hst with rfl | rfl
  · exact source_small
  · trivial

/-- … so every archive it visits from the empty one has `KindsOK` and `BlocksSmall`. -/
example : ∀ s' ∈ C13.states C13.Example.exH [.backup C04.Example.opts C04.Example.source C13.Example.world,
      .delete [0] {} (World.clean [])] C13.emptyArchive, KindsOK s' ∧ BlocksSmall s' :=
  reachable_kinds_small _ hist_small

/-- `history_kinds` needs nothing of the history. -/
example (hist : List C13.Step) : ∀ s' ∈ C13.states id hist C13.emptyArchive, KindsOK s' :=
  history_kinds hist _ emptyArchive_kinds_small.1

/-- The one-step history "back up `C01a.Example.source` into the empty archive, fault-free". -/
def hist1 : List C13.Step := [.backup C01a.Example.opts C01a.Example.source (World.clean [])]

def s1 : Store := ((backup C01a.Example.exH C01a.Example.opts C01a.Example.source).run
  (World.clean C01a.Example.archive)).2.store

theorem s1_visited : s1 ∈ C13.states C01a.Example.exH hist1 C13.emptyArchive := by
  simp only [hist1, C13.states, List.mem_cons, List.not_mem_nil, or_false]
  exact Or.inr rfl

theorem hist1_ok : C13.HistOK hist1 := by
  intro st hst
  simp only [hist1, List.mem_cons, List.not_mem_nil, or_false] at hst
  subst hst
  refine ⟨⟨C01a.Example.source_good.sorted, ?_⟩, rfl⟩
  intro e he
  refine ⟨C01a.Example.source_good.valid e he, ?_, C01a.Example.source_good.kinds e he⟩
  simp only [C01a.Example.source, List.mem_cons, List.not_mem_nil, or_false] at he
  rcases he with rfl | rfl | rfl | rfl | rfl | rfl <;> decide

theorem hist1_small : HistSmall hist1 := by
  intro st hst
  simp only [hist1, List.mem_cons, List.not_mem_nil, or_false] at hst
  subst hst
  exact srcBytes_of_srcGood C01a.Example.source_good

/-- The archive the first backup leaves is `ArchiveGood` for the same source (C01a). -/
theorem s1_good : ArchiveGood C01a.Example.exH C01a.Example.source s1 :=
  C01a.backup_keeps_archive_good_same _ C01a.Example.exH_inj C01a.Example.exH_len _ _ _ (by decide)
    C01a.Example.source_good
    (ArchiveGood.of_noBands C01a.Example.archive_ok C01a.Example.archive_noBands C01a.Example.archive_noLock _)

/-- **All hypotheses of `unchanged_backup_after_history` hold** of the archive `s1` this history
visits and the same source again: the second backup writes no block and records the basis addresses. -/
example :
    let r := (backup C01a.Example.exH {} C01a.Example.source).run (World.clean s1)
    (∀ ev ∈ r.2.trace, ∀ h v m, ev.op ≠ .write (.block h) v m) ∧
    Paired (fun be e => e.apath = be.apath ∧ (e.kind = .file → e.addrs = be.addrs))
      (basisListing s1) (listSpec r.2.store (newBandOf s1)) := by
  have hg0 : ArchiveGood C01a.Example.exH C01a.Example.source C01a.Example.archive :=
    ArchiveGood.of_noBands C01a.Example.archive_ok C01a.Example.archive_noBands C01a.Example.archive_noLock _
  obtain ⟨s', hss, stats, evs, h⟩ := backup_summary (o := C01a.Example.opts) C01a.Example.exH_inj
    C01a.Example.exH_len (by decide) C01a.Example.source_good hg0
  obtain ⟨_, h2, _⟩ := h.runs.clean
  have hp : Paired (fun be sf => be.apath = sf.apath ∧
      (sf.kind = .file → heuristicallyUnchanged sf be = some true)) (basisListing s1) C01a.Example.source := by
    show Paired _ (basisListing ((backup C01a.Example.exH C01a.Example.opts C01a.Example.source).run
      (World.clean C01a.Example.archive)).2.store) _
    rw [h2]; exact h.unchanged_pair C01a.Example.source_good hg0.st
  exact unchanged_backup_after_history C01a.Example.exH_inj C01a.Example.exH_len hist1 hist1_ok hist1_small
    C13.emptyArchive C13.emptyArchive_ci emptyArchive_kinds_small.1 emptyArchive_kinds_small.2 s1 s1_visited
    {} C01a.Example.source (by decide) C01a.Example.source_good
    (fun b hb => (s1_good.bands b hb).1)
    (history_in_range hist1 (by
        intro st hst
        simp only [hist1, List.mem_cons, List.not_mem_nil, or_false] at hst
        subst hst
        exact C09p.srcInRange_of_srcGood C01a.Example.source_good)
      C13.emptyArchive (by decide) s1 s1_visited)
    s1_good.noLock s1_good.heuristic hp

end Example

end Conserve.Gaps

#print axioms Conserve.Gaps.backup_keeps_kinds_small
#print axioms Conserve.Gaps.delete_keeps_kinds_small
#print axioms Conserve.Gaps.history_kinds
#print axioms Conserve.Gaps.history_kinds_small
#print axioms Conserve.Gaps.reachable_kinds_small
#print axioms Conserve.Gaps.history_ci
#print axioms Conserve.Gaps.history_storeOK
#print axioms Conserve.Gaps.history_in_range
#print axioms Conserve.Gaps.archive_good_after_history
#print axioms Conserve.Gaps.unchanged_statement_after_history
#print axioms Conserve.Gaps.unchanged_statement_reachable
#print axioms Conserve.Gaps.unchanged_backup_after_history
