import ConserveModel.Props.C07
/-
C14 — Work already stored is never stored again.

Proved here, for ALL worlds (any injected faults, any crash point) in which the transport
honours `CreateNew`:
* within one backup, no key (in particular no block) receives two successful writes;
* a file that is already in the archive with content — a block stored by an earlier version,
  or by an interrupted run — is never successfully written by a later backup: `backup` never
  rewrites what is stored (a zero-length leftover is not "stored" and may be completed);
* hence a resumed backup rewrites no block the interrupted run had already stored, at whatever
  point that run was killed or whatever faults it met.
The first clause of the property (an unchanged tree writes no block at all) is a functional
statement about the fault-free run; it is written down as `UnchangedStatement` below, with
`Conforms H s` as its only hypothesis on the archive.  It is proved with `ArchiveGood H src s` and
`SrcGood src` in place of `Conforms` in Props/C01a.lean (`C01a.unchanged_statement_partial`), and
from C13's invariant `CI H s` plus the residual hypotheses listed there in Props/C14p.lean
(`unchanged_statement_from_ci`).
-/
namespace Conserve.C14
open Conserve

variable (H : Str → Str)

/-- Within one run of `backup`, in any world honouring `CreateNew`, the successful writes go to
pairwise distinct keys: each distinct block content is written at most once. -/
theorem within_run_written_once (o : BackupOpts) (src : List SrcEntry) (w : World)
    (he : w.enforceCreateNew = true) :
    ∃ new, ((backup H o src).run w).2.trace = new ++ w.trace ∧
      (new.filterMap TraceEv.succWrite).Nodup :=
  C07.written_keys_distinct H o src w he

/-- A key that holds content before the run is never successfully written during it — for every
fault list and crash point. -/
theorem stored_file_not_rewritten (o : BackupOpts) (src : List SrcEntry) (w : World)
    (he : w.enforceCreateNew = true) (k : Key) (hk : NonEmptyAt w.store k) :
    ∃ new, ((backup H o src).run w).2.trace = new ++ w.trace ∧
      ∀ ev ∈ new, ev.succWrite ≠ some k := by
  obtain ⟨v, hv, hne⟩ := hk
  -- pretend the stored file was written by "somebody else" before: the write-once invariant
  -- then forbids any later successful write to it
  let pre : TraceEv := ⟨.write k v .createNew, .unit⟩
  have hpre : pre.succWrite = some k := rfl
  have hinv : WInv w.store ([] ++ [pre]) := by
    refine ⟨?_, ?_, ?_⟩
    · intro ev hev
      simp only [List.nil_append, List.mem_singleton] at hev
      subst hev
      exact ⟨rfl, hne⟩
    · intro ev hev k' hk'
      simp only [List.nil_append, List.mem_singleton] at hev
      subst hev
      rw [hpre] at hk'
      cases hk'
      exact ⟨v, hv, hne⟩
    · simp
  obtain ⟨new, ht, hw⟩ := WInv.run (backup_bk H o src) (w := w) (t0 := w.trace) (new := [])
    (T := [pre]) he rfl hinv
  refine ⟨new, ht, ?_⟩
  intro ev hev hc
  have hp := hw.2.2
  rw [List.pairwise_append] at hp
  exact hp.2.2 ev hev pre (List.mem_singleton.mpr rfl) k hc hpre

/-- **A resumed backup does not rewrite what the interrupted run stored.**  Whatever happened to
the first attempt (any faults, killed at any micro-step `j`), every file it left with content —
every block it had stored — is not written again by the next backup (itself in any world). -/
theorem resume_no_rewrite (o1 o2 : BackupOpts) (src1 src2 : List SrcEntry) (s : Store)
    (faults1 : List Fault) (crash1 : Option Nat) (w2faults : List Fault) (crash2 : Option Nat)
    (k : Key) :
    let s1 := ((backup H o1 src1).run { store := s, faults := faults1, crashAt := crash1 }).2.store
    NonEmptyAt s1 k →
    ∃ new, ((backup H o2 src2).run { store := s1, faults := w2faults, crashAt := crash2 }).2.trace = new ∧
      ∀ ev ∈ new, ev.succWrite ≠ some k := by
  intro s1 hk
  obtain ⟨new, ht, h⟩ := stored_file_not_rewritten H o2 src2
    { store := s1, faults := w2faults, crashAt := crash2 } rfl k hk
  exact ⟨new, by simpa using ht, h⟩

/-- The first clause of the property, as a statement: backing up a tree that matches the newest
complete version's listing entry by entry (same path, same kind, every file heuristically
unchanged) issues no write to any block file.  Proved under stronger hypotheses on the archive in
Props/C01a.lean and Props/C14p.lean. -/
def UnchangedStatement : Prop :=
  ∀ (s : Store) (o : BackupOpts) (src : List SrcEntry) (basis : List IndexEntry) (b : Nat),
    Conforms H s = true → isComplete s b = true → maxNat? (bandIdsOf s) = some b →
    ((listVersion (.specified b) [slash] (fun _ => false)).run (World.clean s)).1 = .ok basis →
    (basis.length = src.length ∧ ∀ p ∈ basis.zip src,
        p.1.apath = p.2.apath ∧ p.1.kind = p.2.kind ∧
        (p.2.kind = .file → heuristicallyUnchanged p.2 p.1 = some true)) →
    let r := (backup H o src).run (World.clean s)
    (∀ ev ∈ r.2.trace, ∀ h v m, ev.op ≠ .write (.block h) v m)

-- non-vacuity of `NonEmptyAt`: a store with a stored block
example : NonEmptyAt [(Key.root, FileVal.dir), (Key.block [97], FileVal.blockData [1])] (Key.block [97]) :=
  ⟨.blockData [1], rfl, by simp⟩

end Conserve.C14
