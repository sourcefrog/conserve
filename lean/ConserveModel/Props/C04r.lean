import ConserveModel.Proofs.FaultRestore
import ConserveModel.Proofs.NoPanicBackup
import ConserveModel.Proofs.FaultSpent
import ConserveModel.Props.C02h
/-
C04, the RESTORE half — "Whatever storage operations fail during a backup … every file entry that ends
up recorded in any version restores to exactly the bytes that file had in the source, never another
file's bytes and never a dangling reference.  If the backup reports complete success (no error returned
and none counted) the version restores the whole source exactly; if anything was skipped, an error is
reported."

Props/C04.lean proved the store-level facts (`Extends`, `NoDangling`, `readBack` of every recorded file
entry) for every world.  This file lifts them through `restore`:

* `fault_recorded_restores` (1a) — EVERY world that honours `CreateNew` (any fault list, any crash
  point): on the archive the run leaves, every file entry recorded in the new version is read by
  restore's own block reader to exactly its source file's bytes, with no error; and every FILE node that
  restoring the new version (fault-free) yields for a path the new version recorded carries those bytes
  and is complete.  If the new version has a tail, that is every file node.  `fault_restore_returns`: that
  restore returns nodes whenever the new version's head opens.
* `fault_success_is_exact` (1b) — any fault list, no crash point: if `backup` returns statistics with
  `errors = 0`, the new version is complete and restores (by id and as "latest") to exactly
  `src.map (expectedNode o)`, reporting nothing.  NO hypothesis about emitted events is needed: faults
  on the READ side of the prelude (the first look at the lock, the basis listing) can be swallowed or
  only reported, but then the basis is merely shorter/different and every file is stored again; every
  fault on the WRITE side is either counted (`copy_entry`) or aborts the backup (`flush_group`,
  `finish_hunk`, `Band::close`, `Band::create`, `list_blocks`).  So the statement is TRUE in the model:
  no fault is swallowed into a false success.
* `fault_skipped_is_reported` (1c) — the contrapositive, with the outcome spelled out: a backup never
  panics (C10), so it either fails, or returns statistics; and if the new version does not restore to
  exactly the source — in particular if some source entry is missing from it — then `errors > 0`.

Non-vacuity includes a world in which a fault DOES fire and is swallowed (`Example.swallowWorld`: the first
look at `GC_LOCK` fails with `NotFound`; `swallow_run` shows the backup still returns statistics without
errors — by `Fault.unfaulted_of_spent` + `Fault.sim`, not by evaluation — and 1b gives the exact restore).
-/
namespace Conserve.C04r
open Conserve Conserve.Exact Conserve.Inv Conserve.Conf Conserve.Fault Conserve.Hist

variable {H : Str → Str}

/-- What 1b/1c assume of the archive the backup starts from: `C01a.ArchiveGood` WITHOUT "no `GC_LOCK`"
and WITHOUT "every version lists without complaint" — a map and a tree with directories where the
layout has them and content-addressed blocks (`StoreOK`); usable hunks strictly increasing in every
version; no dangling reference; the tool's own "looks unchanged ⇒ is unchanged" assumption. -/
structure GoodStart (H : Str → Str) (src : List SrcEntry) (s : Store) : Prop where
  st : StoreOK H s
  sorted : ∀ b n v, s.get? (.hunk b n) = some v → strictlySorted ((ownEntries s b).map (·.apath)) = true
  noDangling : NoDangling H s
  heuristic : HeuristicSoundStore H src s

theorem GoodStart.of_archiveGood {src : List SrcEntry} {s : Store} (h : ArchiveGood H src s) :
    GoodStart H src s := ⟨h.st, h.sorted, h.noDangling, h.heuristic⟩

theorem GoodStart.wf {src : List SrcEntry} {s : Store} (h : GoodStart H src s) : ArchWF s :=
  archWF_of h.st h.sorted

/-- The worlds of 1b/1c: ANY fault list (any operation, any error kind, any number), any trace and
step count so far; no crash point, alive, `CreateNew` honoured. -/
abbrev FaultWorld (w : World) (s : Store) : Prop := LiveAt w s

theorem faultWorld_of_faults (s : Store) (fs : List Fault) : FaultWorld { store := s, faults := fs } s :=
  ⟨⟨rfl, rfl, rfl⟩, rfl⟩

/-- The restore the statements are about: version `b`, whole tree, nothing excluded, fault-free. -/
abbrev restoreOf (H : Str → Str) (b : Nat) (s : Store) : Outcome (List RNode) × World :=
  (restore H (.specified b) [slash] (fun _ => false)).run (World.clean s)

theorem setting_of {o : BackupOpts} {src : List SrcEntry} {s : Store} {w : World} (hinj : Function.Injective H)
    (ho : 0 < o.maxBlockSize) (hsrc : SrcGood src) (hs : GoodStart H src s) (hw : FaultWorld w s) :
    C04.Setting H o src w := by
  obtain ⟨hl, rfl⟩ := hw
  exact C04.Setting.of_store hinj ho hsrc.wf hl.ecn hs.st.noDup hs.st.blocks hs.noDangling hs.heuristic

/-- **1b.**  `FinalFacts` is C01a's conclusion: the new version is complete, its listing records the source
entry by entry, and restoring it (by id, or as the latest complete version) returns exactly
`src.map (expectedNode o)`, silently. -/
theorem fault_success_is_exact (H : Str → Str) (hinj : Function.Injective H)
    (hlen : ∀ d, subdirNameChars ≤ (H d).length) (s : Store) (o : BackupOpts) (src : List SrcEntry)
    (ho : 0 < o.maxBlockSize) (hsrc : SrcGood src) (hs : GoodStart H src s) (w : World) (hw : FaultWorld w s)
    (stats : Stats) (hrun : ((backup H o src).run w).1 = .ok stats) (herr : stats.errors = 0) :
    Extends s ((backup H o src).run w).2.store ∧
      FinalFacts H o src s ((backup H o src).run w).2.store := by
  have hset := setting_of (o := o) hinj ho hsrc hs hw
  obtain ⟨hsf, hf⟩ := backup_faulty_final hlen ho hsrc hs.st hw hrun herr
  have hws : w.store = s := hw.store
  refine ⟨hws ▸ C04.faults_extends hset, final_exact hf hsrc hs.st hs.wf ?_⟩
  intro n es hh
  have h0 : hunkAt w.store (newBandOf s) n = none := by
    rw [hws]
    simp [hunkAt, fresh_under_new hs.st (k := .hunk (newBandOf s) n) (isUnder_bandDir_iff.2 rfl)]
  exact C04.faults_recorded_content hset (newBandOf s) n es h0 hh

/-- The same for the world written out: archive `s`, fault list `fs`, nothing else. -/
theorem fault_success_is_exact_faults (H : Str → Str) (hinj : Function.Injective H)
    (hlen : ∀ d, subdirNameChars ≤ (H d).length) (s : Store) (o : BackupOpts) (src : List SrcEntry)
    (ho : 0 < o.maxBlockSize) (hsrc : SrcGood src) (hs : GoodStart H src s) (fs : List Fault)
    (stats : Stats) (hrun : ((backup H o src).run { store := s, faults := fs }).1 = .ok stats)
    (herr : stats.errors = 0) :
    (restoreOf H (newBandOf s) ((backup H o src).run { store := s, faults := fs }).2.store).1
        = .ok (src.map (expectedNode o)) ∧
      (restoreOf H (newBandOf s) ((backup H o src).run { store := s, faults := fs }).2.store).2.events = [] := by
  obtain ⟨_, hf⟩ := fault_success_is_exact H hinj hlen s o src ho hsrc hs _ (faultWorld_of_faults s fs) stats hrun herr
  -- unfolded by rewriting: matched by definitional unfolding, Lean would try to evaluate the run
  unfold restoreOf
  exact ⟨hf.restoreSpecified, hf.restoreSpecifiedSilent⟩

/-- `backup` never panics, in any world (C10): it fails or returns statistics. -/
theorem backup_fails_or_returns (H : Str → Str) (o : BackupOpts) (src : List SrcEntry) (w : World) :
    (∃ e, ((backup H o src).run w).1 = .err e) ∨ (∃ stats, ((backup H o src).run w).1 = .ok stats) := by
  rcases (NP.noPanic_iff _).1 (NP.backup_safe H o src).noPanic w with h | h
  · exact Or.inr h
  · exact Or.inl h

/-- **1c.**  Panics are impossible (C10); error EVENTS need not be consulted. -/
theorem fault_skipped_is_reported (H : Str → Str) (hinj : Function.Injective H)
    (hlen : ∀ d, subdirNameChars ≤ (H d).length) (s : Store) (o : BackupOpts) (src : List SrcEntry)
    (ho : 0 < o.maxBlockSize) (hsrc : SrcGood src) (hs : GoodStart H src s) (w : World) (hw : FaultWorld w s)
    (hmiss : (restoreOf H (newBandOf s) ((backup H o src).run w).2.store).1 ≠ .ok (src.map (expectedNode o))) :
    (∃ e, ((backup H o src).run w).1 = .err e) ∨
      (∃ stats, ((backup H o src).run w).1 = .ok stats ∧ 0 < stats.errors) := by
  rcases backup_fails_or_returns H o src w with h | ⟨stats, h⟩
  · exact Or.inl h
  · refine Or.inr ⟨stats, h, Nat.pos_of_ne_zero fun h0 => hmiss ?_⟩
    exact (fault_success_is_exact H hinj hlen s o src ho hsrc hs w hw stats h h0).2.restoreSpecified

/-- 1c in the words of the property: a source entry missing from what the new version restores to. -/
theorem fault_missing_entry_is_reported (H : Str → Str) (hinj : Function.Injective H)
    (hlen : ∀ d, subdirNameChars ≤ (H d).length) (s : Store) (o : BackupOpts) (src : List SrcEntry)
    (ho : 0 < o.maxBlockSize) (hsrc : SrcGood src) (hs : GoodStart H src s) (w : World) (hw : FaultWorld w s)
    (sf : SrcEntry) (hsf : sf ∈ src)
    (hmiss : ∀ nodes, (restoreOf H (newBandOf s) ((backup H o src).run w).2.store).1 = .ok nodes →
      expectedNode o sf ∉ nodes) :
    (∃ e, ((backup H o src).run w).1 = .err e) ∨
      (∃ stats, ((backup H o src).run w).1 = .ok stats ∧ 0 < stats.errors) := by
  apply fault_skipped_is_reported H hinj hlen s o src ho hsrc hs w hw
  intro h
  exact hmiss _ h (List.mem_map.mpr ⟨sf, hsf, rfl⟩)

theorem nodeOf_apath (s : Store) (e : IndexEntry) : (nodeOf H s e).apath = e.apath := by
  unfold nodeOf; split <;> rfl
theorem nodeOf_kind (s : Store) (e : IndexEntry) : (nodeOf H s e).kind = e.kind := by
  unfold nodeOf; split <;> rfl

/-- What 1a concludes about the archive `s'` a run left, for the new version `nb`. -/
structure RecordedRestores (H : Str → Str) (src : List SrcEntry) (s' : Store) (nb : Nat) : Prop where
  /-- every file entry recorded in the new version's (usable) hunks belongs to the source file with its
  path, and restore's block reader returns exactly that file's bytes for it, without error -/
  entries : ∀ e ∈ ownEntries s' nb, e.kind = .file →
    ∃ sf ∈ src, sf.apath = e.apath ∧ sf.kind = .file ∧
      readBack H s' e.addrs = some sf.content ∧ readContentP H s' e.addrs [] = (sf.content, none)
  /-- every FILE node a fault-free restore of the new version yields for a path the new version recorded
  (every file node, if the new version has a tail) has exactly the source file's bytes and is complete -/
  nodes : ∀ nodes, (restoreOf H nb s').1 = .ok nodes → ∀ nd ∈ nodes, nd.kind = .file →
    (nd.apath ∈ (bandEntries s' nb).map (·.apath) ∨ isComplete s' nb = true) →
    ∃ sf ∈ src, sf.apath = nd.apath ∧ sf.kind = .file ∧ nd.content = sf.content ∧ nd.complete = true

/-- **1a**, for ANY world that honours `CreateNew` (any fault list AND any crash point, dead or alive),
however the run ended.  `SrcWF`: for source files `st_size` is the length of what reading returns;
`SrcSortedWeak`: what the walk yields (strictly increasing, valid, a target exactly for symlinks); the
starting archive satisfies C13's invariant, has no dangling reference and satisfies the tool's own
unchanged-file assumption. -/
theorem fault_recorded_restores (H : Str → Str) (hinj : Function.Injective H) (hlen : HashLen H)
    (o : BackupOpts) (src : List SrcEntry) (ho : 0 < o.maxBlockSize) (hwf : SrcWF src)
    (hsw : C13.SrcSortedWeak src) (w : World) (he : w.enforceCreateNew = true) (hci : CI H w.store)
    (hd : NoDangling H w.store) (hheur : HeuristicSoundStore H src w.store) :
    RecordedRestores H src ((backup H o src).run w).2.store (newBandOf w.store) := by
  have hbg : BlocksGood H w.store := blocksGood_of_conform H ((Conf.conforms_iff H).1 hci.conf).2.2.2.1
  have hset : C04.Setting H o src w := C04.Setting.of_store hinj ho hwf he hci.nodup hbg hd hheur
  have hci' : CI H ((backup H o src).run w).2.store := C13.backup_ci_all_worlds hinj hlen hsw he hci
  have wf' : ArchWF ((backup H o src).run w).2.store := Contain.archWF_of_ci hci'
  have hn' : UniqueKeys ((backup H o src).run w).2.store := (uniqueKeys_iff_nodup _).2 hci'.nodup
  -- nothing of the new version's index was there before
  have hnew : ∀ n, hunkAt w.store (newBandOf w.store) n = none := by
    intro n
    cases hg : w.store.get? (.hunk (newBandOf w.store) n) with
    | none => simp [hunkAt, hg]
    | some v =>
      have := nextBandId_gt (bandIdsOf w.store) _ (bandDir_of_hunk hci.dirs hg)
      exact absurd this (Nat.lt_irrefl _)
  have hentries : ∀ e ∈ ownEntries ((backup H o src).run w).2.store (newBandOf w.store), e.kind = .file →
      ∃ sf ∈ src, sf.apath = e.apath ∧ sf.kind = .file ∧
        readBack H ((backup H o src).run w).2.store e.addrs = some sf.content ∧
        readContentP H ((backup H o src).run w).2.store e.addrs [] = (sf.content, none) := by
    intro e hee hk
    obtain ⟨n, _, es, hu, hmem⟩ := mem_ownEntries hee
    have hh := (usableHunk_mem hu hmem).1
    obtain ⟨sf, hsf, hap, hkf, hrb⟩ := C04.faults_recorded_content_exact hset _ n es (hnew n) hh e hmem hk
    exact ⟨sf, hsf, hap, hkf, hrb, by simpa using readContentP_of_readBack hrb []⟩
  refine ⟨hentries, ?_⟩
  intro nodes hres nd hnd hkind hfrom
  -- the restore is `restoreRaw`, its listing is `listSpec`
  have hraw := (restore_raw_runs (H := H) hn' (newBandOf w.store) [slash] (fun _ => false)).clean.1
  rw [restoreOf, hraw] at hres
  obtain ⟨es, hfil, hres⟩ := restoreRaw_ok_inv hres
  rw [stitchAllP_fst wf'] at hfil
  obtain ⟨e', he', hnode⟩ :=
    restoreP_node_inv es [] nodes (fun e he => C08.listed_usable (mem_of_filterP hfil e he)) hres nd hnd
  have hlisted : e' ∈ listSpec ((backup H o src).run w).2.store (newBandOf w.store) :=
    mem_of_filterP hfil e' he'
  have hk' : e'.kind = .file := by rw [← nodeOf_kind (H := H), ← hnode]; exact hkind
  have hap' : nd.apath = e'.apath := by rw [hnode, nodeOf_apath]
  -- the entry comes from the new version itself
  have hown : e' ∈ bandEntries ((backup H o src).run w).2.store (newBandOf w.store) := by
    rcases hfrom with hp | hc
    · obtain ⟨e'', he'', hpe⟩ := List.mem_map.mp hp
      obtain ⟨⟨b, ⟨hb, htaken⟩, _⟩, hprov⟩ := (C08.stitch_provenance wf' _).2 e' hlisted
      rcases Nat.lt_or_ge b (newBandOf w.store) with hlt | hge
      · have := (hprov b hb htaken).2 _ (List.mem_cons_self ..) hlt e'' he''
        rw [hpe, hap'] at this
        exact absurd this (C11.cmp_irrefl _)
      · have : b = newBandOf w.store := Nat.le_antisymm (NP.mem_chain_le hb) hge
        subst this
        exact (C08.mem_takenFrom.mp htaken).1
    · simpa [listSpec, hc] using hlisted
  have hown' : e' ∈ ownEntries ((backup H o src).run w).2.store (newBandOf w.store) := by
    unfold bandEntries at hown
    split at hown
    · exact hown
    · cases hown
  obtain ⟨sf, hsf, hap, hkf, _, hrc⟩ := hentries e' hown' hk'
  refine ⟨sf, hsf, hap.trans hap'.symm, hkf, ?_, ?_⟩
  · rw [hnode]; simp [nodeOf, hk', hrc]
  · rw [hnode]; simp [nodeOf, hk', hrc]

/-- `headOutcome … = ok`: the run got past `Band::create` (without a head, `restore` refuses the version).
So `RecordedRestores.nodes` is not vacuous. -/
theorem fault_restore_returns (H : Str → Str) (hinj : Function.Injective H) (hlen : HashLen H)
    (o : BackupOpts) (src : List SrcEntry) (hsw : C13.SrcSortedWeak src) (w : World)
    (he : w.enforceCreateNew = true) (hci : CI H w.store)
    (hh : headOutcome ((backup H o src).run w).2.store (newBandOf w.store) = .ok ()) :
    ∃ nodes, (restoreOf H (newBandOf w.store) ((backup H o src).run w).2.store).1 = .ok nodes := by
  have hci' : CI H ((backup H o src).run w).2.store := C13.backup_ci_all_worlds hinj hlen hsw he hci
  have hn' : UniqueKeys ((backup H o src).run w).2.store := (uniqueKeys_iff_nodup _).2 hci'.nodup
  obtain ⟨nodes, hn⟩ := restoreRaw_ok (H := H) hci' hh
  exact ⟨nodes, by rw [restoreOf, (restore_raw_runs (H := H) hn' (newBandOf w.store) [slash] (fun _ => false)).clean.1, hn]⟩

namespace Example
open C01a.Example

/-- The freshly initialised archive of C01a's example is a good start for its example source. -/
theorem archive_start : GoodStart exH source archive :=
  GoodStart.of_archiveGood (ArchiveGood.of_noBands archive_ok archive_noBands archive_noLock source)

/-- A world with injected faults on that archive (a failing block write, a failing hunk write, a
refused directory creation): the hypotheses of 1b/1c about the world hold. -/
def faults : List Fault :=
  [{ at_ := { verb := .write, key := .block (exH [1, 2]), nth := 0 }, kind := .other },
   { at_ := { verb := .write, key := .hunk 0 1, nth := 0 }, kind := .permissionDenied },
   { at_ := { verb := .createDir, key := .blockDir [3, 4, 5], nth := 1 }, kind := .alreadyExists }]

example : FaultWorld { store := archive, faults := faults } archive := faultWorld_of_faults _ _

/-- 1c applies to that world (whatever that run does — it cannot be evaluated by the kernel —
if its new version does not restore to the source, an error was returned or counted). -/
example (hmiss : (restoreOf exH (newBandOf archive)
      ((backup exH opts source).run { store := archive, faults := faults }).2.store).1 ≠
        .ok (source.map (expectedNode opts))) :
    (∃ e, ((backup exH opts source).run { store := archive, faults := faults }).1 = .err e) ∨
      (∃ stats, ((backup exH opts source).run { store := archive, faults := faults }).1 = .ok stats ∧
        0 < stats.errors) :=
  fault_skipped_is_reported exH exH_inj exH_len archive opts source (by decide) source_good archive_start _
    (faultWorld_of_faults _ _) hmiss

/-- 1b's hypotheses are jointly satisfiable: the fault-free world is a `FaultWorld`, and there the run
returns statistics without errors (C01a), so the theorem applies and gives C01a's conclusion back. -/
example : FinalFacts exH opts source archive ((backup exH opts source).run (World.clean archive)).2.store := by
  have e := C01a.backup_restore_exact_nobasis exH exH_inj exH_len archive opts source (by decide) source_good
    archive_ok archive_noBands archive_noLock
  obtain ⟨stats, hrun, herr⟩ := e.ok
  exact (fault_success_is_exact exH exH_inj exH_len archive opts source (by decide) source_good archive_start
    (World.clean archive) ⟨⟨rfl, rfl, rfl⟩, rfl⟩ stats hrun herr).2

/-- … and on the archive a first backup leaves (an archive WITH a basis version), for any fault list:
`GoodStart` holds there (C01a: the archive is good again for the same source). -/
theorem s1_start : GoodStart exH source ((backup exH opts source).run (World.clean archive)).2.store :=
  GoodStart.of_archiveGood (C01a.backup_keeps_archive_good_same exH exH_inj exH_len archive opts source (by decide)
    source_good (ArchiveGood.of_noBands archive_ok archive_noBands archive_noLock source))

example (fs : List Fault) (stats : Stats)
    (hrun : ((backup exH {} source).run
      { store := ((backup exH opts source).run (World.clean archive)).2.store, faults := fs }).1 = .ok stats)
    (herr : stats.errors = 0) :
    (restoreOf exH (newBandOf ((backup exH opts source).run (World.clean archive)).2.store)
      ((backup exH {} source).run
        { store := ((backup exH opts source).run (World.clean archive)).2.store, faults := fs }).2.store).1
      = .ok (source.map (expectedNode {})) :=
  (fault_success_is_exact_faults exH exH_inj exH_len _ {} source (by decide) source_good s1_start fs stats hrun
    herr).1

/-- 1a applies to the empty archive and EVERY world on it — e.g. the faulty one above killed at
micro-step 11. -/
example : RecordedRestores exH source
    ((backup exH opts source).run { store := archive, faults := faults, crashAt := some 11 }).2.store
    (newBandOf archive) :=
  fault_recorded_restores exH exH_inj (fun c => exH_len c) opts source (by decide) source_good.wf
    C02h.Example.source_sorted.weak { store := archive, faults := faults, crashAt := some 11 } rfl
    C13.emptyArchive_ci
    (fun b n es h => by
      have h' : hunkAt C04.Example.archive b n = some es := h
      rw [C04.Example.archive_noHunks] at h'; cases h')
    (fun b n es h => by
      have h' : hunkAt C04.Example.archive b n = some es := h
      rw [C04.Example.archive_noHunks] at h'; cases h')

/-! A world in which a fault DOES fire and is swallowed: the first look at `GC_LOCK` fails with
`NotFound`, which `Transport::is_file` takes for "no such file".  The backup goes on, hits no other
fault, and — rightly — reports success; 1b applies to it. -/

def lockFault : Fault := { at_ := { verb := .metadata, key := .gcLock, nth := 0 }, kind := .notFound }
def swallowWorld : World := { store := archive, faults := [lockFault] }

/-- The world after the faulted first look at the lock, and its fault-free twin. -/
def swallowWorld1 : World := { swallowWorld with trace := [⟨.metadata .gcLock, .err .notFound⟩] }
def cleanWorld1 : World := { World.clean archive with trace := [⟨.metadata .gcLock, .err .notFound⟩] }

theorem swallow_first : gcIsLocked.run swallowWorld = (.ok false, swallowWorld1) := by rfl
theorem clean_first : gcIsLocked.run (World.clean archive) = (.ok false, cleanWorld1) := by rfl

theorem swallow_spent : Fault.Spent swallowWorld1 := by
  intro f hf
  simp only [swallowWorld1, swallowWorld, List.mem_singleton] at hf
  subst hf
  decide

/-- In that world the backup returns the same statistics as in the fault-free world: no error counted. -/
theorem swallow_run : ∃ stats, ((backup exH opts source).run swallowWorld).1 = .ok stats ∧ stats.errors = 0 := by
  have e := C01a.backup_restore_exact_nobasis exH exH_inj exH_len archive opts source (by decide) source_good
    archive_ok archive_noBands archive_noLock
  obtain ⟨stats, hrun, herr⟩ := e.ok
  refine ⟨stats, ?_, herr⟩
  rw [← hrun, backup_eq]
  unfold backupPrelude
  rw [Prog.bind_assoc, Prog.run_bind, Prog.run_bind, swallow_first, clean_first]
  exact (sim _ (w := swallowWorld1) (c := cleanWorld1) ⟨rfl, rfl, rfl⟩ ⟨rfl, rfl, rfl, rfl⟩ rfl
    (unfaulted_of_spent _ ⟨rfl, rfl, rfl⟩ swallow_spent)).1

/-- 1b in a world where a fault fired and was swallowed: the version restores exactly. -/
example : (restoreOf exH (newBandOf archive) ((backup exH opts source).run swallowWorld).2.store).1
    = .ok (source.map (expectedNode opts)) := by
  obtain ⟨stats, hrun, herr⟩ := swallow_run
  exact (fault_success_is_exact exH exH_inj exH_len archive opts source (by decide) source_good archive_start
    swallowWorld ⟨⟨rfl, rfl, rfl⟩, rfl⟩ stats hrun herr).2.restoreSpecified

end Example

end Conserve.C04r
