import ConserveModel.Props.C09
import ConserveModel.Props.C13
import ConserveModel.Proofs.ProducedHeads
import ConserveModel.Proofs.ProducedRefute
/-
C09, first sentence — "On any archive produced by fault-free operations (completed and
interrupted-with-header backups, deletes, gc) validation reports no error" — PROVED, by putting
together `C09.validate_silent_on_good` (what `validate` does on a healthy archive) and the writer
invariants: C13's `CI = Conforms ∧ DirsOk ∧ NoDupKeys` (kept by `backup` in every world and by
`delete_bands`) and, new here, `entriesInRange` (Proofs/ProducedRange.lean, ProducedBackup.lean) and
"every version directory has a readable head" (Proofs/ProducedOps.lean, ProducedHeads.lean).

What is assumed, and why:
* `H` injective and `HashLen H` (names of at least three characters), as in C13.
* Each backup step's source listing is what the walk yields — strictly increasing valid paths, a
  target exactly for symlinks (`C13.SrcSortedWeak`; C11 proves the walk is) — and is in range
  (`SrcInRange`): modification times jiff can represent, file contents adding up to less than 2^64
  bytes.  `C09.Produced` quantifies over ARBITRARY lists of `SrcEntry`; for those the statement is
  FALSE in the model (`silent_on_produced_refuted_unrepresentable_mtime`,
  `silent_on_produced_refuted_invalid_path`): a source entry whose time is outside jiff's range, or
  whose path is not a valid apath, is recorded as it is, and `validate` (which runs
  `IndexEntry::check` on what it reads) reports `invalidMetadata`.  Such entries cannot come out of
  the real walk; the restriction is to `ProducedOK`.  (Mere unsortedness was not found to make
  `validate` speak — the listing skips entries that do not sort after the last one taken — but an
  archive written from an unsorted listing does not conform to the format, so the proof via `Good`
  does not cover it.)
* `AllHeadsReadable` — "interrupted-WITH-header": a backup killed between `mkdir bNNNN` and the
  completion of the head write leaves a version directory without (complete) head, which `validate`
  reports (`bandHeadMissing` / a decode error): outside the promise.  In `silent_on_produced` it is a
  hypothesis on the archive; in `silent_on_produced_with_header` it is a CONCLUSION, for histories
  whose crash points lie at least four mutating micro-steps into the backup (`mkdir bNNNN`,
  `mkdir bNNNN/i`, create the head file, fill it): `ProducedH`.
* `silent_on_reachable`: the same for histories whose steps run in ARBITRARY worlds (injected
  faults too, `C13.Step`), with `AllHeadsReadable` as hypothesis.
-/
namespace Conserve.C09p
open Conserve Conserve.Inv Conserve.Conf Conserve.Rng

variable {H : Str → Str}

/-! ## 1. The predicates of C13 and of C09 -/

theorem keysNodup_iff (s : Store) : keysNodup s = true ↔ NoDupKeys s := by
  simp [keysNodup, NoDupKeys]

theorem treeShaped_iff (s : Store) : treeShaped s = true ↔ DirsOk s := by
  simp only [treeShaped, List.all_eq_true, DirsOk]

theorem initArchive_eq : C09.initArchive = C13.emptyArchive := rfl

/-- **`good_of_ci`.**  C13's invariant, a readable head in every version directory, and stored
values in range make a healthy archive in the sense of C09. -/
theorem good_of_ci {s : Store} (hci : CI H s) (hh : AllHeadsReadable s) (hr : entriesInRange s = true) :
    Good H s :=
  ⟨hci.conf, (keysNodup_iff s).2 hci.nodup, (treeShaped_iff s).2 hci.dirs, hh, hr⟩

theorem ci_of_good {s : Store} (g : Good H s) : CI H s :=
  ⟨g.conforms, (treeShaped_iff s).1 g.tree, (keysNodup_iff s).1 g.nodup⟩

/-! ## 2. `entriesInRange` is kept by the writers -/

/-- **`backup_keeps_inRange`.**  In EVERY world (any faults, any crash point, dead or alive), for
every hash function and all options: if every stored index entry has a representable time and
addresses that do not overflow `u64`, the same holds after `backup` — whatever was written, however
the run ended — provided the source's times are representable and its file contents add up to less
than 2^64 bytes.  (Times: `metadata_from` splits the nanoseconds with `fdiv`/`fmod`; addresses: a
whole-file block starts at 0 and is no longer than the file, a combined block's `start + len` is at
most the length of the combiner's buffer, a concatenation of file contents; basis addresses were in
range before.) -/
theorem backup_keeps_inRange (o : BackupOpts) {src : List SrcEntry} (hsrc : SrcInRange src) (w : World)
    (h : entriesInRange w.store = true) : entriesInRange ((backup H o src).run w).2.store = true :=
  backup_ir H o hsrc w h

/-- **`delete_keeps_inRange`.**  `delete_bands` (either mode), in every world: it writes no index hunk. -/
theorem delete_keeps_inRange (strict : Bool) (D : List Nat) (o : DeleteOpts) (w : World)
    (h : entriesInRange w.store = true) : entriesInRange ((deleteBands strict D o).run w).2.store = true :=
  delete_ir strict D o w h

/-- The source condition follows from `C01a.SrcGood`'s: for files `size = content.length`, and the
sizes add up to less than 2^64. -/
theorem srcInRange_of_sizes {src : List SrcEntry}
    (hm : ∀ sf ∈ src, -377705023201 * nanosPerSec ≤ sf.mtimeNs ∧ sf.mtimeNs < 253402207201 * nanosPerSec)
    (hwf : ∀ sf ∈ src, sf.kind = .file → sf.size = sf.content.length)
    (hb : (src.map (·.size)).sum < 18446744073709551616) : SrcInRange src := by
  refine ⟨hm, Nat.lt_of_le_of_lt ?_ hb⟩
  unfold srcBytes
  clear hb hm
  induction src with
  | nil => simp
  | cons sf l ih =>
    simp only [List.map_cons, List.sum_cons]
    have h1 : fileBytes sf ≤ sf.size := by
      unfold fileBytes
      split
      · rename_i hk; rw [hwf sf (List.mem_cons_self ..) hk]; exact Nat.le_refl _
      · exact Nat.zero_le _
    have h2 := ih (fun x hx => hwf x (List.mem_cons_of_mem _ hx))
    omega

theorem srcInRange_of_srcGood {src : List SrcEntry} (h : Exact.SrcGood src) : SrcInRange src :=
  srcInRange_of_sizes h.mtimes h.wf h.bytes

/-! ## 3. Archives produced by fault-free operations -/

/-- `C09.Produced`, with what is assumed of a backup step's source listing: it is what the source
walk yields (`C13.SrcSortedWeak`) and it is in range (`SrcInRange`).  Any crash point. -/
inductive ProducedOK (H : Str → Str) : Store → Prop
  | init : ProducedOK H C09.initArchive
  | backup {s : Store} (o : BackupOpts) (src : List SrcEntry) (crashAt : Option Nat) :
      C13.SrcSortedWeak src → SrcInRange src → ProducedOK H s →
      ProducedOK H ((backup H o src).run { store := s, crashAt := crashAt }).2.store
  | delete {s : Store} (D : List Nat) (o : DeleteOpts) : ProducedOK H s →
      ProducedOK H ((deleteBands true D o).run (World.clean s)).2.store

theorem ProducedOK.produced {s : Store} (h : ProducedOK H s) : C09.Produced H s := by
  induction h with
  | init => exact .init
  | backup o src c _ _ _ ih => exact .backup o src c ih
  | delete D o _ ih => exact .delete D o ih

/-- A backup step whose source is the walk of a well-formed tree (any exclusions): sortedness and
validity are C11's; what remains is the range condition on the tree's metadata. -/
theorem ProducedOK.backup_tree {s : Store} (o : BackupOpts) (T : Node) (excl : Str → Bool) (crashAt : Option Nat)
    (hwf : T.WF = true) (hr : SrcInRange (C11.walk T excl)) (h : ProducedOK H s) :
    ProducedOK H ((Conserve.backup H o (C11.walk T excl)).run { store := s, crashAt := crashAt }).2.store :=
  .backup o _ crashAt (C13.walk_srcSorted T excl hwf).weak hr h

/-- **The writers keep the invariant**: every `ProducedOK` archive satisfies C13's `CI` and has all
stored values in range. -/
theorem producedOK_inv (hinj : Function.Injective H) (hlen : HashLen H) {s : Store} (h : ProducedOK H s) :
    CI H s ∧ entriesInRange s = true := by
  induction h with
  | init => exact ⟨C13.emptyArchive_ci, by decide⟩
  | backup o src c hsrc hrng _ ih =>
    exact ⟨C13.backup_ci_all_worlds (w := { store := _, crashAt := c }) hinj hlen hsrc rfl ih.1,
      backup_ir H o hrng _ ih.2⟩
  | delete D o _ ih =>
    exact ⟨C13.delete_ci D o _ ih.1, delete_ir true D o _ ih.2⟩

/-- What `C09.silent_on_produced_partial` asks for, for `ProducedOK` archives. -/
theorem produced_invariant (hinj : Function.Injective H) (hlen : HashLen H) {s : Store} (h : ProducedOK H s) :
    Conforms H s = true ∧ keysNodup s = true ∧ treeShaped s = true ∧ entriesInRange s = true :=
  let ⟨hci, hr⟩ := producedOK_inv hinj hlen h
  ⟨hci.conf, (keysNodup_iff s).2 hci.nodup, (treeShaped_iff s).2 hci.dirs, hr⟩

theorem produced_good (hinj : Function.Injective H) (hlen : HashLen H) {s : Store} (h : ProducedOK H s)
    (hh : AllHeadsReadable s) : Good H s :=
  let ⟨hci, hr⟩ := producedOK_inv hinj hlen h
  good_of_ci hci hh hr

/-- **`silent_on_produced`** — C09, first sentence.  For every injective hash with names of at
least three characters: on every archive produced from the empty one by backups (any options; a
sorted, valid, in-range source listing; completed, or interrupted at ANY micro-step) and deletes /
gc, in which every version directory has a readable head ("interrupted-with-header"), full and quick
validation in the fault-free world run to the end, change nothing and emit NO event. -/
theorem silent_on_produced (hinj : Function.Injective H) (hlen : HashLen H) (s : Store)
    (h : ProducedOK H s) (hh : AllHeadsReadable s) (quick : Bool) :
    ((validate H quick).run (World.clean s)).1 = .ok () ∧
    ((validate H quick).run (World.clean s)).2.store = s ∧
    ((validate H quick).run (World.clean s)).2.events = [] :=
  C09.validate_silent_on_good H (produced_good hinj hlen h hh) quick

/-- The same through `conserve validate` (`Archive::open`, then `validate`). -/
theorem check_silent_on_produced (hinj : Function.Injective H) (hlen : HashLen H) (s : Store)
    (h : ProducedOK H s) (hh : AllHeadsReadable s) (quick : Bool) :
    ((check H quick).run (World.clean s)).1 = .ok () ∧
    ((check H quick).run (World.clean s)).2.events = [] :=
  C09.check_silent_on_good H (produced_good hinj hlen h hh) quick

/-- `C09.SilentOnProducedStatement` with `ProducedOK` in place of `Produced`. -/
def SilentOnProducedOKStatement (H : Str → Str) : Prop :=
  ∀ s, ProducedOK H s → AllHeadsReadable s → ∀ quick,
    ((validate H quick).run (World.clean s)).1 = .ok () ∧
    ((validate H quick).run (World.clean s)).2.events = []

theorem silent_on_producedOK_statement (hinj : Function.Injective H) (hlen : HashLen H) :
    SilentOnProducedOKStatement H := fun s h hh quick =>
  let r := silent_on_produced hinj hlen s h hh quick
  ⟨r.1, r.2.2⟩

/-! ### The unrestricted statement is false -/

/-- The root directory with a modification time one second past what jiff can represent
(`9999-12-30T22:00:00Z` + 1 s). -/
def lateRoot : SrcEntry :=
  { apath := [47], kind := .dir, mtimeNs := 253402207201000000000, unixMode := 493, user := none, group := none }

/-- A directory entry whose path lacks the leading slash: not a valid apath. -/
def badPathEntry : SrcEntry :=
  { apath := [97], kind := .dir, mtimeNs := 0, unixMode := 493, user := none, group := none }

/-- **`silent_on_produced_refuted_unrepresentable_mtime`.**  `C09.SilentOnProducedStatement`, which
quantifies over ARBITRARY source listings, is false in the model, for every hash with names of at
least three characters.  Witness: one fault-free, complete backup of `[lateRoot]` into the empty
archive.  `metadata_from` records the time as it is; the version has a readable head; `validate` runs
`IndexEntry::check` on what it reads and reports `invalidMetadata`.  (A model-level fact: the real
walk cannot yield such an entry — `SystemTime → jiff::Timestamp` fails first — which is why
`ProducedOK` asks for `SrcInRange`.) -/
theorem silent_on_produced_refuted_unrepresentable_mtime (hlen : HashLen H) :
    ¬ C09.SilentOnProducedStatement H := by
  intro h
  obtain ⟨hh, hev⟩ := bad_entry_reported hlen lateRoot rfl (by decide) (by decide)
  exact hev true (h _ (C09.Produced.backup {} [lateRoot] none .init) hh true).2

/-- **`silent_on_produced_refuted_invalid_path`.**  The same with a source entry whose path is not
a valid apath (`ProducedOK` asks for `C13.SrcSortedWeak`, which includes validity). -/
theorem silent_on_produced_refuted_invalid_path (hlen : HashLen H) :
    ¬ C09.SilentOnProducedStatement H := by
  intro h
  obtain ⟨hh, hev⟩ := bad_entry_reported hlen badPathEntry rfl (by decide) (by decide)
  exact hev true (h _ (C09.Produced.backup {} [badPathEntry] none .init) hh true).2

/-- Neither witness is a `ProducedOK` step: `lateRoot` is not in range, `badPathEntry` not valid. -/
theorem witnesses_excluded : ¬ SrcInRange [lateRoot] ∧ ¬ C13.SrcSortedWeak [badPathEntry] := by
  constructor
  · intro h
    have := (h.mtimes lateRoot (List.mem_singleton.mpr rfl)).2
    revert this
    decide
  · intro h
    have := (h.2 badPathEntry (List.mem_singleton.mpr rfl)).1
    revert this
    decide

/-! ### Interrupted WITH header: the crash point lies after the head write -/

/-- The crash point, if any, is at least four mutating micro-steps into the backup: after
`mkdir bNNNN`, `mkdir bNNNN/i`, and both micro-steps of the head write. -/
def AfterHead (crashAt : Option Nat) : Prop := ∀ j, crashAt = some j → 4 ≤ j

/-- `ProducedOK` with crash points restricted to those after the head write. -/
inductive ProducedH (H : Str → Str) : Store → Prop
  | init : ProducedH H C09.initArchive
  | backup {s : Store} (o : BackupOpts) (src : List SrcEntry) (crashAt : Option Nat) :
      AfterHead crashAt → C13.SrcSortedWeak src → SrcInRange src → ProducedH H s →
      ProducedH H ((backup H o src).run { store := s, crashAt := crashAt }).2.store
  | delete {s : Store} (D : List Nat) (o : DeleteOpts) : ProducedH H s →
      ProducedH H ((deleteBands true D o).run (World.clean s)).2.store

theorem ProducedH.ok {s : Store} (h : ProducedH H s) : ProducedOK H s := by
  induction h with
  | init => exact .init
  | backup o src c _ h1 h2 _ ih => exact .backup o src c h1 h2 ih
  | delete D o _ ih => exact .delete D o ih

theorem initArchive_headsOK : HeadsOK C09.initArchive := by
  intro b hb
  have := Store.mem_of_get? hb
  simp [C09.initArchive] at this

/-- **Every version directory of a `ProducedH` archive has a readable head and an index
directory**: a backup either fails before its directory exists, or gets as far as the head; delete
removes a version directory with everything below it. -/
theorem producedH_heads (hinj : Function.Injective H) (hlen : HashLen H) {s : Store} (h : ProducedH H s) :
    AllHeadsReadable s := by
  have key : HeadsOK s := by
    induction h with
    | init => exact initArchive_headsOK
    | backup o src c hc _ _ hp ih =>
      have hci := (producedOK_inv hinj hlen hp.ok).1
      refine backup_headsOK H o src { store := _, crashAt := c } ⟨rfl, rfl, rfl, ?_⟩ hci.nodup hci.dirs ih
      intro j hj
      have := hc j hj
      simp only [Nat.zero_add]
      exact this
    | delete D o _ ih => exact delete_headsOK true D o _ ih
  exact (headsOK_iff (producedOK_inv hinj hlen h.ok).1.nodup).1 key

/-- **`silent_on_produced_with_header`** — C09, first sentence, with "interrupted-with-header" as
a restriction on the crash points rather than a hypothesis on the archive: on every archive
produced by backups that complete or are killed after their head write, and deletes / gc, full and
quick validation emit no event. -/
theorem silent_on_produced_with_header (hinj : Function.Injective H) (hlen : HashLen H) (s : Store)
    (h : ProducedH H s) (quick : Bool) :
    ((validate H quick).run (World.clean s)).1 = .ok () ∧
    ((validate H quick).run (World.clean s)).2.store = s ∧
    ((validate H quick).run (World.clean s)).2.events = [] :=
  silent_on_produced hinj hlen s h.ok (producedH_heads hinj hlen h) quick

/-- A `ProducedH` archive is healthy (`C09.Good`): every theorem of C09 §3–§5 about damage to a
healthy archive applies to it. -/
theorem producedH_good (hinj : Function.Injective H) (hlen : HashLen H) {s : Store} (h : ProducedH H s) :
    Good H s := produced_good hinj hlen h.ok (producedH_heads hinj hlen h)

/-! ### Histories in arbitrary worlds -/

def StepInRange : C13.Step → Prop
  | .backup _ src _ => SrcInRange src
  | .delete _ _ _ => True

theorem step_inRange (st : C13.Step) (s : Store) (hok : StepInRange st) (h : entriesInRange s = true) :
    entriesInRange (st.run H s) = true := by
  cases st with
  | backup o src w => exact backup_ir H o hok { w with store := s } h
  | delete D opts w => exact delete_ir true D opts { w with store := s } h

/-- **`silent_on_reachable`.**  Over any history of backup attempts and deletes from the empty
archive, each step in an ARBITRARY world that enforces `CreateNew` (injected faults, a crash point,
dead or alive) with a sorted, valid, in-range source listing: on every archive visited in which
every version directory has a readable head, full and quick validation emit no event. -/
theorem silent_on_reachable (hinj : Function.Injective H) (hlen : HashLen H) (hist : List C13.Step)
    (hok : C13.HistOK hist) (hrng : ∀ st ∈ hist, StepInRange st) :
    ∀ s' ∈ C13.states H hist C13.emptyArchive, AllHeadsReadable s' → ∀ quick,
      ((validate H quick).run (World.clean s')).1 = .ok () ∧
      ((validate H quick).run (World.clean s')).2.events = [] := by
  intro s' hs' hh quick
  obtain ⟨hci, hr⟩ := C13.states_invariant (I := fun s => CI H s ∧ entriesInRange s = true)
    (A := fun st => st.OK ∧ StepInRange st)
    (fun st s hA hI => ⟨C13.step_ci hinj hlen st s hA.1 hI.1, step_inRange st s hA.2 hI.2⟩)
    hist (fun st h => ⟨hok st h, hrng st h⟩) _ ⟨C13.emptyArchive_ci, by decide⟩ s' hs'
  have := C09.validate_silent_on_good H (good_of_ci hci hh hr) quick
  exact ⟨this.1, this.2.2⟩

/-! ## Non-vacuity: the hypotheses hold of concrete histories -/

namespace Example

/-- The hash of `C13.Example`: injective, names of at least three characters. -/
abbrev exH : Str → Str := C13.Example.exH

/-- The source of `C04.Example` (`/`, `/a`, `/b`) is in range. -/
theorem source_inRange : SrcInRange C04.Example.source := by
  refine ⟨?_, by decide⟩
  intro sf hsf
  simp only [C04.Example.source, List.mem_cons, List.not_mem_nil, or_false] at hsf
  rcases hsf with rfl | rfl | rfl <;> exact ⟨by decide, by decide⟩

/-- … and sorted and valid (`C13.Example.source_sorted`). -/
theorem source_weak : C13.SrcSortedWeak C04.Example.source := C13.Example.source_sorted.weak

/-- A first, complete backup into the empty archive … -/
def s1 : Store :=
  ((backup exH C04.Example.opts C04.Example.source).run { store := C09.initArchive, crashAt := none }).2.store

/-- … a second one killed at micro-step 9 (after its head write: the version is "interrupted with
header") … -/
def s2 : Store :=
  ((backup exH C04.Example.opts C04.Example.source).run { store := s1, crashAt := some 9 }).2.store

/-- … and the first version deleted. -/
def s3 : Store := ((deleteBands true [0] {}).run (World.clean s2)).2.store

theorem s1_produced : ProducedH exH s1 := by
  unfold s1
  exact ProducedH.backup (s := C09.initArchive) C04.Example.opts C04.Example.source none
    (fun _ h => nomatch h) source_weak source_inRange .init

theorem s2_produced : ProducedH exH s2 := by
  unfold s2
  exact ProducedH.backup (s := s1) C04.Example.opts C04.Example.source (some 9)
    (fun j h => by cases h; decide) source_weak source_inRange s1_produced

theorem s3_produced : ProducedH exH s3 := by
  unfold s3
  exact ProducedH.delete (s := s2) [0] {} s2_produced

/-- Both validations are silent on the archive with a complete and an interrupted version … -/
example (quick : Bool) : ((validate exH quick).run (World.clean s2)).2.events = [] :=
  (silent_on_produced_with_header C13.Example.exH_inj C13.Example.exH_len s2 s2_produced quick).2.2

/-- … and after the delete; the archives are healthy, so the damage theorems of C09 apply to them. -/
example (quick : Bool) : ((validate exH quick).run (World.clean s3)).2.events = [] :=
  (silent_on_produced_with_header C13.Example.exH_inj C13.Example.exH_len s3 s3_produced quick).2.2

example : Good exH s2 := producedH_good C13.Example.exH_inj C13.Example.exH_len s2_produced

/-- A backup killed at micro-step 1 (between `mkdir b0001` and `mkdir b0001/i`): still `ProducedOK`, the
format invariant and the range invariant hold; silence then needs `AllHeadsReadable` as a hypothesis. -/
def s2' : Store :=
  ((backup exH C04.Example.opts C04.Example.source).run { store := s1, crashAt := some 1 }).2.store

theorem s2'_produced : ProducedOK exH s2' := by
  unfold s2'
  exact ProducedOK.backup (s := s1) C04.Example.opts C04.Example.source (some 1) source_weak source_inRange
    s1_produced.ok

example : Conforms exH s2' = true ∧ entriesInRange s2' = true :=
  let ⟨h1, _, _, h4⟩ := produced_invariant C13.Example.exH_inj C13.Example.exH_len s2'_produced
  ⟨h1, h4⟩

/-- A history in faulty worlds (`C13.Example.world`: two injected faults and a crash point). -/
example : ∀ s' ∈ C13.states exH [.backup C04.Example.opts C04.Example.source C13.Example.world,
      .delete [0] {} (World.clean [])] C13.emptyArchive,
    AllHeadsReadable s' → ∀ quick, ((validate exH quick).run (World.clean s')).1 = .ok () ∧
      ((validate exH quick).run (World.clean s')).2.events = [] :=
  silent_on_reachable C13.Example.exH_inj C13.Example.exH_len _
    (by
      intro st hst
      simp only [List.mem_cons, List.not_mem_nil, or_false] at hst
      rcases hst with rfl | rfl
      · exact ⟨C13.Example.source_sorted, rfl⟩
      · trivial)
    (by
      intro st hst
      simp only [List.mem_cons, List.not_mem_nil, or_false] at hst
      rcases hst with rfl | rfl
      · exact source_inRange
      · trivial)

end Example

end Conserve.C09p
