import ConserveModel.Proofs.NoPanicUnchecked
import ConserveModel.Proofs.NoPanicContain
import ConserveModel.Proofs.HistRaw
import ConserveModel.Props.C08
/-
C10 — Damage to one stored file is contained and never crashes the tool.

"After any single stored file other than the archive header is deleted, truncated, overwritten
with garbage or has a bit flipped, every read operation (list versions, list, restore of each
version, validate) and a new backup terminate without crashing or hanging.  In every version that
still opens, each file whose index hunk and blocks are untouched restores exactly, and each file
whose hunk or block has become missing or undecodable is reported as an error rather than silently
dropped or altered.  When the damage was a deleted or emptied file, a new backup of the source
completes and restores exactly."

In the model every Rust `unwrap` / `expect` / `assert!` / index that stored data can reach is an
explicit `Prog.panic site` leaf.  What is proved here:

* NO PANIC, from EVERY store (any number of files damaged in any way, header included) and in EVERY
  world (any injected faults, any crash point, the dead world), for list-versions, list, restore,
  validate, backup and delete/gc (`c10_no_crash`), through the syntactic `Safe`: no `panic` leaf is
  reachable under ANY sequence of storage responses.  The one invariant behind it:
  `IndexRead::read_hunk` returns only entries that pass `IndexEntry::check` (`readHunk_usable`), so the
  exclusion filter's `assert!(is_valid)` and `IndexEntry::mtime()` in restore and on the BASIS entry
  during backup only ever see usable entries.  The repairs were needed (`entry_check_needed_apath`,
  `entry_check_needed_mtime`, `delete_nonstrict_can_panic`).
* NO HANG: every operation is a total Lean function over a finite tree (`c10_total` records it).
* CONTAINMENT in terms of the C08 rule (`listSpec`, `listErrors`): damage outside a version's
  directory changes nothing the rule reads of it, the listing of version `n` depends only on versions
  `≤ n`, content (`readBack`) only on the blocks it names, and the loss of an index hunk of a version
  with a tail is always REPORTED while the other hunks are listed unmodified (`lost_hunk_reported`,
  `lost_hunk_rest_listed`, `lost_hunk_reported_run`).  At the restore level, in the fault-free world
  and under `ArchWF` + "nothing listed below a symlink": `restore_file_exact_or_reported`,
  `restore_block_damage_contained`, `restore_lost_hunk_contained`.
* The sentence formalised (`C10Statement`) is FALSE as it stands (`c10_statement_refuted`: in a
  version without tail the loss of the last hunk cannot be told from an interrupted backup).
  `c10_partial` names what is missing for `C10StatementComplete`; Props/C10f.lean takes it up.
-/
namespace Conserve.C10
open Conserve Prog Conserve.NP

theorem noPanic_def {α : Type} (p : Prog α) :
    NoPanic p ↔ ∀ w : World, ∀ site, (p.run w).1 ≠ .panic site := Iff.rfl

theorem noPanic_iff_ok_or_err {α : Type} (p : Prog α) :
    NoPanic p ↔ ∀ w : World, (∃ a, (p.run w).1 = .ok a) ∨ (∃ e, (p.run w).1 = .err e) :=
  noPanic_iff p

theorem ensures_def {α : Type} (Q : α → Prop) (p : Prog α) :
    Ensures Q p ↔ ∀ w : World, match (p.run w).1 with
      | .ok a => Q a
      | .err _ => True
      | .panic _ => False := Iff.rfl

/-- `Safe` does not even assume that the responses come from a store. -/
theorem safe_ensures {α : Type} {Q : α → Prop} {p : Prog α} (h : Safe Q p) : Ensures Q p ∧ NoPanic p :=
  ⟨h.ensures, h.noPanic⟩

/-- In every world, from every store: the entries `read_hunk` returns passed `IndexEntry::check`
(valid path, representable time, known kind, symlink with target, no address overflow). -/
theorem readHunk_usable (b n : Nat) :
    Ensures (fun r => ∀ es, r = some es → es.all entryUsable = true) (readHunk b n) :=
  ((readHunk_tree b n).imp fun _ h es he => (allUsable_iff es).mp (h es he)).safe.ensures

theorem readHunks_usable (b : Nat) (ns : List Nat) (after last : Option Str) :
    Ensures (fun r => AllUsable r.1) (readHunks b ns after last) := (readHunks_tree b ns after last).safe.ensures

theorem readBand_usable (b : Nat) (last : Option Str) :
    Ensures (fun r => AllUsable r.1) (readBand b last) := (readBand_tree b last).safe.ensures

theorem stitchDown_usable (b : Nat) (last : Option Str) : Ensures AllUsable (stitchDown b last) :=
  (stitchDown_tree b last).safe.ensures

/-- … and so did every entry the stitched reader yields. -/
theorem stitchAll_usable (b : Nat) : Ensures AllUsable (stitchAll b) := (stitchAll_tree b).safe.ensures

theorem usable_gives {e : IndexEntry} (h : entryUsable e = true) :
    isValid e.apath = true ∧ ∃ t, entryTimeNs e.mtime e.mtimeNanos = some t :=
  ⟨usable_valid h, usable_time h⟩

/-- The exclusion filter's only panic is `Exclude::matches`' `assert!(is_valid)`. -/
theorem filterEntries_noPanic (subtree : Str) (excl : Str → Bool) (es : List IndexEntry)
    (hes : AllUsable es) :
    Ensures (fun r => AllUsable r ∧ ∀ e ∈ r, e ∈ es) (filterEntries subtree excl es) :=
  ((filterEntries_tree (O := fun _ => True) subtree excl es fun e he hv =>
    nomatch hv.symm.trans (usable_valid (hes e he))).imp fun _ hr => ⟨hes.sub hr, hr⟩).safe.ensures

theorem listEntries_usable (b : Nat) (subtree : Str) (excl : Str → Bool) :
    Ensures AllUsable (listEntries b subtree excl) := (listEntries_tree b subtree excl).safe.ensures

/-- `conserve ls`, with every version selection, subtree and exclusion predicate. -/
theorem list_never_panics (sel : BandSelection) (subtree : Str) (excl : Str → Bool) :
    NoPanic (listVersion sel subtree excl) := (listVersion_tree sel subtree excl).safe.noPanic

/-- `restore()` up to the filesystem: its only panic is `IndexEntry::mtime()` on an unrepresentable
time, and every listed entry has a representable one. -/
theorem restore_never_panics (H : Str → Str) (sel : BandSelection) (subtree : Str) (excl : Str → Bool) :
    NoPanic (restore H sel subtree excl) := (restore_tree H sel subtree excl).safe.noPanic

/-- `Archive::validate`, full and quick. -/
theorem validate_never_panics (H : Str → Str) (quick : Bool) : NoPanic (validate H quick) :=
  (validate_tree H quick).safe.noPanic

/-- `backup()` of any source listing with any options onto any archive:
`metadata_from` is total since the repair of D3, and `content_heuristically_unchanged` calls
`IndexEntry::mtime()` only on BASIS entries, which come from the stitched listing and so are
usable (the hypothesis of `backup_tree`, met in `backup_safe` by `mergeTrees_mem`). -/
theorem backup_never_panics (H : Str → Str) (o : BackupOpts) (src : List SrcEntry) :
    NoPanic (backup H o src) := (backup_safe H o src).noPanic

structure VersionsOpts where
  /-- any of `--sizes`, start time, duration asked for: the band is opened and its tail read -/
  detail : Bool := true
  /-- `tree_size`: the version is listed and the file sizes summed -/
  sizes : Bool := false
  newestFirst : Bool := false
  deriving Repr, Inhabited, DecidableEq

/-- One printed line of `conserve versions`. -/
structure VersionLine where
  id : Nat
  /-- `Info.is_closed`, `Info.index_hunk_count` (times are not modelled) -/
  info : Option (Bool × Option Nat) := none
  treeBytes : Option Nat := none
  deriving Repr, Inhabited, DecidableEq

/-- `Band::get_info` (src/band.rs): `read_json(BANDTAIL)?`; a missing tail is `Ok(None)`.  An
out-of-range start or end time is `Err(InvalidMetadata)` there, not a panic; times are not in the
model, so that error cannot arise here. -/
def bandGetInfo (b : Nat) : Prog (Bool × Option Nat) := do
  match ← perform (.read (.bandTail b)) with
  | .err .notFound => pure (false, none)
  | .err e => .fail (.transport e)
  | .val (.tail n) => pure (true, n)
  | .val _ => .fail .json
  | _ => .fail (.transport .other)

/-- The loop of `show_versions` (src/show.rs). -/
def showVersionsLoop (o : VersionsOpts) : List Nat → Prog (List VersionLine)
  | [] => pure []
  | b :: bs => do
    if !o.detail then
      let rest ← showVersionsLoop o bs
      pure ({ id := b } :: rest)
    else
    match ← (bandOpen b).attempt with
    | .error e =>                                   -- "Failed to open band": continue
      logError e
      showVersionsLoop o bs
    | .ok () =>
      match ← (bandGetInfo b).attempt with
      | .error e =>                                 -- "Failed to read band tail": continue
        logError e
        showVersionsLoop o bs
      | .ok info =>
        let bytes ← if o.sizes then do
            bandOpen b                              -- open_stored_tree(Specified(b))?
            let es ← listEntries b [slash] (fun _ => false)
            pure (some ((es.map (·.size)).sum))     -- StoredTree::size
          else pure none
        let rest ← showVersionsLoop o bs
        pure ({ id := b, info := some info, treeBytes := bytes } :: rest)

/-- `show_versions`: `list_band_ids`, then per version `Band::open` + `get_info` (+ tree size). -/
def showVersions (o : VersionsOpts) : Prog (List VersionLine) := do
  let ids ← listBandIds
  showVersionsLoop o (if o.newestFirst then ids.reverse else ids)

theorem bandGetInfo_tree {Z : Prop} (b : Nat) : Tree (fun _ => True) Z (fun _ => True) (bandGetInfo b) := by
  unfold bandGetInfo
  refine .bind (.perform trivial) fun r _ => ?_
  split <;> first | exact .ret trivial | exact .fail _

theorem showVersionsLoop_tree {Z : Prop} (o : VersionsOpts) (bs : List Nat) :
    Tree (fun _ => True) Z (fun _ => True) (showVersionsLoop o bs) := by
  induction bs with
  | nil => exact .ret trivial
  | cons b bs ih =>
    have rest : ∀ f : List VersionLine → List VersionLine, Tree (fun _ => True) Z (fun _ => True)
        ((showVersionsLoop o bs).bind fun rest => Prog.ret (f rest)) :=
      fun _ => .bind ih fun _ _ => .ret trivial
    have skip : ∀ e, Tree (fun _ => True) Z (fun _ => True) ((logError e).bind fun _ => showVersionsLoop o bs) :=
      fun _ => .bind (.report _) fun _ _ => ih
    unfold showVersionsLoop
    simp only [Prog.bind_def, Prog.pure_def]
    refine .ite (rest _) (.bind (bandOpen_tree trivial).attempt fun r _ => ?_)
    split
    · exact skip _
    · refine .bind (bandGetInfo_tree b).attempt fun r _ => ?_
      split
      · exact skip _
      · exact .ite (.bind (bandOpen_tree trivial) fun _ _ => .bind (listEntries_tree b _ _).top fun _ _ => rest _)
          (rest _)

/-- `conserve versions`, with every combination of options. -/
theorem versions_never_panics (o : VersionsOpts) : NoPanic (showVersions o) :=
  (Tree.bind (listBandIds_tree trivial) fun _ _ => showVersionsLoop_tree o _).safe.noPanic

/-- `delete_bands` / `gc` after the repair of D6 (`strict = true`): it reads
the hunk list with `hunks_available()?`, not with `iter_available_hunks()` and its `expect`. -/
theorem delete_never_panics (D : List Nat) (opts : DeleteOpts) : NoPanic (deleteBands true D opts) :=
  (deleteBands_tree (nomatch ·) D opts).safe.noPanic

/-- One complete version with a head and a tail but no index directory (the damage: `b0000/i`
removed). -/
def noIndexStore : Store :=
  [ (.root, .dir), (.header, .header [48, 46, 54]), (.blockRoot, .dir),
    (.bandDir 0, .dir), (.bandHead 0, .head .ok []), (.bandTail 0, .tail (some 0)) ]

/-- An intact one-version archive in a world where the first listing of `b0000/i` fails. -/
def indexFaultWorld : World :=
  { store := oneEntryStore (dirEntry [slash]), faults := [⟨⟨.listDir, .indexDir 0, 0⟩, .other⟩] }

/-- D9, `iter_available_hunks: expect("hunks available")`.  The code
before the repair panics (a) without any fault on an archive whose index directory is gone, and
(b) on an intact archive when listing the index directory fails once; the repaired code fails with
an ordinary error in both. -/
theorem delete_nonstrict_can_panic :
    ((deleteBands false [] {}).run (World.clean noIndexStore)).1
        = .panic "iter_available_hunks: expect(hunks available)" ∧
    ((deleteBands false [] {}).run indexFaultWorld).1
        = .panic "iter_available_hunks: expect(hunks available)" ∧
    ((deleteBands true [] {}).run (World.clean noIndexStore)).1 = .err (.transport .notFound) ∧
    ((deleteBands true [] {}).run indexFaultWorld).1 = .err (.transport .other) := by
  exact ⟨panicSite?_eq_some.mp (by decide +kernel), panicSite?_eq_some.mp (by decide +kernel),
    errOf?_eq_some.mp (by decide +kernel), errOf?_eq_some.mp (by decide +kernel)⟩

/-- An entry whose path is `//` — what one flipped bit makes of `/.` or `/o`. -/
def slashSlash : IndexEntry := dirEntry [47, 47]

/-- An entry whose `mtime_nanos` does not fit an `i32`. -/
def bigNanos : IndexEntry := { dirEntry [slash] with mtimeNanos := 2000000000 }

/-- D9.  With the hunk reader as it was before the repair (entries
used as decoded), listing the one-version archive whose only entry has path `//` panics in
`Exclude::matches`; with the repaired reader the same archive lists as empty and the hunk is
reported (`invalidMetadata`).  `listEntriesW readHunk = listEntries` (`listEntriesW_checked`) shows
the parametrised listing is the model with only the reader exchanged. -/
theorem entry_check_needed_apath :
    ((listEntriesW readHunkUnchecked 0 [slash] (fun _ => false)).run
        (World.clean (oneEntryStore slashSlash))).1 = .panic "Exclude::matches: assert is_valid" ∧
    panicSite? ((listEntries 0 [slash] (fun _ => false)).run (World.clean (oneEntryStore slashSlash))).1 = none ∧
    ((listEntries 0 [slash] (fun _ => false)).run (World.clean (oneEntryStore slashSlash))).2.events
      = [.error .invalidMetadata] :=
  ⟨panicSite?_eq_some.mp (by decide +kernel), by decide +kernel, by decide +kernel⟩

/-- D9.  The same for `mtime_nanos = 2·10⁹`: restore with the unchecked
reader panics in `IndexEntry::mtime()`; the repaired restore does not, and reports the hunk. -/
theorem entry_check_needed_mtime :
    ((restoreW readHunkUnchecked (fun c => c) 0 [slash] (fun _ => false)).run
        (World.clean (oneEntryStore bigNanos))).1 = .panic "IndexEntry::mtime: Timestamp::new expect" ∧
    panicSite? ((restore (fun c => c) (.specified 0) [slash] (fun _ => false)).run
        (World.clean (oneEntryStore bigNanos))).1 = none ∧
    ((restore (fun c => c) (.specified 0) [slash] (fun _ => false)).run
        (World.clean (oneEntryStore bigNanos))).2.events = [.error .invalidMetadata] :=
  ⟨panicSite?_eq_some.mp (by decide +kernel), by decide +kernel, by decide +kernel⟩

/-- The two odd entries are exactly what the check rejects, for exactly those reasons. -/
example : entryUsable slashSlash = false ∧ isValid slashSlash.apath = false := by decide
example : entryUsable bigNanos = false ∧ entryTimeNs bigNanos.mtime bigNanos.mtimeNanos = none := by decide
example : entryUsable (dirEntry [slash]) = true := by decide

/-- `Prog.run` is a total function on a finite tree and every operation is a total Lean function
(structural recursion on lists of band ids / hunk numbers / entries and on the band id).  That Lean
accepts the definitions IS the termination proof; this theorem only records it. -/
theorem c10_total (H : Str → Str) (w : World) :
    (∀ o, ∃ r, (showVersions o).run w = r) ∧
    (∀ sel subtree excl, ∃ r, (listVersion sel subtree excl).run w = r) ∧
    (∀ sel subtree excl, ∃ r, (restore H sel subtree excl).run w = r) ∧
    (∀ quick, ∃ r, (validate H quick).run w = r) ∧
    (∀ o src, ∃ r, (backup H o src).run w = r) ∧
    (∀ D opts, ∃ r, (deleteBands true D opts).run w = r) :=
  ⟨fun _ => ⟨_, rfl⟩, fun _ _ _ => ⟨_, rfl⟩, fun _ _ _ => ⟨_, rfl⟩, fun _ => ⟨_, rfl⟩,
   fun _ _ => ⟨_, rfl⟩, fun _ _ => ⟨_, rfl⟩⟩

/-- The "never crashes" half of C10: every store (so every damaged store), every fault list, every
crash point. -/
theorem c10_no_crash (H : Str → Str) :
    (∀ o, NoPanic (showVersions o)) ∧
    (∀ sel subtree excl, NoPanic (listVersion sel subtree excl)) ∧
    (∀ sel subtree excl, NoPanic (restore H sel subtree excl)) ∧
    (∀ quick, NoPanic (validate H quick)) ∧
    (∀ o src, NoPanic (backup H o src)) ∧
    (∀ D opts, NoPanic (deleteBands true D opts)) :=
  ⟨versions_never_panics, list_never_panics, restore_never_panics H, validate_never_panics H,
   backup_never_panics H, delete_never_panics⟩

theorem damage_def (s s' : Store) (k : Key) :
    Damage s s' k ↔ ∀ k', k' ≠ k → s'.get? k' = s.get? k' := Iff.rfl

/-- Damage outside version `b`'s directory leaves alone what the listing rule reads of `b`. -/
theorem damage_outside_band {s s' : Store} {k : Key} (hd : Damage s s' k) {b : Nat}
    (hk : Key.isUnder (.bandDir b) k = false) :
    (∀ n, hunkAt s' b n = hunkAt s b n) ∧ (∀ n, usableHunk s' b n = usableHunk s b n) ∧
    bandPresent s' b = bandPresent s b ∧ bandReadable s' b = bandReadable s b ∧
    isComplete s' b = isComplete s b :=
  have h := hd.sameBand hk
  ⟨h.hunkAt, h.usableHunk, h.bandPresent, h.bandReadable, h.isComplete⟩

theorem damage_outside_band_entries {s s' : Store} (nd : keysNodup s = true) (nd' : keysNodup s' = true)
    {k : Key} (hd : Damage s s' k) {b : Nat} (hk : Key.isUnder (.bandDir b) k = false) :
    hunkNumsOf s' b = hunkNumsOf s b ∧ bandEntries s' b = bandEntries s b ∧
    bandErrors s' b = bandErrors s b := by
  have n1 : (s.map (·.1)).Nodup := by simpa [keysNodup] using nd
  have n2 : (s'.map (·.1)).Nodup := by simpa [keysNodup] using nd'
  have h := hd.sameBand hk
  exact ⟨h.hunkNumsOf n1 n2, h.bandEntries n1 n2, h.bandErrors n1 n2⟩

theorem damage_content_untouched (H : Str → Str) {s s' : Store} {k : Key} (hd : Damage s s' k)
    (e : IndexEntry) (hk : ∀ a ∈ e.addrs, k ≠ .block a.hash) :
    readBack H s' e.addrs = readBack H s e.addrs :=
  readBack_congr H e.addrs fun a ha => hd _ (fun h => hk a ha h.symm)

/-- Damage to a block, the lock, the header or a LATER version leaves the listing of version `n` and
the errors it reports as they were, by the C08 rule, and hence what the code returns. -/
theorem listing_unaffected {s s' : Store} (wf : ArchWF s) (wf' : ArchWF s') {k : Key}
    (hd : Damage s s' k) (n : Nat) (hk : ∀ b, b ≤ n → Key.isUnder (.bandDir b) k = false) :
    listSpec s' n = listSpec s n ∧ listErrors s' n = listErrors s n ∧
    ((stitchAll n).run (World.clean s')).1 = ((stitchAll n).run (World.clean s)).1 := by
  have hs : ∀ b, b ≤ n → SameBand s s' b := fun b hb => hd.sameBand (hk b hb)
  have h1 := listSpec_congr wf.keys wf'.keys n hs
  refine ⟨h1, listErrors_congr wf.keys wf'.keys n hs, ?_⟩
  rw [(C08.stitch_eq_spec wf' n).1, (C08.stitch_eq_spec wf n).1, h1]

theorem archWF_erase_hunk {s : Store} (wf : ArchWF s) (b n : Nat) : ArchWF (s.erase (.hunk b n)) :=
  archWF_of_lost_hunk wf (keysNodup_erase wf.nodup _) (treeShaped_erase_hunk wf.nodup wf.tree b n)
    (damage_erase s _) (.inl (by simp [usableHunk]))

theorem archWF_put_hunk {s : Store} (wf : ArchWF s) {b n : Nat} {v0 : FileVal}
    (hex : s.get? (.hunk b n) = some v0) (v : FileVal)
    (hv : usableHunk (s.put (.hunk b n) v) b n = none ∨ usableHunk (s.put (.hunk b n) v) b n = some []) :
    ArchWF (s.put (.hunk b n) v) :=
  archWF_of_lost_hunk wf (keysNodup_put wf.nodup _ v) (treeShaped_put_hunk wf.nodup wf.tree hex v)
    (damage_put s _ v) hv

/-- "The hunk file has become missing, undecodable/unusable, or empty." -/
def HunkLost (s' : Store) (b n : Nat) : Prop :=
  usableHunk s' b n = none ∨ s'.get? (.hunk b n) = some .empty

theorem HunkLost.contributes_nothing {s' : Store} {b n : Nat} (h : HunkLost s' b n) :
    usableHunk s' b n = none ∨ usableHunk s' b n = some [] := by
  rcases h with h | h
  · exact .inl h
  · exact .inr (by simp [usableHunk, h])

/-- The loss of a hunk of a version whose tail states the hunk count is REPORTED: by
`Band::check_index_hunks` (a hunk is missing / the count is not what the tail says / a zero-length
hunk in a complete version) or as the hunk's own error; so every listing whose chain reaches `b`
reports at least one error.  No well-formedness beyond "no path occurs twice" is needed. -/
theorem lost_hunk_reported {s s' : Store} (nd : keysNodup s = true) (nd' : keysNodup s' = true)
    {b n m : Nat} (hd : Damage s s' (.hunk b n))
    (hread : bandReadable s b = true)
    (htail : s.get? (.bandTail b) = some (.tail (some m)))
    (hcheck : indexCheckError s b = none)
    (hn : n ∈ hunkNumsOf s b)
    (hlost : HunkLost s' b n) :
    bandReadable s' b = true ∧
    (indexCheckError s' b = some .invalidMetadata ∨ (n ∈ hunkNumsOf s' b ∧ ∃ e, hunkError s' b n = some e)) ∧
    listErrors s' b ≠ [] ∧ ∀ v, b ∈ chain s' v → listErrors s' v ≠ [] := by
  have n1 : (s.map (·.1)).Nodup := by simpa [keysNodup] using nd
  have n2 : (s'.map (·.1)).Nodup := by simpa [keysNodup] using nd'
  obtain ⟨hr, herr⟩ := lost_hunk_bandErrors n1 n2 hd hread htail hcheck hn hlost
  have hne := bandErrors_ne_nil hr herr
  exact ⟨hr, herr, listErrors_ne_nil (self_mem_chain s' b) hne, fun v hv => listErrors_ne_nil hv hne⟩

/-- … and what the rule lists for `b` is the content of the OTHER hunk files as it was, in hunk
order: nothing else is dropped and nothing is altered. -/
theorem lost_hunk_rest_listed {s s' : Store} (nd : keysNodup s = true) (nd' : keysNodup s' = true)
    {b n m : Nat} (hd : Damage s s' (.hunk b n))
    (hread : bandReadable s b = true)
    (htail : s.get? (.bandTail b) = some (.tail (some m)))
    (hlost : HunkLost s' b n) :
    listSpec s' b = (((hunkNumsOf s b).filter (· != n)).filterMap (usableHunk s b)).flatten ∧
    (listSpec s' b).Sublist (listSpec s b) := by
  have n1 : (s.map (·.1)).Nodup := by simpa [keysNodup] using nd
  have n2 : (s'.map (·.1)).Nodup := by simpa [keysNodup] using nd'
  have htail' : s'.get? (.bandTail b) = some (.tail (some m)) := (hd _ (by simp)).trans htail
  have hr' : bandReadable s' b = true := (bandReadable_of_damage_hunk hd).trans hread
  have hl : ∀ t : Store, t.get? (.bandTail b) = some (.tail (some m)) → bandReadable t b = true →
      listSpec t b = ownEntries t b := by
    intro t ht hr
    simp [listSpec, bandEntries, hr, isComplete, ht, FileVal.isDir]
  rw [hl s' htail' hr', hl s htail hread]
  exact ⟨ownEntries_lost_eq n1 n2 hd hlost.contributes_nothing,
    ownEntries_lost_sublist n1 n2 hd hlost.contributes_nothing⟩

/-- The same about the code, through C08's `stitch_eq_spec` (which needs `ArchWF` of the damaged
store: `archWF_of_lost_hunk`). -/
theorem lost_hunk_reported_run {s s' : Store} (wf : ArchWF s) (nd' : keysNodup s' = true)
    (tr' : treeShaped s' = true) {b n m : Nat} (hd : Damage s s' (.hunk b n))
    (hread : bandReadable s b = true)
    (htail : s.get? (.bandTail b) = some (.tail (some m)))
    (hcheck : indexCheckError s b = none)
    (hn : n ∈ hunkNumsOf s b)
    (hlost : HunkLost s' b n) :
    ((stitchAll b).run (World.clean s')).1
      = .ok (((hunkNumsOf s b).filter (· != n)).filterMap (usableHunk s b)).flatten ∧
    ∃ e, Event.error e ∈ ((stitchAll b).run (World.clean s')).2.events := by
  have wf' := archWF_of_lost_hunk wf nd' tr' hd hlost.contributes_nothing
  obtain ⟨h1, _, h3⟩ := C08.stitch_eq_spec wf' b
  obtain ⟨_, _, hne, _⟩ := lost_hunk_reported wf.nodup nd' hd hread htail hcheck hn hlost
  refine ⟨by rw [h1, (lost_hunk_rest_listed wf.nodup nd' hd hread htail hlost).1], ?_⟩
  rw [h3]
  cases hl : listErrors s' b with
  | nil => exact absurd hl hne
  | cons e rest => exact ⟨e, by simp⟩

/-- `restore` of a specified version in the fault-free world, if it returns: the nodes are `restoreP`
(`restoreEntries` as a pure function of the store) of the rule's filtered listing, nothing is
written, and the events are the listing's errors followed by restore's own reports. -/
theorem restore_spec (H : Str → Str) {s : Store} (wf : ArchWF s) (b : Nat) (subtree : Str) (excl : Str → Bool)
    {nodes : List RNode} {w' : World}
    (h : (restore H (.specified b) subtree excl).run (World.clean s) = (.ok nodes, w')) :
    nodes = (restoreP H s [] ((listSpec s b).filter fun e => isPrefixOfImpl subtree e.apath && !excl e.apath)).1 ∧
    w'.store = s ∧
    w'.events = evsOf (listErrors s b ++
      (restoreP H s [] ((listSpec s b).filter fun e => isPrefixOfImpl subtree e.apath && !excl e.apath)).2) := by
  obtain ⟨h1, h2, h3⟩ := (Hist.restore_raw_runs (H := H) wf.unique b subtree excl).clean
  rw [h] at h1 h2 h3
  have hu : AllUsable ((listSpec s b).filter fun e => isPrefixOfImpl subtree e.apath && !excl e.apath) :=
    fun e he => C08.listed_usable (List.mem_filter.mp he).1
  -- the run returned, so the head opened and `d/` is a directory
  cases hh : headOutcome s b with
  | err e => simp [Hist.restoreRaw, hh] at h1
  | panic m => simp [Hist.restoreRaw, hh] at h1
  | ok u =>
    by_cases hr : s.get? .blockRoot = some .dir
    · simp only [Hist.restoreRaw, hh, hr, if_true, stitchAllP_fst wf, stitchAllP_snd wf,
        Hist.filterP_valid fun e he _ => C08.listed_valid he, restoreP_agree s _ [] hu,
        Outcome.ok.injEq] at h1 h3
      exact ⟨h1, h2, by rw [h3, evsOf_append]⟩
    · simp [Hist.restoreRaw, hh, hr] at h1

/-- A selected file entry whose content reads back is restored complete with exactly that content;
one whose content does not (a block missing, undecodable, corrupt or too short) gets an INCOMPLETE
node and a `restoreFileBlock` report.  Never silently dropped, never silently altered. -/
theorem restore_file_exact_or_reported (H : Str → Str) {s : Store} (wf : ArchWF s) (b : Nat) (subtree : Str)
    (excl : Str → Bool) {nodes : List RNode} {w' : World}
    (h : (restore H (.specified b) subtree excl).run (World.clean s) = (.ok nodes, w'))
    (hns : NoSymlinkAbove [] (listSpec s b))
    {e : IndexEntry} (he : e ∈ listSpec s b) (hsel : (isPrefixOfImpl subtree e.apath && !excl e.apath) = true)
    (hk : e.kind = .file) :
    (∀ c, readBack H s e.addrs = some c → { RNode.ofEntry e with content := c } ∈ nodes) ∧
    (readBack H s e.addrs = none →
      (∃ bytes, { RNode.ofEntry e with content := bytes, complete := false } ∈ nodes) ∧
      ∃ hh, Event.error (.restoreFileBlock e.apath hh) ∈ w'.events) := by
  obtain ⟨hn, _, hev⟩ := restore_spec H wf b subtree excl h
  have hns' : NoSymlinkAbove [] ((listSpec s b).filter fun e => isPrefixOfImpl subtree e.apath && !excl e.apath) :=
    ⟨fun _ hp => (nomatch hp),
     fun x hx hxk y hy => hns.2 x (List.mem_filter.mp hx).1 hxk y (List.mem_filter.mp hy).1⟩
  have hf := restoreP_file H (s := s) hns' (List.mem_filter.mpr ⟨he, hsel⟩) hk
  rw [hn, hev]
  refine ⟨hf.1, fun hnone => ?_⟩
  obtain ⟨bytes, hh, h1, h2⟩ := hf.2 hnone
  exact ⟨⟨bytes, h1⟩, hh, mem_evsOf.mpr (List.mem_append_right _ h2)⟩

/-- One BLOCK file `h` is damaged in any way: the listing is unchanged, every selected file that does
not name `h` and read back before is restored exactly, and every file that cannot be read back any
more gets an incomplete node and a report. -/
theorem restore_block_damage_contained (H : Str → Str) {s s' : Store} (wf : ArchWF s) (wf' : ArchWF s')
    {h : Str} (hd : Damage s s' (.block h)) (b : Nat) (subtree : Str) (excl : Str → Bool)
    {nodes : List RNode} {w' : World}
    (hrun : (restore H (.specified b) subtree excl).run (World.clean s') = (.ok nodes, w'))
    (hns : NoSymlinkAbove [] (listSpec s b)) :
    listSpec s' b = listSpec s b ∧
    ∀ e ∈ listSpec s b, (isPrefixOfImpl subtree e.apath && !excl e.apath) = true → e.kind = .file →
      ((∀ a ∈ e.addrs, a.hash ≠ h) → ∀ c, readBack H s e.addrs = some c →
        { RNode.ofEntry e with content := c } ∈ nodes) ∧
      (readBack H s' e.addrs = none →
        (∃ bytes, { RNode.ofEntry e with content := bytes, complete := false } ∈ nodes) ∧
        ∃ hh, Event.error (.restoreFileBlock e.apath hh) ∈ w'.events) := by
  have hl := (listing_unaffected wf wf' hd b (fun c _ => isUnder_bandDir_of_bandOf_none rfl)).1
  refine ⟨hl, fun e he hsel hk => ?_⟩
  have hx := restore_file_exact_or_reported H wf' b subtree excl hrun (hl ▸ hns) (hl ▸ he) hsel hk
  refine ⟨fun hne c hc => hx.1 c ?_, hx.2⟩
  rw [damage_content_untouched H hd e (fun a ha heq => hne a ha (by cases heq; rfl))]
  exact hc

/-- One index HUNK of a complete version `b` is lost (situation of `lost_hunk_reported`): restoring
`b` reports an error, and the files of the OTHER hunks that read back before are restored exactly. -/
theorem restore_lost_hunk_contained (H : Str → Str) {s s' : Store} (wf : ArchWF s) (nd' : keysNodup s' = true)
    (tr' : treeShaped s' = true) {b n m : Nat} (hd : Damage s s' (.hunk b n))
    (hread : bandReadable s b = true)
    (htail : s.get? (.bandTail b) = some (.tail (some m)))
    (hcheck : indexCheckError s b = none)
    (hn : n ∈ hunkNumsOf s b)
    (hlost : HunkLost s' b n)
    (subtree : Str) (excl : Str → Bool) {nodes : List RNode} {w' : World}
    (hrun : (restore H (.specified b) subtree excl).run (World.clean s') = (.ok nodes, w'))
    (hns : NoSymlinkAbove [] (listSpec s b)) :
    (∃ err, Event.error err ∈ w'.events) ∧
    ∀ e ∈ (((hunkNumsOf s b).filter (· != n)).filterMap (usableHunk s b)).flatten,
      (isPrefixOfImpl subtree e.apath && !excl e.apath) = true → e.kind = .file →
      ∀ c, readBack H s e.addrs = some c → { RNode.ofEntry e with content := c } ∈ nodes := by
  have wf' := archWF_of_lost_hunk wf nd' tr' hd hlost.contributes_nothing
  obtain ⟨hl, hsub⟩ := lost_hunk_rest_listed wf.nodup nd' hd hread htail hlost
  obtain ⟨_, _, hne, _⟩ := lost_hunk_reported wf.nodup nd' hd hread htail hcheck hn hlost
  have hns' : NoSymlinkAbove [] (listSpec s' b) :=
    ⟨fun _ hp => (nomatch hp), fun x hx hxk y hy => hns.2 x (hsub.subset hx) hxk y (hsub.subset hy)⟩
  constructor
  · obtain ⟨_, _, hev⟩ := restore_spec H wf' b subtree excl hrun
    cases hle : listErrors s' b with
    | nil => exact absurd hle hne
    | cons x rest => exact ⟨x, by rw [hev, hle]; exact mem_evsOf.mpr (by simp)⟩
  · intro e he hsel hk c hc
    have hx := restore_file_exact_or_reported H wf' b subtree excl hrun hns' (hl ▸ he) hsel hk
    refine hx.1 c ?_
    rw [damage_content_untouched H hd e (fun a _ heq => by cases heq)]
    exact hc

section
variable (H : Str → Str)

/-- A store is "good" for C10: the documented format (`Conforms`), no duplicate paths, a tree, and
no gc lock lying around. -/
def Good (s : Store) : Prop :=
  Conforms H s = true ∧ keysNodup s = true ∧ treeShaped s = true ∧ s.get? .gcLock = none

/-- Single-FILE damage: path `k` held a file, and afterwards holds a different file, or nothing. -/
def FileDamage (s s' : Store) (k : Key) : Prop :=
  Damage s s' k ∧ k ≠ .header ∧ (∃ v, s.get? k = some v ∧ v ≠ .dir) ∧ s'.get? k ≠ some .dir ∧
  keysNodup s' = true ∧ treeShaped s' = true

def restoreOf (s : Store) (b : Nat) : Outcome (List RNode) × World :=
  (restore H (.specified b) [slash] (fun _ => false)).run (World.clean s)

/-- Clause 1 of C10: nothing panics (termination is by construction). -/
def NoCrash : Prop :=
  (∀ o, NoPanic (showVersions o)) ∧ (∀ sel st ex, NoPanic (listVersion sel st ex)) ∧
  (∀ sel st ex, NoPanic (restore H sel st ex)) ∧ (∀ q, NoPanic (validate H q)) ∧
  (∀ o src, NoPanic (backup H o src))

/-- Clause 2 of C10 for version `b`: every file `e` of the undamaged listing whose hunk and blocks
are untouched is restored complete with exactly its content; every file that has become unreadable
or has left the listing is REPORTED (an error event) and no complete node is produced for it. -/
def Contained (s s' : Store) (k : Key) (b : Nat) : Prop :=
  ∀ nodes, (restoreOf H s' b).1 = .ok nodes →
    ∀ e ∈ listSpec s b, e.kind = .file →
      ((∃ n es, hunkAt s b n = some es ∧ e ∈ es ∧ k ≠ .hunk b n) ∧ (∀ a ∈ e.addrs, k ≠ .block a.hash) →
        ∃ c, readBack H s e.addrs = some c ∧ { RNode.ofEntry e with content := c } ∈ nodes) ∧
      (readBack H s' e.addrs = none ∨ e ∉ listSpec s' b →
        (∀ nd ∈ nodes, nd.apath = e.apath → nd.complete = false) ∧
        ∃ err, Event.error err ∈ (restoreOf H s' b).2.events)

/-- Clause 3 of C10: after a deletion or an emptying, a new backup completes (that the new version
then restores exactly is C01/C04's statement about `backup`, applied to `s'`). -/
def BackupCompletes (s' : Store) (k : Key) : Prop :=
  (s'.get? k = none ∨ s'.get? k = some .empty) →
    ∀ o src, ∃ st w', (backup H o src).run (World.clean s') = (.ok st, w')

/-- The C10 sentence read literally: clause 2 for EVERY version that still opens. -/
def C10Statement : Prop :=
  ∀ s s' : Store, ∀ k : Key, Good H s → FileDamage s s' k →
    NoCrash H ∧ (∀ b, bandReadable s' b = true → Contained H s s' k b) ∧ BackupCompletes H s' k

/-- The same with clause 2 restricted to versions that were COMPLETE, with a tail that states the
hunk count (what every 0.6 writer produces). -/
def C10StatementComplete : Prop :=
  ∀ s s' : Store, ∀ k : Key, Good H s → FileDamage s s' k →
    NoCrash H ∧
    (∀ b m, bandReadable s' b = true → s.get? (.bandTail b) = some (.tail (some m)) → Contained H s s' k b) ∧
    BackupCompletes H s' k

end

def emptyFile (p : Str) : IndexEntry :=
  { apath := p, kind := .file, mtime := 0, mtimeNanos := 0, unixMode := some 420,
    user := none, group := none, addrs := [], target := none }

/-- An interrupted backup: version 0 has no tail; its only hunk holds `/` and the empty file `/f`. -/
def interrupted : Store :=
  [ (.root, .dir), (.header, .header [48, 46, 54]), (.blockRoot, .dir),
    (.bandDir 0, .dir), (.bandHead 0, .head .ok []), (.indexDir 0, .dir), (.hunkDir 0 0, .dir),
    (.hunk 0 0, .hunk [dirEntry [slash], emptyFile [47, 102]]) ]

/-- Read literally, the sentence is false, and no repair of the code can
make it true: in a version WITHOUT tail, the loss of its last hunk file (here: its only one) cannot
be told from a backup that was interrupted one hunk earlier.  Witness: `interrupted` conforms to the
format; delete `b0000/i/00000/000000000`; version 0 still opens; `/f` is gone from the listing and
from the restore — and nothing at all is reported.  (For a version WITH a tail the loss is always
reported: `lost_hunk_reported`.) -/
theorem c10_statement_refuted : ¬ C10Statement (fun c => c) := by
  intro h
  have hs : Good (fun c => c) interrupted :=
    ⟨by decide +kernel, by decide +kernel, by decide +kernel, by decide +kernel⟩
  have hd : FileDamage interrupted (interrupted.erase (.hunk 0 0)) (.hunk 0 0) :=
    ⟨damage_erase _ _, by decide, ⟨.hunk [dirEntry [slash], emptyFile [47, 102]], by decide +kernel, by decide⟩,
     by decide +kernel,
     by decide +kernel, by decide +kernel⟩
  obtain ⟨_, h2, _⟩ := h _ _ _ hs hd
  have hrun : (restoreOf (fun c => c) (interrupted.erase (.hunk 0 0)) 0).1 = .ok [] :=
    okOf?_eq_some.mp (by decide +kernel)
  obtain ⟨_, e, he⟩ := ((h2 0 (by decide +kernel)) [] hrun (emptyFile [47, 102]) (by decide +kernel) rfl).2
    (.inr (by decide +kernel))
  have hev : (restoreOf (fun c => c) (interrupted.erase (.hunk 0 0)) 0).2.events = [] := by decide +kernel
  rw [hev] at he
  cases he

/-- Clause 1 of `C10StatementComplete`, in full (and for every store, every world: `c10_no_crash`).
For clause 2 there is its listing-level core (`listing_unaffected`, `damage_content_untouched`,
`lost_hunk_reported_run`) and, at the restore level, `restore_block_damage_contained` and
`restore_lost_hunk_contained` under `ArchWF` and "no listed entry lies below a listed symlink".

MISSING for `C10StatementComplete` (Props/C10f.lean takes these up one by one, and shows that the
statement still needs a hypothesis about symlinks): (i) `ArchWF s` and the symlink hypothesis from
`Good`, and `ArchWF s'` for damage to files other than blocks and hunks (head, tail, lock: they do not
touch `bandsSorted`); (ii) the remaining damage classes of clause 2: a hunk overwritten by a DIFFERENT
usable hunk (undetectable — index hunks carry no checksum; the sentence only speaks of "missing or
undecodable"), a damaged TAIL (the version turns incomplete and only ADDS entries of earlier versions
after the last own path), a damaged HEAD (the version does not open: clause vacuous), a damaged file
of an EARLIER version (`listing_unaffected` only covers later ones); (iii) clause 3 needs `backup`'s
functional correctness (C01/C04) from a store that does not `Conform` any more. -/
theorem c10_partial (H : Str → Str) : NoCrash H :=
  ⟨versions_never_panics, list_never_panics, restore_never_panics H, validate_never_panics H,
   backup_never_panics H⟩

/-- A complete version with two hunks: `/` and `/a` in hunk 0, `/b` in hunk 1. -/
def twoHunks : Store :=
  [ (.root, .dir), (.header, .header [48, 46, 54]), (.blockRoot, .dir),
    (.bandDir 0, .dir), (.bandHead 0, .head .ok []), (.indexDir 0, .dir), (.hunkDir 0 0, .dir),
    (.hunk 0 0, .hunk [dirEntry [47], dirEntry [47, 97]]), (.hunk 0 1, .hunk [dirEntry [47, 98]]),
    (.bandTail 0, .tail (some 2)) ]

def twoHunksJunk : Store := twoHunks.put (.hunk 0 1) (.junk 7)

-- `sortNat` is `List.mergeSort` (well-founded recursion: the kernel cannot evaluate it on two or
-- more elements), so hunk numbers are computed by hand where a store has two hunks.
theorem twoHunks_nums : hunkNumsOf twoHunks 0 = [0, 1] := by
  rw [hunkNumsOf_eq, show twoHunks.filterMap (hunkSel 0) = [0, 1] by decide +kernel]
  exact sortNat_of_sorted (by decide)

theorem twoHunksJunk_nums : hunkNumsOf twoHunksJunk 0 = [0, 1] := by
  rw [hunkNumsOf_eq, show twoHunksJunk.filterMap (hunkSel 0) = [0, 1] by decide +kernel]
  exact sortNat_of_sorted (by decide)

theorem twoHunks_own : ownEntries twoHunks 0 = [dirEntry [47], dirEntry [47, 97], dirEntry [47, 98]] := by
  unfold ownEntries; rw [twoHunks_nums]; decide +kernel

theorem twoHunks_wf : ArchWF twoHunks := by
  refine ⟨by decide +kernel, by decide +kernel, ?_⟩
  have hb : twoHunks.all (fun kv => match kv.1 with | .hunk b _ => b == 0 | _ => true) = true := by
    decide +kernel
  rw [List.all_eq_true] at hb
  unfold bandsSorted
  rw [List.all_eq_true]
  intro kv hm
  have := hb kv hm
  split
  · rename_i b n hk
    rw [hk] at this
    have hb0 : b = 0 := by simpa using this
    subst hb0
    rw [twoHunks_own]; decide +kernel
  · rfl

theorem twoHunks_check : indexCheckError twoHunks 0 = none := by
  simp only [indexCheckError, twoHunks_nums]
  decide +kernel

/-- The hypotheses of `lost_hunk_reported` / `lost_hunk_reported_run` are satisfiable, for each kind of
loss: the hunk deleted, overwritten with garbage, emptied, or holding an entry that fails the check. -/
example : Damage twoHunks (twoHunks.erase (.hunk 0 1)) (.hunk 0 1) ∧
    bandReadable twoHunks 0 = true ∧ twoHunks.get? (.bandTail 0) = some (.tail (some 2)) ∧
    indexCheckError twoHunks 0 = none ∧ 1 ∈ hunkNumsOf twoHunks 0 ∧
    HunkLost (twoHunks.erase (.hunk 0 1)) 0 1 ∧
    HunkLost twoHunksJunk 0 1 ∧
    HunkLost (twoHunks.put (.hunk 0 1) .empty) 0 1 ∧
    HunkLost (twoHunks.put (.hunk 0 1) (.hunk [slashSlash])) 0 1 :=
  ⟨damage_erase _ _, by decide +kernel, by decide +kernel, twoHunks_check, by rw [twoHunks_nums]; decide,
   .inl (by decide +kernel), .inl (by decide +kernel), .inr (by decide +kernel), .inl (by decide +kernel)⟩

/-- … and the conclusion on that instance: the listing of the archive without hunk 1 is hunk 0's
two entries, with an error reported (by the theorem) … -/
example :
    ((stitchAll 0).run (World.clean (twoHunks.erase (.hunk 0 1)))).1 = .ok [dirEntry [47], dirEntry [47, 97]] ∧
    ∃ e, Event.error e ∈ ((stitchAll 0).run (World.clean (twoHunks.erase (.hunk 0 1)))).2.events := by
  have h := lost_hunk_reported_run (s := twoHunks) (s' := twoHunks.erase (.hunk 0 1)) (b := 0) (n := 1) (m := 2)
    twoHunks_wf (keysNodup_erase twoHunks_wf.nodup _) (treeShaped_erase_hunk twoHunks_wf.nodup twoHunks_wf.tree 0 1)
    (damage_erase _ _) (by decide +kernel) (by decide +kernel) twoHunks_check (by rw [twoHunks_nums]; decide)
    (.inl (by decide +kernel))
  refine ⟨h.1.trans ?_, h.2⟩
  rw [twoHunks_nums]
  exact congrArg Outcome.ok (by decide +kernel)

/-- … namely the directory check's (confirmed by evaluating the run). -/
example : ((stitchAll 0).run (World.clean (twoHunks.erase (.hunk 0 1)))).2.events = [.error .invalidMetadata] := by
  decide +kernel

/-- Garbage in hunk 1: reported as the hunk's own error (`json`), the rest is listed. -/
example : listErrors twoHunksJunk 0 = [.json] ∧
    listSpec twoHunksJunk 0 = [dirEntry [47], dirEntry [47, 97]] := by
  constructor
  · simp only [listErrors, bandErrors, indexCheckError, twoHunksJunk_nums]
    decide +kernel
  · have h := (lost_hunk_rest_listed (s := twoHunks) (s' := twoHunksJunk) (b := 0) (n := 1)
      (m := 2) twoHunks_wf.nodup (keysNodup_put twoHunks_wf.nodup _ _) (damage_put _ _ _) (by decide +kernel)
      (by decide +kernel) (.inl (by decide +kernel))).1
    rw [h, twoHunks_nums]
    decide +kernel

/-- `listing_unaffected` applies to block damage of any well-formed archive: its hypothesis on `k`
holds for every block path. -/
example (h : Str) (n : Nat) : ∀ b, b ≤ n → Key.isUnder (.bandDir b) (.block h) = false :=
  fun _ _ => isUnder_bandDir_of_bandOf_none rfl

def intact : Store := oneEntryStore (dirEntry [slash])

/-- `AllUsable` is not vacuous: an intact listing is non-empty (and usable); `Ensures` really returns. -/
example : ((stitchAll 0).run (World.clean intact)).1 = .ok [dirEntry [slash]] :=
  okOf?_eq_some.mp (by decide +kernel)

/-- The operations do run to completion on an intact archive (so `NoPanic` is not true merely
because everything fails): versions, restore, validate. -/
example : ((showVersions { sizes := true }).run (World.clean intact)).1
    = .ok [{ id := 0, info := some (true, some 1), treeBytes := some 0 }] :=
  okOf?_eq_some.mp (by decide +kernel)

example : ((restore (fun c => c) .latestClosed [slash] (fun _ => false)).run (World.clean intact)).1
    = .ok [RNode.ofEntry (dirEntry [slash])] :=
  okOf?_eq_some.mp (by decide +kernel)

example : ((validate (fun c => c) false).run (World.clean intact)).1 = .ok () ∧
    ((validate (fun c => c) false).run (World.clean intact)).2.events = [] :=
  ⟨okOf?_eq_some.mp (by decide +kernel), by decide +kernel⟩

/-- `/f` with content `[1,2,3]`, stored in the block named (with `H = id`) `[1,2,3]`. -/
def fileF : IndexEntry :=
  { apath := [47, 102], kind := .file, mtime := 0, mtimeNanos := 0, unixMode := some 420,
    user := none, group := none, addrs := [⟨[1, 2, 3], 0, 3⟩], target := none }

def withBlock : Store :=
  [ (.root, .dir), (.header, .header [48, 46, 54]), (.blockRoot, .dir),
    (.blockDir [1, 2, 3], .dir), (.block [1, 2, 3], .blockData [1, 2, 3]),
    (.bandDir 0, .dir), (.bandHead 0, .head .ok []), (.indexDir 0, .dir), (.hunkDir 0 0, .dir),
    (.hunk 0 0, .hunk [dirEntry [slash], fileF]), (.bandTail 0, .tail (some 1)) ]

def withBlockJunk : Store := withBlock.put (.block [1, 2, 3]) (.junk 9)

theorem withBlock_noSymlink : NoSymlinkAbove [] (listSpec withBlock 0) := by
  have hl : listSpec withBlock 0 = [dirEntry [slash], fileF] := by decide +kernel
  refine ⟨fun _ hp => (nomatch hp), fun x hx hk => ?_⟩
  rw [hl] at hx
  simp only [List.mem_cons, List.not_mem_nil, or_false] at hx
  rcases hx with rfl | rfl <;> simp [dirEntry, fileF] at hk

/-- The hypotheses of `restore_block_damage_contained` hold of this pair of stores, the run returns,
and its conclusion is what evaluation shows: `/` restored, `/f` left incomplete and reported. -/
example : ArchWF withBlock ∧ ArchWF withBlockJunk ∧ Damage withBlock withBlockJunk (.block [1, 2, 3]) ∧
    readBack (fun c => c) withBlock fileF.addrs = some [1, 2, 3] ∧
    readBack (fun c => c) withBlockJunk fileF.addrs = none ∧
    okOf? ((restore (fun c => c) (.specified 0) [slash] (fun _ => false)).run (World.clean withBlock)).1
      = some [RNode.ofEntry (dirEntry [slash]), { RNode.ofEntry fileF with content := [1, 2, 3] }] ∧
    okOf? ((restore (fun c => c) (.specified 0) [slash] (fun _ => false)).run (World.clean withBlockJunk)).1
      = some [RNode.ofEntry (dirEntry [slash]), { RNode.ofEntry fileF with content := [], complete := false }] ∧
    ((restore (fun c => c) (.specified 0) [slash] (fun _ => false)).run (World.clean withBlockJunk)).2.events
      = [.error (.restoreFileBlock [47, 102] [1, 2, 3])] :=
  ⟨by decide +kernel, by decide +kernel, damage_put _ _ _, by decide +kernel, by decide +kernel,
   by decide +kernel, by decide +kernel, by decide +kernel⟩

-- (A run of `backup` cannot be evaluated by the kernel — `mergeTrees` is defined by well-founded
-- recursion; that backups complete on stores with garbage in them is C03/C04's subject.)

end Conserve.C10
