import ConserveModel.Props.C16
import ConserveModel.Proofs.RestoreChain
/-
C16e — C16 end to end: from the ARCHIVE to the file system.

Props/C16.lean is about `restoreToFs` applied to a list of `RNode`s, and about the per-entry loop
`restoreEntries` applied to a list of index entries.  Here the two are connected to
`restore H sel subtree excl` (Restore.lean), the store-level half of `restore()`, run on an archive.

What holds for EVERY store (damaged, hand-made, stitched, interrupted; no well-formedness at all) and
EVERY world (faults, crash points):
* `restore_nodes_valid_guarded`: the nodes handed to the file system all have valid apaths
  (`filterEntries`/`Exclude::matches` panics on an invalid one, and `readHunk` refuses a hunk containing
  one) and none lies strictly below (by whole components, root apart) an EARLIER SYMLINK node;
* `restore_archive_refuses_nonempty`: "never clobbers by default" — without `--overwrite` a non-empty
  destination is refused and the file system is the very same afterwards.

What needs the archive's indexes to be SORTED (`ArchWF`, the hypothesis of C08; every archive a
backup history produces has it, and it survives missing / undecodable / unusable hunks,
`archWF_of_lost_hunk`):
* `restore_archive_confined`: nothing outside the destination changes (for any selection, subtree,
  exclusion, complete or interrupted version).

And the full-strength statement is FALSE without sortedness:
* `restore_archive_confined_any_store_refuted`: an archive whose index lists the SAME apath twice —
  `/a` as a symlink to `../outside/b`, then `/a` as a file — passes the guard (it only looks at PROPER
  ancestors) and `File::create(dest/a)` follows the link: `/sandbox/outside/b` is created beside the
  destination, with no error reported.  The witness store violates `ArchWF` only in `bandsSorted`
  (keys distinct, tree-shaped); every entry passes `IndexEntry::check`.  The code has no check that a
  hunk it read is sorted or duplicate-free (src/index/mod.rs; `validate` has only a
  `// TODO: Check they're in apath order`, src/validate.rs), so this is the behaviour of the real
  `restore` on such a (hand-made or corrupted) archive too — CONFIRMED against /repo at 93841b1: back
  up a tree holding the symlink `a -> ../outside/b`, append to its only index hunk a second entry
  `{"apath":"/a","kind":"File","addrs":[]}`, restore into `sandbox/dest`: `Ok(())`, no monitor error,
  and `sandbox/outside/b` exists.  No backup history produces such
  an index (C08/C14: own entries strictly increasing), so C16 as scoped ("for any archive history") is
  not affected; the finding is about damaged or hostile archives.
-/
namespace Conserve.C16e
open Conserve C16

section
variable (H : Str → Str)

/-- **What every successful `restore` hands to the file system** — any store, any world (faults, crash
point), any selection / subtree / exclusion: every node has a valid apath, and no node has a proper
ancestor (other than the root) that is the apath of an EARLIER SYMLINK node of the same list.
(Nothing is claimed about order or about repeated apaths: see the refutation below.) -/
theorem restore_nodes_valid_guarded (sel : BandSelection) (subtree : Str) (excl : Str → Bool)
    (w w' : World) (nodes : List RNode) (h : (restore H sel subtree excl).run w = (.ok nodes, w')) :
    (∀ n ∈ nodes, isValid n.apath = true) ∧
    (∀ pre n post, nodes = pre ++ n :: post → ∀ m ∈ pre, m.kind = .symlink → comps m ≠ [] →
      comps m <+: comps n → comps m = comps n) := by
  obtain ⟨es, w1, hv, hrun⟩ := restore_is_loop H h
  have hvn := (restoreEntries_guarded H hrun).valid hv
  refine ⟨hvn, ?_⟩
  intro pre n post e m hm hk hroot hpre
  have hmn : m ∈ nodes := by rw [e]; exact List.mem_append_left _ hm
  have hnn : n ∈ nodes := by rw [e]; simp
  exact restoreEntries_no_entry_below_symlink H es w1 w' nodes hrun pre n post e m hm hk
    (hvn m hmn) (hvn n hnn) hroot hpre

/-- **Never clobbers by default, end to end.**  Any store, any world, any selection: whatever nodes
the archive side produced, without the overwrite option a destination that exists and has at least
one entry is refused with `DestinationNotEmpty`; no error goes to the monitor and the file system is
the SAME afterwards.  (This is `C16.restore_refuses_nonempty`, which holds for any list of nodes.) -/
theorem restore_archive_refuses_nonempty (sel : BandSelection) (subtree : Str) (excl : Str → Bool)
    (w w' : World) (nodes : List RNode) (_h : (restore H sel subtree excl).run w = (.ok nodes, w'))
    (fs : Fs) (dest : Path) (uidOf gidOf : Str → Option Nat) (oldOrder : Bool)
    (hD : DestPlain fs dest) (hlen : dest.length < resolveFuel)
    (hdir : fs.isDir dest = true) (hne : fs.hasChild dest = true) :
    restoreToFs fs dest false nodes uidOf gidOf oldOrder = (fs, [], some .destinationNotEmpty) :=
  restore_refuses_nonempty fs dest nodes uidOf gidOf oldOrder hD hlen hdir hne

theorem restore_nodes_confinableL {s : Store} (wf : ArchWF s) (sel : BandSelection) (subtree : Str)
    (excl : Str → Bool) (w' : World) (nodes : List RNode)
    (h : (restore H sel subtree excl).run (World.clean s) = (.ok nodes, w')) : ConfinableL nodes := by
  obtain ⟨b, w1, hrun⟩ := restore_is_loop_on_listing H wf h
  obtain ⟨hv, hs⟩ := filtered_listing_valid_sorted wf b
    (fun e => isPrefixOfImpl subtree e.apath && !excl e.apath)
  exact restoreEntries_confinableL H _ w1 w' nodes hv hs hrun

/-- **`restore_archive_confined`.**  For every archive `s` with `ArchWF s` (distinct keys, tree-shaped,
each version's usable hunks strictly increasing — nothing about which versions exist, are complete,
readable, or have all their hunks), every selection (`Specified b`, `Latest`, `LatestClosed`), every
subtree and exclusion: if the archive side of `restore` returns, then replaying its nodes on ANY
well-formed file system without the overwrite option changes nothing outside the destination —
content, target, mode, owner, mtime of every node not under `dest` are as before — whatever the
symlinks in the archive point at.  Same caller obligations (`DestPlain`) and the same single exception
(the mtime of the parent of an ABSENT destination) as `C16.restore_confined`. -/
theorem restore_archive_confined {s : Store} (wf : ArchWF s) (sel : BandSelection) (subtree : Str)
    (excl : Str → Bool) (w' : World) (nodes : List RNode)
    (h : (restore H sel subtree excl).run (World.clean s) = (.ok nodes, w'))
    (fs : Fs) (dest : Path) (uidOf gidOf : Str → Option Nat) (oldOrder : Bool)
    (hwf : fs.wf = true) (hD : DestPlain fs dest) :
    let fs' := (restoreToFs fs dest false nodes uidOf gidOf oldOrder).1
    (∀ p, ¬ under dest p → (p ≠ dest.dropLast ∨ fs.node dest ≠ none) → fs'.node p = fs.node p) ∧
    (dest ≠ [] → EqMod (fs.node dest.dropLast) (fs'.node dest.dropLast)) :=
  have hC := restore_nodes_confinableL H wf sel subtree excl w' nodes h
  restoreToFs_confined_ord hC.valid hC.notBelowLink hwf hD

/-- With an existing destination there is no exception. -/
theorem restore_archive_confined_existing {s : Store} (wf : ArchWF s) (sel : BandSelection) (subtree : Str)
    (excl : Str → Bool) (w' : World) (nodes : List RNode)
    (h : (restore H sel subtree excl).run (World.clean s) = (.ok nodes, w'))
    (fs : Fs) (dest : Path) (uidOf gidOf : Str → Option Nat) (oldOrder : Bool)
    (hwf : fs.wf = true) (hD : DestPlain fs dest) (hex : fs.isDir dest = true) :
    ∀ p, ¬ under dest p → (restoreToFs fs dest false nodes uidOf gidOf oldOrder).1.node p = fs.node p := by
  intro p hp
  refine (restore_archive_confined H wf sel subtree excl w' nodes h fs dest uidOf gidOf oldOrder hwf hD).1
    p hp (Or.inr ?_)
  obtain ⟨x, hx, _⟩ := Fs.isDir_iff.1 hex
  rw [hx]; simp

end

/-- `restore(archive, destination, options)` as a whole: the archive side in world `w`, then — if it
returned — the file-system side.  (If the archive side fails the file system is returned as it was;
the real code has by then already run `ensure_dir_exists(destination)`, so an ABSENT destination has
been created — inside the destination, which is why the split model ignores it.) -/
def restoreEndToEnd (H : Str → Str) (sel : BandSelection) (subtree : Str) (excl : Str → Bool) (w : World)
    (fs : Fs) (dest : Path) (overwrite : Bool) (uidOf gidOf : Str → Option Nat) : Fs :=
  match (restore H sel subtree excl).run w with
  | (.ok nodes, _) => (restoreToFs fs dest overwrite nodes uidOf gidOf).1
  | _ => fs

/-- Confinement of the whole command on a well-formed archive, existing destination. -/
theorem endToEnd_confined (H : Str → Str) {s : Store} (wf : ArchWF s) (sel : BandSelection) (subtree : Str)
    (excl : Str → Bool) (fs : Fs) (dest : Path) (uidOf gidOf : Str → Option Nat)
    (hwf : fs.wf = true) (hD : DestPlain fs dest) (hex : fs.isDir dest = true) :
    ∀ p, ¬ under dest p →
      (restoreEndToEnd H sel subtree excl (World.clean s) fs dest false uidOf gidOf).node p = fs.node p := by
  intro p hp
  unfold restoreEndToEnd
  rcases hr : (restore H sel subtree excl).run (World.clean s) with ⟨out, w'⟩
  cases out with
  | ok nodes =>
    exact restore_archive_confined_existing H wf sel subtree excl w' nodes hr fs dest uidOf gidOf false hwf hD hex p hp
  | err e => rfl
  | panic m => rfl

/-- The whole command never touches a non-empty destination without `--overwrite`: any store, any
world; the final file system IS the initial one. -/
theorem endToEnd_refuses_nonempty (H : Str → Str) (sel : BandSelection) (subtree : Str) (excl : Str → Bool)
    (w : World) (fs : Fs) (dest : Path) (uidOf gidOf : Str → Option Nat)
    (hD : DestPlain fs dest) (hlen : dest.length < resolveFuel)
    (hdir : fs.isDir dest = true) (hne : fs.hasChild dest = true) :
    restoreEndToEnd H sel subtree excl w fs dest false uidOf gidOf = fs := by
  unfold restoreEndToEnd
  rcases (restore H sel subtree excl).run w with ⟨out, w'⟩
  cases out with
  | ok nodes => simp only [restore_refuses_nonempty fs dest nodes uidOf gidOf false hD hlen hdir hne]
  | err e => rfl
  | panic m => rfl

/-! ### Without sortedness: refuted -/

/-- Confinement claimed for EVERY store (the literal end-to-end reading: "damaged, stitched,
interrupted — no well-formedness"), even into an existing empty destination. -/
def restore_archive_confined_any_store_Statement : Prop :=
  ∀ (H : Str → Str) (s : Store) (sel : BandSelection) (subtree : Str) (excl : Str → Bool) (w' : World)
    (nodes : List RNode) (fs : Fs) (dest : Path) (uidOf gidOf : Str → Option Nat),
    (restore H sel subtree excl).run (World.clean s) = (.ok nodes, w') →
    fs.wf = true → DestPlain fs dest → fs.isDir dest = true →
    ∀ p, ¬ under dest p → (restoreToFs fs dest false nodes uidOf gidOf).1.node p = fs.node p

/-- The same with the extra hypothesis that the returned nodes have pairwise distinct apaths: proved
in Props/GapsC16e.lean (`Gaps.restore_archive_confined_distinct`).  Informally: a symlink is created
at `P` only if nothing was at `P`, so nothing was created below `P` before, and everything listed
below `P` afterwards is dropped by the guard.  `ConfinableL` does not give it: its `anc` clause ("no
entry ANYWHERE in the list is a symlink and a proper ancestor of another") is order-free and fails for
e.g. `[/a/b file, /a symlink]`; it takes confinement of loop and deferrals from the ordered invariant
"no LATER entry lies below a symlink entry" plus "when `symlink(P)` succeeds no node exists below
`P`". -/
def restore_archive_confined_distinct_Statement : Prop :=
  ∀ (H : Str → Str) (s : Store) (sel : BandSelection) (subtree : Str) (excl : Str → Bool) (w' : World)
    (nodes : List RNode) (fs : Fs) (dest : Path) (uidOf gidOf : Str → Option Nat),
    (restore H sel subtree excl).run (World.clean s) = (.ok nodes, w') →
    nodes.Pairwise (fun a b => a.apath ≠ b.apath) →
    fs.wf = true → DestPlain fs dest → fs.isDir dest = true →
    ∀ p, ¬ under dest p → (restoreToFs fs dest false nodes uidOf gidOf).1.node p = fs.node p

private def sSandbox : Str := [115, 97, 110, 100, 98, 111, 120]
private def sDest : Str := [100, 101, 115, 116]
private def sOutside : Str := [111, 117, 116, 115, 105, 100, 101]
private def t0 : Mtime := .at 1600000000000000000

/-- `/sandbox/dest` (empty) and `/sandbox/outside` (a directory). -/
def fsW : Fs :=
  { nodes := [([], .dir 0o755 0 0 t0), ([sSandbox], .dir 0o755 0 0 t0),
      ([sSandbox, sDest], .dir 0o755 0 0 t0), ([sSandbox, sOutside], .dir 0o750 8 8 t0)] }

def destW : Path := [sSandbox, sDest]

theorem fsW_wf : fsW.wf = true := by decide
theorem destW_plain : DestPlain fsW destW := destPlain_of_B (by decide)
theorem destW_isDir : fsW.isDir destW = true := by decide

private def ent (p : Str) (k : Kind) (target : Option Str) (mode : Option Nat) : IndexEntry :=
  { apath := p, kind := k, mtime := 0, mtimeNanos := 0, unixMode := mode, user := none, group := none,
    addrs := [], target := target }

/-- One index hunk listing `/`, then `/a` as a symlink to `../outside/b`, then `/a` AGAIN as a file. -/
def dupHunk : List IndexEntry :=
  [ent [47] .dir none (some 0o755),
   ent [47, 97] .symlink (some ([46, 46, 47] ++ sOutside ++ [47, 98])) none,
   ent [47, 97] .file none (some 0o644)]

/-- An archive with one complete version whose only hunk is `dupHunk`. -/
def dupStore : Store :=
  [ (.root, .dir), (.header, .header [48, 46, 54]), (.blockRoot, .dir),
    (.bandDir 0, .dir), (.bandHead 0, .head .ok []), (.indexDir 0, .dir), (.hunkDir 0 0, .dir),
    (.hunk 0 0, .hunk dupHunk), (.bandTail 0, .tail (some 1)) ]

def dupNodes : List RNode :=
  [{ apath := [47], kind := .dir, unixMode := some 0o755 },
   { apath := [47, 97], kind := .symlink, target := some ([46, 46, 47] ++ sOutside ++ [47, 98]) },
   { apath := [47, 97], kind := .file, unixMode := some 0o644 }]

def okVal {α : Type} : Outcome α → Option α
  | .ok a => some a
  | _ => none

theorem run_of_okVal {α : Type} {p : Prog α} {w : World} {a : α} (h : okVal (p.run w).1 = some a) :
    p.run w = (.ok a, (p.run w).2) := by
  rcases hr : p.run w with ⟨out, w'⟩
  rw [hr] at h
  cases out <;> simp [okVal] at h
  subst h; rfl

private def nobody : Str → Option Nat := fun _ => none

/-- What `restore` returns for `dupStore`: all three entries — the second `/a` is not BELOW the symlink
`/a`, so the guard lets it through. -/
theorem dupStore_nodes :
    okVal ((restore id (.specified 0) [47] (fun _ => false)).run (World.clean dupStore)).1 = some dupNodes := by
  decide +kernel

theorem dupRun :
    (restoreToFs fsW destW false dupNodes nobody nobody).1.node [sSandbox, sOutside, [98]] =
      some (.file [] 0o644 0 0 (.at 0)) ∧
    (restoreToFs fsW destW false dupNodes nobody nobody).1.node [sSandbox, sOutside] =
      some (.dir 0o750 8 8 .now) ∧
    (restoreToFs fsW destW false dupNodes nobody nobody).2 = ([], none) := by
  decide +kernel

/-- **Refuted: confinement does not hold for every store.**  On `dupStore` (every entry passes
`IndexEntry::check`; keys distinct; tree-shaped; only `bandsSorted` fails) `restore` of the only version
into the existing empty `/sandbox/dest` creates `/sandbox/outside/b`, through the symlink it has just
made at `dest/a`, and reports nothing. -/
theorem restore_archive_confined_any_store_refuted : ¬ restore_archive_confined_any_store_Statement := by
  intro hall
  have hrun := run_of_okVal dupStore_nodes
  have := hall id dupStore (.specified 0) [47] (fun _ => false) _ dupNodes fsW destW nobody nobody hrun
    fsW_wf destW_plain destW_isDir [sSandbox, sOutside, [98]] (by decide)
  rw [dupRun.1] at this
  exact absurd this (by decide)

/-- What exactly happens in the witness: an empty regular file appears in `outside`, whose mtime is
stamped; the monitor sees no error and `restore` returns `Ok`. -/
example : (restoreToFs fsW destW false dupNodes nobody nobody).1.node [sSandbox, sOutside, [98]] =
    some (.file [] 0o644 0 0 (.at 0)) := dupRun.1
example : (restoreToFs fsW destW false dupNodes nobody nobody).1.node [sSandbox, sOutside] =
    some (.dir 0o750 8 8 .now) := dupRun.2.1
example : (restoreToFs fsW destW false dupNodes nobody nobody).2 = ([], none) := dupRun.2.2

/-- The witness archive is outside `ArchWF` only because its hunk is not strictly increasing. -/
example : keysNodup dupStore = true ∧ treeShaped dupStore = true ∧ bandsSorted dupStore = false ∧
    dupHunk.all entryUsable = true := by decide +kernel

/-- The unconditional theorem applies to the witness: valid apaths, and the guard's property holds
(vacuously for the second `/a`: it is not a PROPER descendant). -/
example : ∀ n ∈ dupNodes, isValid n.apath = true :=
  (restore_nodes_valid_guarded id (.specified 0) [47] (fun _ => false) _ _ dupNodes
    (run_of_okVal dupStore_nodes)).1

/-! ### Non-vacuity of the positive theorems: an interrupted version (the D11 scenario) -/

/-- Version 0 (complete): `/`, `/a` a directory, `/a/b` a file.  Version 1 (interrupted, no tail): `/`,
`/a` now a SYMLINK to `../outside`.  The stitched listing of version 1 is `/`, `/a` (symlink, from 1),
`/a/b` (file, from 0). -/
def d11Store : Store :=
  [ (.root, .dir), (.header, .header [48, 46, 54]), (.blockRoot, .dir),
    (.bandDir 0, .dir), (.bandHead 0, .head .ok []), (.indexDir 0, .dir), (.hunkDir 0 0, .dir),
    (.hunk 0 0, .hunk [ent [47] .dir none (some 0o755), ent [47, 97] .dir none (some 0o755),
                       ent [47, 97, 47, 98] .file none (some 0o644)]),
    (.bandTail 0, .tail (some 1)),
    (.bandDir 1, .dir), (.bandHead 1, .head .ok []), (.indexDir 1, .dir), (.hunkDir 1 0, .dir),
    (.hunk 1 0, .hunk [ent [47] .dir none (some 0o755),
                       ent [47, 97] .symlink (some ([46, 46, 47] ++ sOutside)) none]) ]

def d11Nodes : List RNode :=
  [{ apath := [47], kind := .dir, unixMode := some 0o755 },
   { apath := [47, 97], kind := .symlink, target := some ([46, 46, 47] ++ sOutside) }]

theorem d11Store_wf : ArchWF d11Store := by decide +kernel

/-- `restore` of the interrupted version returns `/` and `/a` only: `/a/b` is dropped by the guard. -/
theorem d11Store_nodes :
    okVal ((restore id (.specified 1) [47] (fun _ => false)).run (World.clean d11Store)).1 = some d11Nodes := by
  decide +kernel

/-- `restore_archive_confined` applied to it: nothing outside `/sandbox/dest` changes. -/
example : ∀ p, ¬ under destW p →
    (restoreToFs fsW destW false d11Nodes nobody nobody).1.node p = fsW.node p :=
  restore_archive_confined_existing id d11Store_wf (.specified 1) [47] (fun _ => false) _ d11Nodes
    (run_of_okVal d11Store_nodes) fsW destW nobody nobody false fsW_wf destW_plain destW_isDir

/-- `restore_archive_refuses_nonempty`: a destination with something in it. -/
private def fsFull : Fs :=
  { nodes := [([], .dir 0o755 0 0 t0), ([sSandbox], .dir 0o755 0 0 t0),
      ([sSandbox, sDest], .dir 0o755 0 0 t0), ([sSandbox, sDest, [97]], .file [7] 0o600 1 1 t0)] }

example : restoreEndToEnd id (.specified 1) [47] (fun _ => false) (World.clean d11Store) fsFull destW false
    nobody nobody = fsFull :=
  endToEnd_refuses_nonempty id _ _ _ _ fsFull destW nobody nobody (destPlain_of_B (by decide)) (by decide)
    (by decide) (by decide)

end Conserve.C16e
