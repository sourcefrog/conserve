import ConserveModel.Props.C16e
import ConserveModel.Proofs.GapFsLoop
/-
The C16e gap closed: confinement of `restore` when the index is UNSORTED.

Props/C16e.lean proves `restore_archive_confined` for archives whose indexes are sorted (`ArchWF`),
refutes it for every store (an index that lists the apath of a symlink entry AGAIN, later), and leaves
`restore_archive_confined_distinct_Statement` open: any store at all, provided the nodes `restore`
hands to the file system have pairwise distinct apaths.  It is PROVED here
(`restore_archive_confined_distinct`), from a stronger theorem:

* `restore_archive_confined_ordered` — ANY store, ANY world (faults, crash point), any selection /
  subtree / exclusion, either order of chmod and lchown, existing or absent destination: if no returned
  node repeats the apath of an EARLIER SYMLINK node, nothing outside the destination changes.  Entries
  may be in any order, may lie below LATER symlink entries, and apaths of files and directories may
  repeat.  The hypothesis is sufficient, not necessary (a symlink entry listed twice violates it and is
  harmless: the second `symlink()` says EEXIST); that SOME hypothesis of the kind is needed is
  `C16e.restore_archive_confined_any_store_refuted` (a symlink entry's apath repeated later as a file).
* `restore_confined_ordered` — the file-system half alone, for any list of nodes.

Where the order matters (Proofs/FsLoop.lean, Proofs/GapFsLoop.lean): the loop invariant (`Ready`) is ordered
anyway; an order-free clause like that of `ConfinableL` would only be needed for `apply_deferrals`,
which runs after the whole loop, so that a symlink entry `/a` listed AFTER the directory entry `/a/b`
counts as "earlier".  What replaces it (Proofs/GapFs*.lean): a successful `restore_dir(dest/a/b)` leaves every prefix of the
path in existence and symlink-free (or the path blocked by a file: `create_dir_all` can say EEXIST);
restore never removes a node or changes its kind; `symlink()` refuses an existing name.  So the later
`symlink(dest/a)` fails with EEXIST and the deferred chmod / utimes on `dest/a/b` still act inside.
-/
namespace Conserve.Gaps
open Conserve C16 C16e

/-- **Order-aware confinement of the file-system half.**  For ANY list of nodes with valid apaths in
which no node lies at or below (by whole components, the root apath apart) an EARLIER symlink node:
restoring them without the overwrite option into any well-formed file system changes no node outside
the destination — content, target, mode, owner, mtime — whatever the symlinks point at.  Same caller
obligations (`DestPlain`) and the same single exception (the mtime of the parent of an ABSENT
destination, which only keeps everything else: second clause) as `C16.restore_confined`.
Strictly more general than `C16.restore_confined_of_confinableL`: nothing is asked about order,
about entries below LATER symlink entries, or about repeated apaths of non-symlinks. -/
theorem restore_confined_ordered (fs : Fs) (dest : Path) (nodes : List RNode)
    (uidOf gidOf : Str → Option Nat) (oldOrder : Bool)
    (hv : ∀ n ∈ nodes, isValid n.apath = true) (hp : nodes.Pairwise NotBelowLink)
    (hwf : fs.wf = true) (hD : DestPlain fs dest) :
    let fs' := (restoreToFs fs dest false nodes uidOf gidOf oldOrder).1
    (∀ p, ¬ under dest p → (p ≠ dest.dropLast ∨ fs.node dest ≠ none) → fs'.node p = fs.node p) ∧
    (dest ≠ [] → EqMod (fs.node dest.dropLast) (fs'.node dest.dropLast)) :=
  restoreToFs_confined_ord hv hp hwf hD

/-- `ConfinableL`, the hypothesis of the earlier theorem, implies the ordered one. -/
theorem notBelowLink_of_confinableL {nodes : List RNode} (hC : ConfinableL nodes) :
    nodes.Pairwise NotBelowLink :=
  hC.notBelowLink

/-- `C16e.restore_nodes_valid_guarded` in pairwise form. -/
theorem restore_nodes_guarded_pairwise (H : Str → Str) (sel : BandSelection) (subtree : Str)
    (excl : Str → Bool) (w w' : World) (nodes : List RNode)
    (h : (restore H sel subtree excl).run w = (.ok nodes, w')) :
    (∀ n ∈ nodes, isValid n.apath = true) ∧
    nodes.Pairwise fun m n => m.kind = .symlink → comps m ≠ [] → comps m <+: comps n →
      comps m = comps n := by
  obtain ⟨hv, hg⟩ := restore_nodes_valid_guarded H sel subtree excl w w' nodes h
  exact ⟨hv, pairwise_of_forall_split hg⟩

/-- No node repeats the apath of an EARLIER SYMLINK node. -/
abbrev NoRepeatAfterLink (nodes : List RNode) : Prop :=
  nodes.Pairwise fun m n => m.kind = .symlink → m.apath ≠ n.apath

theorem noRepeatAfterLink_of_distinct {nodes : List RNode}
    (h : nodes.Pairwise fun a b => a.apath ≠ b.apath) : NoRepeatAfterLink nodes :=
  List.Pairwise.imp (R := fun (a b : RNode) => a.apath ≠ b.apath)
    (S := fun (m n : RNode) => m.kind = .symlink → m.apath ≠ n.apath) (fun hne _ => hne) h

theorem restore_nodes_notBelowLink (H : Str → Str) (sel : BandSelection) (subtree : Str)
    (excl : Str → Bool) (w w' : World) (nodes : List RNode)
    (h : (restore H sel subtree excl).run w = (.ok nodes, w')) (hd : NoRepeatAfterLink nodes) :
    (∀ n ∈ nodes, isValid n.apath = true) ∧ nodes.Pairwise NotBelowLink := by
  obtain ⟨hv, hg⟩ := restore_nodes_guarded_pairwise H sel subtree excl w w' nodes h
  exact ⟨hv, notBelowLink_of_guard hv hg hd⟩

/-- **`restore_archive_confined_ordered`** — confinement for ANY store (damaged, hand-made, unsorted,
stitched, interrupted: no well-formedness at all) in ANY world (faults, crash point), any selection,
subtree and exclusion, either order of chmod / lchown: if the archive side of `restore` returns `nodes`
and no node repeats the apath of an EARLIER SYMLINK node, then replaying them on any well-formed file
system without the overwrite option changes nothing outside the destination — content, target, mode,
owner, mtime of every node not under `dest` are as before.  Same caller obligations (`DestPlain`) and
the same single exception (the mtime of the parent of an ABSENT destination) as
`C16e.restore_archive_confined`, which it generalises (a sorted index has no repeats). -/
theorem restore_archive_confined_ordered (H : Str → Str) (sel : BandSelection) (subtree : Str)
    (excl : Str → Bool) (w w' : World) (nodes : List RNode)
    (h : (restore H sel subtree excl).run w = (.ok nodes, w')) (hd : NoRepeatAfterLink nodes)
    (fs : Fs) (dest : Path) (uidOf gidOf : Str → Option Nat) (oldOrder : Bool)
    (hwf : fs.wf = true) (hD : DestPlain fs dest) :
    let fs' := (restoreToFs fs dest false nodes uidOf gidOf oldOrder).1
    (∀ p, ¬ under dest p → (p ≠ dest.dropLast ∨ fs.node dest ≠ none) → fs'.node p = fs.node p) ∧
    (dest ≠ [] → EqMod (fs.node dest.dropLast) (fs'.node dest.dropLast)) :=
  have hn := restore_nodes_notBelowLink H sel subtree excl w w' nodes h hd
  restore_confined_ordered fs dest nodes uidOf gidOf oldOrder hn.1 hn.2 hwf hD

/-- With an existing destination there is no exception. -/
theorem restore_archive_confined_ordered_existing (H : Str → Str) (sel : BandSelection) (subtree : Str)
    (excl : Str → Bool) (w w' : World) (nodes : List RNode)
    (h : (restore H sel subtree excl).run w = (.ok nodes, w')) (hd : NoRepeatAfterLink nodes)
    (fs : Fs) (dest : Path) (uidOf gidOf : Str → Option Nat) (oldOrder : Bool)
    (hwf : fs.wf = true) (hD : DestPlain fs dest) (hex : fs.isDir dest = true) :
    ∀ p, ¬ under dest p → (restoreToFs fs dest false nodes uidOf gidOf oldOrder).1.node p = fs.node p := by
  intro p hp
  refine (restore_archive_confined_ordered H sel subtree excl w w' nodes h hd fs dest uidOf gidOf oldOrder
    hwf hD).1 p hp (Or.inr ?_)
  obtain ⟨x, hx, _⟩ := Fs.isDir_iff.1 hex
  rw [hx]; simp

/-- **`restore_archive_confined_distinct`: the statement left open in Props/C16e.lean, proved.**
For every store, if the nodes `restore` returns have pairwise distinct apaths, restoring them into an
existing destination without the overwrite option changes nothing outside the destination. -/
theorem restore_archive_confined_distinct : C16e.restore_archive_confined_distinct_Statement := by
  intro H s sel subtree excl w' nodes fs dest uidOf gidOf h hdist hwf hD hex
  exact restore_archive_confined_ordered_existing H sel subtree excl (World.clean s) w' nodes h
    (noRepeatAfterLink_of_distinct hdist) fs dest uidOf gidOf false hwf hD hex

/-- The whole command (`C16e.restoreEndToEnd`), any store, any world, existing destination: either
the archive side fails and the file system is untouched, or confinement holds whenever the returned
nodes do not repeat a symlink's apath.  Stated on the function: for the `nodes` the run returns. -/
theorem endToEnd_confined_ordered (H : Str → Str) (sel : BandSelection) (subtree : Str)
    (excl : Str → Bool) (w : World) (fs : Fs) (dest : Path) (uidOf gidOf : Str → Option Nat)
    (hd : ∀ nodes w', (restore H sel subtree excl).run w = (.ok nodes, w') → NoRepeatAfterLink nodes)
    (hwf : fs.wf = true) (hD : DestPlain fs dest) (hex : fs.isDir dest = true) :
    ∀ p, ¬ under dest p →
      (restoreEndToEnd H sel subtree excl w fs dest false uidOf gidOf).node p = fs.node p := by
  intro p hp
  unfold restoreEndToEnd
  rcases hr : (restore H sel subtree excl).run w with ⟨out, w'⟩
  cases out with
  | ok nodes =>
    exact restore_archive_confined_ordered_existing H sel subtree excl w w' nodes hr (hd nodes w' hr)
      fs dest uidOf gidOf false hwf hD hex p hp
  | err e => rfl
  | panic m => rfl

/-! ### Non-vacuity: an UNSORTED index -/

private def sOutside : Str := [111, 117, 116, 115, 105, 100, 101]
private def nobody : Str → Option Nat := fun _ => none

private def ent (p : Str) (k : Kind) (target : Option Str) (mode : Option Nat) : IndexEntry :=
  { apath := p, kind := k, mtime := 0, mtimeNanos := 0, unixMode := mode, user := none, group := none,
    addrs := [], target := target }

/-- One hunk, OUT OF ORDER: `/`, `/a/b` (dir), `/a/b/f` (file), then `/a` as a SYMLINK to `../outside`,
then `/a/c` (file; below the symlink entry that now precedes it). -/
def unsHunk : List IndexEntry :=
  [ent [47] .dir none (some 0o755),
   ent [47, 97, 47, 98] .dir none (some 0o700),
   ent [47, 97, 47, 98, 47, 102] .file none (some 0o644),
   ent [47, 97] .symlink (some ([46, 46, 47] ++ sOutside)) none,
   ent [47, 97, 47, 99] .file none (some 0o644)]

/-- An archive with one complete version whose only hunk is `unsHunk`. -/
def unsStore : Store :=
  [ (.root, .dir), (.header, .header [48, 46, 54]), (.blockRoot, .dir),
    (.bandDir 0, .dir), (.bandHead 0, .head .ok []), (.indexDir 0, .dir), (.hunkDir 0 0, .dir),
    (.hunk 0 0, .hunk unsHunk), (.bandTail 0, .tail (some 1)) ]

/-- What `restore` returns for it: `/a/c` is dropped by the guard, the rest comes through in index
order — the symlink `/a` AFTER two entries below it. -/
def unsNodes : List RNode :=
  [{ apath := [47], kind := .dir, unixMode := some 0o755 },
   { apath := [47, 97, 47, 98], kind := .dir, unixMode := some 0o700 },
   { apath := [47, 97, 47, 98, 47, 102], kind := .file, unixMode := some 0o644 },
   { apath := [47, 97], kind := .symlink, target := some ([46, 46, 47] ++ sOutside) }]

theorem unsStore_nodes :
    okVal ((restore id (.specified 0) [47] (fun _ => false)).run (World.clean unsStore)).1 = some unsNodes := by
  decide +kernel

/-- The witness archive is outside `ArchWF` (its hunk is not increasing), and the nodes are outside
`ConfinableL`, the hypothesis of the earlier file-system theorem: the symlink entry `/a` is a proper
ancestor of the entry `/a/b`. -/
example : bandsSorted unsStore = false := by decide +kernel
example : ¬ ConfinableL unsNodes := fun h =>
  h.anc { apath := [47, 97], kind := .symlink, target := some ([46, 46, 47] ++ sOutside) } (by decide)
    { apath := [47, 97, 47, 98], kind := .dir, unixMode := some 0o700 } (by decide)
    (by decide) (by decide) (by decide) rfl

/-- The apaths are pairwise distinct: the hypothesis of `restore_archive_confined_distinct`. -/
theorem unsNodes_distinct : unsNodes.Pairwise (fun a b => a.apath ≠ b.apath) := by decide

/-- `restore_archive_confined_distinct` applies to it: nothing outside `/sandbox/dest` changes. -/
example : ∀ p, ¬ under destW p →
    (restoreToFs fsW destW false unsNodes nobody nobody).1.node p = fsW.node p :=
  restore_archive_confined_distinct id unsStore (.specified 0) [47] (fun _ => false) _ unsNodes fsW destW
    nobody nobody (run_of_okVal unsStore_nodes) unsNodes_distinct fsW_wf destW_plain destW_isDir

theorem unsRun :
    (restoreToFs fsW destW false unsNodes nobody nobody).2 =
      ([{ what := .restoreSymlink, apath := [47, 97], errno := some .EEXIST }], none) ∧
    (restoreToFs fsW destW false unsNodes nobody nobody).1.node (destW ++ [[97], [98]]) =
      some (.dir 0o700 0 0 (.at 0)) ∧
    (restoreToFs fsW destW false unsNodes nobody nobody).1.node (destW ++ [[97], [98], [102]]) =
      some (.file [] 0o644 0 0 (.at 0)) ∧
    (restoreToFs fsW destW false unsNodes nobody nobody).1.node [[115, 97, 110, 100, 98, 111, 120], sOutside] =
      fsW.node [[115, 97, 110, 100, 98, 111, 120], sOutside] := by
  decide +kernel

/-- What happens in the witness: `dest/a` and `dest/a/b` are made by `create_dir_all`, the file lands in
`dest/a/b`, `symlink(dest/a)` is refused with EEXIST (reported), the deferred mode 0o700 is applied to
`dest/a/b` itself, and `/sandbox/outside` is as before. -/
example : (restoreToFs fsW destW false unsNodes nobody nobody).2 =
    ([{ what := .restoreSymlink, apath := [47, 97], errno := some .EEXIST }], none) := unsRun.1
example : (restoreToFs fsW destW false unsNodes nobody nobody).1.node (destW ++ [[97], [98]]) =
    some (.dir 0o700 0 0 (.at 0)) := unsRun.2.1
example : (restoreToFs fsW destW false unsNodes nobody nobody).1.node (destW ++ [[97], [98], [102]]) =
    some (.file [] 0o644 0 0 (.at 0)) := unsRun.2.2.1
example : (restoreToFs fsW destW false unsNodes nobody nobody).1.node [[115, 97, 110, 100, 98, 111, 120], sOutside] =
    fsW.node [[115, 97, 110, 100, 98, 111, 120], sOutside] := unsRun.2.2.2

/-- The hypothesis of `restore_archive_confined_ordered` is strictly weaker than distinctness: an
apath of a FILE (or directory) listed twice is allowed, only a symlink's may not come again. -/
example : NoRepeatAfterLink
    [{ apath := [47, 102], kind := .file }, { apath := [47, 102], kind := .file, content := [1] },
     { apath := [47, 108], kind := .symlink, target := some [120] }] := by decide

/-- A list that exercises the BLOCKED case of the proof: `/f` as a file, then `/f` again as a
DIRECTORY with a child.  `create_dir_all(dest/f)` says EEXIST, which `restore_dir` accepts, so a
deferral is registered for a path that is a file (its mode 0o700 ends up on the file); `dest/f/x` is
ENOTDIR.  The ordered hypothesis holds (there is no symlink entry before anything), so
`restore_confined_ordered` applies. -/
def blockedNodes : List RNode :=
  [{ apath := [47, 102], kind := .file, unixMode := some 0o644 },
   { apath := [47, 102], kind := .dir, unixMode := some 0o700 },
   { apath := [47, 102, 47, 120], kind := .dir, unixMode := some 0o711 },
   { apath := [47, 102, 47, 120], kind := .symlink, target := some ([46, 46, 47, 46, 46, 47] ++ sOutside) }]

instance : DecidableRel NotBelowLink := fun a b => by unfold NotBelowLink; exact inferInstance

example : ∀ p, ¬ under destW p →
    (restoreToFs fsW destW false blockedNodes nobody nobody).1.node p = fsW.node p := fun p hp =>
  (restore_confined_ordered fsW destW blockedNodes nobody nobody false (by decide) (by decide) fsW_wf
    destW_plain).1 p hp (Or.inr (by decide))
theorem blockedRun :
    (restoreToFs fsW destW false blockedNodes nobody nobody).1.node (destW ++ [[102]]) =
      some (.file [] 0o700 0 0 (.at 0)) ∧
    (restoreToFs fsW destW false blockedNodes nobody nobody).2 =
      ([{ what := .restoreDirectory, apath := [47, 102, 47, 120], errno := some .ENOTDIR },
        { what := .restoreSymlink, apath := [47, 102, 47, 120], errno := some .ENOTDIR }], none) := by
  decide +kernel
example : (restoreToFs fsW destW false blockedNodes nobody nobody).1.node (destW ++ [[102]]) =
    some (.file [] 0o700 0 0 (.at 0)) := blockedRun.1
example : (restoreToFs fsW destW false blockedNodes nobody nobody).2 =
    ([{ what := .restoreDirectory, apath := [47, 102, 47, 120], errno := some .ENOTDIR },
      { what := .restoreSymlink, apath := [47, 102, 47, 120], errno := some .ENOTDIR }], none) := blockedRun.2

/-- The hypothesis cannot be dropped: the refuting witness of
`C16e.restore_archive_confined_any_store_refuted` lists `/a` as a symlink and then `/a` again — exactly
what `NoRepeatAfterLink` forbids. -/
example : ¬ NoRepeatAfterLink dupNodes := by decide

/-- The hypothesis of `restore_confined_ordered` holds of `unsNodes` (from the archive run and their
distinct apaths): the symlink entry comes LAST and both other entries lie below it. -/
example : unsNodes.Pairwise NotBelowLink :=
  (restore_nodes_notBelowLink id (.specified 0) [47] (fun _ => false) _ _ unsNodes
    (run_of_okVal unsStore_nodes) (noRepeatAfterLink_of_distinct unsNodes_distinct)).2

end Conserve.Gaps

#print axioms Conserve.Gaps.restore_confined_ordered
#print axioms Conserve.Gaps.restore_archive_confined_ordered
#print axioms Conserve.Gaps.restore_archive_confined_distinct
#print axioms Conserve.Gaps.endToEnd_confined_ordered
