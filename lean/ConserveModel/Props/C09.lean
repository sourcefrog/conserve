import ConserveModel.Proofs.ValidateExample
import ConserveModel.Proofs.ValidateTrailing
/-
C09 — Validate is accurate: silent on healthy archives, loud on damage.

"On any archive produced by fault-free operations (completed and interrupted-with-header backups,
deletes, gc) validation reports no error.  If any stored file is removed or made undecodable, or
any data block's bytes are altered, such that some version no longer restores exactly, validation
reports at least one error (full validation for content damage; quick validation for missing
files)."

The CODE is `validate` (Validate.lean: `Archive::validate`, `validate_bands`, `Band::validate`,
`validate_stored_tree`, `BlockDir::validate`, `get_async_uncached`) run after `archiveOpen`
(`check` = what `conserve validate` does).  All theorems are about the fault-free, crash-free world
`World.clean s` (`validate_spec_quiet`: any world without faults).

§1  FUNCTIONAL SPEC.  `validateErrors H quick s` (ValidateSpec.lean) is a pure function of the
    store built from the listing rule of C08 (`listSpec`, `listErrors`); `validate_spec` says the
    program returns `ok`, changes nothing and emits exactly these errors, in this order.
§2  SILENT.  `Good H s` = `Conforms H s` (Invariants.lean: the documented format, crash leftovers
    included) + the store is a function and a tree + every version directory has a readable head
    (`AllHeadsReadable`: the property covers "interrupted-WITH-header" only) + stored values are in
    range (`entriesInRange`: representable times, no `u64` overflow — what `IndexEntry::check` asks
    beyond `entryConforms`; `Conforms` does not say it).  Then neither mode reports anything.
§3–5 LOUD.  Damage is a relation `DamagedAt k d s s'`: the file at `k` is now absent (`d = none`) or
    holds `d = some v`, every other path is untouched, `s'` is still a function.  The byte-level
    damage domain {delete, truncate to 0, truncate to half, garbage, bit flips} is abstracted to
    typed values: absent, `.empty`, `.junk _` (does not decompress / parse), and for blocks
    `.blockData c'` with another content.  Blocks, index hunks, band heads, the archive header.
§6  Before the repair of D8 the hunk theorem was false (`validate_hunk_damage_refuted_before_repair`).
§7  The full "every damage that changes a version is reported" (`DetectsStatement`) is REFUTED by
    one case the format cannot see — the last hunk of a version that has no tail count — and
    proved for everything else (`detects_partial`).
-/
set_option linter.unusedSimpArgs false
namespace Conserve.C09
open Conserve

variable (H : Str → Str)

/-! ## 1. What `validate` reports, as a function of the store -/

/-- **validate_spec.**  On every store that is well-formed for listing (`ArchWF`, C08) and has the
archive directory and `d/`, `validate` (full or quick) runs to the end, writes nothing, and the
error events are exactly `validateErrors H quick s` (ValidateSpec.lean), in order of occurrence (the
world keeps events newest first). -/
theorem validate_spec {s : Store} (ok : ArchOK s) (quick : Bool) :
    ((validate H quick).run (World.clean s)).1 = .ok () ∧
    ((validate H quick).run (World.clean s)).2.store = s ∧
    ((validate H quick).run (World.clean s)).2.events =
      ((validateErrors H quick s).map Event.error).reverse :=
  (reads_validate H ok quick).clean

set_option linter.unusedVariables false in
/-- The same in any quiet world (no faults, not dead), whatever happened before.  `hc` is not used:
`validate` writes nothing, and only writes count towards the crash point. -/
theorem validate_spec_quiet {s : Store} (ok : ArchOK s) (quick : Bool) {evs : List Event} {w : World}
    (hq : Quiet s evs w) (hc : w.crashAt = none) :
    ((validate H quick).run w).1 = .ok () ∧
    Quiet s (((validateErrors H quick s).map Event.error).reverse ++ evs) ((validate H quick).run w).2 := by
  obtain ⟨w', h, q⟩ := reads_validate H ok quick hq
  rw [h]
  exact ⟨rfl, q⟩

/-- `conserve validate` = `Archive::open` then `validate`: a header that does not open ends the run
with that error (and no event); otherwise as `validate_spec`. -/
theorem check_spec {s : Store} (ok : ArchOK s) (quick : Bool) :
    ((check H quick).run (World.clean s)).1 =
        (match headerError s with
         | none => Outcome.ok ()
         | some e => Outcome.err e) ∧
      ((check H quick).run (World.clean s)).2.store = s ∧
      ((check H quick).run (World.clean s)).2.events =
        (match headerError s with
         | none => ((validateErrors H quick s).map Event.error).reverse
         | some _ => []) := by
  have := (reads_check H ok quick).clean
  cases hh : headerError s <;> rw [hh] at this <;> exact this

/-- `referenced`: the table `validate` checks blocks against holds every address of every file
entry of every opened version's listing (with at least the length asked). -/
theorem referenced_complete {s : Store} {b : Nat} {e : IndexEntry} {a : Addr} (hb : b ∈ bandIdsOf s)
    (hh : headError s b = none) (he : e ∈ listSpec s b) (hk : e.kind = .file) (ha : a ∈ e.addrs) :
    ∃ n, (a.hash, n) ∈ referencedOf s ∧ a.start + a.len ≤ n := referenced_covers hb hh he hk ha

/-- The error `Band::open` gives is the one the listing of C08 names for an unreadable version. -/
theorem headError_is_unreadableError {s : Store} {b : Nat} {e : Err} (h : headError s b = some e) :
    e = unreadableError s b := by
  unfold headError at h
  unfold unreadableError
  cases hg : s.get? (.bandHead b) with
  | none => simp [hg] at h; exact h.symm
  | some v =>
    rw [hg] at h
    cases v with
    | head ver flags =>
      cases ver <;> simp at h ⊢
      · obtain ⟨hf, rfl⟩ := h; simp [hf]
      · obtain ⟨hf, rfl⟩ := h; simp [hf]
      · exact h.symm
      · exact h.symm
    | _ => simp at h ⊢; exact h.symm

/-! ## 2. Silent on healthy archives -/

/-- **validate_silent_on_good.**  On a healthy archive (`Good H s`, see the file header) full and
quick validation both run to the end and emit NO event at all. -/
theorem validate_silent_on_good {s : Store} (g : Good H s) (quick : Bool) :
    ((validate H quick).run (World.clean s)).1 = .ok () ∧
    ((validate H quick).run (World.clean s)).2.store = s ∧
    ((validate H quick).run (World.clean s)).2.events = [] := by
  have := validate_spec H g.archOK quick
  rw [g.validateErrors_nil quick] at this
  exact this

/-- The same through the driver: the header opens, nothing is reported. -/
theorem check_silent_on_good {s : Store} (g : Good H s) (quick : Bool) :
    ((check H quick).run (World.clean s)).1 = .ok () ∧
    ((check H quick).run (World.clean s)).2.events = [] := by
  have hh : headerError s = none := by simp [headerError, g.header]
  have := check_spec H g.archOK quick
  rw [hh, g.validateErrors_nil quick] at this
  exact ⟨this.1, this.2.2⟩

/-- What makes it silent, piece by piece: every version opens, its listing reports nothing
(hunks numbered 0,1,2,…, as many as the tail says, a zero-length hunk only as the last one of a
version without tail — exactly what `check_index_hunks` accepts — and every hunk usable), every
referenced address lies inside a present, correctly named block, and every present block reads back. -/
theorem good_pieces {s : Store} (g : Good H s) :
    (∀ b ∈ bandIdsOf s, headError s b = none ∧ listErrors s b = []) ∧
    (∀ p ∈ referencedOf s, ∃ c, s.get? (.block p.1) = some (.blockData c) ∧ H c = p.1 ∧ p.2 ≤ c.length) ∧
    (∀ p ∈ referencedOf s, p.1 ∈ blockNamesOf s) ∧
    (presentSorted s).filterMap (blockReadError H s) = [] := by
  refine ⟨fun x hx => ⟨g.headError_none hx, g.listErrors_nil hx⟩, g.referenced_resolve,
   fun p hp => g.resolves_present (g.referenced_resolve p hp), ?_⟩
  have := g.validateErrors_nil false
  simp only [validateErrors, Bool.false_eq_true, if_false, List.append_eq_nil_iff] at this
  exact this.2.1

/-- The archive a history of fault-free operations starts from. -/
def initArchive : Store := [(.root, .dir), (.header, .header [48, 46, 54]), (.blockRoot, .dir)]

/-- Archives produced by fault-free operations: backups that complete or are interrupted at any
micro-step (`crashAt`), and delete / gc (`deleteBands`, `D = []` is a plain gc). -/
inductive Produced : Store → Prop
  | init : Produced initArchive
  | backup {s : Store} (o : BackupOpts) (src : List SrcEntry) (crashAt : Option Nat) : Produced s →
      Produced ((backup H o src).run { store := s, crashAt := crashAt }).2.store
  | delete {s : Store} (D : List Nat) (o : DeleteOpts) : Produced s →
      Produced ((deleteBands true D o).run (World.clean s)).2.store

/-- The first sentence of the property at full strength.  As it stands it is FALSE in the model
(Props/C09p.lean, `silent_on_produced_refuted_*`: a source entry that `backup` stores but
`validate` rejects); it is proved there for histories over admissible sources
(`C09p.silent_on_produced`, `ProducedOK`).  `validate_silent_on_good` is the part of the statement
that concerns `validate`; the harness checks the statement itself on every state of every
generated history. -/
def SilentOnProducedStatement : Prop :=
  ∀ s, Produced H s → AllHeadsReadable s → ∀ quick,
    ((validate H quick).run (World.clean s)).1 = .ok () ∧
    ((validate H quick).run (World.clean s)).2.events = []

theorem silent_on_produced_partial
    (hinv : ∀ s, Produced H s →
      Conforms H s = true ∧ keysNodup s = true ∧ treeShaped s = true ∧ entriesInRange s = true) :
    SilentOnProducedStatement H := by
  intro s hp hh quick
  obtain ⟨h1, h2, h3, h4⟩ := hinv s hp
  have := validate_silent_on_good H ⟨h1, h2, h3, hh, h4⟩ quick
  exact ⟨this.1, this.2.2⟩

theorem damaged_events {s s' : Store} {k : Key} {d : Option FileVal} (g : Good H s) (dm : DamagedAt k d s s')
    (hnh : ∀ es, d ≠ some (.hunk es)) (quick : Bool) {e : Err}
    (he : e ∈ validateErrors H quick s') :
    ((validate H quick).run (World.clean s')).1 = .ok () ∧
    Event.error e ∈ ((validate H quick).run (World.clean s')).2.events := by
  obtain ⟨h1, _, h3⟩ := validate_spec H (dm.archOK hnh g.archOK) quick
  exact ⟨h1, by rw [h3]; exact mem_evsOf.mpr he⟩

/-! ## 3. Blocks -/

/-- The damage domain for a block file named `h`: removed, truncated to nothing, bytes that do
not decompress, or bytes that decompress to something whose hash is not `h` (truncation to half,
garbage and bit flips are one of the last two). -/
def BlockDamage (h : Str) (d : Option FileVal) : Prop :=
  d = none ∨ d = some .empty ∨ (∃ i, d = some (.junk i)) ∨ ∃ c, d = some (.blockData c) ∧ H c ≠ h

theorem BlockDamage.notHunk {h : Str} {d : Option FileVal} (hd : BlockDamage H h d) :
    ∀ es, d ≠ some (.hunk es) := by
  intro es he
  rcases hd with rfl | rfl | ⟨i, rfl⟩ | ⟨c, rfl, _⟩ <;> cases he

theorem blockDamage_of_injective (hinj : Function.Injective H) {c c' : Str} (hne : c' ≠ c) :
    BlockDamage H (H c) (some (.blockData c')) :=
  Or.inr (Or.inr (Or.inr ⟨c', rfl, fun e => hne (hinj e)⟩))

/-- **validate_detects_block_damage.**  `s` healthy, `s'` differs from `s` only in the file of
block `h` (removed / emptied / undecodable / other content), and some version's listing has a file
entry with an address in `h` (so that version no longer restores exactly): FULL validation of `s'`
runs to the end and reports `blockMissing h` (step 3b: the block is not among those that read
back — missing, does not decode, or its hash is not its name because validation recomputes `H`). -/
theorem validate_detects_block_damage {s s' : Store} {h : Str} {d : Option FileVal} (g : Good H s)
    (dm : DamagedAt (.block h) d s s') (hd : BlockDamage H h d) (href : Referenced s h) :
    ((validate H false).run (World.clean s')).1 = .ok () ∧
    Event.error (.blockMissing h) ∈ ((validate H false).run (World.clean s')).2.events := by
  refine damaged_events H g dm hd.notHunk false (block_damage_detected g dm href ?_)
  intro c hc
  rcases hd with rfl | rfl | ⟨i, rfl⟩ | ⟨c', rfl, hne⟩
  · cases hc
  · cases hc
  · cases hc
  · cases hc; exact hne

/-- Altered bytes are also reported as what they are: `blockCorrupt h`, from `get_async_uncached`
comparing the hash of what it read with the name (`H c' ≠ h`, e.g. `H` injective and `c' ≠ c`).
This does not need the block to be referenced. -/
theorem validate_reports_corrupt_block {s s' : Store} {h c' : Str} (g : Good H s)
    (dm : DamagedAt (.block h) (some (.blockData c')) s s') (hbad : H c' ≠ h) :
    Event.error (.blockCorrupt h) ∈ ((validate H false).run (World.clean s')).2.events :=
  (damaged_events H g dm (by simp) false (block_corrupt_detected g dm hbad)).2

/-- If the hash does not notice (a collision `H c' = h`: impossible for an injective `H`), content
that is shorter than some listed address needs is still reported: `blockTooShort h`, from comparing
the referenced length with the decompressed length. -/
theorem validate_detects_short_block {s s' : Store} {h c' : Str} (g : Good H s)
    (dm : DamagedAt (.block h) (some (.blockData c')) s s') (hcol : H c' = h)
    {b : Nat} {e : IndexEntry} {a : Addr} (hb : b ∈ bandIdsOf s) (he : e ∈ listSpec s b)
    (hk : e.kind = .file) (ha : a ∈ e.addrs) (hah : a.hash = h) (hshort : c'.length < a.start + a.len) :
    Event.error (.blockTooShort h) ∈ ((validate H false).run (World.clean s')).2.events :=
  (damaged_events H g dm (by simp) false
    (block_too_short_detected g dm hcol hb he hk ha hah hshort)).2

/-- A block file that no longer decompresses is reported with a decode error. -/
theorem validate_reports_undecodable_block {s s' : Store} {h : Str} {i : Nat} (g : Good H s)
    (dm : DamagedAt (.block h) (some (.junk i)) s s') :
    Event.error .json ∈ ((validate H false).run (World.clean s')).2.events :=
  (damaged_events H g dm (by simp) false (block_junk_detected g dm)).2

/-- **validate_quick_detects_missing_block.**  A referenced block file that was removed or
truncated to nothing is reported by QUICK validation (`list_blocks` only sees non-empty files). -/
theorem validate_quick_detects_missing_block {s s' : Store} {h : Str} {d : Option FileVal} (g : Good H s)
    (dm : DamagedAt (.block h) d s s') (hd : d = none ∨ d = some .empty) (href : Referenced s h) :
    ((validate H true).run (World.clean s')).1 = .ok () ∧
    Event.error (.blockMissing h) ∈ ((validate H true).run (World.clean s')).2.events :=
  damaged_events H g dm (by intro es he; rcases hd with rfl | rfl <;> cases he) true
    (block_missing_detected_quick g dm href hd)

/-- "Some version no longer restores exactly" for block damage: if the content some listed entry
reads back changed, a file entry refers to the damaged block. -/
theorem referenced_of_readBack_changed {s s' : Store} {h : Str} {d : Option FileVal} (g : Good H s)
    (dm : DamagedAt (.block h) d s s') {b : Nat} (hb : b ∈ bandIdsOf s) {e : IndexEntry}
    (he : e ∈ listSpec s b) (hch : readBack H s' e.addrs ≠ readBack H s e.addrs) : Referenced s h := by
  have hex : ∃ a ∈ e.addrs, a.hash = h := by
    apply Classical.byContradiction
    intro hn
    exact hch (readBack_congr H _ fun a ha => dm.same _ fun e' => hn ⟨a, ha, Key.block.inj e'⟩)
  obtain ⟨a, ha, hah⟩ := hex
  have hc := g.listed_conforms he
  have hk : e.kind = .file := by
    unfold entryConforms at hc
    cases hkind : e.kind with
    | file => rfl
    | _ =>
      rw [hkind] at hc
      simp only [Bool.and_eq_true, List.isEmpty_iff] at hc
      first
        | (rw [hc.2.1] at ha; simp at ha)
        | simp at hc
  exact ⟨b, hb, e, he, hk, a, ha, hah⟩

/-! ## 4. Index hunks -/

/-- The damage domain for index hunks, band heads and the header: removed, truncated to nothing,
or bytes that do not decompress / parse. -/
def FileDamage (d : Option FileVal) : Prop := d = none ∨ d = some .empty ∨ ∃ i, d = some (.junk i)

theorem FileDamage.notHunk {d : Option FileVal} (hd : FileDamage d) : ∀ es, d ≠ some (.hunk es) := by
  intro es he
  rcases hd with rfl | rfl | ⟨i, rfl⟩ <;> cases he

/-- When the format lets anyone see that hunk `n` of version `b` was damaged: the bytes are
undecodable; or the tail states the hunk count; or `n` is not the last hunk. -/
def HunkDetectable (s : Store) (b n : Nat) (d : Option FileVal) : Prop :=
  (∃ i, d = some (.junk i)) ∨ (∃ c, s.get? (.bandTail b) = some (.tail (some c))) ∨
    n + 1 < (hunkNumsOf s b).length

/-- **validate_detects_hunk_damage.**  `s` healthy, `s'` differs only in hunk file `n` of version `b`
(removed / emptied / undecodable), detectable in the sense above.  Then full AND quick validation
of `s'` run to the end and report an error:
* removed: `check_index_hunks` finds the count different from the tail's, or a gap in the numbering
  (`invalidMetadata`);
* emptied: a zero-length hunk that is not the last one of a version without tail (`invalidMetadata`);
* undecodable: the hunk iterator reports the decode error (`json`) instead of swallowing it. -/
theorem validate_detects_hunk_damage {s s' : Store} {b n : Nat} {d : Option FileVal} (g : Good H s)
    (dm : DamagedAt (.hunk b n) d s s') (hd : FileDamage d) (hdet : HunkDetectable s b n d) (quick : Bool) :
    ((validate H quick).run (World.clean s')).1 = .ok () ∧
    ∃ e, Event.error e ∈ ((validate H quick).run (World.clean s')).2.events ∧
      (e = .invalidMetadata ∨ e = .json) := by
  obtain ⟨e, he, hk⟩ := hunk_damage_detected (H := H) g dm hd hdet quick
  obtain ⟨h1, h2⟩ := damaged_events H g dm hd.notHunk quick he
  exact ⟨h1, e, h2, hk⟩

/-- Every hunk of a COMPLETE version (the tail states the count) is covered, whatever the damage. -/
theorem validate_detects_hunk_damage_complete {s s' : Store} {b n c : Nat} {d : Option FileVal} (g : Good H s)
    (hc : s.get? (.bandTail b) = some (.tail (some c)))
    (dm : DamagedAt (.hunk b n) d s s') (hd : FileDamage d) (quick : Bool) :
    ∃ e, Event.error e ∈ ((validate H quick).run (World.clean s')).2.events :=
  let ⟨e, he, _⟩ := (validate_detects_hunk_damage H g dm hd (Or.inr (Or.inl ⟨c, hc⟩)) quick).2
  ⟨e, he⟩

/-- In an INCOMPLETE version a missing (or emptied, or undecodable) hunk that is not the last one
leaves a gap (or a misplaced zero-length file) and is reported. -/
theorem validate_detects_middle_hunk_damage {s s' : Store} {b n : Nat} {d : Option FileVal} (g : Good H s)
    (hmid : n + 1 < (hunkNumsOf s b).length)
    (dm : DamagedAt (.hunk b n) d s s') (hd : FileDamage d) (quick : Bool) :
    ∃ e, Event.error e ∈ ((validate H quick).run (World.clean s')).2.events :=
  let ⟨e, he, _⟩ := (validate_detects_hunk_damage H g dm hd (Or.inr (Or.inr hmid)) quick).2
  ⟨e, he⟩

/-- **trailing_hunk_loss_undetectable.**  The one case left, in general: `s` healthy, version `b` has no
tail, and its LAST hunk file is removed.  Then `s'` is healthy too — it is exactly the archive an
interruption one hunk earlier leaves (`good_of_trailing_hunk_loss`) — so full and quick validation of
`s'` are silent.  Nothing in the format (no tail, no count) distinguishes the two stores: a limitation
of the format, outside what `validate` can report. -/
theorem trailing_hunk_loss_undetectable {s s' : Store} {b n : Nat} (g : Good H s)
    (dm : DamagedAt (.hunk b n) none s s') (hopen : s.get? (.bandTail b) = none)
    (hlast : n + 1 = (hunkNumsOf s b).length) (quick : Bool) :
    Good H s' ∧ ((check H quick).run (World.clean s')).1 = .ok () ∧
      ((check H quick).run (World.clean s')).2.events = [] :=
  have g' := good_of_trailing_hunk_loss g dm hopen hlast
  ⟨g', check_silent_on_good H g' quick⟩

/-- **open_band_trailing_hunk_loss_undetectable.**  … and it does change what the version lists.
Witness: `exOpen` (one interrupted version, hunks `/` and `/a`) is healthy; after losing hunk 1 the
store `exOpenDel` is ALSO healthy, so both validations are silent on it, although the listing of the
version changed (`/a` is gone). -/
theorem open_band_trailing_hunk_loss_undetectable :
    Good id C09Ex.exOpen ∧ isComplete C09Ex.exOpen 0 = false ∧
    DamagedAt (.hunk 0 1) none C09Ex.exOpen C09Ex.exOpenDel ∧
    listSpec C09Ex.exOpenDel 0 ≠ listSpec C09Ex.exOpen 0 ∧
    Good id C09Ex.exOpenDel ∧
    ∀ quick, ((check id quick).run (World.clean C09Ex.exOpenDel)).1 = .ok () ∧
      ((check id quick).run (World.clean C09Ex.exOpenDel)).2.events = [] := by
  refine ⟨C09Ex.exOpen_good, by decide +kernel, C09Ex.exOpenDel_damaged, ?_, C09Ex.exOpenDel_good,
    fun quick => check_silent_on_good id C09Ex.exOpenDel_good quick⟩
  rw [C09Ex.exOpen_list, C09Ex.exOpenDel_list]
  decide

/-! ## 5. Band heads and the archive header -/

/-- **validate_detects_head_damage.**  A BANDHEAD that is removed, emptied or undecodable: `Band::open`
fails and `validate_bands` reports it — `bandHeadMissing b` for a removed head, a decode error
otherwise — under full and quick validation alike.  (Removing a BANDTAIL is not damage: the version
becomes "incomplete", a legal state.) -/
theorem validate_detects_head_damage {s s' : Store} {b : Nat} {d : Option FileVal} (g : Good H s)
    (dm : DamagedAt (.bandHead b) d s s') (hd : FileDamage d) (quick : Bool) :
    ((validate H quick).run (World.clean s')).1 = .ok () ∧
    Event.error (if d = none then Err.bandHeadMissing b else Err.json) ∈
      ((validate H quick).run (World.clean s')).2.events :=
  damaged_events H g dm hd.notHunk quick (head_damage_detected g dm hd quick)

/-- **Header damage.**  `conserve validate` opens the archive first; a CONSERVE file that is removed,
emptied or undecodable makes `Archive::open` fail (`notAnArchive` / a decode error): the run ends
with that error. -/
theorem check_detects_header_damage {s s' : Store} {d : Option FileVal}
    (dm : DamagedAt .header d s s') (hd : FileDamage d) (quick : Bool) :
    ((check H quick).run (World.clean s')).1 = .err (if d = none then Err.notAnArchive else Err.json) := by
  have hopen := reads_archiveOpen s'
  have hh : headerError s' = some (if d = none then Err.notAnArchive else Err.json) := by
    unfold headerError
    rw [dm.now]
    rcases hd with rfl | rfl | ⟨i, rfl⟩ <;> rfl
  rw [hh] at hopen
  exact (hopen.bind_err (k := fun _ => validate H quick)).clean.1

/-! ## 6. Before the repair of D8 -/

/-- **validate_hunk_damage_refuted_before_repair.**  With the index reader as it was (read errors
swallowed by `IndexHunkIter::next`; no `check_index_hunks`: `validateSilent`, Proofs/ValidateSilent.lean)
the hunk theorem is false.  Witness: `ex` — one complete version with hunks 0,1,2 holding `/`, `/a`,
`/b`, tail count 3 — is healthy; delete hunk 1 of 3.  The version now lists `/ /b` instead of
`/ /a /b` (it no longer restores exactly), yet the old validation, full and quick, emits no event;
the current model reports an error in both modes. -/
theorem validate_hunk_damage_refuted_before_repair :
    Good id C09Ex.ex ∧ C09Ex.ex.get? (.bandTail 0) = some (.tail (some 3)) ∧
    DamagedAt (.hunk 0 1) none C09Ex.ex C09Ex.exDel ∧
    listSpec C09Ex.ex 0 = [C09Ex.eRoot, C09Ex.eA, C09Ex.eB] ∧
    listSpec C09Ex.exDel 0 = [C09Ex.eRoot, C09Ex.eB] ∧
    (∀ quick, ((validateSilent id quick).run (World.clean C09Ex.exDel)).2.events = []) ∧
    (∀ quick, ∃ e, Event.error e ∈ ((validate id quick).run (World.clean C09Ex.exDel)).2.events) :=
  ⟨C09Ex.ex_good, by decide +kernel, C09Ex.exDel_damaged, C09Ex.ex_list, C09Ex.exDel_list,
   C09Ex.exDel_silent,
   fun quick => validate_detects_hunk_damage_complete id C09Ex.ex_good (c := 3) (by decide +kernel)
     C09Ex.exDel_damaged (Or.inl rfl) quick⟩

/-! ## 7. The second sentence of the property as one statement -/

/-- The damage domain: header, band heads and index hunks × {removed, emptied, undecodable};
blocks additionally × {other content}.  Tails are excluded, as in the property. -/
def IsDamage : Key → Option FileVal → Prop
  | .header, d => FileDamage d
  | .bandHead _, d => FileDamage d
  | .hunk _ _, d => FileDamage d
  | .block h, d => BlockDamage H h d
  | _, _ => False

/-- "Some version no longer restores exactly": the listing of some version changed, or the
content one of its entries reads back did (restore creates exactly the listed entries with the
content their addresses read back). -/
def VersionChanged (s s' : Store) : Prop :=
  ∃ b ∈ bandIdsOf s, listSpec s' b ≠ listSpec s b ∨
    ∃ e ∈ listSpec s b, readBack H s' e.addrs ≠ readBack H s e.addrs

/-- "Validation reports at least one error": the run ends with an error or emits an error event. -/
def ReportsError (quick : Bool) (s : Store) : Prop :=
  (∃ e, ((check H quick).run (World.clean s)).1 = .err e) ∨
  ∃ e, Event.error e ∈ ((check H quick).run (World.clean s)).2.events

/-- The second sentence at full strength (full validation). -/
def DetectsStatement : Prop :=
  ∀ (s s' : Store) (k : Key) (d : Option FileVal), Good H s → DamagedAt k d s s' → IsDamage H k d →
    VersionChanged H s s' → ReportsError H false s'

/-- … and its quick-validation half: removed files. -/
def QuickDetectsMissingStatement : Prop :=
  ∀ (s s' : Store) (k : Key), Good H s → DamagedAt k none s s' → IsDamage H k none →
    VersionChanged H s s' → ReportsError H true s'

theorem events_of_check {s : Store} (ok : ArchOK s) (hh : headerError s = none) (quick : Bool) :
    ((check H quick).run (World.clean s)).2.events = ((validate H quick).run (World.clean s)).2.events := by
  have h1 := (check_spec H ok quick).2.2
  rw [hh] at h1
  rw [h1, (validate_spec H ok quick).2.2]

theorem reportsError_of_event {s : Store} (ok : ArchOK s) (hh : headerError s = none) {quick : Bool} {e : Err}
    (he : Event.error e ∈ ((validate H quick).run (World.clean s)).2.events) : ReportsError H quick s :=
  Or.inr ⟨e, by rw [events_of_check H ok hh quick]; exact he⟩

/-- **detects_partial.**  Everything except the one case the format cannot see: if the damaged
file is an index hunk, the damage must be `HunkDetectable` (undecodable bytes, or a tail count, or
not the last hunk).  Full validation; for removed files also quick validation. -/
theorem detects_partial {s s' : Store} {k : Key} {d : Option FileVal} (g : Good H s)
    (dm : DamagedAt k d s s') (hd : IsDamage H k d) (hch : VersionChanged H s s')
    (hdet : ∀ b n, k = .hunk b n → HunkDetectable s b n d) :
    ReportsError H false s' ∧ (d = none → ReportsError H true s') := by
  have hheader : k ≠ Key.header → headerError s' = none := by
    intro hne
    simp [headerError, dm.same .header (Ne.symm hne), g.header]
  cases k with
  | header =>
    have := fun q => check_detects_header_damage H dm hd q
    exact ⟨Or.inl ⟨_, this false⟩, fun _ => Or.inl ⟨_, this true⟩⟩
  | bandHead b =>
    have ok' := dm.archOK (FileDamage.notHunk hd) g.archOK
    have := fun q => reportsError_of_event H ok' (hheader (by simp)) (validate_detects_head_damage H g dm hd q).2
    exact ⟨this false, fun _ => this true⟩
  | hunk b n =>
    have ok' := dm.archOK (FileDamage.notHunk hd) g.archOK
    have := fun q =>
      let ⟨_, he, _⟩ := (validate_detects_hunk_damage H g dm hd (hdet b n rfl) q).2
      reportsError_of_event H ok' (hheader (by simp)) he
    exact ⟨this false, fun _ => this true⟩
  | block h =>
    have hd' : BlockDamage H h d := hd
    have ok' := dm.archOK hd'.notHunk g.archOK
    have href : Referenced s h := by
      obtain ⟨b, hb, hl | ⟨e, he, hr⟩⟩ := hch
      · exact absurd ((block_indexSame g dm).listSpec_eq b) hl
      · exact referenced_of_readBack_changed H g dm hb he hr
    exact ⟨reportsError_of_event H ok' (hheader (by simp)) (validate_detects_block_damage H g dm hd' href).2,
      fun hn => reportsError_of_event H ok' (hheader (by simp))
        (validate_quick_detects_missing_block H g dm (Or.inl hn) href).2⟩
  | _ => exact absurd hd (by simp [IsDamage])

/-- **detects_refuted.**  At full strength the second sentence is false in the model, for every
hash function that is the identity on the witness (e.g. `id`): losing the last hunk of an
interrupted version changes what that version lists and is reported by nobody
(`open_band_trailing_hunk_loss_undetectable`).  This is inherent in the format — a version without
tail does not say how many hunks it has — not a defect of `validate`. -/
theorem detects_refuted : ¬ DetectsStatement id ∧ ¬ QuickDetectsMissingStatement id := by
  obtain ⟨g, _, dm, hl, _, hs⟩ := open_band_trailing_hunk_loss_undetectable
  have hch : VersionChanged id C09Ex.exOpen C09Ex.exOpenDel :=
    ⟨0, by rw [C09Ex.exOpen_bandIds]; simp, Or.inl hl⟩
  have hno : ∀ quick, ¬ ReportsError id quick C09Ex.exOpenDel := by
    intro quick hr
    obtain ⟨h1, h2⟩ := hs quick
    rcases hr with ⟨e, he⟩ | ⟨e, he⟩
    · rw [h1] at he; cases he
    · rw [h2] at he; cases he
  exact ⟨fun h => hno false (h _ _ _ _ g dm (Or.inl rfl) hch),
    fun h => hno true (h _ _ _ g dm (Or.inl rfl) hch)⟩

/-! ## Non-vacuity -/

/-- The hypotheses of §2–§5 are satisfiable: `ex` (one complete version, three hunks, one block) is healthy. -/
example : Good id C09Ex.ex := C09Ex.ex_good
example : ((validate id false).run (World.clean C09Ex.ex)).2.events = [] :=
  (validate_silent_on_good id C09Ex.ex_good false).2.2
example : Referenced C09Ex.ex [1, 2, 3] := C09Ex.ex_referenced

/-- Flipping bits in block `[1,2,3]` (it now decompresses to `[9]`): full validation says so. -/
example : Event.error (.blockMissing [1, 2, 3]) ∈
    ((validate id false).run (World.clean (C09Ex.ex.put (.block [1, 2, 3]) (.blockData [9])))).2.events :=
  (validate_detects_block_damage id C09Ex.ex_good
    (DamagedAt.put C09Ex.ex_good.nodup ⟨.blockData [1, 2, 3], by decide +kernel, rfl⟩ (by simp))
    (Or.inr (Or.inr (Or.inr ⟨[9], rfl, by decide⟩))) C09Ex.ex_referenced).2

/-- Deleting the block: quick validation says so. -/
example : Event.error (.blockMissing [1, 2, 3]) ∈
    ((validate id true).run (World.clean (C09Ex.ex.erase (.block [1, 2, 3])))).2.events :=
  (validate_quick_detects_missing_block id C09Ex.ex_good
    (DamagedAt.erase C09Ex.ex_good.nodup ⟨.blockData [1, 2, 3], by decide +kernel, rfl⟩)
    (Or.inl rfl) C09Ex.ex_referenced).2

/-- Truncating the head of version 0 to nothing: reported as a decode error, also by quick validation. -/
example : Event.error .json ∈
    ((validate id true).run (World.clean (C09Ex.ex.put (.bandHead 0) .empty))).2.events :=
  (validate_detects_head_damage id C09Ex.ex_good
    (DamagedAt.put C09Ex.ex_good.nodup ⟨.head .ok [], by decide +kernel, rfl⟩ (by simp))
    (Or.inr (Or.inl rfl)) true).2

/-- The archive of Props/C08.lean (`demo`) has a head-less version directory (b0003) and an empty
head (b0005), so it is not `Good` (not "interrupted-with-header"); it is `ArchOK`, so `validate_spec`
applies to it and says what is reported (`bandHeadMissing 3`, a decode error for b0005, …). -/
example : ArchOK C08.demo := ⟨C08.demo_wf, by decide +kernel, by decide +kernel⟩

end Conserve.C09
