import ConserveModel.Proofs.ContainWF
import ConserveModel.Proofs.ExactTop
import ConserveModel.Props.C02h
import ConserveModel.Props.C14p
/-
C10 (full) — containment of single-file damage at the restore level, for every damage class, and
"a new backup after a deleted / emptied file completes and restores exactly".
Continues Props/C10.lean (§6b, §7), whose `c10_partial` names what was missing: (i), (ii), (iii).

(i)  `Contain.good_archWF : Good H s → ArchWF s`, and the symlink hypothesis.  `Conforms` allows a
    listing with an entry below a listed symlink; restore skips such an entry (and reports
    `invalidMetadata`) — damaged archive or not.  `Unshadowed s b` (positional: nothing below a symlink
    listed BEFORE it; implied by C10's `NoSymlinkAbove`) is what clause 2 needs; it FOLLOWS from "version
    `b` restored without complaint before the damage" (`unshadowed_of_silent_restore`), hence holds of
    every version a fault-free backup of a good source wrote (`unshadowed_of_exact`) and is kept by
    histories that keep its restore (`unshadowed_of_sameRestore`, `unshadowed_after_history`).
(ii) Clause 2 for every damage class — `contained_block`, `contained_lost_hunk`, `contained_own_file`
    (head, TAIL, stray file of the version), `contained_elsewhere` (any file of any OTHER version,
    replaced by anything: C02h's `restore_congr`) — assembled in `contained_complete`.  Without
    `Unshadowed`: `contained_complete_weak` (an untouched file is restored exactly OR reported as skipped).
(iii) `backup_after_loss`: after deleting or emptying ANY file but the header of a `Good` archive with
    `KindsOK` and `BlocksSmall`, a fault-free backup of a good source returns, counts no error, completes
    the next version, and that version restores EXACTLY the source, silently
    (`backup_restore_exact_fair`: C01a's `backup_restore_exact` for archives whose versions need not list
    and whose entries may dangle).
`C10StatementFinal` / `c10_statement_final` is the sentence as it is true of the model; the extra
hypotheses are needed (`complete_refuted_symlink`, `complete_refuted_rewritten_hunk`: `C10.C10StatementComplete`
is FALSE as stated; `backup_completes_refuted`: `C10.BackupCompletes` is false from `Good` alone).
The examples at the end instantiate every class on concrete stores and on the archive a real backup wrote.

`C10.BackupCompletes` quantifies over ALL sources; what is proved HERE needs `SrcGood src`, because
`Exact.backupMain_runs` assumes `EntryGood`, sortedness and the 2^64 bound.  The statement for an
arbitrary source listing (`BackupCompletesAnySourceStatement`) is proved in Props/GapsC10f.lean.
-/
set_option linter.unusedSimpArgs false
namespace Conserve.C10f
open Conserve Conserve.NP Conserve.C10 Conserve.Contain

variable {H : Str → Str}

theorem good_listed_readBack {s : Store} (g : C10.Good H s) {n : Nat} {e : IndexEntry} (he : e ∈ listSpec s n)
    (hk : e.kind = .file) : ∃ c, readBack H s e.addrs = some c := by
  obtain ⟨b, x, es, hg, _, hee⟩ := C08.listed_is_stored he
  have hb : b ∈ bandIdsOf s := bandDir_of_hunk (good_dirsOk g) hg
  exact bandOK_readBack (good_bandOK g hb) (n := x) (hunkAt_eq_some_iff.mpr hg) hee hk

theorem restoreOf_spec {s : Store} (wf : ArchWF s) {b : Nat} {nodes : List RNode}
    (hok : (restoreOf H s b).1 = .ok nodes) :
    nodes = (restoreP H s [] (listSpec s b)).1 ∧
    ∀ x, Event.error x ∈ (restoreOf H s b).2.events ↔
      x ∈ listErrors s b ∨ x ∈ (restoreP H s [] (listSpec s b)).2 := by
  have hrun : (restore H (.specified b) [slash] (fun _ => false)).run (World.clean s)
      = (.ok nodes, (restoreOf H s b).2) := Prod.ext hok rfl
  obtain ⟨hn, _, hev⟩ := restore_spec H wf b [slash] (fun _ => false) hrun
  rw [Exact.rootFilter_listSpec] at hn hev
  exact ⟨hn, fun x => by rw [hev, mem_evsOf, List.mem_append]⟩

theorem mem_listSpec_complete {s : Store} {b : Nat} (hc : isComplete s b = true) {e : IndexEntry}
    (he : e ∈ listSpec s b) :
    ∃ n ∈ hunkNumsOf s b, ∃ es, usableHunk s b n = some es ∧ hunkAt s b n = some es ∧ e ∈ es := by
  simp only [listSpec, hc, if_true, List.append_nil] at he
  obtain ⟨n, hn, es, hu, hee⟩ := mem_bandEntries he
  exact ⟨n, hn, es, hu, (usableHunk_mem hu hee).1, hee⟩

/-- No entry of version `b`'s listing lies strictly below a symlink listed BEFORE it: `restore` skips
nothing (`belowSymlink`, Restore.lean — the D11 repair: an entry below a restored symlink is not
written through the link but skipped and reported).  `Conforms` says nothing about this. -/
def Unshadowed (s : Store) (b : Nat) : Prop := Contain.Unshadowed [] (listSpec s b)

theorem unshadowed_of_noSymlinkAbove {s : Store} {b : Nat} (h : NoSymlinkAbove [] (listSpec s b)) :
    Unshadowed s b := Contain.unshadowed_of_noSymlinkAbove h

/-- **unshadowed_of_silent_restore** (gap (i), second half).  If restoring version `b` of the UNDAMAGED
archive (fault-free world) returned and reported nothing, its listing is `Unshadowed`.  So the
hypothesis is "the version restored cleanly before the damage" — what C01a's `Exact` says of every
version a fault-free backup of a walked tree wrote (`restoreSpecifiedSilent`), and what C02h's
`history_keeps_restore` carries through histories. -/
theorem unshadowed_of_silent_restore {s : Store} (wf : ArchWF s) {b : Nat} {nodes : List RNode}
    (hok : (restoreOf H s b).1 = .ok nodes) (hsilent : (restoreOf H s b).2.events = []) : Unshadowed s b := by
  refine unshadowed_of_silent (H := H) (s := s) _ _ (List.eq_nil_iff_forall_not_mem.mpr fun x hx => ?_)
  have := ((restoreOf_spec wf hok).2 x).mpr (.inr hx)
  rw [hsilent] at this
  cases this

/-- Clause 2 WITHOUT the symlink hypothesis (the weak reading asked about in the task): a file whose
hunk and blocks are untouched is restored exactly OR the restore reports `invalidMetadata` (what the
loop reports for an entry it skips below a symlink); the "reported, never a complete node" half is
`Contained`'s. -/
def ContainedW (H : Str → Str) (s s' : Store) (k : Key) (b : Nat) : Prop :=
  ∀ nodes, (restoreOf H s' b).1 = .ok nodes →
    ∀ e ∈ listSpec s b, e.kind = .file →
      ((∃ n es, hunkAt s b n = some es ∧ e ∈ es ∧ k ≠ .hunk b n) ∧ (∀ a ∈ e.addrs, k ≠ .block a.hash) →
        ∃ c, readBack H s e.addrs = some c ∧
          ({ RNode.ofEntry e with content := c } ∈ nodes ∨
            Event.error .invalidMetadata ∈ (restoreOf H s' b).2.events)) ∧
      (readBack H s' e.addrs = none ∨ e ∉ listSpec s' b →
        (∀ nd ∈ nodes, nd.apath = e.apath → nd.complete = false) ∧
        ∃ err, Event.error err ∈ (restoreOf H s' b).2.events)

/-- What every damage class provides: `s'` is `s` with path `k` changed, both well-formed; every listed
file of `s` reads back; the damaged listing of `b` is `l' ++ ext` where `l'` is a sub-list of the old
listing that keeps every entry whose hunk is untouched; either nothing follows (`ext = []`) or
nothing was lost and no block changed; and whenever an entry was lost the listing reports an error. -/
structure CoreArgs (H : Str → Str) (s s' : Store) (k : Key) (b : Nat) (l' ext : List IndexEntry) : Prop where
  wf : ArchWF s
  wf' : ArchWF s'
  hd : Damage s s' k
  hread : ∀ e ∈ listSpec s b, e.kind = .file → ∃ c, readBack H s e.addrs = some c
  hl : listSpec s' b = l' ++ ext
  hsub : l'.Sublist (listSpec s b)
  hkeep : ∀ e ∈ listSpec s b, (∃ n es, hunkAt s b n = some es ∧ e ∈ es ∧ k ≠ .hunk b n) → e ∈ l'
  h2b : ext = [] ∨ ((∀ h, k ≠ .block h) ∧ ∀ e ∈ listSpec s b, e ∈ l')
  hrep : (∃ e ∈ listSpec s b, e ∉ l') → listErrors s' b ≠ []

/-- The "reported, never a complete node" half of clause 2, from facts about the loop that hold of
every list (`restoreP_node_from`, `restoreP_entry`).  Shared by both readings. -/
theorem core_reported {s s' : Store} {k : Key} {b : Nat} {l' ext : List IndexEntry}
    (a : CoreArgs H s s' k b l' ext) {nodes : List RNode} (hok : (restoreOf H s' b).1 = .ok nodes)
    {e : IndexEntry} (he : e ∈ listSpec s b) (hk : e.kind = .file)
    (hprem : readBack H s' e.addrs = none ∨ e ∉ listSpec s' b) :
    (∀ nd ∈ nodes, nd.apath = e.apath → nd.complete = false) ∧
    ∃ err, Event.error err ∈ (restoreOf H s' b).2.events := by
  obtain ⟨hn, hevent⟩ := restoreOf_spec a.wf' hok
  rcases a.h2b with hext | ⟨hnb, hall⟩
  · subst hext
    have hl' : listSpec s' b = l' := by simpa using a.hl
    constructor
    · intro nd hnd hap
      rw [hn] at hnd
      obtain ⟨x, hx, hxn⟩ := restoreP_node_from (H := H) s' _ _ nd hnd
      rw [hl'] at hx
      have hxe : x = e := eq_of_pairwise_ne_key (List.pairwise_map.mp (C08.stitch_nodup a.wf b))
        (a.hsub.subset hx) he ((nodeP_apath hxn).symm.trans hap)
      subst hxe
      rcases hprem with hnone | hnot
      · exact nodeP_incomplete hk hnone hxn
      · exact absurd (hl' ▸ hx) hnot
    · by_cases hin : e ∈ l'
      · rcases hprem with hnone | hnot
        · obtain ⟨_, hh, herr⟩ := nodeP_file_none (H := H) hk hnone
          rcases restoreP_entry (H := H) s' (listSpec s' b) [] e (hl' ▸ hin) with hsk | ⟨_, hrep⟩
          · exact ⟨_, (hevent _).mpr (.inr hsk)⟩
          · exact ⟨_, (hevent _).mpr (.inr (hrep _ herr))⟩
        · exact absurd (hl' ▸ hin) hnot
      · obtain ⟨x, hx⟩ := List.exists_mem_of_ne_nil _ (a.hrep ⟨e, he, hin⟩)
        exact ⟨x, (hevent x).mpr (.inl hx)⟩
  · exfalso
    rcases hprem with hnone | hnot
    · obtain ⟨c, hc⟩ := a.hread e he hk
      rw [readBack_damage_nonblock a.hd hnb] at hnone
      rw [hc] at hnone; cases hnone
    · exact hnot (a.hl ▸ List.mem_append_left _ (hall e he))

theorem CoreArgs.untouched {s s' : Store} {k : Key} {b : Nat} {l' ext : List IndexEntry}
    (a : CoreArgs H s s' k b l' ext) {e : IndexEntry} (he : e ∈ listSpec s b) (hk : e.kind = .file)
    (hu : (∃ n es, hunkAt s b n = some es ∧ e ∈ es ∧ k ≠ .hunk b n) ∧ ∀ a ∈ e.addrs, k ≠ .block a.hash) :
    ∃ c, readBack H s e.addrs = some c ∧ nodeP H s' e = some { RNode.ofEntry e with content := c } ∧ e ∈ l' := by
  obtain ⟨c, hc⟩ := a.hread e he hk
  exact ⟨c, hc, nodeP_file_some hk ((damage_content_untouched H a.hd e hu.2).trans hc), a.hkeep e he hu.1⟩

theorem contained_core {s s' : Store} {k : Key} {b : Nat} {l' ext : List IndexEntry}
    (a : CoreArgs H s s' k b l' ext) (hun : Unshadowed s b) : Contained H s s' k b := by
  intro nodes hok e he hk
  refine ⟨fun hu => ?_, core_reported a hok he hk⟩
  obtain ⟨c, hc, hnode, hin⟩ := a.untouched he hk hu
  obtain ⟨hn, _⟩ := restoreOf_spec a.wf' hok
  obtain ⟨syms', happ⟩ := restoreP_append_unshadowed (H := H) s' ext l' [] (Contain.Unshadowed.sublist hun a.hsub)
  rw [a.hl, happ] at hn
  exact ⟨c, hc, hn ▸ List.mem_append_left _ (List.mem_filterMap.mpr ⟨e, hin, hnode⟩)⟩

theorem contained_core_weak {s s' : Store} {k : Key} {b : Nat} {l' ext : List IndexEntry}
    (a : CoreArgs H s s' k b l' ext) : ContainedW H s s' k b := by
  intro nodes hok e he hk
  refine ⟨fun hu => ?_, core_reported a hok he hk⟩
  obtain ⟨c, hc, hnode, hin⟩ := a.untouched he hk hu
  obtain ⟨hn, hev⟩ := restoreOf_spec a.wf' hok
  refine ⟨c, hc, ?_⟩
  rcases restoreP_entry (H := H) s' (listSpec s' b) [] e (a.hl ▸ List.mem_append_left _ hin) with hsk | ⟨h, _⟩
  · exact .inr ((hev _).mpr (.inr hsk))
  · exact .inl (hn ▸ h _ hnode)

/-- Clause 2 looks at the damaged store only through the restore of `b`, its listing of `b` and the
content of file entries: it carries over to a store that agrees on these. -/
theorem contained_congr {s s' s'' : Store} {k : Key} {b : Nat} (hr : C02h.SameRestore H b s' s'')
    (hl : listSpec s'' b = listSpec s' b) (hrb : ∀ as, readBack H s'' as = readBack H s' as)
    (h : Contained H s s' k b) : Contained H s s'' k b := by
  have h1 : (restoreOf H s'' b).1 = (restoreOf H s' b).1 := hr.1
  have h2 : (restoreOf H s'' b).2.events = (restoreOf H s' b).2.events := hr.2
  have h3 : readBack H s'' = readBack H s' := funext hrb
  unfold Contained
  rw [h1, h2, hl, h3]
  exact h

theorem containedW_congr {s s' s'' : Store} {k : Key} {b : Nat} (hr : C02h.SameRestore H b s' s'')
    (hl : listSpec s'' b = listSpec s' b) (hrb : ∀ as, readBack H s'' as = readBack H s' as)
    (h : ContainedW H s s' k b) : ContainedW H s s'' k b := by
  have h1 : (restoreOf H s'' b).1 = (restoreOf H s' b).1 := hr.1
  have h2 : (restoreOf H s'' b).2.events = (restoreOf H s' b).2.events := hr.2
  have h3 : readBack H s'' = readBack H s' := funext hrb
  unfold ContainedW
  rw [h1, h2, hl, h3]
  exact h

section classes
variable {s s' : Store} {k : Key}

theorem args_block (g : C10.Good H s) (hd : FileDamage s s' k) {h : Str} (hk : k = .block h) (b : Nat) :
    CoreArgs H s s' k b (listSpec s b) [] := by
  subst hk
  have wf := good_archWF g
  have wf' : ArchWF s' := archWF_of_nonhunk_damage wf hd.2.2.2.2.1 hd.2.2.2.2.2 hd.1 (fun _ _ e => by cases e)
  have hl := (listing_unaffected wf wf' hd.1 b (fun c _ => isUnder_bandDir_of_bandOf_none rfl)).1
  exact ⟨wf, wf', hd.1, fun e he hk => good_listed_readBack g he hk, by simp [hl], List.Sublist.refl _,
    fun e he _ => he, .inl rfl, fun ⟨e, he, hne⟩ => absurd he hne⟩

/-- A hunk file of version `b` (with a tail stating the hunk count) is lost: the listing is what the
other hunks hold, and the loss is reported. -/
theorem args_lost_hunk (g : C10.Good H s) (hd : FileDamage s s' k) {b n m : Nat} (hk : k = .hunk b n)
    (hr' : bandReadable s' b = true) (htail : s.get? (.bandTail b) = some (.tail (some m)))
    (hlost : HunkLost s' b n) : CoreArgs H s s' k b (listSpec s' b) [] := by
  subst hk
  have wf := good_archWF g
  have nd' := hd.2.2.2.2.1
  have wf' : ArchWF s' := archWF_of_lost_hunk wf nd' hd.2.2.2.2.2 hd.1 hlost.contributes_nothing
  have hb : b ∈ bandIdsOf s := bandIds_of_tail (good_dirsOk g) htail
  have ok := good_bandOK g hb
  have hread : bandReadable s b = true := by
    unfold bandReadable at hr' ⊢
    rw [← hd.1 (.bandHead b) (by simp), ← hd.1 (.indexDir b) (by simp)]; exact hr'
  have hn : n ∈ hunkNumsOf s b := (mem_hunkNumsOf_get? wf.keys).mpr hd.wasFile
  obtain ⟨hl, hsub⟩ := lost_hunk_rest_listed wf.nodup nd' hd.1 hread htail hlost
  obtain ⟨_, _, hne, _⟩ := lost_hunk_reported wf.nodup nd' hd.1 hread htail ok.indexCheck_none hn hlost
  refine ⟨wf, wf', hd.1, fun e he hk => good_listed_readBack g he hk, by simp, hsub, ?_, .inl rfl, fun _ => hne⟩
  rintro e he ⟨n1, es1, hh1, hee1, hkn⟩
  obtain ⟨n2, hn2, es2, hu2, hh2, hee2⟩ := mem_listSpec_complete (isComplete_of_tail htail) he
  have h12 : n1 = n2 := bandOK_hunk_unique wf.keys ok hh1 hh2 hee1 hee2
  subst h12
  have hne1 : n1 ≠ n := fun e' => hkn (by rw [e'])
  rw [hl]
  exact List.mem_flatten.mpr ⟨es2, List.mem_filterMap.mpr
    ⟨n1, List.mem_filter.mpr ⟨hn2, by simpa using hne1⟩, hu2⟩, hee2⟩

/-- Damage to a file of version `b`'s directory that is not a hunk (head, tail, stray file): the old
listing is a prefix of the new one; nothing is lost. -/
theorem args_own_file (g : C10.Good H s) (hd : FileDamage s s' k) {b m : Nat}
    (hnh : ∀ b' n, k ≠ .hunk b' n) (hnb : ∀ h, k ≠ .block h)
    (hr' : bandReadable s' b = true) (htail : s.get? (.bandTail b) = some (.tail (some m))) :
    ∃ ext, CoreArgs H s s' k b (listSpec s b) ext := by
  have wf := good_archWF g
  have wf' : ArchWF s' := archWF_of_nonhunk_damage wf hd.2.2.2.2.1 hd.2.2.2.2.2 hd.1 hnh
  obtain ⟨ext, hext⟩ := listSpec_prefix_of_damage wf.keys (FileDamage.keys' hd) hd.1 (hnh b) htail hr'
  exact ⟨ext, wf, wf', hd.1, fun e he hk => good_listed_readBack g he hk, hext.symm, List.Sublist.refl _,
    fun e he _ => he, .inr ⟨hnb, fun e he => he⟩, fun ⟨e, he, hne⟩ => absurd he hne⟩

theorem args_self (g : C10.Good H s) (k : Key) (b : Nat) : CoreArgs H s s k b (listSpec s b) [] :=
  ⟨good_archWF g, good_archWF g, Damage.refl s k, fun e he hk => good_listed_readBack g he hk, by simp,
    List.Sublist.refl _, fun e he _ => he, .inl rfl, fun ⟨e, he, hne⟩ => absurd he hne⟩

/-- Damage to any file OUTSIDE version `b`'s directory that is not a block: by C02h's frame lemma
`restore_congr` the restore of `b` returns and reports exactly what it did before; the listing and
the content of its entries are unchanged. -/
theorem same_elsewhere (g : C10.Good H s) (hd : FileDamage s s' k) {b m : Nat}
    (hout : Key.isUnder (.bandDir b) k = false) (hnb : ∀ h, k ≠ .block h)
    (htail : s.get? (.bandTail b) = some (.tail (some m))) :
    C02h.SameRestore H b s s' ∧ listSpec s' b = listSpec s b ∧
      ∀ as, readBack H s' as = readBack H s as := by
  have wf := good_archWF g
  have hc := isComplete_of_tail htail
  have hband : Exact.BandSame s s' b := by
    intro k' hk'
    exact hd.1 k' (fun e => by rw [e, hout] at hk'; cases hk')
  have hroot : s'.get? .blockRoot = s.get? .blockRoot :=
    (hd.dir_kept (good_blockRoot g)).trans (good_blockRoot g).symm
  have hsame : C02h.SameRestore H b s s' :=
    C02h.restore_congr H (by simpa [Inv.NoDupKeys] using wf.keys)
      (by simpa [Inv.NoDupKeys] using FileDamage.keys' hd) hc hband hroot
      (fun n es _ e _ a _ => by
        unfold blockContent
        rw [hd.1 (.block a.hash) (fun e' => hnb a.hash e'.symm)])
  have hsb : SameBand s s' b := hd.1.sameBand hout
  have hls : listSpec s' b = listSpec s b := by
    simp only [listSpec, hsb.isComplete, hc, if_true, List.append_nil,
      hsb.bandEntries wf.keys (FileDamage.keys' hd)]
  exact ⟨hsame, hls, readBack_damage_nonblock hd.1 hnb⟩

/-- **contained_block.**  Damage to a BLOCK file: clause 2 for every version (with or without tail). -/
theorem contained_block (g : C10.Good H s) (hd : FileDamage s s' k) {h : Str} (hk : k = .block h) (b : Nat)
    (hun : Unshadowed s b) : Contained H s s' k b :=
  contained_core (args_block g hd hk b) hun

/-- **contained_lost_hunk.**  A hunk file of version `b` (which has a tail stating the hunk count) is
deleted, emptied, or made undecodable / unusable: clause 2 for `b`. -/
theorem contained_lost_hunk (g : C10.Good H s) (hd : FileDamage s s' k) {b n m : Nat} (hk : k = .hunk b n)
    (hr' : bandReadable s' b = true) (htail : s.get? (.bandTail b) = some (.tail (some m)))
    (hlost : HunkLost s' b n) (hun : Unshadowed s b) : Contained H s s' k b :=
  contained_core (args_lost_hunk g hd hk hr' htail hlost) hun

/-- **contained_own_file.**  Damage to a file of version `b`'s directory that is not one of its hunks —
its HEAD (the version still opens: the new head is readable too), its TAIL (replaced by anything, or
deleted: the version turns incomplete and its listing is CONTINUED with entries of earlier versions
after its last own path) or a stray file: every own file entry is restored exactly; nothing is
lost, so nothing needs reporting. -/
theorem contained_own_file (g : C10.Good H s) (hd : FileDamage s s' k) {b m : Nat}
    (hnh : ∀ b' n, k ≠ .hunk b' n) (hnb : ∀ h, k ≠ .block h)
    (hr' : bandReadable s' b = true) (htail : s.get? (.bandTail b) = some (.tail (some m)))
    (hun : Unshadowed s b) : Contained H s s' k b := by
  obtain ⟨ext, a⟩ := args_own_file g hd hnh hnb hr' htail
  exact contained_core a hun

/-- **contained_elsewhere.**  Damage to any file OUTSIDE version `b`'s directory that is not a block —
a hunk (replaced by ANYTHING, also by a different decodable hunk), head or tail of ANOTHER version,
earlier or later; a stray file; a lock: the restore of `b` returns and reports exactly what it did
before (`same_elsewhere`), so every file entry is restored exactly. -/
theorem contained_elsewhere (g : C10.Good H s) (hd : FileDamage s s' k) {b m : Nat}
    (hout : Key.isUnder (.bandDir b) k = false) (hnb : ∀ h, k ≠ .block h)
    (htail : s.get? (.bandTail b) = some (.tail (some m)))
    (hun : Unshadowed s b) : Contained H s s' k b := by
  obtain ⟨hsame, hls, hrb⟩ := same_elsewhere g hd hout hnb htail
  exact contained_congr hsame hls hrb (contained_core (args_self g k b) hun)

end classes

/-- "Damage to one of `b`'s own hunk files is a LOSS": the file is gone, zero-length, undecodable, or
holds an entry that fails `IndexEntry::check`.  (Index hunks carry no checksum; a hunk overwritten
with a different well-formed hunk cannot be told from an authentic one — see
`complete_refuted_rewritten_hunk`.) -/
def OwnHunkLost (s' : Store) (k : Key) (b : Nat) : Prop := ∀ n, k = .hunk b n → HunkLost s' b n

theorem damage_cases (k : Key) (b : Nat) :
    (∃ h, k = .block h) ∨
    ((∀ h, k ≠ .block h) ∧ Key.isUnder (.bandDir b) k = false) ∨
    (∃ n, k = .hunk b n) ∨
    ((∀ h, k ≠ .block h) ∧ ∀ b' n, k ≠ .hunk b' n) := by
  by_cases hblk : ∃ h, k = .block h
  · exact .inl hblk
  · have hnb : ∀ h, k ≠ .block h := fun h e => hblk ⟨h, e⟩
    by_cases hout : Key.isUnder (.bandDir b) k = false
    · exact .inr (.inl ⟨hnb, hout⟩)
    · by_cases hh : ∃ b' n, k = .hunk b' n
      · obtain ⟨b', n, hk⟩ := hh
        have hb : b' = b := by
          subst hk
          exact isUnder_bandDir_unique (isUnder_bandDir_iff.2 rfl) (eq_true_of_ne_false hout)
        subst hb
        exact .inr (.inr (.inl ⟨n, hk⟩))
      · exact .inr (.inr (.inr ⟨hnb, fun b' n e => hh ⟨b', n, e⟩⟩))

theorem coreArgs_or_same {s s' : Store} {k : Key} (g : C10.Good H s) (hd : FileDamage s s' k) {b m : Nat}
    (hr' : bandReadable s' b = true) (htail : s.get? (.bandTail b) = some (.tail (some m)))
    (hdet : OwnHunkLost s' k b) :
    (∃ l' ext, CoreArgs H s s' k b l' ext) ∨
    (C02h.SameRestore H b s s' ∧ listSpec s' b = listSpec s b ∧ ∀ as, readBack H s' as = readBack H s as) := by
  rcases damage_cases k b with ⟨h, hk⟩ | ⟨hnb, hout⟩ | ⟨n, hk⟩ | ⟨hnb, hnh⟩
  · exact .inl ⟨_, _, args_block g hd hk b⟩
  · exact .inr (same_elsewhere g hd hout hnb htail)
  · exact .inl ⟨_, _, args_lost_hunk g hd hk hr' htail (hdet n hk)⟩
  · obtain ⟨ext, a⟩ := args_own_file g hd hnh hnb hr' htail
    exact .inl ⟨_, _, a⟩

/-- **contained_complete** (gap (ii)).  Clause 2 of C10 for EVERY damage class, assembled: `s` is `Good`;
one file `k` (not the header) is deleted, truncated, overwritten or bit-flipped in any way
(`FileDamage`); version `b` had a tail stating its hunk count and still opens.  Hypotheses beyond
`C10StatementComplete`'s: `Unshadowed s b` (nothing listed below an earlier listed symlink — restore
would skip it) and `OwnHunkLost` (if `k` is one of `b`'s OWN hunks, it became missing / unusable /
empty rather than a different valid hunk).  Both are necessary (`complete_refuted_symlink`,
`complete_refuted_rewritten_hunk`).  Classes: block → `contained_block`; own hunk →
`contained_lost_hunk`; own head / tail / stray file → `contained_own_file`; anything outside `b`'s
directory (other versions' hunks — replaced by anything —, heads, tails; stray files) →
`contained_elsewhere`. -/
theorem contained_complete (s s' : Store) (k : Key) (g : C10.Good H s) (hd : FileDamage s s' k) (b m : Nat)
    (hr' : bandReadable s' b = true) (htail : s.get? (.bandTail b) = some (.tail (some m)))
    (hun : Unshadowed s b) (hdet : OwnHunkLost s' k b) : Contained H s s' k b := by
  rcases coreArgs_or_same g hd hr' htail hdet with ⟨l', ext, a⟩ | ⟨hsame, hls, hrb⟩
  · exact contained_core a hun
  · exact contained_congr hsame hls hrb (contained_core (args_self g k b) hun)

/-- **contained_complete_weak.**  The same WITHOUT `Unshadowed`, for the weak reading `ContainedW`: an
untouched file is restored exactly or — when the archive lists it below a symlink — the restore
reports `invalidMetadata`.  So the symlink hypothesis can be traded for "skipped entries count as
reported"; `C10.Contained` as written demands the exact restore and does need it. -/
theorem contained_complete_weak (s s' : Store) (k : Key) (g : C10.Good H s) (hd : FileDamage s s' k) (b m : Nat)
    (hr' : bandReadable s' b = true) (htail : s.get? (.bandTail b) = some (.tail (some m)))
    (hdet : OwnHunkLost s' k b) : ContainedW H s s' k b := by
  rcases coreArgs_or_same g hd hr' htail hdet with ⟨l', ext, a⟩ | ⟨hsame, hls, hrb⟩
  · exact contained_core_weak a
  · exact containedW_congr hsame hls hrb (contained_core_weak (args_self g k b))

/-- What C01 (a) says of a run of `backup`, minus "the backup reports nothing": on a damaged archive
the BASIS listing may report the damage (a lost hunk, an unreadable head) — the backup goes on. -/
structure BackupExact (H : Str → Str) (o : BackupOpts) (src : List SrcEntry) (s : Store)
    (r : Outcome Stats × World) : Prop where
  /-- the backup returns statistics (no error, no panic) and counts no error -/
  ok : ∃ stats, r.1 = .ok stats ∧ stats.errors = 0
  /-- nothing that was in the archive changed (a zero-length leftover may have been completed) -/
  extends_ : Extends s r.2.store
  /-- the new version has the id after the newest existing one and is complete -/
  complete : isComplete r.2.store (Exact.newBandOf s) = true
  /-- restoring that version by id yields exactly the source, entry by entry, in order … -/
  restoreSpecified :
    ((restore H (.specified (Exact.newBandOf s)) [slash] (fun _ => false)).run (World.clean r.2.store)).1
      = .ok (src.map (Exact.expectedNode o))
  /-- … reporting nothing -/
  restoreSpecifiedSilent :
    ((restore H (.specified (Exact.newBandOf s)) [slash] (fun _ => false)).run (World.clean r.2.store)).2.events = []
  /-- the same when asking for the latest complete version: it is the new one -/
  restoreLatest :
    ((restore H .latestClosed [slash] (fun _ => false)).run (World.clean r.2.store)).1
      = .ok (src.map (Exact.expectedNode o))
  restoreLatestSilent :
    ((restore H .latestClosed [slash] (fun _ => false)).run (World.clean r.2.store)).2.events = []

/-- **backup_restore_exact_fair.**  C01a's `backup_restore_exact` with `ArchiveGood` weakened to what
a damaged archive still has: `StoreOK` (a map, a tree, kinds, blocks named by their hash), `ArchWF`
(usable hunks sorted), no lock, and the tool's own assumption for the basis listing THIS run
computes (`Inv.HeuristicSound`: a basis entry that looks unchanged and whose blocks are all present
reads back to the source file).  Versions may fail to list, hunks may be missing, entries may refer
to missing blocks. -/
theorem backup_restore_exact_fair (hinj : Function.Injective H) (hlen : ∀ d, subdirNameChars ≤ (H d).length)
    (s : Store) (o : BackupOpts) (src : List SrcEntry) (ho : 0 < o.maxBlockSize) (hsrc : Exact.SrcGood src)
    (hst : Exact.StoreOK H s) (hwf : ArchWF s) (noLock : s.get? .gcLock = none)
    (hheur : Inv.NoBands s ∨ Inv.HeuristicSound H src (World.clean s)) :
    BackupExact H o src s ((backup H o src).run (World.clean s)) := by
  obtain ⟨hs, stats, evs, h, _⟩ := Exact.backup_leaves (o := o) hinj hlen ho hsrc hst hwf noLock hheur
  have hr := Exact.restore_of_records h.final hsrc hst h.records h.usable h.wf
  exact ⟨⟨stats, h.runs.clean.1, h.noErr⟩, h.ext, Exact.final_complete h.final, hr.1.1, hr.1.2, hr.2.1, hr.2.2⟩

section clause3
variable {s s' : Store} {k : Key}

theorem good_ci (g : C10.Good H s) : Conf.CI H s :=
  ⟨g.1, good_dirsOk g, by simpa [Inv.NoDupKeys] using good_keys g⟩

theorem storeOK_after_loss (g : C10.Good H s) (hkinds : Rng.KindsOK s) (hsmall : Exact.BlocksSmall s)
    (hd : FileDamage s s' k) (hdel : s'.get? k = none ∨ s'.get? k = some .empty) : Exact.StoreOK H s' := by
  have hst := Rng.storeOK_of_ci (good_ci g) hkinds hsmall
  have htr : treeShaped s' = true := hd.2.2.2.2.2
  simp only [treeShaped, List.all_eq_true] at htr
  refine ⟨by simpa [Inv.NoDupKeys] using hd.keys', fun k' v hg => htr _ (Store.mem_of_get? hg), ?_,
    hd.dir_kept hst.root, hd.dir_kept hst.blockRoot, ?_, ?_⟩
  · intro k' v hg
    by_cases hv : v = .empty
    · -- a zero-length file is of the right kind wherever a file was
      obtain ⟨v0, hv0, hf⟩ : ∃ v0, s.get? k' = some v0 ∧ v0.isDir = false := by
        by_cases hk : k' = k
        · exact hk ▸ hd.wasFile
        · exact ⟨v, (hd.1 k' hk).symm.trans hg, hv ▸ rfl⟩
      exact hv ▸ Rng.kindOk_empty_of_file (hst.kinds k' v0 hv0) hf
    · exact hst.kinds k' v (get?_of_loss hd.1 hdel hg hv)
  · intro h v hg
    by_cases hv : v = .empty
    · exact .inl hv
    · exact hst.blocks h v (get?_of_loss hd.1 hdel hg hv)
  · intro h c hg
    exact hst.small h c (get?_of_loss hd.1 hdel hg (fun e => nomatch e))

theorem archWF_after_loss (g : C10.Good H s) (hd : FileDamage s s' k)
    (hdel : s'.get? k = none ∨ s'.get? k = some .empty) : ArchWF s' :=
  hd.1.archWF (good_archWF g) hd.2.2.2.2.1 hd.2.2.2.2.2 fun b n e => by
    subst e
    exact hdel.imp (fun h => by simp [usableHunk, h]) (fun h => by simp [usableHunk, h])

/-- **backup_after_loss** (gap (iii)).  `s` is `Good`, with directories where the layout has
directories and blocks shorter than 2^64 (`KindsOK`, `BlocksSmall` — true of every archive the tool
writes, not implied by `Conforms`).  One file — a BLOCK, a HUNK, a TAIL, a HEAD, anything but the
archive header — is DELETED or EMPTIED.  Then a fault-free backup of any good source, with any
options, onto the damaged archive returns without counting an error, changes nothing that was
there, completes the next version, and restoring that version (by id or as "latest") yields EXACTLY
`src.map expectedNode`, silently — although the basis is damaged: a file whose basis entry names a
missing block is stored afresh (`copyFile` checks `exists_.contains` for every address), entries of
a lost basis hunk are simply new.  The only assumption about file content is the tool's own, stated
on the archive BEFORE the damage (`HeuristicSoundStore H src s`). -/
theorem backup_after_loss (hinj : Function.Injective H) (hlen : ∀ d, subdirNameChars ≤ (H d).length)
    (o : BackupOpts) (src : List SrcEntry) (ho : 0 < o.maxBlockSize) (hsrc : Exact.SrcGood src)
    (g : C10.Good H s) (hkinds : Rng.KindsOK s) (hsmall : Exact.BlocksSmall s)
    (hheur : Inv.HeuristicSoundStore H src s)
    (hd : FileDamage s s' k) (hdel : s'.get? k = none ∨ s'.get? k = some .empty) :
    BackupExact H o src s' ((backup H o src).run (World.clean s')) := by
  have hst' := storeOK_after_loss g hkinds hsmall hd hdel
  have hwf' := archWF_after_loss g hd hdel
  have hhunks : ∀ b n es, hunkAt s' b n = some es → hunkAt s b n = some es := fun b n es hh =>
    hunkAt_eq_some_iff.mpr (get?_of_loss hd.1 hdel (hunkAt_eq_some_iff.mp hh) (fun e => nomatch e))
  exact backup_restore_exact_fair hinj hlen s' o src ho hsrc hst' hwf' (hd.none_kept g.2.2.2)
    (.inr (Inv.heuristicSound_of_damaged hinj _ rfl hst'.noDup hst'.blocks hhunks (Rng.ci_noDangling (good_ci g)) hheur))

/-- Clause 3 as stated in Props/C10.lean (`BackupCompletes`: the backup returns), for good sources. -/
theorem backup_completes (hinj : Function.Injective H) (hlen : ∀ d, subdirNameChars ≤ (H d).length)
    (o : BackupOpts) (src : List SrcEntry) (ho : 0 < o.maxBlockSize) (hsrc : Exact.SrcGood src)
    (g : C10.Good H s) (hkinds : Rng.KindsOK s) (hsmall : Exact.BlocksSmall s)
    (hheur : Inv.HeuristicSoundStore H src s)
    (hd : FileDamage s s' k) (hdel : s'.get? k = none ∨ s'.get? k = some .empty) :
    ∃ st w', (backup H o src).run (World.clean s') = (.ok st, w') := by
  obtain ⟨st, hst, _⟩ := (backup_after_loss hinj hlen o src ho hsrc g hkinds hsmall hheur hd hdel).ok
  exact ⟨st, _, Prod.ext hst rfl⟩

end clause3

/-- Clause 3 as `C10.BackupCompletes` words it — the backup returns for EVERY source listing and
all options — under the hypotheses of `backup_after_loss` on the archive only.  Proved here for good
sources (`backup_completes`) and in Props/GapsC10f.lean for every source
(`Gaps.backup_completes_any_source`); false from `Good` alone (`backup_completes_refuted`). -/
def BackupCompletesAnySourceStatement (H : Str → Str) : Prop :=
  ∀ s s' : Store, ∀ k : Key, C10.Good H s → Rng.KindsOK s → Exact.BlocksSmall s → FileDamage s s' k →
    BackupCompletes H s' k

/-- The version a fault-free backup of a good source wrote is `Unshadowed` (C01a: it restores
exactly and silently). -/
theorem unshadowed_of_exact {o : BackupOpts} {src : List SrcEntry} {s : Store} {r : Outcome Stats × World}
    (hx : C01a.Exact H o src s r) (wf : ArchWF r.2.store) : Unshadowed r.2.store (Exact.newBandOf s) :=
  unshadowed_of_silent_restore wf hx.restoreSpecified hx.restoreSpecifiedSilent

/-- … and stays so as long as its restore stays the same (C02h: `history_keeps_restore` — backups,
interrupted backups, deletes of other versions, gc). -/
theorem unshadowed_of_sameRestore {s0 s : Store} {b : Nat} (hs : C02h.SameRestore H b s0 s) {nodes : List RNode}
    (hok : (restoreOf H s0 b).1 = .ok nodes) (hsilent : (restoreOf H s0 b).2.events = []) (wf : ArchWF s) :
    Unshadowed s b :=
  unshadowed_of_silent_restore wf (hs.1.trans hok) (hs.2.trans hsilent)

/-- **unshadowed_after_history.**  The answer to "which archives satisfy the symlink hypothesis": let a
fault-free backup of a good source run on a good archive (it creates version `newBandOf s`), and let
ANY history follow — more backups of anything, complete or interrupted at any point, with any faults;
deletes of other versions.  In the archive at the end that version is `Unshadowed`
(C02h's `history_restores_source`: it still restores exactly and silently). -/
theorem unshadowed_after_history (hinj : Function.Injective H) (hlen : Conf.HashLen H) (s : Store)
    (o : BackupOpts) (src : List SrcEntry) (ho : 0 < o.maxBlockSize) (hsrc : Exact.SrcGood src)
    (hsorted : C13.SrcSorted src) (hs : Exact.ArchiveGood H src s) (hci : Conf.CI H s)
    (rest : List C13.Step) (hok : C13.HistOK rest) (hkeep : ∀ st ∈ rest, C02h.Keeps (Exact.newBandOf s) st) :
    Unshadowed (C02h.runSteps H rest ((backup H o src).run (World.clean s)).2.store) (Exact.newBandOf s) := by
  obtain ⟨h1, h2⟩ := C02h.history_restores_source H hinj hlen s o src ho hsrc hsorted hs hci rest hok hkeep
  have hci1 : Conf.CI H ((backup H o src).run (World.clean s)).2.store :=
    C13.backup_ci_all_worlds (w := World.clean s) hinj hlen hsorted.weak rfl hci
  have hv := C02h.clean_backup_versionOK H hinj hlen s o src ho hsrc hs
  obtain ⟨_, _, hciN, _⟩ := C02h.history_keeps_restore H hinj hlen rest _ hok hci1 _ hv hkeep
  exact unshadowed_of_silent_restore (archWF_of_ci hciN) h1 h2

section
variable (H)

/-- C10 in full, as it is TRUE of the model.  Against `C10.C10StatementComplete`: clause 2 has the two
extra hypotheses `Unshadowed` and `OwnHunkLost` (both necessary, below); clause 3 is the STRONG
reading — the new version restores exactly — for good sources, under `KindsOK`, `BlocksSmall`
(necessary: `backup_completes_refuted`) and the tool's own unchanged-file assumption on the
archive before the damage. -/
def C10StatementFinal : Prop :=
  ∀ s s' : Store, ∀ k : Key, C10.Good H s → FileDamage s s' k →
    NoCrash H ∧
    (∀ b m, bandReadable s' b = true → s.get? (.bandTail b) = some (.tail (some m)) →
      Unshadowed s b → OwnHunkLost s' k b → Contained H s s' k b) ∧
    ((s'.get? k = none ∨ s'.get? k = some .empty) → Rng.KindsOK s → Exact.BlocksSmall s →
      ∀ o src, 0 < o.maxBlockSize → Exact.SrcGood src → Inv.HeuristicSoundStore H src s →
        BackupExact H o src s' ((backup H o src).run (World.clean s')))

end

/-- **c10_statement_final.**  For every injective block hash with names of at least three
characters. -/
theorem c10_statement_final (hinj : Function.Injective H) (hlen : ∀ d, subdirNameChars ≤ (H d).length) :
    C10StatementFinal H := fun s s' k g hd =>
  ⟨c10_partial H,
   fun b m hr' htail hun hdet => contained_complete s s' k g hd b m hr' htail hun hdet,
   fun hdel hkinds hsmall o src ho hsrc hheur =>
    backup_after_loss hinj hlen o src ho hsrc g hkinds hsmall hheur hd hdel⟩

theorem fileDamage_erase {s : Store} (g : C10.Good H s) {k : Key} {v : FileVal} (hv : s.get? k = some v)
    (hvd : v ≠ .dir) (hk : k ≠ .header) : FileDamage s (s.erase k) k := by
  refine (fileDamage_iff g.2.2.1).2 ⟨hk, ?_⟩
  rw [Store.get?_erase_self]
  exact DamagedAt.erase g.2.1 ⟨v, hv, isDir_false_of_ne_dir hvd⟩

theorem unshadowed_of_no_symlink {s : Store} {b : Nat}
    (h : (listSpec s b).all (fun e => e.kind != .symlink) = true) : Unshadowed s b :=
  unshadowed_of_noSymlinkAbove ⟨fun _ hp => (nomatch hp), fun x hx hk => by
    have := List.all_eq_true.mp h x hx
    simp [hk] at this⟩

def symA : IndexEntry :=
  { apath := [47, 97], kind := .symlink, mtime := 0, mtimeNanos := 0, unixMode := some 511,
    user := none, group := none, addrs := [], target := some [120] }

/-- A version that lists `/`, the symlink `/a` and the (empty) file `/a/b` — which `Conforms` allows —
next to a stray file `x`. -/
def shadowed : Store :=
  [ (.root, .dir), (.header, .header [48, 46, 54]), (.blockRoot, .dir), (.other [120], .junk 0),
    (.bandDir 0, .dir), (.bandHead 0, .head .ok []), (.indexDir 0, .dir), (.hunkDir 0 0, .dir),
    (.hunk 0 0, .hunk [dirEntry [slash], symA, emptyFile [47, 97, 47, 98]]), (.bandTail 0, .tail (some 1)) ]

theorem shadowed_good : C10.Good (fun c => c) shadowed :=
  ⟨by decide +kernel, by decide +kernel, by decide +kernel, by decide +kernel⟩

theorem shadowed_damage : FileDamage shadowed (shadowed.erase (.other [120])) (.other [120]) :=
  fileDamage_erase shadowed_good (v := .junk 0) (by decide +kernel) (by decide) (by decide)

/-- **complete_refuted_symlink.**  `C10.C10StatementComplete` (hypotheses `Good` and `FileDamage` only) is
FALSE: `Conforms` allows a file entry below a listed symlink; restore skips it (and reports it) —
damaged or not.  Witness: delete the stray file `x` of `shadowed`; `/a/b`'s hunk and blocks are
untouched, yet it is not restored.  Not a defect of the code (no backup writes such a listing);
`Good` is too weak: `Unshadowed` is needed. -/
theorem complete_refuted_symlink : ¬ C10StatementComplete (fun c => c) := by
  intro h
  obtain ⟨_, h2, _⟩ := h _ _ _ shadowed_good shadowed_damage
  have hrun : (restoreOf (fun c => c) (shadowed.erase (.other [120])) 0).1
      = .ok [RNode.ofEntry (dirEntry [slash]), RNode.ofEntry symA] := okOf?_eq_some.mp (by decide +kernel)
  obtain ⟨c, _, hmem⟩ := ((h2 0 1 (by decide +kernel) (by decide +kernel)) _ hrun (emptyFile [47, 97, 47, 98])
    (by decide +kernel) rfl).1
    ⟨⟨0, [dirEntry [slash], symA, emptyFile [47, 97, 47, 98]], by decide +kernel, by decide +kernel, by decide⟩,
     fun a ha => by cases ha⟩
  simp [RNode.ofEntry, emptyFile, dirEntry, symA] at hmem

/-- … and the hypothesis fails of that archive, as it must. -/
example : ¬ Unshadowed shadowed 0 := by
  intro h
  have hl : listSpec shadowed 0 = [dirEntry [slash], symA, emptyFile [47, 97, 47, 98]] := by decide +kernel
  have := h.2
  rw [hl] at this
  have h3 := (List.pairwise_cons.mp (List.pairwise_cons.mp this).2).1 (emptyFile [47, 97, 47, 98])
    (List.mem_cons_self ..) rfl
  revert h3
  decide +kernel

/-- … while the weak reading holds of it (`contained_complete_weak` needs no symlink hypothesis): `/a/b`
is not restored, and `invalidMetadata` is reported — as the evaluated run confirms. -/
example : ContainedW (fun c => c) shadowed (shadowed.erase (.other [120])) (.other [120]) 0 ∧
    (restoreOf (fun c => c) (shadowed.erase (.other [120])) 0).2.events = [.error .invalidMetadata] :=
  ⟨contained_complete_weak (H := fun c => c) shadowed _ (.other [120]) shadowed_good shadowed_damage
    0 1 (by decide +kernel) (by decide +kernel) (fun n e => by cases e), by decide +kernel⟩

/-- One complete version whose only hunk holds `/` and the empty file `/f`. -/
def closed : Store :=
  [ (.root, .dir), (.header, .header [48, 46, 54]), (.blockRoot, .dir),
    (.bandDir 0, .dir), (.bandHead 0, .head .ok []), (.indexDir 0, .dir), (.hunkDir 0 0, .dir),
    (.hunk 0 0, .hunk [dirEntry [slash], emptyFile [47, 102]]), (.bandTail 0, .tail (some 1)) ]

theorem closed_good : C10.Good (fun c => c) closed :=
  ⟨by decide +kernel, by decide +kernel, by decide +kernel, by decide +kernel⟩

/-- **complete_refuted_rewritten_hunk.**  `C10.C10StatementComplete` is false for a second reason, which
no hypothesis on the ARCHIVE removes: `FileDamage` includes overwriting an index hunk with a
DIFFERENT well-formed hunk.  Index hunks carry no checksum, so this cannot be told from an authentic
hunk: `/f` is gone from the listing and from the restore, and nothing is reported.  (The same
damage can also shadow files of OTHER, untouched hunks of the version by turning a directory entry
into a symlink.)  The sentence speaks of hunks that became "missing or undecodable": `OwnHunkLost`. -/
theorem complete_refuted_rewritten_hunk : ¬ C10StatementComplete (fun c => c) := by
  intro h
  have hs := closed_good
  have hd : FileDamage closed (closed.put (.hunk 0 0) (.hunk [dirEntry [slash]])) (.hunk 0 0) :=
    ⟨damage_put _ _ _, by decide, ⟨.hunk [dirEntry [slash], emptyFile [47, 102]], by decide +kernel, by decide⟩,
     by decide +kernel, by decide +kernel, by decide +kernel⟩
  obtain ⟨_, h2, _⟩ := h _ _ _ hs hd
  have hrun : (restoreOf (fun c => c) (closed.put (.hunk 0 0) (.hunk [dirEntry [slash]])) 0).1
      = .ok [RNode.ofEntry (dirEntry [slash])] := okOf?_eq_some.mp (by decide +kernel)
  obtain ⟨_, e, he⟩ := ((h2 0 1 (by decide +kernel) (by decide +kernel)) _ hrun (emptyFile [47, 102])
    (by decide +kernel) rfl).2 (.inr (by decide +kernel))
  have hev : (restoreOf (fun c => c) (closed.put (.hunk 0 0) (.hunk [dirEntry [slash]])) 0).2.events = [] := by
    decide +kernel
  rw [hev] at he
  cases he

/-- `closed` with a FILE where the next version's directory `b0001` would go, and a stray file `x`. -/
def blockedNext : Store :=
  [ (.root, .dir), (.header, .header [48, 46, 54]), (.blockRoot, .dir), (.other [120], .junk 0),
    (.bandDir 1, .junk 1),
    (.bandDir 0, .dir), (.bandHead 0, .head .ok []), (.indexDir 0, .dir), (.hunkDir 0 0, .dir),
    (.hunk 0 0, .hunk [dirEntry [slash]]), (.bandTail 0, .tail (some 1)) ]

/-- **backup_completes_refuted.**  Clause 3 needs `KindsOK`: `Conforms` only looks at `bNNNN` entries that
ARE directories, so a `Good` archive may hold a FILE named `b0001`.  `Band::create` tolerates
`AlreadyExists` from `create_dir`, then fails creating `b0001/i`: the backup ends with an error —
before and after any damage (here: a stray file deleted). -/
theorem backup_completes_refuted :
    ¬ ∀ s s' k, C10.Good (fun c => c) s → FileDamage s s' k → BackupCompletes (fun c => c) s' k := by
  intro h
  have hs : C10.Good (fun c => c) blockedNext :=
    ⟨by decide +kernel, by decide +kernel, by decide +kernel, by decide +kernel⟩
  have hd : FileDamage blockedNext (blockedNext.erase (.other [120])) (.other [120]) :=
    ⟨damage_erase _ _, by decide, ⟨.junk 0, by decide +kernel, by decide⟩, by decide +kernel,
     by decide +kernel, by decide +kernel⟩
  obtain ⟨st, w', hrun⟩ := h _ _ _ hs hd (.inl (by decide +kernel)) {} []
  have herr : ((backup (fun c => c) {} []).run (World.clean (blockedNext.erase (.other [120])))).1
      = .err (.transport .notFound) := errOf?_eq_some.mp (by decide +kernel)
  rw [hrun] at herr
  cases herr

example : ¬ Rng.KindsOK blockedNext := fun h => by
  have := h (.bandDir 1) (.junk 1) (by decide +kernel)
  revert this
  decide +kernel

/-- **Block damage** (`C10.withBlock`, block `[1,2,3]` overwritten with garbage): every hypothesis of
`contained_complete` holds, so `/f` — whose content no longer reads back — has only incomplete nodes
and an error is reported (the evaluated run is in Props/C10.lean §8). -/
example : Contained (fun c => c) withBlock withBlockJunk (.block [1, 2, 3]) 0 ∧
    readBack (fun c => c) withBlockJunk fileF.addrs = none ∧ fileF ∈ listSpec withBlock 0 :=
  ⟨contained_complete (H := fun c => c) withBlock withBlockJunk (.block [1, 2, 3])
    ⟨by decide +kernel, by decide +kernel, by decide +kernel, by decide +kernel⟩
    ⟨damage_put _ _ _, by decide, ⟨.blockData [1, 2, 3], by decide +kernel, by decide⟩, by decide +kernel,
     by decide +kernel, by decide +kernel⟩
    0 1 (by decide +kernel) (by decide +kernel) (unshadowed_of_noSymlinkAbove withBlock_noSymlink)
    (fun n e => by cases e), by decide +kernel, by decide +kernel⟩

/-- **Lost hunk** (`closed`, its only hunk deleted): the hypotheses hold; `/f` has left the listing, so
the conclusion says: no node carries its path and an error is reported. -/
example : Contained (fun c => c) closed (closed.erase (.hunk 0 0)) (.hunk 0 0) 0 ∧
    emptyFile [47, 102] ∉ listSpec (closed.erase (.hunk 0 0)) 0 ∧
    (restoreOf (fun c => c) (closed.erase (.hunk 0 0)) 0).2.events = [.error .invalidMetadata] := by
  have g := closed_good
  refine ⟨contained_complete (H := fun c => c) closed _ (.hunk 0 0) g
    (fileDamage_erase g (v := .hunk [dirEntry [slash], emptyFile [47, 102]]) (by decide +kernel) (by decide) (by decide))
    0 1 (by decide +kernel) (by decide +kernel) (unshadowed_of_no_symlink (by decide +kernel)) ?_,
    by decide +kernel, by decide +kernel⟩
  intro n e
  cases e
  exact .inl (by decide +kernel)

/-- Two complete versions: version 0 lists `/`, `/a`, `/z`; version 1 lists `/`, `/b`. -/
def twoBands : Store :=
  [ (.root, .dir), (.header, .header [48, 46, 54]), (.blockRoot, .dir),
    (.bandDir 0, .dir), (.bandHead 0, .head .ok []), (.indexDir 0, .dir), (.hunkDir 0 0, .dir),
    (.hunk 0 0, .hunk [dirEntry [slash], emptyFile [47, 97], emptyFile [47, 122]]), (.bandTail 0, .tail (some 1)),
    (.bandDir 1, .dir), (.bandHead 1, .head .ok []), (.indexDir 1, .dir), (.hunkDir 1 0, .dir),
    (.hunk 1 0, .hunk [dirEntry [slash], emptyFile [47, 98]]), (.bandTail 1, .tail (some 1)) ]

/-- `sortNat` (merge sort) cannot be evaluated by the kernel on two elements: the band ids by hand. -/
theorem twoBands_ids : bandIdsOf twoBands = [0, 1] := by
  have : bandIdsOf twoBands = sortNat [0, 1] := by
    unfold bandIdsOf
    exact congrArg sortNat (by decide +kernel)
  rw [this]
  exact sortNat_of_sorted (by decide)

theorem twoBands_good : C10.Good (fun c => c) twoBands := by
  refine ⟨?_, by decide +kernel, by decide +kernel, by decide +kernel⟩
  unfold Conforms
  rw [twoBands_ids]
  decide +kernel

theorem twoBands_listSpec1 : listSpec twoBands 1 = [dirEntry [slash], emptyFile [47, 98]] := by
  decide +kernel

theorem twoBands_unshadowed1 : Unshadowed twoBands 1 :=
  unshadowed_of_no_symlink (by rw [twoBands_listSpec1]; decide)

/-- **Tail damage** (the tail of version 1 of `twoBands` deleted).  The hypotheses of `contained_complete`
hold.  Version 1 now lists its own entries `/`, `/b` and CONTINUES with `/z` of version 0 (after its
last own path); `contained_complete` says `/b` is restored exactly — and the evaluated run shows the
extra `/z`, with nothing reported: a deleted tail makes a complete version look interrupted. -/
example : Contained (fun c => c) twoBands (twoBands.erase (.bandTail 1)) (.bandTail 1) 1 ∧
    listSpec twoBands 1 = [dirEntry [slash], emptyFile [47, 98]] ∧
    listSpec (twoBands.erase (.bandTail 1)) 1 = [dirEntry [slash], emptyFile [47, 98], emptyFile [47, 122]] ∧
    okOf? (restoreOf (fun c => c) (twoBands.erase (.bandTail 1)) 1).1
      = some [RNode.ofEntry (dirEntry [slash]), RNode.ofEntry (emptyFile [47, 98]), RNode.ofEntry (emptyFile [47, 122])] ∧
    (restoreOf (fun c => c) (twoBands.erase (.bandTail 1)) 1).2.events = [] := by
  refine ⟨contained_complete (H := fun c => c) twoBands _ (.bandTail 1) twoBands_good
    (fileDamage_erase twoBands_good (v := .tail (some 1)) (by decide +kernel) (by decide) (by decide))
    1 1 (by decide +kernel) (by decide +kernel) twoBands_unshadowed1 (fun n e => by cases e),
    twoBands_listSpec1, by decide +kernel, by decide +kernel, by decide +kernel⟩

/-- **Damage in another version** (the only hunk of version 0 of `twoBands` replaced by garbage): version 1
restores exactly as before (`contained_elsewhere`, through C02h's `restore_congr`). -/
example : Contained (fun c => c) twoBands (twoBands.put (.hunk 0 0) (.junk 3)) (.hunk 0 0) 1 :=
  contained_complete (H := fun c => c) twoBands _ (.hunk 0 0) twoBands_good
    ⟨damage_put _ _ _, by decide,
     ⟨.hunk [dirEntry [slash], emptyFile [47, 97], emptyFile [47, 122]], by decide +kernel, by decide⟩,
     by decide +kernel, by decide +kernel, by decide +kernel⟩
    1 1 (by decide +kernel) (by decide +kernel) twoBands_unshadowed1 (fun n e => by cases e)

namespace Example
open C01a.Example C02h.Example

/-- `C02h.Example.s1` — the archive after a fault-free backup of `C01a.Example.source` (files through
the combiner and in several blocks, a directory, a symlink, an empty file) — satisfies C01a's
hypotheses again … -/
theorem s1_archiveGood : Exact.ArchiveGood exH source s1 :=
  C01a.backup_keeps_archive_good_same exH exH_inj exH_len archive opts source (by decide) source_good archive_good

theorem s1_good : C10.Good exH s1 :=
  ⟨s1_ci.conf, (C09p.keysNodup_iff s1).2 s1_ci.nodup, (C09p.treeShaped_iff s1).2 s1_ci.dirs, s1_archiveGood.noLock⟩

theorem s1_summary : ∃ hss stats evs, Exact.Summary exH opts source archive s1 hss stats evs :=
  Exact.backup_summary_run (o := opts) exH_inj exH_len (by decide) source_good archive_good

/-- Its version 0 is `Unshadowed`, by the theorems (C01a: it restores exactly and silently). -/
theorem s1_unshadowed : Unshadowed s1 0 := by
  have hx := C01a.backup_restore_exact exH exH_inj exH_len archive opts source (by decide) source_good archive_good
  have := unshadowed_of_exact hx (good_archWF s1_good)
  rwa [new0] at this

theorem s1_tail : ∃ v, s1.get? (.bandTail 0) = some v ∧ v ≠ .dir := by
  obtain ⟨hss, _, _, h⟩ := s1_summary
  have htail : s1.get? (.bandTail 0) = some (.tail (some hss.length)) := new0 ▸ h.final.tail
  exact ⟨_, htail, fun e => nomatch e⟩

/-- **Clause 3, instance.**  Delete the TAIL of the only version of `s1`; back the same source up again
(default options): by `backup_after_loss` the backup returns without counting an error, the new
version is complete, and restoring it — by id or as "latest" — yields exactly the six source entries,
silently.  All hypotheses are discharged by theorems, none by evaluating a run. -/
example : BackupExact exH {} source (s1.erase (.bandTail 0))
    ((backup exH {} source).run (World.clean (s1.erase (.bandTail 0)))) := by
  obtain ⟨v, hv, hvd⟩ := s1_tail
  exact backup_after_loss exH_inj exH_len {} source (by decide) source_good s1_good
    s1_archiveGood.st.kinds s1_archiveGood.st.small s1_archiveGood.heuristic
    (fileDamage_erase s1_good hv hvd (by decide)) (.inl (by simp))

/-- **Clause 2, instance on the same archive**: with the tail of version 0 deleted, version 0 still opens
and every file of it whose hunk and blocks are untouched — all of them — is restored exactly. -/
example : Contained exH s1 (s1.erase (.bandTail 0)) (.bandTail 0) 0 := by
  obtain ⟨v, hv, hvd⟩ := s1_tail
  have hd := fileDamage_erase s1_good hv hvd (by decide)
  -- the tail states the hunk count, and it is not the zero-length leftover of a killed write
  obtain ⟨hss, _, _, h⟩ := s1_summary
  have htail : s1.get? (.bandTail 0) = some (.tail (some hss.length)) := new0 ▸ h.final.tail
  have hr : bandReadable s1 0 = true := new0 ▸ Exact.final_readable h.final
  have hr' : bandReadable (s1.erase (.bandTail 0)) 0 = true := by
    unfold bandReadable at hr ⊢
    rwa [Store.get?_erase_ne s1 (by simp), Store.get?_erase_ne s1 (by simp)]
  exact contained_complete s1 _ (.bandTail 0) s1_good hd 0 _ hr' htail s1_unshadowed (fun n e => by cases e)

/-- Some block of `s1` is REFERENCED by an entry of version 0: a block of `/a`, whose content `[1, 2]`
is not empty. -/
theorem s1_referenced_block : ∃ (h : Str) (c : Str) (n : Nat) (es : List IndexEntry) (e : IndexEntry) (a : Addr),
    s1.get? (.block h) = some (.blockData c) ∧ hunkAt s1 0 n = some es ∧ e ∈ es ∧ a ∈ e.addrs ∧ a.hash = h := by
  obtain ⟨hss, _, _, h⟩ := s1_summary
  have hrec : Exact.Paired (Exact.Records exH opts s1) [root, fa, fb, dd, ll, de] hss.flatten := h.records
  generalize hfl : hss.flatten = fl at hrec
  cases hrec with
  | cons _ hrest =>
    cases hrest with
    | @cons _ e1 _ l2 hfa _ =>
      have hmem : e1 ∈ hss.flatten := by rw [hfl]; simp
      have hcont := hfa.content rfl
      -- the content is not empty, so there is an address, and it resolves
      cases haddrs : e1.addrs with
      | nil => rw [haddrs] at hcont; simp [readBack, fa] at hcont
      | cons a rest =>
        have ha : a ∈ e1.addrs := by rw [haddrs]; exact List.mem_cons_self ..
        have hres := Inv.readBack_addr_isSome exH hcont a ha
        unfold readAddrPure blockContent at hres
        obtain ⟨l, hl, hel⟩ := List.mem_flatten.mp hmem
        obtain ⟨n, hn⟩ := List.getElem?_of_mem hl
        have hh : hunkAt s1 0 n = some l := by
          have := h.final.hunk n
          rw [new0] at this
          simp [hunkAt, this, hn]
        cases hg : s1.get? (.block a.hash) with
        | none => simp [hg] at hres
        | some v =>
          cases v with
          | blockData c => exact ⟨a.hash, c, n, l, e1, a, hg, hh, hel, ha, rfl⟩
          | _ => simp [hg] at hres

theorem s1_dangling_after_erase :
    ∃ h c, s1.get? (.block h) = some (.blockData c) ∧ ¬ NoDangling exH (s1.erase (.block h)) := by
  obtain ⟨h, c, n, es, e, a, hg, hh, he, ha, hah⟩ := s1_referenced_block
  refine ⟨h, c, hg, fun hnd => ?_⟩
  have hh' : hunkAt (s1.erase (.block h)) 0 n = some es := by
    unfold hunkAt at hh ⊢
    rwa [Store.get?_erase_ne s1 (by simp)]
  have := hnd 0 n es hh' e he a ha
  simp [readAddrPure, blockContent, hah] at this

/-- **Clause 3, instance with a dangling basis.**  Delete a block of `s1` that an entry of version 0
refers to: the archive now HAS a dangling reference (C01a's `ArchiveGood` fails), and the next backup
of the same source still returns, completes version 1, and version 1 restores exactly the six source
entries, silently — the file is stored afresh. -/
example : ∃ h : Str,
    ¬ NoDangling exH (s1.erase (.block h)) ∧
    BackupExact exH {} source (s1.erase (.block h)) ((backup exH {} source).run (World.clean (s1.erase (.block h)))) := by
  obtain ⟨h, c, hg, hnd⟩ := s1_dangling_after_erase
  exact ⟨h, hnd, backup_after_loss exH_inj exH_len {} source (by decide) source_good s1_good
    s1_archiveGood.st.kinds s1_archiveGood.st.small s1_archiveGood.heuristic
    (fileDamage_erase s1_good hg (by simp) (fun e => by cases e)) (.inl (by simp))⟩

end Example

end Conserve.C10f
