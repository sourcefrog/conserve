import ConserveModel.Proofs.Diff
import ConserveModel.Props.C01b
/-
C18 — Diff and change reports agree with the real differences.

"Comparing a version with the very tree it was made from reports no change; after any further
modification of the tree the comparison reports exactly the paths that were added, removed, or
whose kind, size, mtime (files), mode, owner or link target differ, each with the right
classification, and the changes reported by the next backup name the same added, changed and
deleted files."

Model: Diff.lean (code side), DiffSpec.lean (specification side).  `A` is the listing of the
stored version, `B` the walk of the live tree; both are strictly sorted by apath (C08, C11).
Outside the quantifier: `BackupOptions.owner = false` (the stored owner is then `None`, every
entry of an owned tree compares as changed), exclusions, and index entries that make
`IndexEntry::mtime()` / `EntryMetadata::from` panic (`diffChecked_ok` gives the exact condition).
-/
namespace Conserve.C18
open Conserve Conserve.C11 Conserve.DM

theorem diffMetadata_spec (a b : EntryMeta) :
    diffMetadata a b = .unchanged ↔
      a.kind = b.kind ∧ a.user = b.user ∧ a.group = b.group ∧ a.mode = b.mode ∧
        (a.kind = .file → a.size = b.size ∧ a.mtime = b.mtime) ∧
        (a.kind = .symlink → a.target = b.target) := by
  unfold diffMetadata
  split
  · rename_i hc
    simp only [bne_iff_ne, ne_eq, Prod.mk.injEq, beq_iff_eq, Bool.or_eq_true,
      Bool.and_eq_true] at hc
    simp only [reduceCtorEq, false_iff]
    rintro ⟨h1, h2, h3, h4, h5, h6⟩
    rcases hc with (((hc | hc) | hc) | ⟨hf, hc⟩) | ⟨hs, hc⟩
    · exact hc h1
    · exact hc ⟨h2, h3⟩
    · exact hc h4
    · rcases hc with hc | hc
      · exact hc (h5 hf).1
      · exact hc (h5 hf).2
    · exact hc (h6 hs)
  · rename_i hc
    simp only [bne_iff_ne, ne_eq, Prod.mk.injEq, beq_iff_eq, Bool.or_eq_true, Bool.and_eq_true,
      not_or, not_and, Decidable.not_not, Classical.not_imp] at hc
    simp only [true_iff]
    obtain ⟨⟨⟨⟨h1, h2⟩, h3⟩, h4⟩, h5⟩ := hc
    exact ⟨h1, h2.1, h2.2, h3, h4, h5⟩

/-- The property's reading — a path present on both sides is reported as changed iff its
"kind, size, mtime (files), mode, owner or link target differ" — on the two entry types:
sizes are the stored byte count `Σ addr.len` against `st_size`, mtimes are instants. -/
def PropertyUnchanged (a : IndexEntry) (b : SrcEntry) : Prop :=
  a.kind = b.kind ∧ a.user = b.user ∧ a.group = b.group ∧ a.unixMode = some b.unixMode ∧
    (b.kind = .file → a.size = b.size ∧ a.ts = b.mtimeNs) ∧
    (b.kind = .symlink → a.target = b.target)

/-- The code decides exactly the property's notion of "unchanged" — no discrepancy.  In
particular the size comparison is guarded by `kind == File`, so the fact that
`IndexEntry::size()` is `Some(Σ len)` for directories and symlinks while the source side
reports `None` never shows (see `dir_size_not_compared`). -/
theorem diffMetadata_entries (a : IndexEntry) (b : SrcEntry) :
    diffMetadata a.meta b.meta = .unchanged ↔ PropertyUnchanged a b := by
  rw [diffMetadata_spec]
  unfold PropertyUnchanged IndexEntry.meta SrcEntry.meta
  simp only
  constructor
  · rintro ⟨h1, h2, h3, h4, h5, h6⟩
    refine ⟨h1, h2, h3, h4, ?_, ?_⟩
    · intro hf
      have := h5 (h1.trans hf)
      simpa [hf] using this
    · intro hs
      have := h6 (h1.trans hs)
      simpa [hs] using this
  · rintro ⟨h1, h2, h3, h4, h5, h6⟩
    refine ⟨h1, h2, h3, h4, ?_, ?_⟩
    · intro hf
      have hf' := h1.symm.trans hf
      simpa [hf'] using h5 hf'
    · intro hs
      have hs' := h1.symm.trans hs
      simpa [hs'] using h6 hs'

theorem diffMetadata_changed_of_ne {a b : EntryMeta} (h : diffMetadata a b ≠ .unchanged) :
    diffMetadata a b = .changed := by
  unfold diffMetadata at h ⊢
  split
  · rfl
  · rename_i hc; simp [hc] at h

theorem diffMetadata_eq_iff (a : IndexEntry) (b : SrcEntry) (k : ChangeKind) :
    diffMetadata a.meta b.meta = k ↔
      (k = .unchanged ∧ PropertyUnchanged a b) ∨ (k = .changed ∧ ¬ PropertyUnchanged a b) := by
  rw [← diffMetadata_entries]
  by_cases hu : diffMetadata a.meta b.meta = .unchanged
  · rw [hu]
    exact ⟨fun e => .inl ⟨e.symm, rfl⟩, fun h => h.elim (·.1.symm) (absurd rfl ·.2)⟩
  · rw [diffMetadata_changed_of_ne hu]
    exact ⟨fun e => .inr ⟨e.symm, nofun⟩, fun h => h.elim (nomatch ·.2) (·.1.symm)⟩

theorem diffMetadata_mtime (a b : EntryMeta) (t : Int) (h : b.kind ≠ .file) :
    diffMetadata a { b with mtime := t } = diffMetadata a b := by
  unfold diffMetadata
  dsimp only
  by_cases hk : a.kind = b.kind
  · rw [beq_eq_false_iff_ne.2 (hk ▸ h : a.kind ≠ .file)]
    simp only [Bool.false_and]
  · rw [bne_iff_ne.2 hk]
    simp only [Bool.true_or]

/-- Everything not mentioned is ignored: a directory's or symlink's mtime, and the stored
byte count of a non-file. -/
theorem dir_mtime_ignored (a : IndexEntry) (b : SrcEntry) (t : Int) (h : b.kind ≠ .file) :
    diffMetadata a.meta { b with mtimeNs := t }.meta = diffMetadata a.meta b.meta :=
  diffMetadata_mtime a.meta b.meta t h

/-- On strictly sorted inputs the classification deleted / added / present-in-both of the
two-cursor merge is set difference / intersection on paths, and its stream is strictly sorted. -/
theorem merge_classifies {A : List IndexEntry} {B : List SrcEntry}
    (hA : SortedA A) (hB : SortedB B) :
    ((mergeEntries A B).Pairwise fun m m' => apathCmp m.apath m'.apath = .lt) ∧
    (∀ a, .left a ∈ mergeEntries A B ↔ a ∈ A ∧ ∀ b ∈ B, b.apath ≠ a.apath) ∧
    (∀ b, .right b ∈ mergeEntries A B ↔ b ∈ B ∧ ∀ a ∈ A, a.apath ≠ b.apath) ∧
    (∀ a b, .both a b ∈ mergeEntries A B ↔ a ∈ A ∧ b ∈ B ∧ a.apath = b.apath) := by
  refine ⟨merge_sorted hA hB, fun a => ?_, fun b => ?_, fun a b => ?_⟩
  · exact (mem_merge_iff hA hB (.left a)).trans
      ((and_congr (eq_comm.trans (lookupA_eq_some hA _ a)) (eq_comm.trans (lookupB_eq_none B _))).trans
        ⟨fun h => ⟨h.1.1, h.2⟩, fun h => ⟨⟨h.1, rfl⟩, h.2⟩⟩)
  · exact (mem_merge_iff hA hB (.right b)).trans
      ((and_congr (eq_comm.trans (lookupA_eq_none A _)) (eq_comm.trans (lookupB_eq_some hB _ b))).trans
        ⟨fun h => ⟨h.2.1, h.1⟩, fun h => ⟨h.2, h.1, rfl⟩⟩)
  · exact (mem_merge_iff hA hB (.both a b)).trans
      ((and_congr (eq_comm.trans (lookupA_eq_some hA _ a)) (eq_comm.trans (lookupB_eq_some hB _ b))).trans
        ⟨fun h => ⟨h.1.1, h.2.1, h.2.2.symm⟩, fun h => ⟨⟨h.1, rfl⟩, h.2.1, h.2.2.symm⟩⟩)

theorem toIndex_exact : EncExact toIndex := by
  intro t p h
  rw [C01b.toIndex_eq_floor] at h
  cases h
  exact C01b.expected_total t

/-- Also for the write side before commit 6ea0861, wherever it did not panic. -/
theorem toIndexPre_exact : EncExact toIndexPre :=
  fun t p h => toIndex_exact t p (C01b.repair_extends_pre t p h)

theorem madeFrom_unchanged {enc : Int → Outcome (Int × Nat)} (henc : EncExact enc)
    {e : IndexEntry} {s : SrcEntry} (h : MadeFromWith enc e s) :
    e.apath = s.apath ∧ diffMetadata e.meta s.meta = .unchanged := by
  obtain ⟨p, hp, he, hsz⟩ := h.fields
  refine ⟨by rw [he], ?_⟩
  rw [diffMetadata_entries]
  unfold PropertyUnchanged IndexEntry.ts
  rw [he]
  refine ⟨rfl, rfl, rfl, rfl, fun hf => ⟨?_, henc _ _ hp⟩, fun hs => ?_⟩
  · have := hsz hf; rw [he] at this; exact this
  · simp [SrcEntry.meta, hs]

/-- **Comparing a version with the very tree it was made from reports no change**: every path
is reported `Unchanged` with `include_unchanged`, and nothing at all without.  (`Pointwise`:
the listing and the walk correspond entry by entry, which is C01 a / C08.)  Holds for any
exact mtime encoding (`EncExact`): the present one and the one before commit 6ea0861. -/
theorem diff_self_clean {enc : Int → Outcome (Int × Nat)} (henc : EncExact enc)
    {A : List IndexEntry} {B : List SrcEntry} (h : Pointwise (MadeFromWith enc) A B) :
    diff A B true = A.map (fun a => (a.apath, ChangeKind.unchanged)) ∧ diff A B false = [] := by
  unfold diff
  induction h with
  | nil => simp [mergeEntries, diffLoop]
  | @cons a b as bs hab _ ih =>
    obtain ⟨hp, hd⟩ := madeFrom_unchanged henc hab
    have hc : apathCmp a.apath b.apath = .eq := (cmp_eq_iff _ _).2 hp
    rw [mergeEntries]
    simp only [hc, diffLoop, Matched.toEntryChange, hd, List.map_cons]
    simp [ih.1, ih.2]

theorem diff_self_clean_current {A : List IndexEntry} {B : List SrcEntry}
    (h : Pointwise MadeFrom A B) :
    diff A B true = A.map (fun a => (a.apath, ChangeKind.unchanged)) ∧ diff A B false = [] :=
  diff_self_clean toIndex_exact h

/-- **After any modification the comparison reports exactly the real differences**: the
report is the declarative one — all paths of either tree in apath order, each classified
deleted / added / changed / unchanged from the two path-indexed maps, unchanged ones dropped
unless requested. -/
theorem diff_exact {A : List IndexEntry} {B : List SrcEntry} (hA : SortedA A) (hB : SortedB B)
    (inc : Bool) : diff A B inc = specDiff A B inc := by
  unfold diff specDiff
  rw [diffLoop_eq, merge_eq_pairs hA hB, List.map_filterMap, List.filter_filterMap]
  congr 1
  funext p
  rw [classify_eq]
  cases h : pairAt A B p with
  | none => rfl
  | some m =>
    have : m.toEntryChange = (p, m.toEntryChange.2) :=
      Prod.ext ((toEntryChange_fst m).trans (pairAt_apath h)) rfl
    simp only [Option.map_some, Option.filter_some]
    rw [this]

theorem diff_reports {A : List IndexEntry} {B : List SrcEntry} (hA : SortedA A) (hB : SortedB B)
    (inc : Bool) (p : Str) (k : ChangeKind) :
    (p, k) ∈ diff A B inc ↔
      (inc = true ∨ k ≠ .unchanged) ∧
      ((k = .deleted ∧ (∃ a ∈ A, a.apath = p) ∧ ∀ b ∈ B, b.apath ≠ p) ∨
       (k = .added ∧ (∃ b ∈ B, b.apath = p) ∧ ∀ a ∈ A, a.apath ≠ p) ∨
       (∃ a ∈ A, ∃ b ∈ B, a.apath = p ∧ b.apath = p ∧
          ((k = .unchanged ∧ PropertyUnchanged a b) ∨ (k = .changed ∧ ¬ PropertyUnchanged a b)))) := by
  obtain ⟨-, hl, hr, hb⟩ := merge_classifies hA hB
  unfold diff
  rw [diffLoop_eq, List.mem_filter, List.mem_map, and_comm]
  refine and_congr (by simp [keep]) ⟨?_, ?_⟩
  · rintro ⟨m, hm, e⟩
    cases m with
    | left a => cases e; exact .inl ⟨rfl, ⟨a, ((hl a).1 hm).1, rfl⟩, ((hl a).1 hm).2⟩
    | right b => cases e; exact .inr (.inl ⟨rfl, ⟨b, ((hr b).1 hm).1, rfl⟩, ((hr b).1 hm).2⟩)
    | both a b =>
      cases e
      obtain ⟨h1, h2, h3⟩ := (hb a b).1 hm
      exact .inr (.inr ⟨a, h1, b, h2, rfl, h3.symm, (diffMetadata_eq_iff a b _).1 rfl⟩)
  · rintro (⟨rfl, ⟨a, ha, rfl⟩, h⟩ | ⟨rfl, ⟨b, hb', rfl⟩, h⟩ | ⟨a, ha, b, hb', rfl, e, h⟩)
    · exact ⟨.left a, (hl a).2 ⟨ha, h⟩, rfl⟩
    · exact ⟨.right b, (hr b).2 ⟨hb', h⟩, rfl⟩
    · exact ⟨.both a b, (hb a b).2 ⟨ha, hb', e.symm⟩,
        congrArg (Prod.mk _) ((diffMetadata_eq_iff a b k).2 h)⟩

/-- The only panics on the way (`Kind::Unknown`, a symlink without target, a stored mtime that
`Timestamp::new` refuses) need an index entry no backup writes; without one, the real `diff`
returns exactly the pure `diff`. -/
theorem diffChecked_ok {A : List IndexEntry} {B : List SrcEntry}
    (hA : ∀ a ∈ A, a.panicSite = none) (hB : ∀ b ∈ B, b.panicSite = none) (inc : Bool) :
    diffChecked A B inc = .ok (diff A B inc) := by
  unfold diffChecked diff
  apply Outcome.loop_ok (step := Matched.toEntryChangeChecked) (val := Matched.toEntryChange)
    (out := diffLoop inc) rfl (fun _ _ => rfl) (fun _ _ => rfl)
  intro m hm
  cases m with
  | left a => simp [Matched.toEntryChangeChecked, hA a (mem_of_a? hm rfl)]
  | right b => simp [Matched.toEntryChangeChecked, hB b (mem_of_b? hm rfl)]
  | both a b =>
    simp [Matched.toEntryChangeChecked, hA a (mem_of_a? hm rfl), hB b (mem_of_b? hm rfl)]

theorem panicSite_none_iff (e : IndexEntry) :
    e.panicSite = none ↔
      e.kind ≠ .unknown ∧ (e.kind = .symlink → e.target ≠ none) ∧
        e.mtimeNanos ≤ 999999999 ∧ secMin ≤ e.mtime ∧ e.mtime ≤ secMax := by
  unfold IndexEntry.panicSite
  by_cases h1 : e.kind = .unknown
  · simp [h1]
  · by_cases h2 : e.kind = .symlink ∧ e.target = none
    · simp [h2]
    · rw [if_neg h1, if_neg h2]
      have h2' : e.kind = .symlink → e.target ≠ none := fun a b => h2 ⟨a, b⟩
      by_cases hb : e.mtimeNanos ≤ 999999999 ∧ secMin ≤ e.mtime ∧ e.mtime ≤ secMax
      · rw [indexMtime_eq_ok hb.1 hb.2.1 hb.2.2]
        exact ⟨fun _ => ⟨h1, h2', hb⟩, fun _ => rfl⟩
      · obtain ⟨site, hs⟩ := indexMtime_panics hb
        rw [hs]
        exact ⟨nofun, fun h => absurd h.2.2 hb⟩

/-- Entries written by a backup from a representable source entry are harmless (with
`diffChecked_ok` and `diff_self_clean`: comparing a version with the tree it was made from neither
panics nor reports anything). -/
theorem madeFrom_panicSite_none {e : IndexEntry} {s : SrcEntry} (h : MadeFrom e s)
    (hs : s.panicSite = none) (hr : inRange s.mtimeNs) : e.panicSite = none := by
  obtain ⟨p, hp, he, _⟩ := h.fields
  rw [C01b.toIndex_eq_floor] at hp
  cases hp
  rw [panicSite_none_iff, he]
  unfold SrcEntry.panicSite at hs
  have h1 : s.kind ≠ .unknown := by
    intro x; simp [x] at hs
  have h2 : ¬ (s.kind = .symlink ∧ s.target = none) := by
    intro x; simp [x] at hs
  refine ⟨h1, fun (hsym : s.kind = .symlink) => ?_, C01b.floor_bounds hr⟩
  simp only [SrcEntry.meta, if_pos hsym]
  exact fun x => h2 ⟨hsym, x⟩

/-- An index entry is canonical when some backup of the present code wrote it. -/
def Canonical (a : IndexEntry) : Prop := ∃ s, MadeFrom a s

/-- The fields of an entry some backup wrote. -/
theorem canonical_fields {a : IndexEntry} (h : Canonical a) :
    ∃ (s0 : SrcEntry) (p0 : Int × Nat), toIndex s0.mtimeNs = .ok p0 ∧ a.kind = s0.kind ∧ a.mtime = p0.1 ∧
      a.mtimeNanos = p0.2 ∧ a.target = s0.meta.target :=
  let ⟨s0, h⟩ := h
  let ⟨p, hp, he, _⟩ := h.fields
  ⟨s0, p, hp, by rw [he], by rw [he], by rw [he], by rw [he]⟩

theorem changed_of_not_heuristic {a : IndexEntry} {b : SrcEntry} (hf : b.kind = .file)
    (hh : ¬ heuristicallyUnchanged a b = true) : diffMetadata a.meta b.meta = .changed := by
  apply diffMetadata_changed_of_ne
  intro hu
  obtain ⟨h1, _, _, _, h5, _⟩ := (diffMetadata_entries a b).1 hu
  obtain ⟨h5a, h5b⟩ := h5 hf
  apply hh
  simp [heuristicallyUnchanged, h1, h5b, IndexEntry.meta, SrcEntry.meta, hf, h5a]

/-- When it passes, a basis entry some backup wrote equals the freshly made entry (addresses
aside) exactly when nothing `diff` looks at differs: kind, instant and size agree by the test,
the same instant is stored as the same pair, and neither file has a link target. -/
theorem remade_eq_iff {a : IndexEntry} {b : SrcEntry} (hcan : Canonical a)
    (hap : a.apath = b.apath) (hf : b.kind = .file) (hh : heuristicallyUnchanged a b = true)
    {ne : IndexEntry} (hne : metadataFrom b = .ok ne) :
    { ne with addrs := a.addrs } = a ↔ diffMetadata a.meta b.meta = .unchanged := by
  obtain ⟨s0, hs0⟩ := hcan
  obtain ⟨p0, hp0, ha, -⟩ := hs0.fields
  unfold metadataFrom metadataFromWith at hne
  rw [C01b.toIndex_eq_floor] at hne hp0
  cases hne
  cases hp0
  simp only [heuristicallyUnchanged, Bool.and_eq_true, beq_iff_eq] at hh
  obtain ⟨⟨hk, hts⟩, hsz⟩ := hh
  have hsize : a.size = b.size := by simpa [IndexEntry.meta, SrcEntry.meta, hf] using hsz
  rw [diffMetadata_entries]
  constructor
  · intro e
    refine ⟨hk, ?_, ?_, ?_, fun _ => ⟨hsize, hts⟩, fun hs => by rw [hf] at hs; cases hs⟩ <;>
      rw [← e]
  · rintro ⟨-, h2, h3, h4, -, -⟩
    have hinst : s0.mtimeNs = b.mtimeNs := by
      rw [← hts, IndexEntry.ts, ha]
      exact (toIndex_exact _ _ (C01b.toIndex_eq_floor _)).symm
    have hkind : s0.kind = .file := by rw [← hf, ← hk, ha]
    have htgt : s0.meta.target = b.meta.target := by simp [SrcEntry.meta, hf, hkind]
    rw [ha] at hap hk h2 h3 h4 ⊢
    dsimp only at hap hk h2 h3 h4 ⊢
    rw [hap, hk, hinst, h2, h3, h4, htgt]

/-- For one merged pair, the event the next backup reports is the classification `diff` gives —
for every path missing from the source (`Deleted`, any kind) and for every path that is now a
FILE (`Added`, `Changed`, and `Unchanged` for the counters); for paths that are now
directories or symlinks the backup reports nothing at all (backup.rs `copy_dir`,
`copy_symlink`: "TODO: Emit the actual change"). -/
theorem backup_event_agrees (m : Matched)
    (hp : ∀ a b, m = .both a b → a.apath = b.apath ∧ Canonical a) :
    backupEvent m = .ok (if reportedByBackup m then some m.toEntryChange else none) := by
  cases m with
  | left a => rfl
  | right b =>
    simp only [backupEvent, reportedByBackup, Matched.toEntryChange, beq_iff_eq]
  | both a b =>
    obtain ⟨hap, hcan⟩ := hp a b rfl
    simp only [backupEvent, reportedByBackup, Matched.toEntryChange, beq_iff_eq]
    by_cases hf : b.kind = .file
    · rw [if_pos hf, if_pos hf]
      by_cases hh : heuristicallyUnchanged a b = true
      · obtain ⟨ne, hne⟩ : ∃ ne, metadataFrom b = .ok ne := by
          unfold metadataFrom metadataFromWith
          rw [C01b.toIndex_eq_floor]
          exact ⟨_, rfl⟩
        rw [if_pos hh, hne]
        simp only [Outcome.bind]
        congr 3
        by_cases hu : diffMetadata a.meta b.meta = .unchanged
        · rw [if_pos ((remade_eq_iff hcan hap hf hh hne).2 hu), hu]
        · rw [if_neg (mt (remade_eq_iff hcan hap hf hh hne).1 hu), diffMetadata_changed_of_ne hu]
      · rw [if_neg hh, changed_of_not_heuristic hf hh]
    · simp [hf]

/-- **The changes reported by the next backup name the same added, changed and deleted
files**: the event stream is the merge restricted to reported pairs (deleted paths and paths
that are now files), each with the classification `diff` gives it.  Hypotheses: sorted
listings and a basis written by a backup (`Canonical`).  (`metadata_from` cannot panic any
more, C01 b `toIndex_eq_floor`.) -/
theorem backup_events_agree {A : List IndexEntry} {B : List SrcEntry}
    (hA : SortedA A) (hB : SortedB B) (hc : ∀ a ∈ A, Canonical a) :
    backupEvents A B =
      .ok (((mergeEntries A B).filter reportedByBackup).map Matched.toEntryChange) := by
  unfold backupEvents
  apply Outcome.loop_ok (step := backupEvent)
    (val := fun m => if reportedByBackup m then some m.toEntryChange else none)
    (out := fun ms => (ms.filter reportedByBackup).map Matched.toEntryChange)
    rfl (fun _ _ => rfl)
  · intro m ms
    by_cases hr : reportedByBackup m = true <;> simp [hr]
  intro m hm
  apply backup_event_agrees
  rintro a b rfl
  obtain ⟨h1, h2, h3⟩ := ((merge_classifies hA hB).2.2.2 a b).1 hm
  exact ⟨h3, hc a h1⟩

section Examples
-- "/", "/a", "/b", "/c"; modes are decimal: 0o755 = 493, 0o644 = 420, 0o777 = 511
def root : Str := [47]
def pa : Str := [47, 97]
def pb : Str := [47, 98]
def pc : Str := [47, 99]

def srcRoot : SrcEntry :=
  { apath := root, kind := .dir, mtimeNs := 5000000000, unixMode := 493,
    user := some [114], group := some [114] }
def srcA : SrcEntry :=
  { apath := pa, kind := .file, mtimeNs := 1700000000123456789, unixMode := 420,
    user := some [114], group := some [114], size := 3, content := [1, 2, 3] }
def srcB : SrcEntry :=
  { apath := pb, kind := .symlink, mtimeNs := 7, unixMode := 511,
    user := some [114], group := some [114], target := some [120] }

def ixRoot : IndexEntry :=
  { apath := root, kind := .dir, mtime := 5, mtimeNanos := 0,
    unixMode := some 493, user := some [114], group := some [114], addrs := [], target := none }
def ixA : IndexEntry :=
  { apath := pa, kind := .file, mtime := 1700000000, mtimeNanos := 123456789,
    unixMode := some 420, user := some [114], group := some [114],
    addrs := [{ hash := [], start := 0, len := 2 }, { hash := [], start := 5, len := 1 }],
    target := none }
def ixB : IndexEntry :=
  { apath := pb, kind := .symlink, mtime := 0, mtimeNanos := 7,
    unixMode := some 511, user := some [114], group := some [114], addrs := [],
    target := some [120] }

example : SortedA [ixRoot, ixA, ixB] := by unfold SortedA; decide
example : SortedB [srcRoot, srcA, srcB] := by unfold SortedB; decide
theorem ex_madeA : MadeFrom ixA srcA := ⟨{ ixA with addrs := [] }, by decide, by decide, by decide⟩
theorem ex_madeB : MadeFrom ixB srcB := ⟨ixB, by decide, by decide, by decide⟩
theorem ex_madeRoot : MadeFrom ixRoot srcRoot := ⟨ixRoot, by decide, by decide, by decide⟩
example : Pointwise MadeFrom [ixRoot, ixA, ixB] [srcRoot, srcA, srcB] :=
  .cons ex_madeRoot (.cons ex_madeA (.cons ex_madeB .nil))
example : ∀ a ∈ [ixRoot, ixA, ixB], Canonical a := by
  intro a ha
  simp only [List.mem_cons, List.not_mem_nil, or_false] at ha
  rcases ha with rfl | rfl | rfl
  · exact ⟨_, ex_madeRoot⟩
  · exact ⟨_, ex_madeA⟩
  · exact ⟨_, ex_madeB⟩
-- the tree a version was made from: all unchanged / nothing
example : diff [ixRoot, ixA, ixB] [srcRoot, srcA, srcB] true =
    [(root, .unchanged), (pa, .unchanged), (pb, .unchanged)] := by decide +kernel
example : diff [ixRoot, ixA, ixB] [srcRoot, srcA, srcB] false = [] := by decide +kernel
-- a modified tree: /a touched (mtime only), /b removed, /c added
def srcA' : SrcEntry := { srcA with mtimeNs := 1700000001000000000 }
def srcC : SrcEntry :=
  { apath := pc, kind := .dir, mtimeNs := 0, unixMode := 448, user := none, group := none }
example : diff [ixRoot, ixA, ixB] [srcRoot, srcA', srcC] false =
    [(pa, .changed), (pb, .deleted), (pc, .added)] := by decide +kernel
example : specDiff [ixRoot, ixA, ixB] [srcRoot, srcA', srcC] false =
    [(pa, .changed), (pb, .deleted), (pc, .added)] := by
  rw [← diff_exact (by unfold SortedA; decide) (by unfold SortedB; decide)]
  decide +kernel
-- the next backup's events: /c is a directory, so no event for it
example : backupEvents [ixRoot, ixA, ixB] [srcRoot, srcA', srcC] =
    .ok [(pa, .changed), (pb, .deleted)] := by decide +kernel
-- each single attribute matters, with the right guard
example : diffMetadata ixA.meta { srcA with unixMode := 384 }.meta = .changed := by decide
example : diffMetadata ixA.meta { srcA with group := some [120] }.meta = .changed := by decide
example : diffMetadata ixA.meta { srcA with size := 4 }.meta = .changed := by decide
example : diffMetadata ixA.meta { srcA with kind := .dir }.meta = .changed := by decide
example : diffMetadata ixB.meta { srcB with target := some [121] }.meta = .changed := by decide
example : diffMetadata ixB.meta { srcB with mtimeNs := 99 }.meta = .unchanged := by decide
example : diffMetadata ixRoot.meta { srcRoot with mtimeNs := 99 }.meta = .unchanged := by decide
/-- `IndexEntry::size()` is `Some(Σ len)` even for a directory (here 3 bytes of addresses, which
no backup writes) while the source reports `None`; the comparison never looks. -/
theorem dir_size_not_compared :
    diffMetadata { ixRoot with addrs := [{ hash := [], start := 0, len := 3 }] }.meta srcRoot.meta
      = .unchanged := by decide
/-- NOT detected (and not claimed by the property): content rewritten with the same length and
the mtime put back.  `diff` compares metadata only. -/
theorem same_size_rewrite_unseen :
    diffMetadata ixA.meta { srcA with content := [9, 9, 9] }.meta = .unchanged := by decide
-- panics are reachable only through odd index entries
example : diffChecked [{ ixA with mtimeNanos := 1000000000 }] [srcA] true = .panic siteDecNew := by
  decide +kernel
example : diffChecked [{ ixB with target := none }] [] true = .panic siteTargetNone := by
  decide +kernel
example : ixA.panicSite = none ∧ srcA.panicSite = none := by decide
end Examples

end Conserve.C18
