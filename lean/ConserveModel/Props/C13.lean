import ConserveModel.Proofs.ConformsBackup
import ConserveModel.Proofs.ConformsDelete
import ConserveModel.Props.C04
import ConserveModel.Props.C05
import ConserveModel.Driver.StoreIO
import ConserveModel.Props.C11Walk
import ConserveModel.Proofs.ConformsWalk
/-
C13 — Everything written conforms to the documented archive format.

"After any sequence of operations, an independent reader of the documented 0.6 format finds: index
hunks numbered consecutively from zero, non-empty, entries valid paths strictly increasing within
and across hunks; a completed version's tail stating the true hunk count; every block stored under
the first three hex digits of, and named by, the BLAKE2b hash of its uncompressed content; every
address lying inside its block; only files carrying addresses whose lengths sum to the file's size;
and only symlinks carrying a target."  Quantifier: all histories and option combinations, checked
after every mutating operation, including after interrupted backups (for whatever was written).

`Conforms H s : Bool` (Invariants.lean) is that independent reader, with the allowances for what
a killed write can leave (a zero-length last hunk of a version without tail, a zero-length tail, a
missing / zero-length head of an empty version, zero-length blocks).  This file proves that it is
PRESERVED:

* `backup_conforms_all_worlds` — by `backup`, in EVERY world that enforces `CreateNew`: any list of
  injected faults, any crash point `crashAt := some j` (counted in micro-steps; a write is "create
  empty" then "fill"), dead or alive.  Since the statement is about the store the run ends in, and
  a world killed at micro-step `j` ends in the store the run had reached then, this is "checked
  after every mutating operation, including after interrupted backups".
* `delete_conforms` — by `delete_bands` (strict mode, the code as repaired), in every world.
* `history_conforms` — by induction over any history of backup attempts and deletes, each in an
  arbitrary world, from any conforming archive; `reachable_conforms` is its instance at the empty one
  (`emptyArchive_conforms`).
* `hunk_path_doc` — the documented path arithmetic `bNNNN/i/DDDDD/NNNNNNNNN`, `DDDDD = n / 10000`,
  and `d/xxx/<hash>`, `xxx` = first three characters.

What is assumed besides `Conforms` of the starting archive: the store is a map (`NoDupKeys`) and
every key's parent is a directory (`DirsOk`) — both facts about any real directory tree, both
preserved by the runs (`backup_ci_all_worlds`, `delete_ci`), both needed: without `DirsOk` an
orphan hunk file `b0005/i/00000/000000003` (no `b0005` directory) is invisible to `Conforms` but
would become hunk 3 of the next version.  `HashLen H`: the hash, as a file name, has at least
three characters (128 for BLAKE2b-512); `H` injective (a dedup hit must be the same bytes, or an
address could point past the end of the block it names).  The source listing is what the walk
yields: strictly increasing valid paths, a target exactly for symlinks (`SrcSorted`; entries of
unknown kind are allowed in `SrcSortedWeak`).  NOTHING is assumed about options (`maxBlockSize`,
`maxEntriesPerHunk`, `smallFileCap` may be anything, 0 included), file contents, `st_size`
agreeing with what reading returns, or the basis version: unlike C04 (which says the recorded
CONTENT is right and needs the tool's own "unchanged" heuristic to be sound), conformance of
reused basis addresses follows from the archive having conformed before.

The proof (Proofs/Conforms*.lean) is a Hoare-style development like the one of C03/C04 (and shares
with it the program equations, the block level specified once in Proofs/BlockSpec.lean, the
read-only lemmas): the store invariant
`CI = Conforms ∧ DirsOk ∧ NoDupKeys` is shown for every single `World.exec` step; the writer
invariant `W2` says every recorded address resolves and only files have any; the loop invariant
`LoopSt`: the new band is "open" with hunks `hs` (files `0 … sequence-1`, all decoded, head there,
no tail), `hunksWritten = sequence = hs.length`, and every entry buffered in
`pending ++ finished ++ queue` has a valid path, a target iff it is a symlink, a known kind, a
path distinct from the other buffered ones, above every path already written and below every source
entry still to come.
-/
namespace Conserve.C13
open Conserve Conserve.Inv Conserve.Conf

variable {H : Str → Str}

/-- What the source walk yields (`C11.walk_sorted`, `C11.walk_valid`): strictly increasing valid
paths; a target exactly for symlinks; no entry of unknown kind. -/
def SrcSorted (src : List SrcEntry) : Prop :=
  (src.map (·.apath)).Pairwise (apathCmp · · = .lt) ∧
  ∀ e ∈ src, isValid e.apath = true ∧ (e.kind = .symlink ↔ e.target.isSome = true) ∧ e.kind ≠ .unknown

/-- The same without the last clause: entries of unknown kind (sockets, devices …) may occur — the
backup skips them. -/
def SrcSortedWeak (src : List SrcEntry) : Prop :=
  (src.map (·.apath)).Pairwise (apathCmp · · = .lt) ∧
  ∀ e ∈ src, isValid e.apath = true ∧ (e.kind = .symlink ↔ e.target.isSome = true)

theorem SrcSorted.weak {src : List SrcEntry} (h : SrcSorted src) : SrcSortedWeak src :=
  ⟨h.1, fun e he => ⟨(h.2 e he).1, (h.2 e he).2.1⟩⟩

/-- The store part of the invariant behind all theorems here (`Conserve.Conf.CI`): the archive
conforms, every key's parent is a directory, no key occurs twice. -/
abbrev Inv13 (H : Str → Str) (s : Store) : Prop := CI H s

/-- **The invariant survives `backup` in every world**: any faults, any crash point, any options.
(`DirsOk` and `NoDupKeys` come along so that the statement can be iterated.) -/
theorem backup_ci_all_worlds {o : BackupOpts} {src : List SrcEntry} {w : World}
    (hinj : Function.Injective H) (hlen : HashLen H) (hsrc : SrcSortedWeak src)
    (he : w.enforceCreateNew = true) (hci : CI H w.store) : CI H ((backup H o src).run w).2.store :=
  (backup_csat hinj hlen o ⟨hsrc.1, fun sf hsf => hsrc.2 sf hsf⟩ w ⟨he, hci⟩).1.ci

/-- **`backup_conforms_all_worlds`.**  For every injective hash with names of at least three
characters, ALL options (also `maxBlockSize = 0` and `maxEntriesPerHunk = 0`: every entry then
triggers a flush, and `finish_hunk` skips empty pending lists), every source listing that is
strictly increasing and valid, every world that enforces `CreateNew` — ANY faults, ANY crash
point: if the archive conformed before (and is a directory tree), it conforms after — whatever was
written, however the run ended. -/
theorem backup_conforms_all_worlds (o : BackupOpts) (src : List SrcEntry) (w : World)
    (hinj : Function.Injective H) (hlen : HashLen H) (hsrc : SrcSorted src)
    (he : w.enforceCreateNew = true) (hnd : NoDupKeys w.store) (hdirs : DirsOk w.store)
    (hc : Conforms H w.store = true) :
    Conforms H ((backup H o src).run w).2.store = true :=
  (backup_ci_all_worlds hinj hlen hsrc.weak he ⟨hc, hdirs, hnd⟩).conf

theorem backup_conforms_all_worlds_weak (o : BackupOpts) (src : List SrcEntry) (w : World)
    (hinj : Function.Injective H) (hlen : HashLen H) (hsrc : SrcSortedWeak src)
    (he : w.enforceCreateNew = true) (hnd : NoDupKeys w.store) (hdirs : DirsOk w.store)
    (hc : Conforms H w.store = true) :
    Conforms H ((backup H o src).run w).2.store = true :=
  (backup_ci_all_worlds hinj hlen hsrc he ⟨hc, hdirs, hnd⟩).conf

/-- The clean world (no faults, no crash): the complete new version conforms. -/
theorem backup_conforms_clean (o : BackupOpts) (src : List SrcEntry) (s : Store)
    (hinj : Function.Injective H) (hlen : HashLen H) (hsrc : SrcSorted src) (hnd : NoDupKeys s)
    (hdirs : DirsOk s) (hc : Conforms H s = true) :
    Conforms H ((backup H o src).run (World.clean s)).2.store = true :=
  backup_conforms_all_worlds o src (World.clean s) hinj hlen hsrc rfl hnd hdirs hc

/-- Every crash point: the store an interrupted backup leaves conforms (the zero-length file of a
write killed in the middle is the permitted leftover). -/
theorem backup_conforms_crash (o : BackupOpts) (src : List SrcEntry) (s : Store) (j : Nat)
    (hinj : Function.Injective H) (hlen : HashLen H) (hsrc : SrcSorted src) (hnd : NoDupKeys s)
    (hdirs : DirsOk s) (hc : Conforms H s = true) :
    Conforms H ((backup H o src).run { store := s, crashAt := some j }).2.store = true :=
  backup_conforms_all_worlds o src { store := s, crashAt := some j } hinj hlen hsrc rfl hnd hdirs hc

theorem backup_conforms_faults (o : BackupOpts) (src : List SrcEntry) (s : Store) (faults : List Fault)
    (hinj : Function.Injective H) (hlen : HashLen H) (hsrc : SrcSorted src) (hnd : NoDupKeys s)
    (hdirs : DirsOk s) (hc : Conforms H s = true) :
    Conforms H ((backup H o src).run { store := s, faults := faults }).2.store = true :=
  backup_conforms_all_worlds o src { store := s, faults := faults } hinj hlen hsrc rfl hnd hdirs hc

/-- **The source walk of any well-formed tree, under any exclusion predicate, is `SrcSorted`**
(C11: `walk_sorted`, `walk_valid`; every entry is `entry_from_fs_metadata` of a node). -/
theorem walk_srcSorted (T : Node) (excl : Str → Bool) (hwf : T.WF = true) : SrcSorted (C11.walk T excl) :=
  ⟨C11.walk_sorted T excl hwf, fun e he =>
    ⟨C11.walk_valid T excl hwf e he, (walk_entries_shape T excl e he).1, (walk_entries_shape T excl e he).2⟩⟩

/-- End to end: backing up ANY well-formed source tree (any depth, width, contents, exclusions)
with any options, in any world, keeps the archive conforming. -/
theorem backup_tree_conforms (o : BackupOpts) (T : Node) (excl : Str → Bool) (hwf : T.WF = true) (w : World)
    (hinj : Function.Injective H) (hlen : HashLen H) (he : w.enforceCreateNew = true)
    (hnd : NoDupKeys w.store) (hdirs : DirsOk w.store) (hc : Conforms H w.store = true) :
    Conforms H ((backup H o (C11.walk T excl)).run w).2.store = true :=
  backup_conforms_all_worlds o _ w hinj hlen (walk_srcSorted T excl hwf) he hnd hdirs hc

theorem delete_ci (D : List Nat) (opts : DeleteOpts) (w : World) (hci : CI H w.store) :
    CI H ((deleteBands true D opts).run w).2.store :=
  (deleteBands_isat D opts w hci).1

/-- **`delete_conforms`.**  Deleting versions — in every world: any faults, any crash point — keeps
the archive conforming: a band directory is removed with everything below it (no partial version
is left), blocks are only removed once every version of `D` is gone and only if no remaining
version names them (`C05.delete_safe_any_world`'s argument, here carried along every step), and the
lock file is invisible to the format. -/
theorem delete_conforms (D : List Nat) (opts : DeleteOpts) (w : World) (hnd : NoDupKeys w.store)
    (hdirs : DirsOk w.store) (hc : Conforms H w.store = true) :
    Conforms H ((deleteBands true D opts).run w).2.store = true :=
  (delete_ci D opts w ⟨hc, hdirs, hnd⟩).conf

/-- One operation of a history, in a world of its own: `w` supplies the fault list, the crash
point, the dead flag and the trace (its store is replaced by the current archive). -/
inductive Step
  | backup (o : BackupOpts) (src : List SrcEntry) (w : World)
  | delete (D : List Nat) (opts : DeleteOpts) (w : World)

def Step.run (H : Str → Str) : Step → Store → Store
  | .backup o src w, s => ((Conserve.backup H o src).run { w with store := s }).2.store
  | .delete D opts w, s => ((deleteBands true D opts).run { w with store := s }).2.store

/-- What is assumed of a step: a backup's source listing is sorted and valid, and its world
enforces `CreateNew`; nothing of a delete. -/
def Step.OK : Step → Prop
  | .backup _ src w => SrcSorted src ∧ w.enforceCreateNew = true
  | .delete _ _ _ => True

/-- All archives a history visits, the initial one first. -/
def states (H : Str → Str) : List Step → Store → List Store
  | [], s => [s]
  | st :: rest, s => s :: states H rest (st.run H s)

def HistOK (hist : List Step) : Prop := ∀ st ∈ hist, st.OK

theorem states_invariant {I : Store → Prop} {A : Step → Prop}
    (hstep : ∀ st s, A st → I s → I (st.run H s)) :
    ∀ (hist : List Step), (∀ st ∈ hist, A st) → ∀ s, I s → ∀ s' ∈ states H hist s, I s' := by
  intro hist
  induction hist with
  | nil =>
    intro _ s hi s' hs'
    simp only [states, List.mem_singleton] at hs'
    subst hs'; exact hi
  | cons st rest ih =>
    intro hA s hi s' hs'
    simp only [states, List.mem_cons] at hs'
    rcases hs' with rfl | hs'
    · exact hi
    · exact ih (fun st' h' => hA st' (List.mem_cons_of_mem _ h')) _
        (hstep st s (hA st (List.mem_cons_self ..)) hi) s' hs'

theorem step_ci (hinj : Function.Injective H) (hlen : HashLen H) (st : Step) (s : Store)
    (hok : st.OK) (hci : CI H s) : CI H (st.run H s) := by
  cases st with
  | backup o src w =>
    obtain ⟨hsrc, he⟩ := hok
    exact backup_ci_all_worlds (w := { w with store := s }) hinj hlen hsrc.weak he hci
  | delete D opts w => exact delete_ci D opts { w with store := s } hci

/-- **`history_conforms`.**  Over any history of backup attempts and deletes, each with arbitrary
options in an arbitrary world (faults, crash point): every archive visited — after every step,
complete or interrupted — conforms to the format, if the first one does. -/
theorem history_conforms (hinj : Function.Injective H) (hlen : HashLen H) (hist : List Step)
    (hok : HistOK hist) (s : Store) (hnd : NoDupKeys s) (hd : DirsOk s) (hc : Conforms H s = true) :
    ∀ s' ∈ states H hist s, Conforms H s' = true := fun s' hs' =>
  (states_invariant (step_ci hinj hlen) hist hok s ⟨hc, hd, hnd⟩ s' hs').conf

/-- A freshly initialised archive (`Archive::create`): root, header, block directory. -/
def emptyArchive : Store := [(.root, .dir), (.header, .header [48, 46, 54]), (.blockRoot, .dir)]

theorem emptyArchive_conforms : Conforms H emptyArchive = true := by
  refine (conforms_iff H).2 ⟨by decide, by decide, by decide, rfl, fun b hb => ?_⟩
  have := mem_bandIdsOf'.1 hb
  simp [emptyArchive] at this

theorem emptyArchive_ci : CI H emptyArchive :=
  ⟨emptyArchive_conforms, by decide, by unfold NoDupKeys emptyArchive; decide⟩

/-- **`reachable_conforms`** (DESIGN §4 C13): every archive reachable from the empty one by an
admissible history conforms. -/
theorem reachable_conforms (hinj : Function.Injective H) (hlen : HashLen H) (hist : List Step)
    (hok : HistOK hist) : ∀ s' ∈ states H hist emptyArchive, Conforms H s' = true :=
  history_conforms hinj hlen hist hok emptyArchive (emptyArchive_ci (H := H)).nodup
    (emptyArchive_ci (H := H)).dirs emptyArchive_conforms

/-- **`hunk_path_doc`.**  doc/format.md: index hunks are `bNNNN/i/DDDDD/NNNNNNNNN` with `DDDDD` the
hunk number divided by 10000; blocks are `d/xxx/<hash>` with `xxx` the first three characters of
the hash.  In the model this is the parent relation of `Key` … -/
theorem hunk_path_doc (b n : Nat) (h : Str) :
    Key.parent (.hunk b n) = some (.hunkDir b (n / 10000)) ∧
    Key.parent (.hunkDir b (n / 10000)) = some (.indexDir b) ∧
    Key.parent (.indexDir b) = some (.bandDir b) ∧
    Key.parent (.bandHead b) = some (.bandDir b) ∧ Key.parent (.bandTail b) = some (.bandDir b) ∧
    Key.parent (.bandDir b) = some .root ∧
    Key.parent (.block h) = some (.blockDir (h.take 3)) ∧ Key.parent (.blockDir (h.take 3)) = some .blockRoot ∧
    Key.parent .blockRoot = some .root :=
  ⟨rfl, rfl, rfl, rfl, rfl, rfl, rfl, rfl, rfl⟩

/-- … and, in the driver's rendering of keys as real paths, "the path of a key is the path of its
parent, a slash, and a name": `bNNNN/i/DDDDD/` + nine digits, `d/xxx/` + the hash, … -/
theorem hunk_path_render (b n : Nat) (h : Str) :
    IO.renderKey (.hunk b n) = IO.renderKey (.hunkDir b (n / 10000)) ++ "/" ++ IO.padNat 9 n ∧
    IO.renderKey (.hunkDir b (n / 10000)) = IO.renderKey (.indexDir b) ++ "/" ++ IO.padNat 5 (n / 10000) ∧
    IO.renderKey (.indexDir b) = IO.renderKey (.bandDir b) ++ "/i" ∧
    IO.renderKey (.bandDir b) = "b" ++ IO.padNat 4 b ∧
    IO.renderKey (.block h) = IO.renderKey (.blockDir (h.take 3)) ++ "/" ++ IO.strOfBytes h ∧
    IO.renderKey (.blockDir (h.take 3)) = IO.renderKey .blockRoot ++ "/" ++ IO.strOfBytes (h.take 3) := by
  refine ⟨rfl, ?_, rfl, rfl, rfl, ?_⟩
  · simp [IO.renderKey, String.append_assoc]
  · simp [IO.renderKey]

/-- The hunk the writer puts number `sequence` into is the one `finish_hunk` created the
sub-directory for: a new sub-directory exactly every 10000 hunks. -/
theorem hunk_subdir_created (seq : Nat) (h : seq % hunksPerSubdir ≠ 0) :
    seq / hunksPerSubdir = (seq - 1) / hunksPerSubdir := by
  obtain ⟨n, rfl⟩ : ∃ n, seq = n + 1 := ⟨seq - 1, by cases seq <;> simp at h ⊢⟩
  rw [Nat.succ_div, if_neg (mt Nat.mod_eq_zero_of_dvd h)]
  rfl

/-! ### Non-vacuity: the hypotheses hold of concrete archives, sources and faulty, killed worlds -/

namespace Example

/-- An injective "hash" whose names have at least three characters. -/
def exH : Str → Str := fun c => 0 :: 0 :: 0 :: c

theorem exH_inj : Function.Injective exH := fun a b h => by simpa [exH] using h

theorem exH_len : HashLen exH := fun c => by simp [exH, subdirNameChars]

theorem source_sorted : SrcSorted C04.Example.source := by
  refine ⟨by decide, ?_⟩
  intro e he
  simp only [C04.Example.source, List.mem_cons, List.not_mem_nil, or_false] at he
  rcases he with rfl | rfl | rfl <;> decide

/-- The empty archive, two injected faults and a crash point (`C04.Example.world`). -/
def world : World := { C04.Example.world with store := emptyArchive }

/-- The faulty, killed first backup leaves a conforming archive. -/
example : Conforms exH ((backup exH C04.Example.opts C04.Example.source).run world).2.store = true :=
  backup_conforms_all_worlds C04.Example.opts C04.Example.source world exH_inj exH_len source_sorted rfl
    (emptyArchive_ci (H := exH)).nodup (emptyArchive_ci (H := exH)).dirs emptyArchive_conforms

/-- Options at their extremes: block size 0, flush after every entry. -/
example : Conforms exH ((backup exH { maxEntriesPerHunk := 0, maxBlockSize := 0, smallFileCap := 0 }
    C04.Example.source).run world).2.store = true :=
  backup_conforms_all_worlds _ C04.Example.source world exH_inj exH_len source_sorted rfl
    (emptyArchive_ci (H := exH)).nodup (emptyArchive_ci (H := exH)).dirs emptyArchive_conforms

/-- A second archive: one complete version holding `/a` in one block, so that there IS a basis. -/
def ea : IndexEntry := { apath := [47, 97], kind := .file, mtime := 0, mtimeNanos := 0, unixMode := some 420,
                         user := none, group := none,
                         addrs := [{ hash := [0, 0, 0, 1, 2], start := 0, len := 2 }], target := none }

def archive2 : Store :=
  [(.root, .dir), (.header, .header [48, 46, 54]), (.blockRoot, .dir),
   (.blockDir [0, 0, 0], .dir), (.block [0, 0, 0, 1, 2], .blockData [1, 2]),
   (.bandDir 0, .dir), (.bandHead 0, .head .ok []), (.indexDir 0, .dir), (.hunkDir 0 0, .dir),
   (.hunk 0 0, .hunk [ea]), (.bandTail 0, .tail (some 1))]

theorem archive2_conforms : Conforms exH archive2 = true := by
  refine (conforms_iff exH).2 ⟨by decide, by decide, by decide, by decide, fun b hb => ?_⟩
  obtain rfl : b = 0 := by simpa [archive2] using mem_bandIdsOf'.1 hb
  have hn : hunkNumsOf archive2 0 = [0] := by simp [hunkNumsOf, archive2, sortNat, FileVal.isDir]
  unfold bandConforms
  rw [hn]
  decide

theorem archive2_noDup : NoDupKeys archive2 := by
  unfold NoDupKeys archive2
  decide

theorem archive2_dirs : DirsOk archive2 := by decide

/-- A world on it with an injected fault on the first hunk write and a crash point. -/
def world2 : World :=
  { store := archive2,
    faults := [{ at_ := { verb := .write, key := .hunk 1 0, nth := 0 }, kind := .other }],
    crashAt := some 9 }

/-- The theorem applies to this faulty, killed run on an archive with a basis version. -/
example : Conforms exH ((backup exH C04.Example.opts C04.Example.source).run world2).2.store = true :=
  backup_conforms_all_worlds C04.Example.opts C04.Example.source world2 exH_inj exH_len source_sorted rfl
    archive2_noDup archive2_dirs archive2_conforms

/-- Deleting the only version of `archive2`, in a world with a fault and a crash point. -/
example : Conforms exH ((deleteBands true [0] {}).run
    { store := archive2, faults := [{ at_ := { verb := .removeFile, key := .block [0, 0, 0, 1, 2], nth := 0 },
                                      kind := .other }], crashAt := some 2 }).2.store = true :=
  delete_conforms [0] {} _ archive2_noDup archive2_dirs archive2_conforms

/-- A two-step history from the empty archive: a faulty, killed backup, then a delete. -/
example : ∀ s' ∈ states exH [.backup C04.Example.opts C04.Example.source world, .delete [0] {} (World.clean [])] emptyArchive,
    Conforms exH s' = true :=
  reachable_conforms exH_inj exH_len _ (by
    intro st hst
    simp only [List.mem_cons, List.not_mem_nil, or_false] at hst
    rcases hst with rfl | rfl
    · exact ⟨source_sorted, rfl⟩
    · trivial)

end Example

end Conserve.C13
