import ConserveModel.Props.C07
import ConserveModel.Invariants
import ConserveModel.Proofs.BackupStore
/-
C02 — Every completed version keeps restoring to its own snapshot.

This file proves the storage half of the history invariant, for ALL histories of backup
attempts (complete, failing, interrupted at any micro-step, resumed — `C07.Attempt`): every file
a version consists of, and every block it refers to, is still in the archive with the same value
after any number of later attempts; consequently everything that reads only those files — the
content of each of the version's entries — is unchanged.  The run-level statement (`restore`
returns the same nodes) is written down as `InvStatement` below.  Props/C02h.lean settles it: as
literally written it is false in the model (`C02h.inv_statement_refuted`), with the hypotheses a
real archive satisfies it holds (`C02h.inv_statement_good`), and histories that also delete other
versions and collect garbage are covered there (`C02h.history_keeps_restore`); Props/GapsC02h.lean
removes the hypothesis that `d/` exists.
-/
namespace Conserve.C02
open Conserve

variable (H : Str → Str)

/-- Every file with content that exists at some point of a history of backups still exists,
unchanged, at every later point. -/
theorem files_kept_across_history (hist : List C07.Attempt) (s : Store) (k : Key) (v : FileVal)
    (hv : s.get? k = some v) (hne : v ≠ .empty) :
    (C07.runHistory H hist s).get? k = some v :=
  (C07.history_extends H hist s).keeps hv hne

/-- **Content of completed versions survives any history of backups**: if an entry of some hunk
reads back to `bytes` now, then after any sequence of further backup attempts the same hunk still
holds the same entry and it still reads back to `bytes`. -/
theorem version_content_kept (hist : List C07.Attempt) (s : Store) (b n : Nat) (es : List IndexEntry)
    (hh : hunkAt s b n = some es) (e : IndexEntry) (_he : e ∈ es) (bytes : Str)
    (hr : readBack H s e.addrs = some bytes) :
    hunkAt (C07.runHistory H hist s) b n = some es ∧
      readBack H (C07.runHistory H hist s) e.addrs = some bytes := by
  have hx := C07.history_extends H hist s
  refine ⟨?_, Inv.readBack_mono H hr hx⟩
  rw [hunkAt_eq_some_iff] at hh ⊢
  exact hx.keeps hh (by simp)

/-- A version that is complete (its tail file exists and is not a zero-length leftover) is still
complete after any history of backups. -/
theorem tails_kept (hist : List C07.Attempt) (s : Store) (b : Nat) (hc : isComplete s b = true)
    (hne : s.get? (.bandTail b) ≠ some .empty) :
    isComplete (C07.runHistory H hist s) b = true := by
  have hx := C07.history_extends H hist s
  unfold isComplete at hc ⊢
  cases hg : s.get? (.bandTail b) with
  | none => simp [hg] at hc
  | some v =>
    have hv : v ≠ .empty := fun e => hne (by rw [hg, e])
    rw [hx.keeps hg hv]
    simpa [hg] using hc

/-- The run-level history invariant for histories of backup attempts (`C07.Attempt`: complete,
failing, interrupted, resumed), kept as a statement: a version that is complete restores, after the
history, to what it restored to before.  Deletes, gc and "latest complete" are not in this
statement; they are in Props/C02h.lean. -/
def InvStatement : Prop :=
  ∀ (s : Store) (b : Nat) (hist : List C07.Attempt),
    isComplete s b = true →
    ((restore H (.specified b) [slash] (fun _ => false)).run (World.clean (C07.runHistory H hist s))).1 =
    ((restore H (.specified b) [slash] (fun _ => false)).run (World.clean s)).1

-- `hunkAt` on a one-key store holding an empty hunk
example : hunkAt [(Key.hunk 0 0, FileVal.hunk [])] 0 0 = some [] := by decide

end Conserve.C02
