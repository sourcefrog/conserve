import ConserveModel.Proofs.ExclRestore
import ConserveModel.Proofs.ExclSymlink
import ConserveModel.Props.C01a
import ConserveModel.Props.C08
/-
C12, end to end — Selecting a subtree returns exactly that subtree.

"List/restore with `--only S` yields exactly the entries whose path is S or below S (component-wise,
not textual prefix), i.e. the same as filtering the full listing/restore."

`C12.prefix_iff_ancestor` is the statement about the test (`Apath::is_prefix_of`); this file lifts it
to whole runs of the model programs `listEntries` / `listVersion` (src/index/stitch.rs, `Stitch` with
`subtree`) and `restore` (src/restore.rs, `only_subtree`): for every well-formed store (stitched
listings included) for listing, after a fault-free backup and — under `NoSymlinkAbove` — for any
version of any well-formed store for restore.
-/
set_option linter.unusedSimpArgs false
namespace Conserve.C12e
open Conserve Conserve.Exact

/-- **subtree_list_eq_filter.**  For every well-formed store `s` (C08's `ArchWF`: no hypothesis on which
versions are complete, readable or damaged), every version id `n` and every exclusion predicate:
the stitched listing with subtree `S` returns exactly the entries of the listing with subtree "/" that
pass `S.is_prefix_of(path)`, in the same order; neither run changes the store; and both runs report
EXACTLY the same error events (those of reading the version chain: `C08.stitch_errors`) — selecting a
subtree neither hides nor adds a complaint. -/
theorem subtree_list_eq_filter {s : Store} (wf : ArchWF s) (n : Nat) (S : Str) (excl : Str → Bool) :
    ∃ all,
      ((listEntries n [slash] excl).run (World.clean s)).1 = .ok all ∧
      ((listEntries n S excl).run (World.clean s)).1 = .ok (all.filter fun e => isPrefixOfImpl S e.apath) ∧
      ((listEntries n S excl).run (World.clean s)).2.events =
        ((listEntries n [slash] excl).run (World.clean s)).2.events ∧
      ((listEntries n S excl).run (World.clean s)).2.events = ((listErrors s n).map Event.error).reverse ∧
      ((listEntries n S excl).run (World.clean s)).2.store = s := by
  have hall := (listEntries_runsAt wf n [slash] excl).clean
  have hsub := (listEntries_runsAt wf n S excl).clean
  refine ⟨_, hall.1, ?_, hsub.2.2.trans hall.2.2.symm, hsub.2.2, hsub.2.1⟩
  rw [hsub.1]
  exact congrArg Outcome.ok (filter_sel_split IndexEntry.apath S excl _ (fun e he => C08.listed_valid he))

/-- **subtree_list_eq_ancestors.**  With a valid subtree path, "passes the test" is "is `S` or lies
below `S` by whole components" (`isAncestorOrSelf`: the component list of `S` is a prefix of the
component list of the path) — not a textual prefix: `/build` does not select `/build2`. -/
theorem subtree_list_eq_ancestors {s : Store} (wf : ArchWF s) (n : Nat) (S : Str) (hS : isValid S = true)
    (excl : Str → Bool) :
    ∃ all,
      ((listEntries n [slash] excl).run (World.clean s)).1 = .ok all ∧
      ((listEntries n S excl).run (World.clean s)).1 = .ok (all.filter fun e => isAncestorOrSelf S e.apath) ∧
      ((listEntries n S excl).run (World.clean s)).2.events =
        ((listEntries n [slash] excl).run (World.clean s)).2.events := by
  have hall := (listEntries_runsAt wf n [slash] excl).clean
  have hsub := (listEntries_runsAt wf n S excl).clean
  refine ⟨_, hall.1, ?_, hsub.2.2.trans hall.2.2.symm⟩
  rw [hsub.1]
  refine congrArg Outcome.ok ((filter_sel_split IndexEntry.apath S excl _ (fun e he => C08.listed_valid he)).trans
    (List.filter_congr fun e he => ?_))
  exact C12.prefix_iff_ancestor S e.apath hS (C08.listed_valid (List.mem_filter.mp he).1)

/-- **subtree_listVersion_eq_filter.**  The same for `Archive::iter_entries(Specified(n), S, exclude)`,
which opens the version first: if the head of version `n` cannot be opened both runs fail with the
same error; otherwise the subtree listing is the filtered full listing.  Same error events. -/
theorem subtree_listVersion_eq_filter {s : Store} (wf : ArchWF s) (n : Nat) (S : Str) (excl : Str → Bool) :
    ((listVersion (.specified n) S excl).run (World.clean s)).1 =
      Outcome.map (fun all => all.filter fun e => isPrefixOfImpl S e.apath)
        ((listVersion (.specified n) [slash] excl).run (World.clean s)).1 ∧
    ((listVersion (.specified n) S excl).run (World.clean s)).2.events =
      ((listVersion (.specified n) [slash] excl).run (World.clean s)).2.events := by
  have hall := (listVersion_specified_runs wf n [slash] excl).clean
  have hsub := (listVersion_specified_runs wf n S excl).clean
  rw [hall.1, hsub.1, hall.2.2, hsub.2.2]
  unfold listSelP
  cases headOutcome s n with
  | ok u =>
    refine ⟨?_, rfl⟩
    simp only [Outcome.map]
    exact congrArg Outcome.ok (filter_sel_split IndexEntry.apath S excl _ (fun e he => C08.listed_valid he))
  | err e => exact ⟨rfl, rfl⟩
  | panic m => exact ⟨rfl, rfl⟩

/-- **subtree_restore_eq_filter.**  After a fault-free backup of a good source into a good archive
(the hypotheses of `C01a.backup_restore_exact`; the walk of a well-formed tree is a good source),
restoring the new version with `only_subtree = S` (and any exclusion predicate) creates exactly the
nodes that the restore of the whole version (same exclusions) creates and whose path passes
`S.is_prefix_of`, in the same order, with the same content and metadata; neither restore reports
anything. -/
theorem subtree_restore_eq_filter (H : Str → Str) (hinj : Function.Injective H)
    (hlen : ∀ d, subdirNameChars ≤ (H d).length) (s : Store) (o : BackupOpts) (src : List SrcEntry)
    (ho : 0 < o.maxBlockSize) (hsrc : SrcGood src) (hs : ArchiveGood H src s) (S : Str) (excl : Str → Bool) :
    ∃ all,
      ((restore H (.specified (newBandOf s)) [slash] excl).run
          (World.clean ((backup H o src).run (World.clean s)).2.store)).1 = .ok all ∧
      ((restore H (.specified (newBandOf s)) S excl).run
          (World.clean ((backup H o src).run (World.clean s)).2.store)).1
        = .ok (all.filter fun nd => isPrefixOfImpl S nd.apath) ∧
      ((restore H (.specified (newBandOf s)) [slash] excl).run
          (World.clean ((backup H o src).run (World.clean s)).2.store)).2.events = [] ∧
      ((restore H (.specified (newBandOf s)) S excl).run
          (World.clean ((backup H o src).run (World.clean s)).2.store)).2.events = [] := by
  have hall := backup_then_select hinj hlen s o src ho hsrc hs [slash] excl
  have hsub := backup_then_select hinj hlen s o src ho hsrc hs S excl
  refine ⟨_, hall.restoreSpecified, ?_, hall.restoreSpecifiedSilent, hsub.restoreSpecifiedSilent⟩
  rw [hsub.restoreSpecified, filter_map_expectedNode o (isPrefixOfImpl S), filter_sel_split SrcEntry.apath S excl src hsrc.valid]

/-- **subtree_restore_exact.**  Against the source: restoring with subtree `S` and nothing excluded
yields exactly `expectedNode` of the source entries whose path passes the test (while the full
restore yields `expectedNode` of all of them, C01a) — the same for the version selected by id and as
the latest complete version; nothing is reported. -/
theorem subtree_restore_exact (H : Str → Str) (hinj : Function.Injective H)
    (hlen : ∀ d, subdirNameChars ≤ (H d).length) (s : Store) (o : BackupOpts) (src : List SrcEntry)
    (ho : 0 < o.maxBlockSize) (hsrc : SrcGood src) (hs : ArchiveGood H src s) (S : Str) :
    ((restore H (.specified (newBandOf s)) S (fun _ => false)).run
        (World.clean ((backup H o src).run (World.clean s)).2.store)).1
      = .ok ((src.filter fun sf => isPrefixOfImpl S sf.apath).map (expectedNode o)) ∧
    ((restore H (.specified (newBandOf s)) S (fun _ => false)).run
        (World.clean ((backup H o src).run (World.clean s)).2.store)).2.events = [] ∧
    ((restore H .latestClosed S (fun _ => false)).run
        (World.clean ((backup H o src).run (World.clean s)).2.store)).1
      = .ok ((src.filter fun sf => isPrefixOfImpl S sf.apath).map (expectedNode o)) ∧
    ((restore H .latestClosed S (fun _ => false)).run
        (World.clean ((backup H o src).run (World.clean s)).2.store)).2.events = [] := by
  have hsub := backup_then_select hinj hlen s o src ho hsrc hs S (fun _ => false)
  have hf : (src.filter fun sf => selKeep S (fun _ => false) sf.apath) =
      src.filter fun sf => isPrefixOfImpl S sf.apath := by
    apply List.filter_congr; intro sf _; simp [selKeep]
  rw [← hf]
  exact ⟨hsub.restoreSpecified, hsub.restoreSpecifiedSilent, hsub.restoreLatest, hsub.restoreLatestSilent⟩

/-- **subtree_restore_eq_ancestors.**  With a valid `S`: exactly the nodes of the full restore whose
path is `S` or below `S` by whole components (not textual prefix), in order, no errors. -/
theorem subtree_restore_eq_ancestors (H : Str → Str) (hinj : Function.Injective H)
    (hlen : ∀ d, subdirNameChars ≤ (H d).length) (s : Store) (o : BackupOpts) (src : List SrcEntry)
    (ho : 0 < o.maxBlockSize) (hsrc : SrcGood src) (hs : ArchiveGood H src s) (S : Str)
    (hS : isValid S = true) :
    ((restore H (.specified (newBandOf s)) [slash] (fun _ => false)).run
        (World.clean ((backup H o src).run (World.clean s)).2.store)).1 = .ok (src.map (expectedNode o)) ∧
    ((restore H (.specified (newBandOf s)) S (fun _ => false)).run
        (World.clean ((backup H o src).run (World.clean s)).2.store)).1
      = .ok ((src.map (expectedNode o)).filter fun nd => isAncestorOrSelf S nd.apath) ∧
    ((restore H (.specified (newBandOf s)) S (fun _ => false)).run
        (World.clean ((backup H o src).run (World.clean s)).2.store)).2.events = [] := by
  have e := C01a.backup_restore_exact H hinj hlen s o src ho hsrc hs
  have hsub := subtree_restore_exact H hinj hlen s o src ho hsrc hs S
  refine ⟨e.restoreSpecified, ?_, hsub.2.1⟩
  rw [hsub.1, filter_map_expectedNode o (isAncestorOrSelf S)]
  congr 2
  apply List.filter_congr
  intro sf hsf
  exact C12.prefix_iff_ancestor S sf.apath hS (hsrc.valid sf hsf)

/-- **subtree_restore_tree.**  For every well-formed source tree (any exclusions at backup time) and
every valid subtree path: restore with `--only S` of the backup of the tree's walk creates exactly the
walked entries at or below `S` by whole components.  (`S` below a symlink selects nothing: the walk has
nothing there — `SrcGood.noBelowSymlink`.) -/
theorem subtree_restore_tree (H : Str → Str) (hinj : Function.Injective H)
    (hlen : ∀ d, subdirNameChars ≤ (H d).length) (s : Store) (o : BackupOpts) (T : Node) (excl : Str → Bool)
    (ho : 0 < o.maxBlockSize) (hwf : T.WF = true)
    (hsize : ∀ sf ∈ C11.walk T excl, sf.kind = .file → sf.size = sf.content.length)
    (htime : ∀ sf ∈ C11.walk T excl,
      -377705023201 * nanosPerSec ≤ sf.mtimeNs ∧ sf.mtimeNs < 253402207201 * nanosPerSec)
    (hbytes : totalSize (C11.walk T excl) < 18446744073709551616)
    (hs : ArchiveGood H (C11.walk T excl) s) (S : Str) (hS : isValid S = true) :
    ((restore H (.specified (newBandOf s)) S (fun _ => false)).run
        (World.clean ((backup H o (C11.walk T excl)).run (World.clean s)).2.store)).1
      = .ok (((C11.walk T excl).filter fun sf => isAncestorOrSelf S sf.apath).map (expectedNode o)) ∧
    ((restore H (.specified (newBandOf s)) S (fun _ => false)).run
        (World.clean ((backup H o (C11.walk T excl)).run (World.clean s)).2.store)).2.events = [] := by
  have hsrc := walk_srcGood T excl hwf hsize htime hbytes
  have h := subtree_restore_eq_ancestors H hinj hlen s o _ ho hsrc hs S hS
  refine ⟨?_, h.2.2⟩
  rw [h.2.1, filter_map_expectedNode o (isAncestorOrSelf S)]

/-- **subtree_restore_stitched.**  For EVERY well-formed store (C08's `ArchWF` plus the shape facts
`StoreOK`; versions complete, interrupted, damaged, blocks missing — anything), every version id and
every exclusion predicate: if no listed symlink outside the subtree lies strictly above a listed
path inside it (`NoSymlinkAbove`; automatic when the listing comes from a walked tree, where nothing
lies below a symlink), then restoring with `only_subtree = S` either fails with the same error as the
full restore (version cannot be opened) or creates exactly the nodes of the full restore whose path
passes `S.is_prefix_of`, in order — including partially restored files (`complete = false`); and
the errors it reports are a sub-list of the errors the full restore reports. -/
theorem subtree_restore_stitched {H : Str → Str} {s : Store} (wf : ArchWF s) (hst : StoreOK H s) (b : Nat)
    (S : Str) (excl : Str → Bool)
    (hns : NoSymlinkAbove (isPrefixOfImpl S) (listSpec s b)) :
    ((restore H (.specified b) S excl).run (World.clean s)).1 =
      Outcome.map (fun all => all.filter fun nd => isPrefixOfImpl S nd.apath)
        ((restore H (.specified b) [slash] excl).run (World.clean s)).1 ∧
    (((restore H (.specified b) S excl).run (World.clean s)).2.events).Sublist
      ((restore H (.specified b) [slash] excl).run (World.clean s)).2.events := by
  have hall := (restore_specified_sel_runs wf hst b [slash] excl).clean
  have hsub := (restore_specified_sel_runs wf hst b S excl).clean
  rw [hall.1, hsub.1, hall.2.2, hsub.2.2]
  unfold restoreSelP
  cases headOutcome s b with
  | err e => exact ⟨rfl, List.Sublist.refl _⟩
  | panic m => exact ⟨rfl, List.Sublist.refl _⟩
  | ok u =>
    simp only
    rw [filter_sel_split IndexEntry.apath S excl _ (fun e he => C08.listed_valid he)]
    have hsubset : ∀ e ∈ (listSpec s b).filter (fun e => selKeep [slash] excl e.apath), e ∈ listSpec s b :=
      fun e he => (List.mem_filter.mp he).1
    obtain ⟨nodes, h1, h2, h3⟩ := restoreP_filter (H := H) s (isPrefixOfImpl S)
      ((listSpec s b).filter fun e => selKeep [slash] excl e.apath)
      (fun e he => C08.listed_usable (hsubset e he)) (hns.subset hsubset) [] [] (fun _ _ _ => rfl)
    rw [h1, h2]
    exact ⟨rfl, List.Sublist.append h3 (List.Sublist.refl _)⟩

/-- **The hypothesis is needed** (and this is where "subtree restore = filtered full restore" stops):
take the listing `/` (dir), `/a` (symlink), `/a/b` (file) — which only the stitched listing of an
interrupted version can produce (`/a` from the new version, `/a/b` from an older one where `/a` was a
directory; C09).  The full restore refuses `/a/b` (below a restored symlink, reported), so filtering
it to `/a/b` gives nothing; restore with subtree `/a/b` never sees the symlink and creates `/a/b`. -/
theorem subtree_below_symlink_differs :
    let es : List IndexEntry :=
      [ { apath := [47], kind := .dir, mtime := 0, mtimeNanos := 0, unixMode := none, user := none,
          group := none, addrs := [], target := none },
        { apath := [47, 97], kind := .symlink, mtime := 0, mtimeNanos := 0, unixMode := none, user := none,
          group := none, addrs := [], target := some [120] },
        { apath := [47, 97, 47, 98], kind := .file, mtime := 0, mtimeNanos := 0, unixMode := none,
          user := none, group := none, addrs := [], target := none } ]
    let S : Str := [47, 97, 47, 98]
    ¬ NoSymlinkAbove (isPrefixOfImpl S) es ∧
    (∃ all, (restoreP C01a.Example.exH [] [] es).1 = .ok all ∧
      (all.filter fun nd => isPrefixOfImpl S nd.apath) = []) ∧
    (∃ nd, (restoreP C01a.Example.exH [] [] (es.filter fun e => isPrefixOfImpl S e.apath)).1 = .ok [nd] ∧
      nd.apath = S) := by
  intro es S
  refine ⟨fun h => ?_, ⟨_, rfl, by decide +kernel⟩, ⟨_, rfl, rfl⟩⟩
  -- the symlink "/a" is outside the subtree "/a/b" and above the entry "/a/b" inside it
  have := h _ (List.mem_cons_of_mem _ List.mem_cons_self) rfl (by decide +kernel) _
    (List.mem_cons_of_mem _ (List.mem_cons_of_mem _ List.mem_cons_self)) (by decide +kernel)
  exact absurd this (by decide +kernel)

/-! ### Non-vacuity -/

namespace Example
open C01a.Example C08

/-- Component-wise, not textual: subtree "/a" of C08's demo archive, version 2 (an interrupted
version whose listing is stitched from three versions), is the one entry "/a" … -/
example : ∃ all, ((listEntries 2 [slash] (fun _ => false)).run (World.clean demo)).1 = .ok all ∧
    ((listEntries 2 [47, 97] (fun _ => false)).run (World.clean demo)).1
      = .ok (all.filter fun e => isAncestorOrSelf [47, 97] e.apath) := by
  obtain ⟨all, h1, h2, _⟩ := subtree_list_eq_ancestors demo_wf 2 [47, 97] (by decide) (fun _ => false)
  exact ⟨all, h1, h2⟩

/-- … and the test on the paths of a tree with "/build", "/build2" and a multi-byte name: "/build"
selects itself and what is below it, not the sibling "/build2"; "/é" (c3 a9) selects "/é/x". -/
example : ([[47], [47, 98, 117, 105, 108, 100], [47, 98, 117, 105, 108, 100, 50],
      [47, 98, 117, 105, 108, 100, 47, 120], [47, 195, 169], [47, 195, 169, 47, 120]].filter
        fun p => isPrefixOfImpl [47, 98, 117, 105, 108, 100] p) =
    [[47, 98, 117, 105, 108, 100], [47, 98, 117, 105, 108, 100, 47, 120]] := by decide +kernel
example : ([[47], [47, 98, 117, 105, 108, 100], [47, 98, 117, 105, 108, 100, 50],
      [47, 98, 117, 105, 108, 100, 47, 120], [47, 195, 169], [47, 195, 169, 47, 120]].filter
        fun p => isPrefixOfImpl [47, 195, 169] p) = [[47, 195, 169], [47, 195, 169, 47, 120]] := by
  decide +kernel

/-- The restore theorem applies to `C01a.Example.source` (`/ /a /b /d /l /d/e`) in the fresh archive:
subtree "/d" restores exactly "/d" and "/d/e" — not "/l", not the root. -/
example :
    ((restore exH (.specified (newBandOf archive)) [47, 100] (fun _ => false)).run
        (World.clean ((backup exH opts source).run (World.clean archive)).2.store)).1
      = .ok [expectedNode opts dd, expectedNode opts de] := by
  have h := (subtree_restore_exact exH exH_inj exH_len archive opts source (by decide) source_good
    (ArchiveGood.of_noBands archive_ok archive_noBands archive_noLock source) [47, 100]).1
  rw [h]
  exact congrArg Outcome.ok (by decide +kernel)

/-- A subtree below the symlink "/l" of that source selects nothing. -/
example :
    ((restore exH (.specified (newBandOf archive)) [47, 108, 47, 120] (fun _ => false)).run
        (World.clean ((backup exH opts source).run (World.clean archive)).2.store)).1 = .ok [] := by
  have h := (subtree_restore_exact exH exH_inj exH_len archive opts source (by decide) source_good
    (ArchiveGood.of_noBands archive_ok archive_noBands archive_noLock source) [47, 108, 47, 120]).1
  rw [h]
  exact congrArg Outcome.ok (by decide +kernel)

/-- The symlink hypothesis of `subtree_restore_stitched` holds of C08's demo archive, version 2: the
listing holds no symlink at all. -/
example : NoSymlinkAbove (isPrefixOfImpl [47, 98]) (listSpec demo 2) := by
  rw [demo_list2]
  intro l hl hk
  simp only [List.mem_cons, List.not_mem_nil, or_false] at hl
  rcases hl with rfl | rfl | rfl | rfl | rfl <;> simp [ent] at hk

end Example

end Conserve.C12e
