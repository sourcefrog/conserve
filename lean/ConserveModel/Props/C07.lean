import ConserveModel.Proofs.FrameBand
import ConserveModel.Proofs.FrameConc
import ConserveModel.Proofs.FrameDelete
import ConserveModel.Proofs.StoreNoDup
/-
C07 — Archive files are write-once.

"Archive files are write-once: backup never alters or removes existing files.  Across any
history, a backup (complete, interrupted or resumed) only adds files: every file that existed in
the archive beforehand still exists afterwards with identical bytes, no path is written twice (a
zero-length leftover of a killed write may be completed), and a new version always gets an id
above every existing one.  Only an explicit delete or gc removes files, and then only the
requested versions' directories, unreferenced blocks and its own lock file.  This also holds when
two backups race: the loser fails rather than writing into the winner's version."

All "backup" theorems quantify over EVERY world `w` with `w.enforceCreateNew = true`: any list of
injected faults, any crash point (`crashAt`, so every interrupted run), dead or alive, any starting
store (so also a store left behind by an interrupted run: "resumed"), any options and source
listing.  `enforceCreateNew = true` is the transport as repaired (D4): a `CreateNew` write onto an
existing non-empty file is refused.  `two_backups_refuted_without_enforce` documents what went
wrong before the repair.

Proof route: `backup` is built only from `BackupOp`s (reads, `createDir`, `CreateNew` writes of
non-empty values; Proofs/FrameOps.lean), each of which extends the store in every world
(`World.exec_extends`, Proofs/FrameStep.lean).

The second half of the delete clause — the removed blocks are ones no kept version references —
is stated here (`delete_removes_unreferenced_Statement`) and proved in Props/C07d.lean; what is
proved of it in this file, for every world, is `delete_removes_unreferenced_partial`.
-/
namespace Conserve.C07
open Conserve Prog

section
variable (H : Str → Str)

/-! ### 1. Backup only adds -/

/-- The single step behind everything: in every world honouring `CreateNew` (faults, crash point
between the two halves of a write, dead …) one `CreateOnly` operation leaves a store that extends
the old one.  (The micro-step that creates an empty file lands on an absent key or on a zero-length
file; a `CreateNew` write onto a non-empty file is refused with `alreadyExists`.) -/
theorem step_extends (w : World) (o : Op) (he : w.enforceCreateNew = true) (ho : CreateOnly o) :
    Extends w.store (w.exec o).1.store :=
  World.exec_extends w o he ho

theorem createOnly_prog_extends {α : Type} (p : Prog α) (hp : AllOps CreateOnly p) (w : World)
    (he : w.enforceCreateNew = true) : Extends w.store (p.run w).2.store :=
  Prog.run_extends hp w he

/-- **C07, main clause.**  In every world that honours `CreateNew` — any faults, any crash point,
dead or alive — the store after `backup` extends the store before: every directory and every
non-empty file is still there with the same value; a zero-length file (leftover of a killed write)
is still there, possibly completed. -/
theorem backup_extends (o : BackupOpts) (src : List SrcEntry) (w : World) (he : w.enforceCreateNew = true) :
    Extends w.store ((backup H o src).run w).2.store :=
  Prog.run_extends (backup_createOnly H o src) w he

/-- The same for opening the archive and then backing up (what the command does). -/
theorem open_backup_extends (o : BackupOpts) (src : List SrcEntry) (w : World) (he : w.enforceCreateNew = true) :
    Extends w.store ((archiveOpen >>= fun _ => backup H o src).run w).2.store :=
  Prog.run_extends (open_backup_bk H o src).bk_co w he

/-- In the property's words, first half: every non-empty file (and every directory) that existed
beforehand exists afterwards with identical content. -/
theorem backup_keeps_files (o : BackupOpts) (src : List SrcEntry) (w : World) (he : w.enforceCreateNew = true)
    (k : Key) (v : FileVal) (hv : w.store.get? k = some v) (hne : v ≠ .empty) :
    ((backup H o src).run w).2.store.get? k = some v :=
  (backup_extends H o src w he).keeps hv hne

/-- Second half: nothing disappears — a zero-length file may only stay or become something else. -/
theorem backup_removes_nothing (o : BackupOpts) (src : List SrcEntry) (w : World) (he : w.enforceCreateNew = true)
    (k : Key) (hk : (w.store.get? k).isSome = true) :
    (((backup H o src).run w).2.store.get? k).isSome = true := by
  obtain ⟨v, hv⟩ := Option.isSome_iff_exists.mp hk
  exact (backup_extends H o src w he).present hv

/-- One backup attempt of a history: options, source, injected faults, crash point. -/
structure Attempt where
  opts : BackupOpts
  src : List SrcEntry
  faults : List Fault := []
  crashAt : Option Nat := none

/-- A history of backups (complete, failed, interrupted, resumed …), each starting from the
store the previous one left. -/
def runHistory : List Attempt → Store → Store
  | [], s => s
  | a :: rest, s =>
    runHistory rest ((backup H a.opts a.src).run { store := s, faults := a.faults, crashAt := a.crashAt }).2.store

/-- **Across any history** of backups the archive only grows. -/
theorem history_extends (hist : List Attempt) (s : Store) : Extends s (runHistory H hist s) := by
  induction hist generalizing s with
  | nil => exact Extends.refl _
  | cons a rest ih =>
    unfold runHistory
    exact (backup_extends H a.opts a.src { store := s, faults := a.faults, crashAt := a.crashAt } rfl).trans (ih _)

/-! ### 2. Backup issues no removal and no overwriting write -/

/-- In EVERY world (whether or not `CreateNew` is honoured): the operations a run of `backup`
adds to the trace contain no `removeFile` / `removeDirAll`, and every write is `CreateNew`. -/
theorem backup_no_remove_ops (o : BackupOpts) (src : List SrcEntry) (w : World) :
    ∃ new, ((backup H o src).run w).2.trace = new ++ w.trace ∧
      (∀ ev ∈ new, ev.op.isRemove = false) ∧
      (∀ ev ∈ new, ∀ k v m, ev.op = .write k v m → m = .createNew ∧ v ≠ .empty) := by
  obtain ⟨new, ht, hP⟩ := Prog.run_trace_ops (backup_bk H o src) w
  refine ⟨new, ht, fun ev hev => (hP ev hev).createOnly.not_remove, ?_⟩
  intro ev hev k v m hop
  have := hP ev hev
  rw [hop] at this
  exact this

/-- The same as a statement about the program text: every operation node of `backup`, on every
branch, is a read, a `createDir`, or a `CreateNew` write. -/
theorem backup_ops_createOnly (o : BackupOpts) (src : List SrcEntry) : AllOps CreateOnly (backup H o src) :=
  backup_createOnly H o src

/-! ### 3. The new version's id is above every existing one -/

/-- Program text, any world: `bandCreate` lists the root first; whatever comes back (`r`), every
operation that then creates a band directory / index directory / head for an id `b` has
`r = listing xs` and `b = nextBandId` of the ids listed — so `b` is above every listed id. -/
theorem new_band_id_above :
    ∃ k, bandCreate = .op (.listDir .root) k ∧
      ∀ r, AllOps (fun o => ∀ b, o.createsBand b →
        ∃ xs, r = .listing xs ∧ ∀ b' ∈ listingBandIds xs, b' < b) (k r) := by
  obtain ⟨k, hk, h⟩ := bandCreate_shape
  refine ⟨k, hk, fun r => (h r).mono ?_⟩
  intro o ho b hb
  obtain ⟨xs, hr, rfl⟩ := ho b hb
  exact ⟨xs, hr, nextBandId_gt _⟩

/-- The same about runs, any world: if the trace of `bandCreate` gains `createDir (bandDir b)`,
it also gained a root listing `xs`, and `b` is greater than every band id in `xs`. -/
theorem new_band_id_above_trace (w : World) :
    ∃ new, (bandCreate.run w).2.trace = new ++ w.trace ∧
      ∀ ev ∈ new, ∀ b, ev.op = .createDir (.bandDir b) →
        ∃ xs, (⟨.listDir .root, .listing xs⟩ : TraceEv) ∈ new ∧ ∀ b' ∈ listingBandIds xs, b' < b := by
  obtain ⟨new, ht, h⟩ := bandCreate_newIdTrace w
  refine ⟨new, ht, ?_⟩
  intro ev hev b hop
  obtain ⟨xs, hx, rfl⟩ := h ev hev b (.inl hop)
  exact ⟨xs, hx, nextBandId_gt _⟩

/-- On a clean world: the id `bandCreate` returns is 0 for an archive without versions and
`max + 1` otherwise, hence above every existing band id. -/
theorem new_band_id_above_clean (s : Store) (b : Nat) (h : (bandCreate.run (World.clean s)).1 = .ok b) :
    b = (match maxNat? (bandIdsOf s) with | none => 0 | some l => l + 1) ∧ ∀ b' ∈ bandIdsOf s, b' < b := by
  obtain ⟨_, hb⟩ := bandCreate_run_clean (World.clean_Clean s) h
  simp only [World.clean_store] at hb
  exact ⟨hb, hb ▸ nextBandId_gt _⟩

/-- **A new version always gets an id above every existing one**: every band-creating operation a
run of `backup` records is for an id above all band ids the archive had at the start.  The two
hypotheses are not used: this holds in every world and on every store
(`backup_newId_above_existing`), because all `backup` does before `bandCreate` lists the archive
directory is read-only. -/
theorem backup_new_band_id_above (o : BackupOpts) (src : List SrcEntry) (w : World)
    (he : w.enforceCreateNew = true) (hs : w.store.NoDupKeys) :
    ∃ new, ((backup H o src).run w).2.trace = new ++ w.trace ∧
      ∀ ev ∈ new, ∀ b, ev.op.createsBand b → ∀ b' ∈ bandIdsOf w.store, b' < b :=
  backup_newId_above_existing H o src w

/-! ### 4. No path is written twice (C07 / C14) -/

/-- One step, every world honouring `CreateNew`: a `CreateNew` write that reports success found
the key absent or holding a zero-length file. -/
theorem successful_write_was_absent_or_empty (w : World) (k : Key) (v : FileVal)
    (he : w.enforceCreateNew = true) (h : (w.exec (.write k v .createNew)).2 = .unit) :
    w.store.get? k = none ∨ w.store.get? k = some .empty :=
  World.exec_createNew_pre w k v he h

/-- **No path is written twice.**  In every world honouring `CreateNew`, among the events a run
of `backup` records: every write is `CreateNew` of a non-empty value; every key with a successful
write holds a non-empty file at the end; and no two successful writes go to the same key (the
second would have been refused). -/
theorem no_path_written_twice (o : BackupOpts) (src : List SrcEntry) (w : World) (he : w.enforceCreateNew = true) :
    ∃ new, ((backup H o src).run w).2.trace = new ++ w.trace ∧
      (∀ ev ∈ new, BackupOp ev.op) ∧
      (∀ ev ∈ new, ∀ k, ev.succWrite = some k → NonEmptyAt ((backup H o src).run w).2.store k) ∧
      new.Pairwise (fun e1 e2 => ∀ k, e1.succWrite = some k → e2.succWrite ≠ some k) := by
  obtain ⟨new, ht, hw⟩ := WInv.run (backup_bk H o src) (w := w) (t0 := w.trace) (new := []) (T := []) he rfl
    (WInv.nil _)
  rw [List.append_nil] at hw
  exact ⟨new, ht, hw.1, hw.2.1, hw.2.2⟩

/-- Consequence in terms of keys: the successful writes recorded by one run of `backup` go to
pairwise distinct keys. -/
theorem written_keys_distinct (o : BackupOpts) (src : List SrcEntry) (w : World) (he : w.enforceCreateNew = true) :
    ∃ new, ((backup H o src).run w).2.trace = new ++ w.trace ∧
      (new.filterMap TraceEv.succWrite).Nodup := by
  obtain ⟨new, ht, -, -, hp⟩ := no_path_written_twice H o src w he
  refine ⟨new, ht, hp.filterMap _ ?_⟩
  intro e1 e2 hne k1 h1 k2 h2 h12
  exact hne k1 h1 (h12 ▸ h2)

end

/-! ### 5. Delete removes only what it was asked to -/

/-- Program text, hence ANY world: every operation `deleteBands strict D opts` can issue is a read,
a `createDir`, a `CreateNew` write, or one of exactly three removals: `removeDirAll (bandDir b)`
with `b ∈ D`, `removeFile (block h)`, `removeFile gcLock`. -/
theorem delete_removes_only (strict : Bool) (D : List Nat) (opts : DeleteOpts) :
    AllOps (DeleteOp D) (deleteBands strict D opts) :=
  deleteBands_del strict opts

/-- The same about runs, any world: every removal recorded is of a requested version's
directory, a block file, or the gc lock; nothing is overwritten. -/
theorem delete_removes_only_trace (strict : Bool) (D : List Nat) (opts : DeleteOpts) (w : World) :
    ∃ new, ((deleteBands strict D opts).run w).2.trace = new ++ w.trace ∧
      (∀ ev ∈ new, ∀ k, ev.op = .removeDirAll k → ∃ b, b ∈ D ∧ k = .bandDir b) ∧
      (∀ ev ∈ new, ∀ k, ev.op = .removeFile k → k = .gcLock ∨ ∃ h, k = .block h) ∧
      (∀ ev ∈ new, ∀ k v m, ev.op = .write k v m → m = .createNew) := by
  obtain ⟨new, ht, hP⟩ := Prog.run_trace_ops (delete_removes_only strict D opts) w
  refine ⟨new, ht, fun ev hev k hop => ?_, fun ev hev k hop => ?_, fun ev hev k v m hop => ?_⟩ <;>
    have := hP ev hev <;> rw [hop] at this
  · exact this
  · exact this.imp_right fun ⟨h, hk, _⟩ => ⟨h, hk⟩
  · exact this

/-- Full second half of the clause (proved in Props/C07d.lean): on a clean, tree-shaped store, with the
repaired (`strict`) reference scan, no block removed by `deleteBands` is referenced by a hunk of
a version that is kept.  (C07 needs only this inclusion; that every unreferenced block IS removed
belongs to the gc property.) -/
def delete_removes_unreferenced_Statement : Prop :=
  ∀ (D : List Nat) (opts : DeleteOpts) (s : Store),
    s.NoDupKeys → (∀ k v, s.get? k = some v → s.parentOk k = true) →
    ∀ ev ∈ ((deleteBands true D opts).run (World.clean s)).2.trace, ∀ h, ev.op = .removeFile (.block h) →
      ∀ b ∈ bandIdsOf s, b ∉ D → ∀ n es, hunkAt s b n = some es → ∀ e ∈ es, ∀ a ∈ e.addrs, a.hash ≠ h

/-- What is proved of it, for any world and either scan: `deleteBody` lists the versions, lets
`referencedBlocks` collect `referenced` for the kept ones, lets `listBlocks` list `present`, and
everything after that removes only blocks `h ∈ present` with `h ∉ referenced` (plus the
requested directories and the lock). -/
theorem delete_removes_unreferenced_partial (strict : Bool) (D : List Nat) (opts : DeleteOpts) (held : Option Nat) :
    ∃ tail : List Str → List Str → Prog DeleteStats,
      deleteBody strict D opts held = (listBandIds.bind fun all =>
        (referencedBlocks strict (all.filter fun b => !D.contains b)).bind fun referenced =>
          listBlocks.bind fun present => tail referenced present) ∧
      ∀ referenced present,
        AllOps (DeleteOpQ D (fun h => h ∈ present ∧ h ∉ referenced)) (tail referenced present) :=
  deleteBody_decomp strict D opts held

/-! ### 6. Two backups racing -/

section
variable {α β : Type}

/-- **Shared-store frame theorem.**  Two actors whose programs issue only `CreateOnly` operations
(e.g. two backups), any schedule: the final store extends the initial one. -/
theorem two_backups_extend (sched : List Bool) (s : Store) (pa : Prog α) (pb : Prog β)
    (ha : AllOps CreateOnly pa) (hb : AllOps CreateOnly pb) :
    Extends s (runSched true sched s (Actor.start pa) (Actor.start pb)).1 :=
  runSched_extends sched s _ _ (Actor.start_allOps ha) (Actor.start_allOps hb)

/-- **The loser fails.**  Two actors running programs made of `BackupOp`s in which a failed head
write leads straight to `fail` (`HeadGuard`; `backup` is one, see `two_backups_loser_fails`), any
schedule, `CreateNew` honoured.  Then
1. if both record a write of `bandHead n` (any `n`), at most one of the two got `unit`;
   more generally no key gets a successful write from both;
2. for each actor, a recorded head write that did not succeed is the LAST operation it performs
   (no further operation, mutating or not), and the actor has ended with a conserve error. -/
theorem two_actors_loser_fails (sched : List Bool) (s : Store) (pa : Prog α) (pb : Prog β)
    (ha : AllOps BackupOp pa) (hb : AllOps BackupOp pb) (hga : HeadGuard pa) (hgb : HeadGuard pb) :
    let r := runSched true sched s (Actor.start pa) (Actor.start pb)
    (∀ ea ∈ r.2.1.trace, ∀ eb ∈ r.2.2.trace, ∀ k, ea.succWrite = some k → eb.succWrite ≠ some k) ∧
    (∀ ea ∈ r.2.1.trace, ∀ eb ∈ r.2.2.trace, ∀ n va ma vb mb,
        ea.op = .write (.bandHead n) va ma → eb.op = .write (.bandHead n) vb mb →
        ¬ (ea.resp = .unit ∧ eb.resp = .unit)) ∧
    (∀ ev ∈ r.2.1.trace, FailedHead ev → (∃ rest, r.2.1.trace = ev :: rest) ∧ ∃ e, r.2.1.prog = .fail e) ∧
    (∀ ev ∈ r.2.2.trace, FailedHead ev → (∃ rest, r.2.2.trace = ev :: rest) ∧ ∃ e, r.2.2.prog = .fail e) := by
  intro r
  have hw := runSched_winv sched s (Actor.start pa) (Actor.start pb)
    (Actor.start_allOps ha) (Actor.start_allOps hb) (WInv.nil _)
  have hcross : ∀ ea ∈ r.2.1.trace, ∀ eb ∈ r.2.2.trace, ∀ k, ea.succWrite = some k → eb.succWrite ≠ some k :=
    fun ea hea eb heb => (List.pairwise_append.mp hw.2.2).2.2 ea hea eb heb
  obtain ⟨hoa, hob⟩ := runSched_headOk true sched s (Actor.start pa) (Actor.start pb)
    (Actor.start_headOk hga) (Actor.start_headOk hgb)
  refine ⟨hcross, ?_, fun ev hev hf => hoa.2.of_mem hev hf, fun ev hev hf => hob.2.of_mem hev hf⟩
  intro ea hea eb heb n va ma vb mb hopa hopb ⟨hra, hrb⟩
  refine hcross ea hea eb heb (.bandHead n) ?_ ?_
  · unfold TraceEv.succWrite; rw [hopa, hra]
  · unfold TraceEv.succWrite; rw [hopb, hrb]

/-- `two_actors_loser_fails` for two real backups (any options, any sources). -/
theorem two_backups_loser_fails (H : Str → Str) (sched : List Bool) (s : Store)
    (oa ob : BackupOpts) (srca srcb : List SrcEntry) :
    let r := runSched true sched s (Actor.start (backup H oa srca)) (Actor.start (backup H ob srcb))
    Extends s r.1 ∧
    (∀ ea ∈ r.2.1.trace, ∀ eb ∈ r.2.2.trace, ∀ n va ma vb mb,
        ea.op = .write (.bandHead n) va ma → eb.op = .write (.bandHead n) vb mb →
        ¬ (ea.resp = .unit ∧ eb.resp = .unit)) ∧
    (∀ ev ∈ r.2.1.trace, FailedHead ev → (∃ rest, r.2.1.trace = ev :: rest) ∧ ∃ e, r.2.1.prog = .fail e) ∧
    (∀ ev ∈ r.2.2.trace, FailedHead ev → (∃ rest, r.2.2.trace = ev :: rest) ∧ ∃ e, r.2.2.prog = .fail e) := by
  intro r
  have h := two_actors_loser_fails sched s _ _ (backup_bk H oa srca) (backup_bk H ob srcb)
    (backup_headGuard H oa srca) (backup_headGuard H ob srcb)
  exact ⟨two_backups_extend sched s _ _ (backup_createOnly H oa srca) (backup_createOnly H ob srcb),
    h.2.1, h.2.2.1, h.2.2.2⟩

/-- `bandCreate` followed by anything built from writer operations
(no second head write) satisfies the hypotheses of `two_actors_loser_fails`. -/
theorem bandCreate_then_ok {γ : Type} (f : Nat → Prog γ) (hf : ∀ b, AllOps WriterOp (f b)) :
    AllOps BackupOp (bandCreate.bind f) ∧ HeadGuard (bandCreate.bind f) :=
  ⟨AllOps.bind bandCreate_bk fun b => (hf b).wr_bk,
   HeadGuard.bind bandCreate_headGuard fun b => HeadGuard.of_writerOp (hf b)⟩

/-- Program text: in `backup`, after the write of a band head every response but success leads
directly to `fail` — no further operation. -/
theorem backup_aborts_on_failed_head (H : Str → Str) (o : BackupOpts) (src : List SrcEntry) :
    HeadGuard (backup H o src) := backup_headGuard H o src

end

/-! ### Concrete instances (non-vacuity) and the defect before the repair -/

def s0 : Store := [(.root, .dir)]

def okHead (n : Nat) (ev : TraceEv) : Bool :=
  ev.op == .write (.bandHead n) (.head .ok []) .createNew && ev.resp == .unit

def refusedHead (n : Nat) (ev : TraceEv) : Bool :=
  ev.op == .write (.bandHead n) (.head .ok []) .createNew && ev.resp == .err .alreadyExists

/-- **Refuted without enforcement (D4, before the repair of the local transport).**  Two
`bandCreate`s on an empty archive, both list the root before either creates anything: with
`CreateNew` not honoured BOTH head writes for band 0 succeed — the second overwrites the first. -/
theorem two_backups_refuted_without_enforce :
    let r := runSched false [false, true] s0 (Actor.start bandCreate) (Actor.start bandCreate)
    r.2.1.trace.any (okHead 0) = true ∧ r.2.2.trace.any (okHead 0) = true := by
  decide +kernel

/-- The same race with `CreateNew` honoured: the first head write succeeds, the second is refused
with `alreadyExists` (so the hypotheses of `two_actors_loser_fails` are met non-trivially). -/
example :
    let r := runSched true [false, true] s0 (Actor.start bandCreate) (Actor.start bandCreate)
    r.2.1.trace.any (okHead 0) = true ∧ r.2.2.trace.any (refusedHead 0) = true ∧
    r.2.2.trace.any (okHead 0) = false := by
  decide +kernel

/-- Hypotheses are satisfiable: a clean world honours `CreateNew`, `s0` has distinct keys. -/
example : (World.clean s0).enforceCreateNew = true := rfl
example : s0.NoDupKeys := by simp [s0, Store.NoDupKeys]
example : ∃ w : World, w.enforceCreateNew = true ∧ w.faults ≠ [] ∧ w.crashAt = some 3 ∧ w.store.NoDupKeys :=
  ⟨{ store := s0, faults := [⟨⟨.write, .bandHead 0, 0⟩, .other⟩], crashAt := some 3 }, rfl, by simp, rfl,
    by simp [s0, Store.NoDupKeys]⟩

/-- `Extends` is not trivial: a store that lost a non-empty file does not extend the old one. -/
example : ¬ Extends [(.root, .dir), (.header, .header [48, 46, 54])] [(.root, .dir)] := by
  intro h
  have := h .header (.header [48, 46, 54]) (by decide)
  rcases this with h | ⟨h, _⟩
  · exact absurd h (by decide)
  · exact absurd h (by decide)

/-- … nor one whose file changed; but completing a zero-length leftover is allowed. -/
example : ¬ Extends [(.gcLock, .lock)] [(.gcLock, .junk 0)] := by
  intro h
  rcases h .gcLock .lock (by decide) with h | ⟨h, _⟩
  · exact absurd h (by decide)
  · exact absurd h (by decide)

example : Extends [(.gcLock, .empty)] [(.gcLock, .lock)] := by
  intro k v hv
  by_cases hk : k = .gcLock
  · subst hk
    have : v = .empty := by
      have : Store.get? [(Key.gcLock, FileVal.empty)] .gcLock = some .empty := by decide
      rw [this] at hv; cases hv; rfl
    exact .inr ⟨this, by decide⟩
  · have : Store.get? [(Key.gcLock, FileVal.empty)] k = none := by
      have : (k == Key.gcLock) = false := by simpa using hk
      simp [Store.get?, List.lookup_cons, this]
    rw [this] at hv; cases hv

/-- `bandCreate` on the empty archive returns id 0 (so `new_band_id_above_clean` is not vacuous). -/
example : ∃ b, (bandCreate.run (World.clean s0)).1 = .ok b :=
  -- plain `rfl` does not unfold the sort in `listBandIds` (well-founded recursion)
  ⟨0, by with_unfolding_all rfl⟩

end Conserve.C07
