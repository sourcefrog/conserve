import ConserveModel.Proofs.StitchHeadless
import ConserveModel.Proofs.ValidateGood
import ConserveModel.Proofs.ConformsHeadless
import ConserveModel.Props.C10
import ConserveModel.Props.C13
/-
C10 (repair of `previous_existing_band`) — a lost predecessor head is never silent.

"… each file whose hunk or block has become missing or undecodable is reported as an error rather
than silently dropped or altered."

The defect: listing / restoring an INTERRUPTED version continues in the previous version;
`previous_existing_band` (src/index/stitch.rs) walks the ids downwards and passes over every id whose
`BANDHEAD` is not a file.  If the predecessor's `BANDHEAD` was deleted, everything the interrupted
version took from it vanished without a word.  The repair: for an id without head the walk also asks
whether `bNNNN/i/00000/000000000` (index hunk 0) is a file.  Hunks are only written after the head, so
a version that holds hunk 0 but no head has LOST its head (`headLost`, StitchSpec.lean): it is
reported as `Error::BandHeadMissing`, and the walk goes on as before.  A directory left by a backup
that was killed before its head write holds no hunk and stays silent.

The model is `stitchDown` (IndexRead.lean); the walk as it was is `stitchDownOld`
(Proofs/StitchHeadless.lean).  All theorems below quantify over ALL stores (no well-formedness, unless
stated) and over every fault-free, crash-free world `Quiet s evs w` (whatever was reported before).
-/
namespace Conserve.C10h
open Conserve Conserve.Exact

/-- Version `b` has lost its head (`headLost s b`: no `BANDHEAD` file, but index hunk 0 is a file) and
the walk down from `n` gets as far as `b` (`WalkReaches`: no version strictly between is complete;
incomplete, unreadable, head-less and absent ones do not matter).  Then `Stitch` after an interrupted
version `n` reports `bandHeadMissing b`, in every fault-free world. -/
theorem headless_predecessor_reported {s : Store} {n b : Nat} (hl : headLost s b = true)
    (hr : WalkReaches s n b) (last : Option Str) {evs : List Event} {w : World} (hq : Quiet s evs w) :
    Event.error (.bandHeadMissing b) ∈ ((stitchDown n last).run w).2.events := by
  obtain ⟨w', h, q⟩ := run_stitchDown n last evs w hq
  rw [h, q.events]
  exact List.mem_append_left _ (mem_evsOf.mpr (lost_mem_stitchDownP hl n last hr))

/-- The same for the whole listing of an interrupted version `n` (`stitchAll n`: what
`Stitch::new(archive, n, …)` yields), on the archive as it lies there. -/
theorem headless_predecessor_reported_list {s : Store} {n b : Nat} (hl : headLost s b = true)
    (hopen : isComplete s n = false) (hr : WalkReaches s n b) :
    Event.error (.bandHeadMissing b) ∈ ((stitchAll n).run (World.clean s)).2.events := by
  obtain ⟨w', h, q⟩ := run_stitchAll n (Quiet.clean s)
  rw [h, q.events, List.append_nil]
  apply mem_evsOf.mpr
  have hcl : isFileP s (.bandTail n) = false := by rw [isComplete_eq]; exact hopen
  simp only [stitchAllP, hcl, Bool.false_eq_true, if_false, List.mem_append]
  exact Or.inr (lost_mem_stitchDownP hl n _ hr)

/-- The rule says so too: `bandHeadMissing b` is among `listErrors s n` (C08; StitchSpec.lean). -/
theorem headless_predecessor_reported_spec {s : Store} {n b : Nat} (hl : headLost s b = true)
    (hopen : isComplete s n = false) (hr : WalkReaches s n b) :
    Err.bandHeadMissing b ∈ listErrors s n :=
  lost_mem_listErrors hl hopen hr

/-- … and `restore` of the interrupted version `n` (any subtree, any exclusions), if it returns,
has reported it: what the version took from `b` is not restored, and this is said. -/
theorem headless_predecessor_reported_restore (H : Str → Str) {s : Store} (wf : ArchWF s) {n b : Nat}
    (hl : headLost s b = true) (hopen : isComplete s n = false) (hr : WalkReaches s n b)
    (subtree : Str) (excl : Str → Bool) {nodes : List RNode} {w' : World}
    (h : (restore H (.specified n) subtree excl).run (World.clean s) = (.ok nodes, w')) :
    Event.error (.bandHeadMissing b) ∈ w'.events := by
  obtain ⟨_, _, hev⟩ := C10.restore_spec H wf n subtree excl h
  rw [hev]
  exact mem_evsOf.mpr (List.mem_append_left _ (lost_mem_listErrors hl hopen hr))

/-- In particular the immediate predecessor: an interrupted version `b + 1` over a version `b` whose
head was deleted. -/
theorem deleted_predecessor_head_reported {s : Store} {b : Nat} (hl : headLost s b = true)
    (hopen : isComplete s (b + 1) = false) :
    Event.error (.bandHeadMissing b) ∈ ((stitchAll (b + 1)).run (World.clean s)).2.events :=
  headless_predecessor_reported_list hl hopen ⟨Nat.lt_succ_self b, fun c h1 h2 => by omega⟩

/-- Id `b` has no head file and no hunk 0 (what a backup killed before its head write leaves:
`bNNNN/`, perhaps `bNNNN/i/`).  Walking past it adds no entry and no event. -/
theorem headless_leftover_silent {s : Store} {b : Nat} (hp : bandPresent s b = false)
    (h0 : headLost s b = false) (last : Option Str) {evs : List Event} {w : World} (hq : Quiet s evs w) :
    ((stitchDown (b + 1) last).run w).1 = ((stitchDown b last).run w).1 ∧
    ((stitchDown (b + 1) last).run w).2.events = ((stitchDown b last).run w).2.events ∧
    ((stitchDown (b + 1) last).run w).2.store = ((stitchDown b last).run w).2.store := by
  obtain ⟨w1, h1, q1⟩ := run_stitchDown (b + 1) last evs w hq
  obtain ⟨w2, h2, q2⟩ := run_stitchDown b last evs w hq
  rw [h1, h2, q1.events, q2.events, q1.store, q2.store, stitchDownP_leftover hp h0]
  exact ⟨rfl, rfl, rfl⟩

/-- The same result as if the directory were absent: `s'` is `s` without anything at or under `b`'s
directory (`hout`, `habs`), both stores are maps, and the walk returns and reports the same on both. -/
theorem headless_leftover_silent_absent {s s' : Store} (hs : s.NoDupKeys) (hs' : s'.NoDupKeys) {b : Nat}
    (hout : ∀ k, Key.isUnder (.bandDir b) k = false → s'.get? k = s.get? k)
    (habs : ∀ k, Key.isUnder (.bandDir b) k = true → s'.get? k = none)
    (hp : bandPresent s b = false) (h0 : headLost s b = false) (n : Nat) (last : Option Str)
    {evs : List Event} {w w' : World} (hq : Quiet s evs w) (hq' : Quiet s' evs w') :
    ((stitchDown n last).run w').1 = ((stitchDown n last).run w).1 ∧
    ((stitchDown n last).run w').2.events = ((stitchDown n last).run w).2.events := by
  obtain ⟨w1, h1, q1⟩ := run_stitchDown n last evs w hq
  obtain ⟨w2, h2, q2⟩ := run_stitchDown n last evs w' hq'
  rw [h1, h2, q1.events, q2.events,
    Hist.stitchDownP_same hs hs' n (chainSame_of_absent hout habs hp h0 n) last]
  exact ⟨rfl, rfl⟩

/-- … and so does the whole listing of every OTHER version `n` (complete or interrupted, above or
below `b`). -/
theorem headless_leftover_silent_absent_list {s s' : Store} (hs : s.NoDupKeys) (hs' : s'.NoDupKeys) {b : Nat}
    (hout : ∀ k, Key.isUnder (.bandDir b) k = false → s'.get? k = s.get? k)
    (habs : ∀ k, Key.isUnder (.bandDir b) k = true → s'.get? k = none)
    (hp : bandPresent s b = false) (h0 : headLost s b = false) {n : Nat} (hn : n ≠ b) :
    ((stitchAll n).run (World.clean s')).1 = ((stitchAll n).run (World.clean s)).1 ∧
    ((stitchAll n).run (World.clean s')).2.events = ((stitchAll n).run (World.clean s)).2.events := by
  obtain ⟨w1, h1, q1⟩ := run_stitchAll n (Quiet.clean s)
  obtain ⟨w2, h2, q2⟩ := run_stitchAll n (Quiet.clean s')
  have hb : BandSame s s' n := fun k hk => hout k (isUnder_bandDir_other hk hn)
  rw [h1, h2, q1.events, q2.events,
    Hist.stitchAllP_same hs hs' hb (fun _ => chainSame_of_absent hout habs hp h0 n)]
  exact ⟨rfl, rfl⟩

/-- The repaired walk against the walk as it was (`stitchDownOld`), on ANY store: the same entries,
nothing written, the old events kept in order, and every new event is `bandHeadMissing c` for an id
`c` below that lost its head. -/
theorem repair_conservative {s : Store} (n : Nat) (last : Option Str) {evs : List Event} {w : World}
    (hq : Quiet s evs w) :
    (∃ es, ((stitchDown n last).run w).1 = .ok es ∧ ((stitchDownOld n last).run w).1 = .ok es) ∧
    ((stitchDown n last).run w).2.store = s ∧ ((stitchDownOld n last).run w).2.store = s ∧
    (((stitchDownOld n last).run w).2.events).Sublist ((stitchDown n last).run w).2.events ∧
    ∀ ev ∈ ((stitchDown n last).run w).2.events,
      ev ∈ ((stitchDownOld n last).run w).2.events ∨
      ∃ c, c < n ∧ headLost s c = true ∧ ev = Event.error (.bandHeadMissing c) := by
  obtain ⟨w1, h1, q1⟩ := run_stitchDown n last evs w hq
  obtain ⟨w2, h2, q2⟩ := run_stitchDownOld n last evs w hq
  rw [h1, h2, q1.events, q2.events, q1.store, q2.store]
  refine ⟨⟨_, rfl, by rw [stitchDownP_fst_old]⟩, rfl, rfl, ?_, ?_⟩
  · refine List.Sublist.append ?_ (List.Sublist.refl _)
    unfold evsOf
    exact ((stitchDownOldP_sublist s n last).map _).reverse
  · intro ev hev
    rcases List.mem_append.mp hev with hev | hev
    · unfold evsOf at hev
      obtain ⟨e, he, rfl⟩ := List.mem_map.mp (List.mem_reverse.mp hev)
      rcases mem_stitchDownP_snd n last he with h | ⟨c, hc, hl, rfl⟩
      · exact Or.inl (List.mem_append_left _ (mem_evsOf.mpr h))
      · exact Or.inr ⟨c, hc, hl, rfl⟩
    · exact Or.inl (List.mem_append_right _ hev)

/-- If no id below `n` has lost its head — in particular in every archive in which whatever holds a
hunk has a head — the repaired walk returns and reports exactly what the old one did. -/
theorem repair_same_when_no_head_lost {s : Store} (n : Nat) (hn : ∀ c, c < n → headLost s c = false)
    (last : Option Str) {evs : List Event} {w : World} (hq : Quiet s evs w) :
    ((stitchDown n last).run w).1 = ((stitchDownOld n last).run w).1 ∧
    ((stitchDown n last).run w).2.events = ((stitchDownOld n last).run w).2.events := by
  obtain ⟨w1, h1, q1⟩ := run_stitchDown n last evs w hq
  obtain ⟨w2, h2, q2⟩ := run_stitchDownOld n last evs w hq
  rw [h1, h2, q1.events, q2.events, stitchDownP_eq_old n hn last]
  exact ⟨rfl, rfl⟩

/-- Healthy archives (C09 `Good`: what validate accepts) have no lost head, so on them the repair
changes nothing. -/
theorem good_no_head_lost {H : Str → Str} {s : Store} (g : Good H s) (c : Nat) : headLost s c = false :=
  g.headLost_false c

section produced
open Conserve.Inv Conserve.Conf
variable {H : Str → Str}

/-- The fact the silence theorems need since the repair (`C08.stitch_silent`,
`C02h.restore_congr_chain`'s `hlost`, the extra premise of `C05.delete_keeps_restore_Statement`): no
version directory without head file holds index hunk 0. -/
def NoHeadLost (s : Store) : Prop := ∀ c, headLost s c = false

/-- It follows from the C13 invariant `CI` (conforms to the format, a tree, a map): the format allows
a version directory without head only with no hunk files at all. -/
theorem ci_no_head_lost {s : Store} (h : CI H s) : NoHeadLost s := h.headLost_false

/-- … so it is kept by `backup` in EVERY world (any faults, any crash point, any options), -/
theorem backup_keeps_no_head_lost {o : BackupOpts} {src : List SrcEntry} {w : World}
    (hinj : Function.Injective H) (hlen : HashLen H) (hsrc : C13.SrcSortedWeak src)
    (he : w.enforceCreateNew = true) (hci : CI H w.store) : NoHeadLost ((backup H o src).run w).2.store :=
  ci_no_head_lost (C13.backup_ci_all_worlds hinj hlen hsrc he hci)

/-- … by `delete_bands` (strict) in every world, -/
theorem delete_keeps_no_head_lost (D : List Nat) (opts : DeleteOpts) (w : World) (hci : CI H w.store) :
    NoHeadLost ((deleteBands true D opts).run w).2.store :=
  ci_no_head_lost (C13.delete_ci D opts w hci)

/-- … and holds of every archive a history of backups and deletes (each in a world of its own, killed
anywhere) visits, -/
theorem history_no_head_lost (hinj : Function.Injective H) (hlen : HashLen H) (hist : List C13.Step) :
    C13.HistOK hist → ∀ s, CI H s → ∀ s' ∈ C13.states H hist s, NoHeadLost s' :=
  fun hok s hci s' hs' => ci_no_head_lost
    (C13.states_invariant (fun st s => C13.step_ci hinj hlen st s) hist hok s hci s' hs')

/-- … in particular of everything reachable from the empty archive. -/
theorem reachable_no_head_lost (hinj : Function.Injective H) (hlen : HashLen H) (hist : List C13.Step)
    (hok : C13.HistOK hist) : ∀ s' ∈ C13.states H hist C13.emptyArchive, NoHeadLost s' :=
  history_no_head_lost hinj hlen hist hok _ C13.emptyArchive_ci

/-- On such archives the repaired listing is the old listing: same entries, same events
(`repair_same_when_no_head_lost`), from every starting point. -/
theorem produced_listing_unchanged {s : Store} (h : CI H s) (n : Nat) (last : Option Str)
    {evs : List Event} {w : World} (hq : Quiet s evs w) :
    ((stitchDown n last).run w).1 = ((stitchDownOld n last).run w).1 ∧
    ((stitchDown n last).run w).2.events = ((stitchDownOld n last).run w).2.events :=
  repair_same_when_no_head_lost n (fun c _ => ci_no_head_lost h c) last hq

end produced

/-- b0000: directory, index, hunk 0 — and NO head (it was deleted); b0001: an interrupted version
(head, index, no tail). -/
def lostDemo : Store :=
  [ (.root, .dir), (.header, .header [48, 46, 54]), (.blockRoot, .dir),
    (.bandDir 0, .dir), (.indexDir 0, .dir), (.hunkDir 0 0, .dir), (.hunk 0 0, .hunk [C08.ent [47] 0]),
    (.bandTail 0, .tail (some 1)),
    (.bandDir 1, .dir), (.bandHead 1, .head .ok []), (.indexDir 1, .dir) ]

/-- The same with b0000 never started: a directory, nothing in it. -/
def leftoverDemo : Store :=
  [ (.root, .dir), (.header, .header [48, 46, 54]), (.blockRoot, .dir),
    (.bandDir 0, .dir),
    (.bandDir 1, .dir), (.bandHead 1, .head .ok []), (.indexDir 1, .dir) ]

/-- … and with b0000 absent. -/
def absentDemo : Store :=
  [ (.root, .dir), (.header, .header [48, 46, 54]), (.blockRoot, .dir),
    (.bandDir 1, .dir), (.bandHead 1, .head .ok []), (.indexDir 1, .dir) ]

example : headLost lostDemo 0 = true := by decide +kernel
example : isComplete lostDemo 1 = false := by decide +kernel
example : WalkReaches lostDemo 1 0 := ⟨by omega, fun c h1 h2 => by omega⟩

/-- Listing the interrupted b0001 of `lostDemo` reports the lost head of b0000 (by the theorem). -/
example : Event.error (.bandHeadMissing 0) ∈ ((stitchAll 1).run (World.clean lostDemo)).2.events :=
  deleted_predecessor_head_reported (by decide +kernel) (by decide +kernel)

/-- The hypotheses of `headless_leftover_silent` and of `…_absent` hold of the leftover / absent pair. -/
example : bandPresent leftoverDemo 0 = false ∧ headLost leftoverDemo 0 = false := by decide +kernel
example : leftoverDemo.NoDupKeys ∧ absentDemo.NoDupKeys := by
  unfold Store.NoDupKeys; decide +kernel

theorem demo_out : ∀ k, Key.isUnder (.bandDir 0) k = false → absentDemo.get? k = leftoverDemo.get? k := by
  intro k hk
  have hne : (k == Key.bandDir 0) = false := by
    cases hk' : k == Key.bandDir 0 with
    | false => rfl
    | true => simp [Key.isUnder, hk'] at hk
  simp [leftoverDemo, absentDemo, Store.get?, List.lookup_cons, hne]

theorem demo_abs : ∀ k, Key.isUnder (.bandDir 0) k = true → absentDemo.get? k = none := by
  intro k hk
  have hall : absentDemo.all (fun kv => !Key.isUnder (.bandDir 0) kv.1) = true := by decide +kernel
  cases hg : absentDemo.get? k with
  | none => rfl
  | some v =>
    have := List.all_eq_true.mp hall _ (Store.mem_of_get? hg)
    simp [hk] at this

/-- So listing b0001 gives the same on the archive with the empty directory b0000 as without it. -/
example : ((stitchAll 1).run (World.clean absentDemo)).1 = ((stitchAll 1).run (World.clean leftoverDemo)).1 ∧
    ((stitchAll 1).run (World.clean absentDemo)).2.events =
      ((stitchAll 1).run (World.clean leftoverDemo)).2.events :=
  headless_leftover_silent_absent_list (by unfold Store.NoDupKeys; decide +kernel)
    (by unfold Store.NoDupKeys; decide +kernel) demo_out demo_abs (by decide +kernel) (by decide +kernel)
    (by omega)

/-- `repair_conservative` is not about equal things only: on `lostDemo` the repaired walk reports the
lost head (above), while the walk as it was is silent — the damage went unreported. -/
example : ((stitchDownOld 1 none).run (World.clean lostDemo)).2.events = [] := by
  obtain ⟨w', h, q⟩ := run_stitchDownOld 1 none [] _ (Quiet.clean lostDemo)
  rw [h, q.events]
  have : stitchDownOldP lostDemo 1 none = ([], []) := by
    simp [stitchDownOldP, show isFileP lostDemo (.bandHead 0) = false by decide +kernel]
  rw [this]; rfl

/-- The hypothesis of `repair_same_when_no_head_lost` holds of `leftoverDemo`. -/
example : ∀ c, c < 1 → headLost leftoverDemo c = false := by
  intro c hc
  have : c = 0 := by omega
  subst this; decide +kernel

end Conserve.C10h
