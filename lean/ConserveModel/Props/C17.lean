import ConserveModel.Proofs.PermGc
import ConserveModel.Proofs.PermHashSet
import ConserveModel.Props.C11Walk
import ConserveModel.Proofs.CleanWorld
/-
C17 — the archive is a pure function of the source and the operation history.

A Lean function is deterministic by construction; the content of the property is INDEPENDENCE
FROM EVERY UNORDERED INPUT the code consumes.  In the model a directory listing is
`Store.children s k`, whose order is the order of the association list `Store`.  So "arbitrary
`list_dir` order" = "arbitrary order of the association list", and the theorems below say: two
stores with the same file at every path (`StoreEquiv`), however their lists are ordered, give
  * the same result, the same events, the same sequence of operations (the whole trace, reads
    included, with responses equal except that listings are permuted),
  * equivalent final stores,
for `backup`, `delete_bands`, `restore`, `validate` and every listing consumer below them — in
EVERY world (any fault list keyed by `OpId`, any crash point), not only the clean one — and hence
for whole histories, starting from two fresh archives.  The source side (`read_dir` order) is
`C11.walk_perm_invariant`; `archive_function_of_tree` combines the two.

Helper lemmas: Proofs/PermStore.lean (stores), PermProg.lean (`ProgEquiv`, `run_equiv`),
PermListing.lean (pure consumers), PermArchive/PermBackup/PermGc.lean (programs), PermHashSet.lean
(the block-removal loop in any order).

Not in the model (partial label of the claim): scheduling inside the tokio runtime.  The only
concurrent code on these paths is `list_blocks`' JoinSet, whose result is a set — covered by
`listBlocks_perm_invariant` (result up to `List.Perm`) and by the fact that every user of the
result only tests membership or re-sorts (`contains_eq_of_perm`, `unref_eq_of_perm`).
-/
namespace Conserve.C17
open Conserve

/-- **Reordering the association list does not change the store.** -/
theorem storeEquiv_of_perm {s t : Store} (h : s.Perm t) (hs : Store.NoDupKeys s) : StoreEquiv s t :=
  StoreEquiv.of_perm h hs

/-- Conversely, equivalent duplicate-free stores are permutations of each other, so
`StoreEquiv` + `Store.NoDupKeys` is exactly "the same store listed in another order". -/
theorem perm_of_storeEquiv {s t : Store} (h : StoreEquiv s t) (hs : Store.NoDupKeys s) (ht : Store.NoDupKeys t) :
    s.Perm t := h.perm hs ht

theorem noDupKeys_preserved {s : Store} (h : Store.NoDupKeys s) (k : Key) (v : FileVal) :
    Store.NoDupKeys (s.put k v) ∧ Store.NoDupKeys (s.erase k) ∧ Store.NoDupKeys (s.eraseTree k) :=
  ⟨h.put k v, h.erase k, h.eraseTree k⟩

theorem storeEquiv_preserved {s t : Store} (h : StoreEquiv s t) (k : Key) (v : FileVal) :
    StoreEquiv (s.put k v) (t.put k v) ∧ StoreEquiv (s.erase k) (t.erase k) ∧
    StoreEquiv (s.eraseTree k) (t.eraseTree k) :=
  ⟨h.put k v, h.erase k, h.eraseTree k⟩

/-- **Every storage operation respects the equivalence**: equivalent result stores (again
duplicate-free) and responses equal up to the order of a listing — equal outright unless the
operation is `listDir`. -/
theorem applyOp_equiv (e : Bool) {s t : Store} (h : StoreEquiv s t) (hs : Store.NoDupKeys s) (ht : Store.NoDupKeys t)
    (o : Op) :
    StoreEquiv (applyOp e s o).1 (applyOp e t o).1 ∧
    Store.NoDupKeys (applyOp e s o).1 ∧ Store.NoDupKeys (applyOp e t o).1 ∧
    Resp.Equiv (applyOp e s o).2 (applyOp e t o).2 ∧
    (o.verb ≠ .listDir → (applyOp e s o).2 = (applyOp e t o).2) :=
  let h' := Conserve.applyOp_equiv e h hs ht o
  ⟨h'.1, applyOp_noDupKeys e hs o, applyOp_noDupKeys e ht o, h'.2.1, h'.2.2⟩

theorem erase_comm (s : Store) (a b : Key) : (s.erase a).erase b = (s.erase b).erase a :=
  Store.erase_comm s a b

/-- **Hash-set iteration order is irrelevant for the final store.**  The real `delete_bands`
iterates a `HashSet` of unreferenced block names in arbitrary order (the model uses name order).
Removing the same set of paths in any two orders from equivalent stores gives equivalent
stores, because removals of distinct paths commute. -/
theorem removals_any_order {s t : Store} (h : StoreEquiv s t) {ks ks' : List Key} (hp : ks.Perm ks') :
    StoreEquiv (s.eraseAll ks) (t.eraseAll ks') := by
  intro j
  rw [Store.get?_eraseAll, Store.get?_eraseAll, h j]
  by_cases hj : j ∈ ks
  · simp [hj, hp.mem_iff.1 hj]
  · have : j ∉ ks' := fun h' => hj (hp.mem_iff.2 h')
    simp [hj, this]

/-- `list_band_ids`: filter/parse the names, then sort. -/
theorem bandIds_of_listing_perm {xs ys : List DirEnt} (h : xs.Perm ys) (f : DirEnt → Option Nat) :
    sortNat (xs.filterMap f) = sortNat (ys.filterMap f) := sortNat_filterMap_eq_of_perm f h

theorem maxNat?_spec {xs : List Nat} {m : Nat} : maxNat? xs = some m ↔ m ∈ xs ∧ ∀ x ∈ xs, x ≤ m := by
  refine ⟨fun h => ⟨maxNat?_mem h, maxNat?_ge h⟩, fun ⟨hm, hle⟩ => ?_⟩
  cases h : maxNat? xs with
  | none => rw [maxNat?_none h] at hm; cases hm
  | some m' => rw [Nat.le_antisymm (hle m' (maxNat?_mem h)) (maxNat?_ge h m hm)]

/-- `last_band_id`: the maximum does not depend on the order (even without the sort). -/
theorem maxNat?_perm {xs ys : List Nat} (h : xs.Perm ys) : maxNat? xs = maxNat? ys := by
  apply Option.ext
  intro m
  simp only [maxNat?_spec, h.mem_iff]

/-- `hunk_lengths`: (hunk number, non-empty) pairs of one index subdirectory, sorted by number.
Needs that the listing is a real one (`GoodListing`: every child once), because the sort key
does not determine the pair. -/
theorem hunkPairs_of_listing_perm {b d : Nat} {xs ys : List DirEnt} (h : xs.Perm ys)
    (hg : GoodListing (.hunkDir b d) xs) (f : DirEnt → Option (Nat × Bool))
    (hf : ∀ e p, f e = some p → ∃ b', e.key = .hunk b' p.1 ∧ p.2 = e.nonEmpty) :
    (xs.filterMap f).mergeSort (fun x y => decide (x.1 ≤ y.1)) =
    (ys.filterMap f).mergeSort (fun x y => decide (x.1 ≤ y.1)) := hunkPairs_eq_of_perm h hg f hf

theorem children_good {s : Store} (hs : Store.NoDupKeys s) (k : Key) : GoodListing k (s.children k) :=
  Store.children_good hs k

/-- `list_blocks`: subdirectories are visited in name order. -/
theorem subdirs_of_listing_perm {xs ys : List DirEnt} (h : xs.Perm ys) (f : DirEnt → Option Str) :
    (xs.filterMap f).mergeSort (fun a b => compare a b != .gt) =
    (ys.filterMap f).mergeSort (fun a b => compare a b != .gt) :=
  mergeSort_compare_eq_of_perm (h.filterMap f)

/-- `list_blocks`: one accumulation step maps permuted inputs to permuted outputs. -/
theorem blocks_step_perm {acc acc' hs hs' : List Str} (ha : acc.Perm acc') (hh : hs.Perm hs') :
    (acc ++ hs.filter (fun h => !acc.contains h)).Perm (acc' ++ hs'.filter (fun h => !acc'.contains h)) :=
  listBlocks_step_perm ha hh

/-- Downstream use 1 of the block set (`BlockDir::contains`, in backup): membership only. -/
theorem contains_eq_of_perm {present present' : List Str} (h : present.Perm present') (x : Str) :
    present.contains x = present'.contains x := h.contains_eq

/-- Downstream use 2 of the block set (`delete_bands`): filter by "unreferenced", then sort. -/
theorem unref_eq_of_perm {present present' : List Str} (h : present.Perm present') (p : Str → Bool) :
    (present.filter p).mergeSort strLe = (present'.filter p).mergeSort strLe :=
  mergeSort_strLe_eq_of_perm (h.filter p)

/-- `Band::validate`: "is BANDHEAD in the listing" is a membership test. -/
theorem any_perm {xs ys : List DirEnt} (h : xs.Perm ys) (p : DirEnt → Bool) : xs.any p = ys.any p :=
  h.any_eq

/-- What two runs agree on. -/
structure RunAgree {α β : Type} (R : α → β → Prop) (r₁ : Outcome α × World) (r₂ : Outcome β × World) : Prop where
  /-- same error / panic, results related by `R` (`Eq` for everything but `listBlocks`) -/
  outcome : Outcome.Rel R r₁.1 r₂.1
  /-- the final stores have the same file at every path -/
  store : StoreEquiv r₁.2.store r₂.2.store
  nd₁ : Store.NoDupKeys r₁.2.store
  nd₂ : Store.NoDupKeys r₂.2.store
  /-- the same errors reported to the monitor and the same change callbacks, in the same order -/
  events : r₁.2.events = r₂.2.events
  /-- the same number of successful mutating micro-steps; both alive or both dead -/
  steps : r₁.2.steps = r₂.2.steps
  dead : r₁.2.dead = r₂.2.dead
  /-- the same operations in the same order — reads and listings included — with the same
  responses, except that the entries of a listing may be permuted -/
  trace : TraceEquiv r₁.2.trace r₂.2.trace

theorem RunAgree.ops_eq {α β : Type} {R : α → β → Prop} {r₁ : Outcome α × World} {r₂ : Outcome β × World}
    (h : RunAgree R r₁ r₂) : r₁.2.trace.map (·.op) = r₂.2.trace.map (·.op) := h.trace.ops_eq

/-- The sequences of mutating operations, with their responses, are equal. -/
theorem RunAgree.mutating_eq {α β : Type} {R : α → β → Prop} {r₁ : Outcome α × World}
    {r₂ : Outcome β × World} (h : RunAgree R r₁ r₂) :
    r₁.2.trace.filter (fun ev => ev.op.isMutating) = r₂.2.trace.filter (fun ev => ev.op.isMutating) :=
  h.trace.mutating_eq

theorem RunAgree.outcome_eq {α : Type} {r₁ r₂ : Outcome α × World} (h : RunAgree Eq r₁ r₂) : r₁.1 = r₂.1 :=
  h.outcome.eq

theorem RunAgree.summary {α : Type} {r₁ r₂ : Outcome α × World} (a : RunAgree Eq r₁ r₂) :
    r₁.1 = r₂.1 ∧ StoreEquiv r₁.2.store r₂.2.store ∧ Store.NoDupKeys r₁.2.store ∧ Store.NoDupKeys r₂.2.store ∧
    r₁.2.events = r₂.2.events ∧
    r₁.2.trace.filter (fun ev => ev.op.isMutating) = r₂.2.trace.filter (fun ev => ev.op.isMutating) ∧
    r₁.2.trace.map (·.op) = r₂.2.trace.map (·.op) ∧ TraceEquiv r₁.2.trace r₂.2.trace :=
  ⟨a.outcome_eq, a.store, a.nd₁, a.nd₂, a.events, a.trace.mutating_eq, a.trace.ops_eq, a.trace⟩

/-- **General invariance**: a program that is insensitive to listing order (`ProgEquiv`), run in
two worlds that differ only in the order of the store's association list (and of the listings
already in the trace), behaves the same — for ANY fault list and crash point. -/
theorem run_perm_invariant {α β : Type} {R : α → β → Prop} {p : Prog α} {q : Prog β}
    (hpq : ProgEquiv R p q) {w w' : World} (hw : WEquiv w w') : RunAgree R (p.run w) (q.run w') :=
  let h := run_equiv hpq hw
  ⟨h.1, h.2.store, h.2.nd₁, h.2.nd₂, h.2.events, h.2.steps, h.2.dead, h.2.trace⟩

/-- One step, any world: equivalent worlds after, responses equal up to listing order; and a
listing, when there is one, names every child once (`GoodListing`). -/
theorem exec_perm_invariant {w w' : World} (h : WEquiv w w') (o : Op) :
    WEquiv (w.exec o).1 (w'.exec o).1 ∧ Resp.Equiv (w.exec o).2 (w'.exec o).2 ∧
    (o.verb ≠ .listDir → (w.exec o).2 = (w'.exec o).2) ∧
    (∀ xs, (w.exec o).2 = .listing xs → GoodListing o.key xs) :=
  let h' := exec_equiv h o
  ⟨h'.1, h'.2.1, h'.2.2.1, h'.2.2.2⟩

/-- `Archive::list_band_ids` (sorts). -/
theorem listBandIds_perm_invariant {w w' : World} (hw : WEquiv w w') :
    RunAgree Eq (listBandIds.run w) (listBandIds.run w') := run_perm_invariant listBandIds_equiv hw

/-- `Archive::last_band_id`. -/
theorem lastBandId_perm_invariant {w w' : World} (hw : WEquiv w w') :
    RunAgree Eq (lastBandId.run w) (lastBandId.run w') := run_perm_invariant lastBandId_equiv hw

/-- `Archive::last_complete_band`. -/
theorem lastCompleteBand_perm_invariant {w w' : World} (hw : WEquiv w w') :
    RunAgree Eq (lastCompleteBand.run w) (lastCompleteBand.run w') :=
  run_perm_invariant lastCompleteBand_equiv hw

/-- `Band::create`: the new id and the three creating operations. -/
theorem bandCreate_perm_invariant {w w' : World} (hw : WEquiv w w') :
    RunAgree Eq (bandCreate.run w) (bandCreate.run w') := run_perm_invariant bandCreate_equiv hw

/-- `IndexRead::hunks_available` (sorts directories and, per directory, hunk numbers). -/
theorem hunksAvailable_perm_invariant (b : Nat) {w w' : World} (hw : WEquiv w w') :
    RunAgree Eq ((hunksAvailable b).run w) ((hunksAvailable b).run w') :=
  run_perm_invariant (hunksAvailable_equiv b) hw

/-- `IndexRead::hunk_lengths` ((number, non-empty) pairs sorted by number: the comparison is not
antisymmetric on pairs, but a real listing names every hunk once — `hunkPairs_eq_of_perm`). -/
theorem hunkLengths_perm_invariant (b : Nat) {w w' : World} (hw : WEquiv w w') :
    RunAgree Eq ((hunkLengths b).run w) ((hunkLengths b).run w') :=
  run_perm_invariant (hunkLengths_equiv b) hw

/-- `Band::check_index_hunks`. -/
theorem checkIndexHunks_perm_invariant (b : Nat) {w w' : World} (hw : WEquiv w w') :
    RunAgree Eq ((checkIndexHunks b).run w) ((checkIndexHunks b).run w') :=
  run_perm_invariant (checkIndexHunks_equiv b) hw

/-- `blockdir::list_blocks`: the same subdirectories are listed in the same (name) order; the
names found are equal as multisets. -/
theorem listBlocks_perm_invariant {w w' : World} (hw : WEquiv w w') :
    RunAgree List.Perm (listBlocks.run w) (listBlocks.run w') := run_perm_invariant listBlocks_equiv hw

/-- The stitched listing of a version (`Stitch`, `iter_entries`). -/
theorem listEntries_perm_invariant (b : Nat) (subtree : Str) (excl : Str → Bool) {w w' : World}
    (hw : WEquiv w w') :
    RunAgree Eq ((listEntries b subtree excl).run w) ((listEntries b subtree excl).run w') :=
  run_perm_invariant (listEntries_equiv b subtree excl) hw

/-- `validate_bands` (`xs.any` on the band directory listing). -/
theorem validateBands_perm_invariant (bs : List Nat) (m : List (Str × Nat)) {w w' : World} (hw : WEquiv w w') :
    RunAgree Eq ((validateBands bs m).run w) ((validateBands bs m).run w') :=
  run_perm_invariant (validateBands_equiv bs m) hw

section
variable (H : Str → Str)

/-- **Backup, any world** (every fault list, every crash point). -/
theorem backup_perm_invariant_faults (o : BackupOpts) (src : List SrcEntry) {w w' : World} (hw : WEquiv w w') :
    RunAgree Eq ((backup H o src).run w) ((backup H o src).run w') :=
  run_perm_invariant (backup_equiv H o src) hw

/-- **`backup` does not depend on the order of any directory listing** (clean world): the same
statistics or error, equivalent archives, the same events, the same mutating operations — in
fact the same operations altogether, reads included. -/
theorem backup_perm_invariant (o : BackupOpts) (src : List SrcEntry) {s t : Store}
    (h : StoreEquiv s t) (hs : Store.NoDupKeys s) (ht : Store.NoDupKeys t) :
    let r₁ := (backup H o src).run (World.clean s)
    let r₂ := (backup H o src).run (World.clean t)
    r₁.1 = r₂.1 ∧ StoreEquiv r₁.2.store r₂.2.store ∧ Store.NoDupKeys r₁.2.store ∧ Store.NoDupKeys r₂.2.store ∧
    r₁.2.events = r₂.2.events ∧
    r₁.2.trace.filter (fun ev => ev.op.isMutating) = r₂.2.trace.filter (fun ev => ev.op.isMutating) ∧
    r₁.2.trace.map (·.op) = r₂.2.trace.map (·.op) ∧ TraceEquiv r₁.2.trace r₂.2.trace :=
  (backup_perm_invariant_faults H o src (WEquiv.clean h hs ht)).summary

/-- **Delete, any world.** -/
theorem delete_perm_invariant_faults (strict : Bool) (D : List Nat) (o : DeleteOpts) {w w' : World}
    (hw : WEquiv w w') :
    RunAgree Eq ((deleteBands strict D o).run w) ((deleteBands strict D o).run w') :=
  run_perm_invariant (deleteBands_equiv strict D o) hw

/-- **`delete_bands` does not depend on the order of any directory listing** (clean world).
The model removes the unreferenced blocks in name order; the real code iterates a `HashSet` in
arbitrary order, which cannot change the final store: removals of distinct paths commute
(`erase_comm`, `removals_any_order`; `delBlocks_any_order` below for the program itself). -/
theorem delete_perm_invariant (strict : Bool) (D : List Nat) (o : DeleteOpts) {s t : Store}
    (h : StoreEquiv s t) (hs : Store.NoDupKeys s) (ht : Store.NoDupKeys t) :
    let r₁ := (deleteBands strict D o).run (World.clean s)
    let r₂ := (deleteBands strict D o).run (World.clean t)
    r₁.1 = r₂.1 ∧ StoreEquiv r₁.2.store r₂.2.store ∧ Store.NoDupKeys r₁.2.store ∧ Store.NoDupKeys r₂.2.store ∧
    r₁.2.events = r₂.2.events ∧
    r₁.2.trace.filter (fun ev => ev.op.isMutating) = r₂.2.trace.filter (fun ev => ev.op.isMutating) ∧
    r₁.2.trace.map (·.op) = r₂.2.trace.map (·.op) ∧ TraceEquiv r₁.2.trace r₂.2.trace :=
  (delete_perm_invariant_faults strict D o (WEquiv.clean h hs ht)).summary

/-- **The order in which `delete_bands` visits the unreferenced blocks is irrelevant.**  The
real code iterates a `HashSet` (arbitrary order); the model's loop `delBlocks`, started in clean
worlds over equivalent stores with the block names in ANY two orders, ends with equivalent
stores and the same error count.  (In a world with faults the order does matter to WHICH
removal fails, as it does in the real code; the claim is for fault-free runs.) -/
theorem delBlocks_any_order {hs hs' : List Str} (hp : hs.Perm hs') (n : Nat) {w w' : World}
    (hc : w.IsClean) (hc' : w'.IsClean) (h : StoreEquiv w.store w'.store)
    (hn : Store.NoDupKeys w.store) (hn' : Store.NoDupKeys w'.store) :
    let r₁ := (deleteBody.delBlocks hs n).run w
    let r₂ := (deleteBody.delBlocks hs' n).run w'
    r₁.1 = r₂.1 ∧ StoreEquiv r₁.2.store r₂.2.store ∧ Store.NoDupKeys r₁.2.store ∧ Store.NoDupKeys r₂.2.store := by
  intro r₁ r₂
  have a := hc.quiet.runs (eval_delBlocks_count _ hs n _)
  have b := hc'.quiet.runs (eval_delBlocks_count _ hs' n _)
  have c := removeBlocksPure_perm hp h n
  simp only [r₁, r₂, a.1, a.2.store, b.1, b.2.store, c.2]
  exact ⟨trivial, c.1, removeBlocksPure_nodup hn n hs, removeBlocksPure_nodup hn' n hs'⟩

/-- **Restore, any world.** -/
theorem restore_perm_invariant_faults (sel : BandSelection) (subtree : Str) (excl : Str → Bool)
    {w w' : World} (hw : WEquiv w w') :
    RunAgree Eq ((restore H sel subtree excl).run w) ((restore H sel subtree excl).run w') :=
  run_perm_invariant (restore_equiv H sel subtree excl) hw

/-- **`restore` (and `listEntries`) do not depend on the order of any directory listing**: the
same nodes with the same content and metadata, the same reported problems; the archive is not
modified. -/
theorem restore_perm_invariant (sel : BandSelection) (subtree : Str) (excl : Str → Bool) {s t : Store}
    (h : StoreEquiv s t) (hs : Store.NoDupKeys s) (ht : Store.NoDupKeys t) :
    let r₁ := (restore H sel subtree excl).run (World.clean s)
    let r₂ := (restore H sel subtree excl).run (World.clean t)
    r₁.1 = r₂.1 ∧ StoreEquiv r₁.2.store r₂.2.store ∧ r₁.2.events = r₂.2.events ∧
    r₁.2.trace.map (·.op) = r₂.2.trace.map (·.op) := by
  intro r₁ r₂
  have a := restore_perm_invariant_faults H sel subtree excl (WEquiv.clean h hs ht)
  exact ⟨a.outcome_eq, a.store, a.events, a.trace.ops_eq⟩

/-- **Validate, any world** (reports the same problems). -/
theorem validate_perm_invariant_faults (quick : Bool) {w w' : World} (hw : WEquiv w w') :
    RunAgree Eq ((validate H quick).run w) ((validate H quick).run w') :=
  run_perm_invariant (validate_equiv H quick) hw

/-- One step of an operation history. -/
inductive HStep
  | backup (o : BackupOpts) (src : List SrcEntry)
  | delete (D : List Nat) (opts : DeleteOpts)

/-- What the caller of a step observes. -/
inductive HObs
  | backup (r : Outcome Stats) (events : List Event)
  | delete (r : Outcome DeleteStats) (events : List Event)

/-- One step on a store, in a clean world (events newest first, as in `World`). -/
def runStep (strict : Bool) : HStep → Store → Store × HObs
  | .backup o src, s =>
    let r := (backup H o src).run (World.clean s)
    (r.2.store, .backup r.1 r.2.events)
  | .delete D opts, s =>
    let r := (deleteBands strict D opts).run (World.clean s)
    (r.2.store, .delete r.1 r.2.events)

/-- Replay a history: final store and the per-step observations. -/
def runHistoryObs (strict : Bool) : List HStep → Store → Store × List HObs
  | [], s => (s, [])
  | st :: rest, s =>
    let a := runStep H strict st s
    let b := runHistoryObs strict rest a.1
    (b.1, a.2 :: b.2)

/-- Replay a history: the final store. -/
def runHistory (strict : Bool) (h : List HStep) (s : Store) : Store := (runHistoryObs H strict h s).1

theorem runStep_perm_invariant (strict : Bool) (st : HStep) {s t : Store}
    (h : StoreEquiv s t) (hs : Store.NoDupKeys s) (ht : Store.NoDupKeys t) :
    StoreEquiv (runStep H strict st s).1 (runStep H strict st t).1 ∧
    Store.NoDupKeys (runStep H strict st s).1 ∧ Store.NoDupKeys (runStep H strict st t).1 ∧
    (runStep H strict st s).2 = (runStep H strict st t).2 := by
  cases st with
  | backup o src =>
    have a := backup_perm_invariant_faults H o src (WEquiv.clean h hs ht)
    simp only [runStep]
    exact ⟨a.store, a.nd₁, a.nd₂, by rw [a.outcome_eq, a.events]⟩
  | delete D opts =>
    have a := delete_perm_invariant_faults strict D opts (WEquiv.clean h hs ht)
    simp only [runStep]
    exact ⟨a.store, a.nd₁, a.nd₂, by rw [a.outcome_eq, a.events]⟩

/-- **The archive is a function of the history, not of enumeration orders**: replaying a history
of backups and deletes on two stores that hold the same files in different listing orders ends
in stores that hold the same files (and are again duplicate-free), and every step returns the
same result and reports the same events. -/
theorem archive_perm_invariant (strict : Bool) (hist : List HStep) {s t : Store}
    (h : StoreEquiv s t) (hs : Store.NoDupKeys s) (ht : Store.NoDupKeys t) :
    StoreEquiv (runHistory H strict hist s) (runHistory H strict hist t) ∧
    Store.NoDupKeys (runHistory H strict hist s) ∧ Store.NoDupKeys (runHistory H strict hist t) ∧
    (runHistoryObs H strict hist s).2 = (runHistoryObs H strict hist t).2 := by
  unfold runHistory
  induction hist generalizing s t with
  | nil => exact ⟨h, hs, ht, rfl⟩
  | cons st rest ih =>
    have a := runStep_perm_invariant H strict st h hs ht
    have b := ih a.1 a.2.1 a.2.2.1
    simp only [runHistoryObs]
    exact ⟨b.1, b.2.1, b.2.2.1, by rw [a.2.2.2, b.2.2.2]⟩

/-- What `Archive::create` leaves: the directory, `d/`, and the `CONSERVE` header. -/
def emptyArchive : Store := [(.root, .dir), (.blockRoot, .dir), (.header, .header [48, 46, 54])]

theorem emptyArchive_noDup : Store.NoDupKeys emptyArchive := by decide

/-- **Two fresh archives**: however the two fresh archive directories enumerate their entries,
replaying the same history into both gives the same set of files with the same (decoded)
contents, the same results and the same events. -/
theorem fresh_archives_agree (strict : Bool) (hist : List HStep) {s t : Store}
    (hs : s.Perm emptyArchive) (ht : t.Perm emptyArchive) :
    StoreEquiv (runHistory H strict hist s) (runHistory H strict hist t) ∧
    (runHistoryObs H strict hist s).2 = (runHistoryObs H strict hist t).2 := by
  have ns : Store.NoDupKeys s := emptyArchive_noDup.of_perm hs.symm
  have nt : Store.NoDupKeys t := emptyArchive_noDup.of_perm ht.symm
  have e : StoreEquiv s t := StoreEquiv.of_perm (hs.trans ht.symm) ns
  have a := archive_perm_invariant H strict hist e ns nt
  exact ⟨a.1, a.2.2.2⟩

/-- A history step whose backup source is given as a tree (with an exclusion predicate). -/
inductive TStep
  | backup (o : BackupOpts) (T : Node) (excl : Str → Bool)
  | delete (D : List Nat) (opts : DeleteOpts)

/-- The source walk turns a tree step into a history step. -/
def TStep.toH : TStep → HStep
  | .backup o T excl => .backup o (C11.walk T excl)
  | .delete D opts => .delete D opts

/-- Two steps that differ only in the order in which source directories list their children. -/
inductive TStep.PermEq : TStep → TStep → Prop
  | backup (o : BackupOpts) {T₁ T₂ : Node} (excl : Str → Bool) :
      T₁.WF = true → Node.PermEq T₁ T₂ → TStep.PermEq (.backup o T₁ excl) (.backup o T₂ excl)
  | delete (D : List Nat) (opts : DeleteOpts) : TStep.PermEq (.delete D opts) (.delete D opts)

/-- Two tree histories that agree step by step up to `read_dir` order. -/
inductive HistPermEq : List TStep → List TStep → Prop
  | nil : HistPermEq [] []
  | cons {a b : TStep} {r₁ r₂ : List TStep} : TStep.PermEq a b → HistPermEq r₁ r₂ → HistPermEq (a :: r₁) (b :: r₂)

theorem TStep.PermEq.toH_eq {a b : TStep} (h : TStep.PermEq a b) : a.toH = b.toH := by
  cases h with
  | backup o excl hwf hp => simp only [TStep.toH, C11.walk_perm_invariant _ _ excl hwf hp]
  | delete => rfl

theorem HistPermEq.map_toH_eq {h₁ h₂ : List TStep} (h : HistPermEq h₁ h₂) :
    h₁.map TStep.toH = h₂.map TStep.toH := by
  induction h with
  | nil => rfl
  | cons hab _ ih => simp [hab.toH_eq, ih]

/-- **The archive is a function of the source trees and the history, up to every enumeration
order**: neither the order in which source directories list their children (`read_dir`), nor
the order in which archive directories are listed (`list_dir`), influences the files in the
archive, the results, or the events. -/
theorem archive_function_of_tree (strict : Bool) {h₁ h₂ : List TStep} (hh : HistPermEq h₁ h₂) {s t : Store}
    (h : StoreEquiv s t) (hs : Store.NoDupKeys s) (ht : Store.NoDupKeys t) :
    StoreEquiv (runHistory H strict (h₁.map TStep.toH) s) (runHistory H strict (h₂.map TStep.toH) t) ∧
    (runHistoryObs H strict (h₁.map TStep.toH) s).2 = (runHistoryObs H strict (h₂.map TStep.toH) t).2 := by
  rw [hh.map_toH_eq]
  have a := archive_perm_invariant H strict (h₂.map TStep.toH) h hs ht
  exact ⟨a.1, a.2.2.2⟩

end

/-! ## Non-vacuity -/

/-- Two concrete stores: the same small archive (one version directory, two block
directories), listed in opposite orders. -/
def exA : Store :=
  [(.root, .dir), (.header, .header [48, 46, 54]), (.blockRoot, .dir), (.bandDir 0, .dir), (.bandDir 1, .dir),
   (.blockDir [97, 97, 97], .dir), (.blockDir [98, 98, 98], .dir)]
def exB : Store := exA.reverse

example : Store.NoDupKeys exA := by decide
example : Store.NoDupKeys exB := by decide
example : StoreEquiv exA exB := storeEquiv_of_perm (List.reverse_perm exA).symm (by decide)
/-- The hypothesis is not trivial: the two stores are different lists and really answer
`list_dir` in different orders … -/
example : exA ≠ exB := by decide
example : (applyOp true exA (.listDir .root)).2 ≠ (applyOp true exB (.listDir .root)).2 := by decide
example : (applyOp true exA (.listDir .blockRoot)).2 ≠ (applyOp true exB (.listDir .blockRoot)).2 := by decide
/-- … and still every operation answers the same up to the order of the listing. -/
example : Resp.Equiv (applyOp true exA (.listDir .root)).2 (applyOp true exB (.listDir .root)).2 :=
  (applyOp_equiv true (storeEquiv_of_perm (List.reverse_perm exA).symm (by decide)) (by decide) (by decide)
    (.listDir .root)).2.2.2.1

/-- A consumer that does NOT sort (the seeded mutant "band ids not sorted") is told apart: it is
not insensitive, so the theorems above are not true of arbitrary programs. -/
def listBandIdsUnsorted : Prog (List Nat) := do
  match ← Prog.perform (.listDir .root) with
  | .listing xs =>
    pure <| xs.filterMap fun e =>
      match e.key with
      | .bandDir b => if e.isDir then some b else none
      | _ => none
  | .err e => .fail (.transport e)
  | _ => .fail (.transport .other)

def okVal {α : Type} : Outcome α → Option α
  | .ok a => some a
  | _ => none

example : okVal (listBandIdsUnsorted.run (World.clean exA)).1 = some [0, 1] := by decide
example : okVal (listBandIdsUnsorted.run (World.clean exB)).1 = some [1, 0] := by decide
example : (listBandIds.run (World.clean exA)).1 = (listBandIds.run (World.clean exB)).1 :=
  (listBandIds_perm_invariant (WEquiv.clean (storeEquiv_of_perm (List.reverse_perm exA).symm (by decide))
    (by decide) (by decide))).outcome_eq

/-- The history theorem applies to the two concrete stores and any history. -/
example (H : Str → Str) (hist : List HStep) :
    StoreEquiv (runHistory H true hist exA) (runHistory H true hist exB) :=
  (archive_perm_invariant H true hist (storeEquiv_of_perm (List.reverse_perm exA).symm (by decide))
    (by decide) (by decide)).1

/-- Two fresh archives enumerated in different orders. -/
example (H : Str → Str) (hist : List HStep) :
    StoreEquiv (runHistory H true hist emptyArchive) (runHistory H true hist emptyArchive.reverse) :=
  (fresh_archives_agree H true hist (List.Perm.refl _) (List.reverse_perm _)).1

end Conserve.C17
