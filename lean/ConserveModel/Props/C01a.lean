import ConserveModel.Proofs.ExactUnchanged
import ConserveModel.Proofs.ExactWalk
import ConserveModel.Proofs.ExclRestore
import ConserveModel.Props.C14
import ConserveModel.Props.C02
/-
C01 (a) — Backup then restore reproduces the source tree exactly (content and structure).

"For any source tree of directories, regular files and symlinks, and any backup settings (entries
per index hunk, maximum block size, small-file threshold), a backup completes without crashing or
reporting errors, and restoring that version into an empty directory yields exactly the same set
of paths with the same kinds, file bytes, symlink targets, modification times …, mode bits and
owner…, again with no errors."

Everything here is about the fault-free, crash-free world `World.clean s` and the model programs
`backup H o src` (Backup.lean) and `restore H sel "/" ∅` (Restore.lean, restore up to the
filesystem: the list of things restore creates, with the metadata it applies).

Hypotheses (`SrcGood` in Proofs/ExactList.lean and `ArchiveGood` in Proofs/ExactMain.lean have
field-by-field comments; `StoreOK` is in Proofs/ExactStore.lean):
* `H` injective, and every block name has at least three characters (`hlen`; the names are 128 hex
  digits — a shorter name's sub-directory would be ignored by `list_blocks`, see the report);
* `0 < o.maxBlockSize`; the other options (`maxEntriesPerHunk`, `smallFileCap`, `owner`) are arbitrary;
* `SrcGood src`: for files `size = content.length`; paths valid and STRICTLY INCREASING (C11:
  the walk is); kinds dir/file/symlink; symlinks have a target; mtimes in jiff's range; nothing lies
  strictly below a symlink; the file sizes add up to less than 2^64;
* `ArchiveGood H src s`: `StoreOK` (a map and a tree; directories where the layout has directories;
  `d/` exists; every block file named by the hash of its content and shorter than 2^64 bytes); in
  every version the usable hunks strictly increasing (`ArchWF` of C08); no `GC_LOCK`; every version
  directory holds a version that lists without complaint (`BandGood`); no dangling reference;
  `HeuristicSoundStore` — the tool's own "looks unchanged ⇒ is unchanged" assumption (C03/C04).
  An initialised archive without versions is good for every source (`ArchiveGood.of_noBands`), and the
  archive a backup leaves is good again (`backup_keeps_archive_good`).

Proved: `backup_restore_exact` (general, with basis), `backup_restore_exact_nobasis` (first backup),
`later_backup_keeps_restore` (the backup step of C02), `backup_keeps_archive_good`,
`backup_twice_restores_both` (two backups of the same source), `second_backup_restores`, and the first
clause of C14: `unchanged_backup_writes_no_block`, `same_tree_again_writes_no_block`,
`unchanged_statement_partial` (C14.UnchangedStatement with the hypotheses above in place of `Conforms`);
`clean_history_keeps_restore`, `clean_history_restores_all` (C02's induction over fault-free backup steps);
`backup_restore_exact_tree` (the source is the walk of a well-formed tree).
Not proved: `C02.InvStatement` as stated there (arbitrary histories with faults and crashes, no
hypothesis on the archive); what is proved of it is the fault-free backup step
(`later_backup_keeps_restore`), see the doc comment there.
-/
namespace Conserve.C01a
open Conserve Conserve.Exact

/-- The clauses of C01 (a) about one run `r` of `backup` from archive `s` and what `restore` then does. -/
structure Exact (H : Str → Str) (o : BackupOpts) (src : List SrcEntry) (s : Store)
    (r : Outcome Stats × World) : Prop where
  /-- the backup returns statistics (no error, no panic) … -/
  ok : ∃ stats, r.1 = .ok stats ∧ stats.errors = 0
  /-- … and reports no error -/
  silent : ∀ ev ∈ r.2.events, ∀ e, ev ≠ .error e
  /-- nothing that was in the archive changed -/
  extends_ : Extends s r.2.store
  /-- the new version has the id after the newest existing one and is complete -/
  complete : isComplete r.2.store (newBandOf s) = true
  /-- restoring that version by id yields exactly the source, entry by entry, in order … -/
  restoreSpecified :
    ((restore H (.specified (newBandOf s)) [slash] (fun _ => false)).run (World.clean r.2.store)).1
      = .ok (src.map (expectedNode o))
  /-- … reporting nothing -/
  restoreSpecifiedSilent :
    ((restore H (.specified (newBandOf s)) [slash] (fun _ => false)).run (World.clean r.2.store)).2.events = []
  /-- the same when asking for the latest complete version: it is the new one -/
  restoreLatest :
    ((restore H .latestClosed [slash] (fun _ => false)).run (World.clean r.2.store)).1
      = .ok (src.map (expectedNode o))
  restoreLatestSilent :
    ((restore H .latestClosed [slash] (fun _ => false)).run (World.clean r.2.store)).2.events = []

theorem exact_of_summary {H : Str → Str} {o : BackupOpts} {src : List SrcEntry} {s : Store}
    {hs : List (List IndexEntry)} {stats : Stats} {evs : List Event}
    (h : Summary H o src s ((backup H o src).run (World.clean s)).2.store hs stats evs) (hsrc : SrcGood src)
    (hst : StoreOK H s) : Exact H o src s ((backup H o src).run (World.clean s)) := by
  have hr := restore_of_records h.final hsrc hst h.records h.usable h.wf
  exact ⟨⟨stats, h.runs.clean.1, h.noErr⟩, h.runs.clean.2.2 ▸ h.noEv, h.ext, final_complete h.final, hr.1.1, hr.1.2,
    hr.2.1, hr.2.2⟩

/-- **C01 (a), general form.**  For every injective block hash, every option triple, every good
source listing and every good archive (with or without earlier versions, complete or interrupted,
whatever their hunk layout): the backup returns, counts and reports no error, changes nothing that
was there, completes the version with the next id; and `restore` of that version (by id, or as the
latest complete one) returns EXACTLY `src.map (expectedNode o)` — the same paths in the same order
with the same kinds, file bytes, symlink targets, stored modification times, mode bits and owner /
group — and reports nothing. -/
theorem backup_restore_exact (H : Str → Str) (hinj : Function.Injective H)
    (hlen : ∀ d, subdirNameChars ≤ (H d).length) (s : Store) (o : BackupOpts) (src : List SrcEntry)
    (ho : 0 < o.maxBlockSize) (hsrc : SrcGood src) (hs : ArchiveGood H src s) :
    Exact H o src s ((backup H o src).run (World.clean s)) := by
  obtain ⟨hss, stats, evs, h⟩ := backup_summary_run (o := o) hinj hlen ho hsrc hs
  exact exact_of_summary h hsrc hs.st

/-- **C01 (a), first backup.**  Into an initialised archive without versions (it may hold blocks),
nothing is assumed beyond its shape (`StoreOK`) and the absence of a `GC_LOCK`: in particular no
assumption about unchanged files, since there is no basis. -/
theorem backup_restore_exact_nobasis (H : Str → Str) (hinj : Function.Injective H)
    (hlen : ∀ d, subdirNameChars ≤ (H d).length) (s : Store) (o : BackupOpts) (src : List SrcEntry)
    (ho : 0 < o.maxBlockSize) (hsrc : SrcGood src) (hst : StoreOK H s) (hnb : Inv.NoBands s)
    (hlock : s.get? .gcLock = none) :
    Exact H o src s ((backup H o src).run (World.clean s)) :=
  backup_restore_exact H hinj hlen s o src ho hsrc (ArchiveGood.of_noBands hst hnb hlock src)

/-- **C01 (a) for source trees.**  For every well-formed source tree `T` (Tree.lean: directories,
regular files and symlinks, names that `Apath` accepts, distinct within a directory; any depth and
width, any `read_dir` order) and every exclusion predicate, the listing the walk produces
(`C11.walk`, the model of `source::Iter`) is a good source: its order and validity are C11, "nothing
below a symlink" is C16's `walk_treeConsistent`.  What remains to be assumed is about the tree's
metadata: for files `st_size` is the length of what reading returns, the modification times are in
jiff's range, and the sizes add up to less than 2^64. -/
theorem backup_restore_exact_tree (H : Str → Str) (hinj : Function.Injective H)
    (hlen : ∀ d, subdirNameChars ≤ (H d).length) (s : Store) (o : BackupOpts) (T : Node) (excl : Str → Bool)
    (ho : 0 < o.maxBlockSize) (hwf : T.WF = true)
    (hsize : ∀ sf ∈ C11.walk T excl, sf.kind = .file → sf.size = sf.content.length)
    (htime : ∀ sf ∈ C11.walk T excl,
      -377705023201 * nanosPerSec ≤ sf.mtimeNs ∧ sf.mtimeNs < 253402207201 * nanosPerSec)
    (hbytes : totalSize (C11.walk T excl) < 18446744073709551616)
    (hs : ArchiveGood H (C11.walk T excl) s) :
    Exact H o (C11.walk T excl) s ((backup H o (C11.walk T excl)).run (World.clean s)) :=
  backup_restore_exact H hinj hlen s o _ ho (walk_srcGood T excl hwf hsize htime hbytes) hs

theorem newBandOf_noBands {H : Str → Str} {s : Store} (hst : StoreOK H s) (hnb : Inv.NoBands s) :
    newBandOf s = 0 := by
  have : bandIdsOf s = [] := by
    rw [List.eq_nil_iff_forall_not_mem]
    intro b hb
    exact absurd rfl (hnb _ (Store.mem_of_get? ((Exact.mem_bandIdsOf hst).1 hb)) b)
  simp [newBandOf, nextBandId, this, maxNat?]

/-- **The backup step of C02**: after a fault-free backup into a good archive, restoring ANY
earlier version id `b` gives the same result (the same nodes with the same contents, or the same
error) and the same reported errors as before the backup. -/
theorem later_backup_keeps_restore (H : Str → Str) (hinj : Function.Injective H)
    (hlen : ∀ d, subdirNameChars ≤ (H d).length) (s : Store) (o : BackupOpts) (src : List SrcEntry)
    (ho : 0 < o.maxBlockSize) (hsrc : SrcGood src) (hs : ArchiveGood H src s) (b : Nat)
    (hb : b < newBandOf s) :
    let s' := ((backup H o src).run (World.clean s)).2.store
    ((restore H (.specified b) [slash] (fun _ => false)).run (World.clean s')).1 =
      ((restore H (.specified b) [slash] (fun _ => false)).run (World.clean s)).1 ∧
    ((restore H (.specified b) [slash] (fun _ => false)).run (World.clean s')).2.events =
      ((restore H (.specified b) [slash] (fun _ => false)).run (World.clean s)).2.events := by
  obtain ⟨hss, stats, evs, h⟩ := backup_summary_run (o := o) hinj hlen ho hsrc hs
  have hnew := (restore_specified_runs h.wf h.final.st b).clean
  have hold := (restore_specified_runs hs.wf hs.st b).clean
  rw [h.restoreSpec_old hs hb] at hnew
  exact ⟨hnew.1.trans hold.1.symm, hnew.2.2.trans hold.2.2.symm⟩

/-- Every existing version directory has an id below the new one, so the previous theorem covers
every version there was. -/
theorem existing_below_new (s : Store) : ∀ b ∈ bandIdsOf s, b < newBandOf s := nextBandId_gt _

/-- **The hypotheses are reestablished**: the archive a fault-free backup leaves is good again, for
any next source `src'` for which the tool's unchanged-file assumption holds of the new archive. -/
theorem backup_keeps_archive_good (H : Str → Str) (hinj : Function.Injective H)
    (hlen : ∀ d, subdirNameChars ≤ (H d).length) (s : Store) (o : BackupOpts) (src : List SrcEntry)
    (ho : 0 < o.maxBlockSize) (hsrc : SrcGood src) (hs : ArchiveGood H src s) (src' : List SrcEntry)
    (hh : Inv.HeuristicSoundStore H src' ((backup H o src).run (World.clean s)).2.store) :
    ArchiveGood H src' ((backup H o src).run (World.clean s)).2.store := by
  obtain ⟨hss, stats, evs, h⟩ := backup_summary_run (o := o) hinj hlen ho hsrc hs
  exact h.archiveGood hs hh

/-- … and for the SAME source the assumption holds by construction: every stored entry with the path
of a source file that looks unchanged against it reads back to that file's bytes. -/
theorem backup_keeps_archive_good_same (H : Str → Str) (hinj : Function.Injective H)
    (hlen : ∀ d, subdirNameChars ≤ (H d).length) (s : Store) (o : BackupOpts) (src : List SrcEntry)
    (ho : 0 < o.maxBlockSize) (hsrc : SrcGood src) (hs : ArchiveGood H src s) :
    ArchiveGood H src ((backup H o src).run (World.clean s)).2.store := by
  obtain ⟨hss, stats, evs, h⟩ := backup_summary_run (o := o) hinj hlen ho hsrc hs
  exact h.archiveGood hs (hs.heuristic_after hinj ho hsrc)

/-- `second_backup_restores` about any store `s1` a backup of `src` is known to leave.  (With `s1` a
variable nothing in the statement can be evaluated; with the run in its place, comparing the two sides
of the last clause makes Lean run `restore`.) -/
theorem second_of_summary {H : Str → Str} (hinj : Function.Injective H)
    (hlen : ∀ d, subdirNameChars ≤ (H d).length) {s s1 : Store} {o o2 : BackupOpts} {src src2 : List SrcEntry}
    {hs : List (List IndexEntry)} {stats : Stats} {evs : List Event}
    (h : Summary H o src s s1 hs stats evs) (hsrc : SrcGood src) (hg : ArchiveGood H src s)
    (ho2 : 0 < o2.maxBlockSize) (hsrc2 : SrcGood src2) (hh : Inv.HeuristicSoundStore H src2 s1) :
    Exact H o2 src2 s1 ((backup H o2 src2).run (World.clean s1)) ∧
    ((restore H (.specified (newBandOf s)) [slash] (fun _ => false)).run
        (World.clean ((backup H o2 src2).run (World.clean s1)).2.store)).1 = .ok (src.map (expectedNode o)) ∧
    ((restore H (.specified (newBandOf s)) [slash] (fun _ => false)).run
        (World.clean ((backup H o2 src2).run (World.clean s1)).2.store)).2.events = [] := by
  have hg1 : ArchiveGood H src2 s1 := h.archiveGood hg hh
  have hspec := (restore_of_records h.final hsrc hg.st h.records h.usable h.wf).1
  have keep := later_backup_keeps_restore H hinj hlen s1 o2 src2 ho2 hsrc2 hg1 (newBandOf s)
    (existing_below_new _ _ h.bandIds_mem)
  exact ⟨backup_restore_exact H hinj hlen s1 o2 src2 ho2 hsrc2 hg1, keep.1.trans hspec.1,
    keep.2.trans hspec.2⟩

/-- **Two versions.**  After backing up `src` (options `o`) and then `src2` (options `o2`), the FIRST
version still restores to exactly `src`, and the second to exactly `src2`.  The only extra
hypothesis is the tool's own assumption for the second source against the archive it meets. -/
theorem second_backup_restores (H : Str → Str) (hinj : Function.Injective H)
    (hlen : ∀ d, subdirNameChars ≤ (H d).length) (s : Store) (o o2 : BackupOpts) (src src2 : List SrcEntry)
    (ho : 0 < o.maxBlockSize) (ho2 : 0 < o2.maxBlockSize) (hsrc : SrcGood src) (hsrc2 : SrcGood src2)
    (hs : ArchiveGood H src s) :
    let s1 := ((backup H o src).run (World.clean s)).2.store
    let r2 := (backup H o2 src2).run (World.clean s1)
    Inv.HeuristicSoundStore H src2 s1 →
    Exact H o2 src2 s1 r2 ∧
    ((restore H (.specified (newBandOf s)) [slash] (fun _ => false)).run (World.clean r2.2.store)).1
      = .ok (src.map (expectedNode o)) ∧
    ((restore H (.specified (newBandOf s)) [slash] (fun _ => false)).run (World.clean r2.2.store)).2.events = [] := by
  obtain ⟨hss, stats, evs, h⟩ := backup_summary_run (o := o) hinj hlen ho hsrc hs
  exact fun hh => second_of_summary hinj hlen h hsrc hs ho2 hsrc2 hh

/-- **The same tree twice**: no hypothesis about the second run at all. -/
theorem backup_twice_restores_both (H : Str → Str) (hinj : Function.Injective H)
    (hlen : ∀ d, subdirNameChars ≤ (H d).length) (s : Store) (o o2 : BackupOpts) (src : List SrcEntry)
    (ho : 0 < o.maxBlockSize) (ho2 : 0 < o2.maxBlockSize) (hsrc : SrcGood src) (hs : ArchiveGood H src s) :
    let s1 := ((backup H o src).run (World.clean s)).2.store
    let r2 := (backup H o2 src).run (World.clean s1)
    Exact H o2 src s1 r2 ∧
    ((restore H (.specified (newBandOf s)) [slash] (fun _ => false)).run (World.clean r2.2.store)).1
      = .ok (src.map (expectedNode o)) := by
  obtain ⟨hss, stats, evs, h⟩ := backup_summary_run (o := o) hinj hlen ho hsrc hs
  have := second_of_summary hinj hlen h hsrc hs ho2 hsrc (hs.heuristic_after hinj ho hsrc)
  exact ⟨this.1, this.2.1⟩

/-- A history of fault-free backups, each starting from the archive the previous one left. -/
def runBackups (H : Str → Str) : List (BackupOpts × List SrcEntry) → Store → Store
  | [], s => s
  | (o, src) :: rest, s => runBackups H rest ((backup H o src).run (World.clean s)).2.store

/-- What is assumed along the history: positive block sizes, good sources, and — the history-level
form of the tool's assumption — at every step the new source's files that look unchanged against
a stored entry with their path ARE unchanged. -/
def HistOK (H : Str → Str) : List (BackupOpts × List SrcEntry) → Store → Prop
  | [], _ => True
  | (o, src) :: rest, s =>
    0 < o.maxBlockSize ∧ SrcGood src ∧ Inv.HeuristicSoundStore H src s ∧
      HistOK H rest ((backup H o src).run (World.clean s)).2.store

/-- Every version made along the history restores, in archive `final`, to exactly its source. -/
def AllRestore (H : Str → Str) (final : Store) : List (BackupOpts × List SrcEntry) → Store → Prop
  | [], _ => True
  | (o, src) :: rest, s =>
    (((restore H (.specified (newBandOf s)) [slash] (fun _ => false)).run (World.clean final)).1
        = .ok (src.map (expectedNode o)) ∧
     ((restore H (.specified (newBandOf s)) [slash] (fun _ => false)).run (World.clean final)).2.events = []) ∧
    AllRestore H final rest ((backup H o src).run (World.clean s)).2.store

theorem _root_.Conserve.Exact.ArchiveGood.change_src {H : Str → Str} {src src' : List SrcEntry} {s : Store} (h : ArchiveGood H src s)
    (hh : Inv.HeuristicSoundStore H src' s) : ArchiveGood H src' s :=
  ⟨h.st, h.sorted, h.noLock, h.bands, h.noDangling, hh⟩

/-- **Across any history of fault-free backups** the restore of every version id that existed (or
could have existed) before is unchanged, and the archive stays good. -/
theorem clean_history_keeps_restore (H : Str → Str) (hinj : Function.Injective H)
    (hlen : ∀ d, subdirNameChars ≤ (H d).length) (hist : List (BackupOpts × List SrcEntry)) :
    ∀ (s : Store) (src0 : List SrcEntry), ArchiveGood H src0 s → HistOK H hist s →
      (∀ b, b < newBandOf s →
        ((restore H (.specified b) [slash] (fun _ => false)).run (World.clean (runBackups H hist s))).1 =
          ((restore H (.specified b) [slash] (fun _ => false)).run (World.clean s)).1 ∧
        ((restore H (.specified b) [slash] (fun _ => false)).run (World.clean (runBackups H hist s))).2.events =
          ((restore H (.specified b) [slash] (fun _ => false)).run (World.clean s)).2.events) ∧
      newBandOf s ≤ newBandOf (runBackups H hist s) ∧
      ∃ src', ArchiveGood H src' (runBackups H hist s) := by
  induction hist with
  | nil => intro s src0 hg _; exact ⟨fun _ _ => ⟨rfl, rfl⟩, Nat.le_refl _, src0, hg⟩
  | cons a rest ih =>
    obtain ⟨o, src⟩ := a
    intro s src0 hg ⟨ho, hsrc, hh, hrest⟩
    have hg' := hg.change_src hh
    obtain ⟨hss, stats, evs, h⟩ := backup_summary_run (o := o) hinj hlen ho hsrc hg'
    have hlt := existing_below_new _ _ h.bandIds_mem
    obtain ⟨ih1, ih2, ih3⟩ := ih _ src (h.archiveGood hg' (hg'.heuristic_after hinj ho hsrc)) hrest
    refine ⟨fun b hb => ?_, by simp only [runBackups]; omega, ih3⟩
    have hk := later_backup_keeps_restore H hinj hlen s o src ho hsrc hg' b hb
    have := ih1 b (by omega)
    simp only [runBackups]
    exact ⟨this.1.trans hk.1, this.2.trans hk.2⟩

/-- **Every version of a fault-free history restores to its own source at the end** (and reports
nothing): the induction of C02 over backup steps. -/
theorem clean_history_restores_all (H : Str → Str) (hinj : Function.Injective H)
    (hlen : ∀ d, subdirNameChars ≤ (H d).length) (hist : List (BackupOpts × List SrcEntry)) :
    ∀ (s : Store) (src0 : List SrcEntry), ArchiveGood H src0 s → HistOK H hist s →
      AllRestore H (runBackups H hist s) hist s := by
  induction hist with
  | nil => intro _ _ _ _; trivial
  | cons a rest ih =>
    obtain ⟨o, src⟩ := a
    intro s src0 hg ⟨ho, hsrc, hh, hrest⟩
    have hg' := hg.change_src hh
    obtain ⟨hss, stats, evs, h⟩ := backup_summary_run (o := o) hinj hlen ho hsrc hg'
    have e1 := exact_of_summary h hsrc hg'.st
    have hg1 := h.archiveGood hg' (hg'.heuristic_after hinj ho hsrc)
    have keep := (clean_history_keeps_restore H hinj hlen rest _ src hg1 hrest).1 (newBandOf s)
      (existing_below_new _ _ h.bandIds_mem)
    exact ⟨⟨keep.1.trans e1.restoreSpecified, keep.2.trans e1.restoreSpecifiedSilent⟩, ih _ src hg1 hrest⟩

/-- **An unchanged tree writes no block.**  If every source entry has the path of the entry at the
same position of the basis listing (the listing of the newest version, `basisListing s`) and every
source FILE looks unchanged against it (kind, mtime, size — `content_heuristically_unchanged`), then
the run issues no `write` to any block file at all (successful or not), the new version lists the
same paths, and every file entry it records carries exactly the basis entry's addresses — for every
option triple, whatever the hunk layout of the earlier versions. -/
theorem unchanged_backup_writes_no_block (H : Str → Str) (hinj : Function.Injective H)
    (hlen : ∀ d, subdirNameChars ≤ (H d).length) (s : Store) (o : BackupOpts) (src : List SrcEntry)
    (ho : 0 < o.maxBlockSize) (hsrc : SrcGood src) (hs : ArchiveGood H src s)
    (hun : Paired (fun be sf => be.apath = sf.apath ∧
      (sf.kind = .file → heuristicallyUnchanged sf be = some true)) (basisListing s) src) :
    let r := (backup H o src).run (World.clean s)
    (∀ ev ∈ r.2.trace, ∀ h v m, ev.op ≠ .write (.block h) v m) ∧
    Paired (fun be e => e.apath = be.apath ∧ (e.kind = .file → e.addrs = be.addrs))
      (basisListing s) (listSpec r.2.store (newBandOf s)) := by
  obtain ⟨s', hss, stats, evs, h, htrace, haddrs⟩ := backup_unchanged (o := o) hinj hlen ho hsrc hs hun
  obtain ⟨_, h2, _⟩ := h.runs.clean
  refine ⟨htrace, ?_⟩
  simp only [h2, final_listSpec h.final h.usable]
  exact haddrs

/-- **The same tree again**: a second backup of the source that was just backed up — with any
options — writes no block (whatever the first one met in the archive). -/
theorem same_tree_again_writes_no_block (H : Str → Str) (hinj : Function.Injective H)
    (hlen : ∀ d, subdirNameChars ≤ (H d).length) (s : Store) (o o2 : BackupOpts) (src : List SrcEntry)
    (ho : 0 < o.maxBlockSize) (ho2 : 0 < o2.maxBlockSize) (hsrc : SrcGood src) (hs : ArchiveGood H src s) :
    let s1 := ((backup H o src).run (World.clean s)).2.store
    ∀ ev ∈ ((backup H o2 src).run (World.clean s1)).2.trace, ∀ h v m, ev.op ≠ .write (.block h) v m := by
  obtain ⟨hss, stats, evs, h⟩ := backup_summary_run (o := o) hinj hlen ho hsrc hs
  exact (unchanged_backup_writes_no_block H hinj hlen _ o2 src ho2 hsrc
    (h.archiveGood hs (hs.heuristic_after hinj ho hsrc)) (h.unchanged_pair hsrc hs.st)).1

theorem paired_of_zip {α β : Type} {R : α → β → Prop} :
    ∀ {l1 : List α} {l2 : List β}, l1.length = l2.length → (∀ p ∈ l1.zip l2, R p.1 p.2) → Paired R l1 l2
  | [], [], _, _ => .nil
  | [], _ :: _, h, _ => by simp at h
  | _ :: _, [], h, _ => by simp at h
  | a :: l1, b :: l2, h, hz =>
    .cons (hz (a, b) (by simp)) (paired_of_zip (by simpa using h)
      (fun p hp => hz p (by simp only [List.zip_cons_cons]; exact List.mem_cons_of_mem _ hp)))

/-- `C14.UnchangedStatement` with `ArchiveGood`, `SrcGood` and the conditions on `H` and the block size
in place of `Conforms H s = true` (and without needing the newest version to be complete): what is
missing for the statement as written there is the derivation of `ArchiveGood` from `Conforms`
(`Conforms` does not say that the archive is a tree, nor bound block lengths) and the fact that a
source matching a conforming listing entry by entry is `SrcGood`. -/
theorem unchanged_statement_partial (H : Str → Str) (hinj : Function.Injective H)
    (hlen : ∀ d, subdirNameChars ≤ (H d).length) (s : Store) (o : BackupOpts) (src : List SrcEntry)
    (basis : List IndexEntry) (b : Nat) (ho : 0 < o.maxBlockSize) (hsrc : SrcGood src)
    (hs : ArchiveGood H src s) (hmax : maxNat? (bandIdsOf s) = some b)
    (hlist : ((listVersion (.specified b) [slash] (fun _ => false)).run (World.clean s)).1 = .ok basis)
    (hzip : basis.length = src.length ∧ ∀ p ∈ basis.zip src,
        p.1.apath = p.2.apath ∧ p.1.kind = p.2.kind ∧
        (p.2.kind = .file → heuristicallyUnchanged p.2 p.1 = some true)) :
    let r := (backup H o src).run (World.clean s)
    ∀ ev ∈ r.2.trace, ∀ h v m, ev.op ≠ .write (.block h) v m := by
  have hb : basis = basisListing s := by
    rw [C08.list_version_specified hs.wf b] at hlist
    unfold basisListing
    rw [hmax]
    cases hbo : bandOpenP s b with
    | error e => rw [hbo] at hlist; cases hlist
    | ok u =>
      rw [hbo] at hlist
      simp only [Outcome.ok.injEq] at hlist
      rw [← hlist, rootFilter_listSpec]
  subst hb
  have hp := paired_of_zip (R := fun be sf => be.apath = sf.apath ∧
    (sf.kind = .file → heuristicallyUnchanged sf be = some true)) hzip.1
    (fun p hp => ⟨(hzip.2 p hp).1, (hzip.2 p hp).2.2⟩)
  exact (unchanged_backup_writes_no_block H hinj hlen s o src ho hsrc hs hp).1

namespace Example

/-- An injective "hash" whose names have at least three characters. -/
def exH (d : Str) : Str := d ++ [0, 0, 0]

theorem exH_inj : Function.Injective exH := fun _ _ h => List.append_cancel_right h
theorem exH_len (d : Str) : subdirNameChars ≤ (exH d).length := by simp [exH, subdirNameChars]

/-- A freshly initialised archive. -/
def archive : Store := [(.root, .dir), (.header, .header [48, 46, 54]), (.blockRoot, .dir)]

theorem archive_ok : StoreOK exH archive := StoreOK.of_checks (by decide +kernel)
theorem archive_noBands : Inv.NoBands archive := C04.Example.archive_noBands
theorem archive_noLock : archive.get? .gcLock = none := by decide

def root : SrcEntry := { apath := [47], kind := .dir, mtimeNs := 0, unixMode := 493, user := none, group := none }
/-- `/a`: a small file (goes through the combiner). -/
def fa : SrcEntry := { apath := [47, 97], kind := .file, mtimeNs := -1500000000, unixMode := 420,
                       user := some [117], group := none, size := 2, content := [1, 2] }
/-- `/b`: a file above the small-file threshold, three blocks of at most two bytes. -/
def fb : SrcEntry := { apath := [47, 98], kind := .file, mtimeNs := 1, unixMode := 2541, user := none,
                       group := some [103], size := 5, content := [3, 4, 5, 6, 7] }
/-- `/d`: a directory, `/l`: a symlink, `/d/e`: an empty file (sorts after all of `/`'s children). -/
def dd : SrcEntry := { apath := [47, 100], kind := .dir, mtimeNs := 5, unixMode := 493, user := none, group := none }
def ll : SrcEntry := { apath := [47, 108], kind := .symlink, mtimeNs := 7, unixMode := 511, user := none,
                       group := none, target := some [97] }
def de : SrcEntry := { apath := [47, 100, 47, 101], kind := .file, mtimeNs := 9, unixMode := 384, user := none,
                       group := none }
def source : List SrcEntry := [root, fa, fb, dd, ll, de]
def opts : BackupOpts := { maxEntriesPerHunk := 2, maxBlockSize := 2, smallFileCap := 2 }

theorem source_good : SrcGood source where
  wf := by unfold Inv.SrcWF; decide +kernel
  sorted := by decide +kernel
  valid := by decide +kernel
  kinds := by decide +kernel
  targets := by decide +kernel
  mtimes := by decide +kernel
  noBelowSymlink := by decide +kernel
  bytes := by decide +kernel

/-- The first-backup theorem applies to this tree and these options (two entries per hunk, blocks
of at most two bytes, small-file threshold two). -/
example : Exact exH opts source archive ((backup exH opts source).run (World.clean archive)) :=
  backup_restore_exact_nobasis exH exH_inj exH_len archive opts source (by decide) source_good
    archive_ok archive_noBands archive_noLock

example : newBandOf archive = 0 := newBandOf_noBands archive_ok archive_noBands

/-- What restore must produce for `/a`: its bytes, the stored time −2 s + 500 000 000 ns for
−1.5 s, mode 0o644, owner `u`. -/
example : expectedNode opts fa =
    { apath := [47, 97], kind := .file, content := [1, 2], mtime := -2, mtimeNanos := 500000000,
      unixMode := some 420, user := some [117], group := none, target := none, complete := true } := by
  decide +kernel

/-- The general theorem applies to the archive the first backup leaves (a store WITH a basis),
for the same tree again — with other options — and both versions restore exactly. -/
example :
    let s1 := ((backup exH opts source).run (World.clean archive)).2.store
    Exact exH {} source s1 ((backup exH {} source).run (World.clean s1)) :=
  (backup_twice_restores_both exH exH_inj exH_len archive opts {} source (by decide) (by decide) source_good
    (ArchiveGood.of_noBands archive_ok archive_noBands archive_noLock source)).1

/-- A source TREE: `/a` (file), `/a.` (symlink), `/d/` with `/d/b` (file) — in `read_dir` order. -/
def tree : Node :=
  .dir {} (.ofList [([100], .dir {} (.ofList [([98], .file {} 2 [8, 9])])), ([97, 46], .symlink {} [46, 46]),
    ([97], .file { mtimeNs := -1 } 1 [7])])

example : tree.WF = true := by decide

example : (C11.walk tree C11.noExcl).map (·.apath) = [[47], [47, 97], [47, 97, 46], [47, 100], [47, 100, 47, 98]] := by
  decide

/-- The tree-level theorem applies to it. -/
example : Exact exH opts (C11.walk tree C11.noExcl) archive
    ((backup exH opts (C11.walk tree C11.noExcl)).run (World.clean archive)) :=
  backup_restore_exact_tree exH exH_inj exH_len archive opts tree C11.noExcl (by decide) (by decide)
    (by decide) (by decide) (by decide)
    (ArchiveGood.of_noBands archive_ok archive_noBands archive_noLock _)

/-- The history theorem applies to the one-step history.  (`HistOK` of a longer history is not
established by evaluation here; the two-step instance with the same tree is
`backup_twice_restores_both`.) -/
example : AllRestore exH (runBackups exH [(opts, source)] archive) [(opts, source)] archive :=
  clean_history_restores_all exH exH_inj exH_len [(opts, source)] archive source
    (ArchiveGood.of_noBands archive_ok archive_noBands archive_noLock source)
    ⟨by decide, source_good, (ArchiveGood.of_noBands archive_ok archive_noBands archive_noLock source).heuristic,
      trivial⟩

/-- The C14 clause applies: backing the same tree up again (into the archive the first backup left,
with the default options) issues no block write. -/
example :
    let s1 := ((backup exH opts source).run (World.clean archive)).2.store
    ∀ ev ∈ ((backup exH {} source).run (World.clean s1)).2.trace, ∀ h v m, ev.op ≠ .write (.block h) v m :=
  same_tree_again_writes_no_block exH exH_inj exH_len archive opts {} source (by decide) (by decide) source_good
    (ArchiveGood.of_noBands archive_ok archive_noBands archive_noLock source)

/-- The premise of the C14 clause fails for the first backup, into the empty archive: its basis
listing is empty. -/
example : basisListing archive = [] := by decide +kernel

end Example

end Conserve.C01a
