import ConserveModel.Restore
/-
C01 — Backup then restore reproduces the source tree exactly.

This file holds the building blocks of content fidelity on the model of `backup()`/`restore()`:
chunking and time conversion.  The statement about whole runs is `C01a.backup_restore_exact`
(Props/C01a.lean).
-/
namespace Conserve.C01
open Conserve

/-- Cutting file content into blocks of at most `n > 0` bytes and concatenating the blocks
gives the content back: large files lose and gain no bytes, for every size (empty, below,
equal to and above the block size, exact multiples). -/
theorem chunks_flatten (n : Nat) (hn : 0 < n) (data : Str) : (chunks n data).flatten = data := by
  fun_induction chunks n data with
  | case1 data h =>
    rcases h with h | h
    · omega
    · exact h.symm
  | case2 data h ih => rw [List.flatten_cons, ih, List.take_append_drop]

/-- Every block of a large file is non-empty and at most `n` bytes long. -/
theorem chunks_bounds (n : Nat) (hn : 0 < n) (data : Str) :
    ∀ c ∈ chunks n data, 0 < c.length ∧ c.length ≤ n := by
  fun_induction chunks n data with
  | case1 data h => exact fun _ hc => nomatch hc
  | case2 data h ih =>
    intro c hc
    rcases List.mem_cons.mp hc with rfl | hc
    · have : 0 < data.length := List.length_pos_iff.mpr fun e => h (Or.inr e)
      rw [List.length_take]
      omega
    · exact ih c hc

/-- The stored modification time (whole seconds rounded down, non-negative nanoseconds)
reads back to exactly the source's time in nanoseconds, for every time jiff can
represent — before and after the epoch, with and without a fraction. -/
theorem mtime_roundtrip (t : Int)
    (hlo : -377705023201 * nanosPerSec ≤ t) (hhi : t < 253402207201 * nanosPerSec) :
    ∃ sec nanos, mtimeToIndex t = some (sec, nanos) ∧ nanos < 1000000000 ∧
      entryTimeNs sec nanos = some t := by
  have hpos : (0 : Int) < nanosPerSec := by decide
  have h1 := Int.fmod_lt_of_pos t hpos
  have h0 := Int.fmod_nonneg_of_pos t hpos
  have hdm := Int.fmod_add_mul_fdiv t nanosPerSec
  -- t = fmod + 10⁹ · fdiv with 0 ≤ fmod < 10⁹; the rest is linear arithmetic
  unfold nanosPerSec at *
  refine ⟨t.fdiv 1000000000, (t.fmod 1000000000).toNat, rfl, by omega, ?_⟩
  unfold entryTimeNs nanosPerSec
  rw [if_neg (by omega), if_neg (by omega), if_neg (by omega), Int.toNat_of_nonneg h0]
  congr 1
  omega

/-- The code before the repair of D3 did not satisfy this: −1.5 s panicked. -/
theorem mtime_truncating_refuted : mtimeToIndexTruncating (-1500000000) = none := by decide

-- non-vacuity: −1.5 s is inside the range and round-trips through the repaired conversion
example : mtimeToIndex (-1500000000) = some (-2, 500000000) := by decide
example : entryTimeNs (-2) 500000000 = some (-1500000000) := by decide

end Conserve.C01
