import ConserveModel.Proofs.ApathOrder
/-
C11 — Paths have one total order, shared by the source walk and every index.

The walk-order theorems (`walk_sorted`, `walk_deque_eq_rec`) are in Props/C11Walk.lean.
-/
namespace Conserve.C11
open Conserve Std

/-- The comparison loop of the code is lexicographic comparison of the sort keys
`[(1,c₀),…,(1,cₙ₋₁),(0,cₙ)]`, for ALL byte strings (valid paths or not). -/
theorem cmp_eq_keys (a b : Str) : apathCmp a b = compare (keys a) (keys b) :=
  apathCmp_eq_keys a b

theorem cmp_eq_iff (a b : Str) : apathCmp a b = .eq ↔ a = b := apathCmp_eq_iff a b

/-- Antisymmetry and totality in one. -/
theorem cmp_swap (a b : Str) : apathCmp a b = (apathCmp b a).swap := by
  rw [cmp_eq_keys, cmp_eq_keys]; exact OrientedOrd.eq_swap

theorem cmp_total (a b : Str) (h : a ≠ b) : apathCmp a b = .lt ∨ apathCmp b a = .lt :=
  (apathLe.total a b).imp (apathCmp_lt_of_le_of_ne · h) (apathCmp_lt_of_le_of_ne · h.symm)

theorem cmp_trans {a b c : Str} (h1 : apathCmp a b = .lt) (h2 : apathCmp b c = .lt) :
    apathCmp a c = .lt := by
  rw [cmp_eq_keys] at *; exact TransCmp.lt_trans h1 h2

theorem cmp_irrefl (a : Str) : apathCmp a a ≠ .lt := fun h => apathCmp_lt_ne h rfl

theorem keysOf_eq_doc (o o' : Str) (cs cs' : List Str) :
    compare (keysOf o cs) (keysOf o' cs') =
      (compare (o :: cs).dropLast (o' :: cs').dropLast).then
        (compare (o :: cs).getLast? (o' :: cs').getLast?) := by
  induction cs generalizing o o' cs' with
  | nil =>
    cases cs' with
    | nil =>
      simp only [keysOf, List.dropLast_singleton, List.getLast?_singleton]
      rw [List.compare_cons_cons, compare_cons_same]
      have : compare ([] : List Str) [] = .eq := ReflOrd.compare_self
      rw [this]
      have h2 : compare (some o) (some o') = compare o o' := rfl
      rw [h2]; cases compare o o' <;> rfl
    | cons c' t' =>
      simp only [keysOf, List.dropLast_singleton, List.dropLast_cons_cons]
      rw [List.compare_cons_cons, compare_zero_one, List.compare_nil_cons]; rfl
  | cons c t ih =>
    cases cs' with
    | nil =>
      simp only [keysOf, List.dropLast_singleton, List.dropLast_cons_cons]
      rw [List.compare_cons_cons, compare_one_zero, List.compare_cons_nil]; rfl
    | cons c' t' =>
      simp only [keysOf, List.dropLast_cons_cons, List.getLast?_cons_cons]
      rw [List.compare_cons_cons, compare_cons_same, List.compare_cons_cons, ih,
        Ordering.then_assoc]

/-- The code's order is the documented one: directory parts first (component-wise,
byte-wise), final names only between paths of the same directory. -/
theorem cmp_eq_doc (a b : Str) : apathCmp a b = docCmp a b := by
  rw [cmp_eq_keys]
  unfold keys docCmp
  cases ha : splitSlash a with
  | nil => exact absurd ha (splitSlash_ne_nil a)
  | cons oa as =>
    cases hb : splitSlash b with
    | nil => exact absurd hb (splitSlash_ne_nil b)
    | cons ob bs =>
      simp only []
      rw [keysOf_eq_doc]
      cases compare (oa :: as).dropLast (ob :: bs).dropLast <;> rfl

/-- Well-formedness is exactly the documented rule. -/
theorem valid_iff_spec (a : Str) :
    isValid a = true ↔
      a.head? = some slash ∧
        (a = [slash] ∨ ∀ c ∈ components a,
            c ≠ [] ∧ c ≠ [dot] ∧ c ≠ [dot, dot] ∧ 0 ∉ c) := by
  cases a with
  | nil => simp [isValid]
  | cons c rest =>
    unfold isValid components
    by_cases hc : c = slash
    · subst hc
      cases rest with
      | nil => simp
      | cons r rs =>
        simp only [ne_eq, not_true_eq_false, ↓reduceIte, List.isEmpty_cons, Bool.false_eq_true,
          List.all_eq_true, Bool.not_eq_eq_eq_not, Bool.not_true, Bool.or_eq_false_iff,
          List.isEmpty_eq_false_iff, beq_eq_false_iff_ne, List.contains_eq_mem,
          decide_eq_false_iff_not, List.head?_cons, List.cons.injEq, reduceCtorEq, and_false,
          false_or, true_and]
        constructor
        · intro h p hp
          have := h p hp
          exact ⟨this.1.1.1, this.1.1.2, this.1.2, this.2⟩
        · intro h p hp
          have := h p hp
          exact ⟨⟨⟨this.1, this.2.1⟩, this.2.2.1⟩, this.2.2.2⟩
    · simp [hc]

-- Non-vacuity: concrete paths meeting the hypotheses / exhibiting the cases.
example : apathCmp [47, 122, 122] [47, 97, 97, 47, 98] = .lt := by decide   -- "/zz" < "/aa/b"
example : isValid [47, 97, 47, 98] = true := by decide
example : isValid [47, 97, 47, 47, 98] = false := by decide

end Conserve.C11
