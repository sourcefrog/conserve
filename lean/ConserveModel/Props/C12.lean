import ConserveModel.Proofs.ApathPrefix
/-
C12 — Selecting a subtree returns exactly that subtree.

`prefix_iff_ancestor` is the statement about the test every listing and restore uses to
select a subtree (src/apath.rs `is_prefix_of`): for valid paths it is exactly ancestry by
whole components.  `charIndexed_refuted` records the defect found in the code as it was
before the repair (byte length used as a character index).
The listing-level theorems (`subtree_listing`) are in Props/C08.lean (`stitch_filter`).
-/
namespace Conserve.C12
open Conserve

/-- Full statement: for all valid paths, the subtree test is ancestry by whole components. -/
def PrefixStatement (test : Str → Str → Bool) : Prop :=
  ∀ s a : Str, isValid s = true → isValid a = true → test s a = isAncestorOrSelf s a

theorem prefix_iff_ancestor : PrefixStatement isPrefixOfImpl := by
  intro s a hs ha
  by_cases hroot : s = [slash]
  · -- subtree is the root: everything is selected
    subst hroot
    obtain ⟨ra, rfl⟩ := valid_shape ha
    have : isAncestorOrSelf [slash] (slash :: ra) = true := by simp [isAncestorOrSelf, components]
    rw [this]
    unfold isPrefixOfImpl
    cases ra with
    | nil => simp
    | cons r ra => simp [List.isPrefixOf]
  · rw [Bool.eq_iff_iff, isPrefixOfImpl_iff s a (valid_getLast hs hroot), ancestor_iff_bytes hs ha hroot]

/-- The code as it was (character-indexed) does not satisfy the statement:
subtree "/ñ" does not select "/ñ/x". -/
theorem charIndexed_refuted : ¬ PrefixStatement isPrefixOfCharIndexed := by
  intro h
  have := h [47, 195, 177] [47, 195, 177, 47, 120] (by decide) (by decide)
  revert this
  decide

-- Non-vacuity: valid multi-byte paths on which the repaired test agrees with ancestry,
-- including a sibling that merely shares a textual prefix.
example : isPrefixOfImpl [47, 195, 177] [47, 195, 177, 47, 120] = true := by decide
example : isPrefixOfImpl [47, 97] [47, 97, 98] = false := by decide          -- "/a" vs "/ab"
example : isPrefixOfImpl [47, 97] [47, 97, 47, 98] = true := by decide       -- "/a" vs "/a/b"

end Conserve.C12
