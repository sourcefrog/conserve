import ConserveModel.Proofs.ProducedArchive
import ConserveModel.Proofs.ProducedLock
import ConserveModel.Proofs.GapKindsSmall
/-
C14, first clause, from the format invariant.

`C14.UnchangedStatement` ("a backup of a tree whose files are all heuristically unchanged w.r.t. the
latest version writes no data block") is stated there with the single hypothesis `Conforms H s`;
`C01a.unchanged_statement_partial` proves it under `ArchiveGood H src s` + `SrcGood src`.  This file
bridges the two as far as the invariant goes.  `UnchangedStatement` itself is left untouched.

FROM C13's invariant `CI H s = Conforms ∧ DirsOk ∧ NoDupKeys` (`Rng.archiveGood_of_ci` and the lemmas
before it): the store is a map and a tree; `d/` and the archive directory exist; every block file is
named by the hash of its content (or is a zero-length leftover); no index entry refers to a missing,
corrupt or too-short block (`Conforms`: every address lies inside its block); and, once every version
directory has a readable head and stored values are in range, every version lists without complaint
(`BandGood`: consecutive hunk numbers, the tail's count, every hunk usable) with strictly increasing
usable hunks.

NOT from `CI` (each is a hypothesis of `unchanged_statement_from_ci`):
* `AllHeadsReadable s` — `Conforms` allows a version directory without (complete) head or without
  `i/`, the leftover of a backup killed before its head write ("head-less newest directory");
* `entriesInRange s` — `Conforms` does not bound times or addresses;
* `KindsOK s` — `Conforms` does not look at `bNNNN/i`, nor at a directory sitting at a hunk's path;
* `BlocksSmall s` — block lengths below 2^64;
* `s.get? .gcLock = none` — the lock file is invisible to the format;
* `HeuristicSoundStore H src s` — the tool's own "same kind, mtime and size ⇒ same content"
  assumption, a fact about the SOURCE, not about the archive;
* `SrcGood src`, `0 < o.maxBlockSize`, `H` injective with names of at least three characters: as in
  C01a (a source matching a conforming listing path by path need not have `st_size` equal to what
  reading returns, nor symlink targets, nor representable directory times).
For archives PRODUCED by fault-free operations the first five follow too (`produced_store_facts`,
`produced_lock_free`, `C09p.producedH_heads`, `C09p.producedOK_inv`), leaving the tool's heuristic and
the source: `unchanged_statement_produced`.

Which of these does the STATEMENT need, as opposed to the proof (which goes through C01a's complete
description of the run)?  With a `GC_LOCK` present the backup refuses at once
(`backup_refuses_when_locked`): it writes no block — the first clause holds trivially — but it makes
no version either, so the second conclusion of `unchanged_backup_from_ci` ("the new version records
the basis addresses") does need the lock to be absent.  The others are not known to be necessary for
the bare "no block write"; they are what the end-to-end proof uses.
-/
namespace Conserve.C14p
open Conserve Conserve.Inv Conserve.Conf Conserve.Exact Conserve.Rng

variable {H : Str → Str}

/-! ## 1. `ArchiveGood` from the invariant -/

/-- **`archive_good_from_invariant`.**  C01a's hypothesis on the archive follows from C13's
invariant plus the six residual hypotheses listed in the file header. -/
theorem archive_good_from_invariant {s : Store} {src : List SrcEntry} (hci : CI H s)
    (hheads : AllHeadsReadable s) (hrange : entriesInRange s = true) (hkinds : KindsOK s)
    (hsmall : BlocksSmall s) (hlock : s.get? .gcLock = none) (hheur : HeuristicSoundStore H src s) :
    ArchiveGood H src s := archiveGood_of_ci hci hheads hrange hkinds hsmall hlock hheur

theorem no_dangling_from_invariant {s : Store} (hci : CI H s) : NoDangling H s := ci_noDangling hci

/-- From `CI`, readable heads and values in range: every version directory holds a version that
lists without complaint — complete ones and interrupted-with-head ones alike. -/
theorem bands_good_from_invariant {s : Store} (hci : CI H s) (hheads : AllHeadsReadable s)
    (hrange : entriesInRange s = true) : ∀ b ∈ bandIdsOf s, BandGood s b :=
  fun _ hb => bandGood_of_good (C09p.good_of_ci hci hheads hrange) hb

theorem sorted_from_invariant {s : Store} (hci : CI H s) (hheads : AllHeadsReadable s)
    (hrange : entriesInRange s = true) :
    ∀ b n v, s.get? (.hunk b n) = some v → strictlySorted ((ownEntries s b).map (·.apath)) = true :=
  fun _ _ _ hg => (C09p.good_of_ci hci hheads hrange).archWF.sorted_of_get? hg

/-! ## 2. The first clause of C14 -/

/-- **`unchanged_statement_from_ci`.**  `C14.UnchangedStatement` with C13's invariant `CI H s` in
place of `Conforms H s = true`, plus exactly the residual hypotheses of the file header (and without
needing the newest version to be complete): for every option triple, if `basis` is the listing of
the newest version `b` and the source matches it entry by entry — same path, same kind, every file
heuristically unchanged — then the backup, in the fault-free world, issues no `write` to any block
file at all. -/
theorem unchanged_statement_from_ci (hinj : Function.Injective H) (hlen : HashLen H)
    (s : Store) (o : BackupOpts) (src : List SrcEntry) (basis : List IndexEntry) (b : Nat)
    (ho : 0 < o.maxBlockSize) (hsrc : SrcGood src)
    (hci : CI H s) (hheads : AllHeadsReadable s) (hrange : entriesInRange s = true) (hkinds : KindsOK s)
    (hsmall : BlocksSmall s) (hlock : s.get? .gcLock = none) (hheur : HeuristicSoundStore H src s)
    (hmax : maxNat? (bandIdsOf s) = some b)
    (hlist : ((listVersion (.specified b) [slash] (fun _ => false)).run (World.clean s)).1 = .ok basis)
    (hzip : basis.length = src.length ∧ ∀ p ∈ basis.zip src,
        p.1.apath = p.2.apath ∧ p.1.kind = p.2.kind ∧
        (p.2.kind = .file → heuristicallyUnchanged p.2 p.1 = some true)) :
    let r := (backup H o src).run (World.clean s)
    ∀ ev ∈ r.2.trace, ∀ h v m, ev.op ≠ .write (.block h) v m :=
  C01a.unchanged_statement_partial H hinj hlen s o src basis b ho hsrc
    (archiveGood_of_ci hci hheads hrange hkinds hsmall hlock hheur) hmax hlist hzip

/-- The statement in the form of `C14.UnchangedStatement`, for comparison: the same quantifiers and
conclusion, `CI` and the residual hypotheses where that has `Conforms`. -/
def UnchangedFromInvariantStatement (H : Str → Str) : Prop :=
  ∀ (s : Store) (o : BackupOpts) (src : List SrcEntry) (basis : List IndexEntry) (b : Nat),
    0 < o.maxBlockSize → SrcGood src → CI H s → AllHeadsReadable s → entriesInRange s = true → KindsOK s →
    BlocksSmall s → s.get? .gcLock = none → HeuristicSoundStore H src s →
    maxNat? (bandIdsOf s) = some b →
    ((listVersion (.specified b) [slash] (fun _ => false)).run (World.clean s)).1 = .ok basis →
    (basis.length = src.length ∧ ∀ p ∈ basis.zip src,
        p.1.apath = p.2.apath ∧ p.1.kind = p.2.kind ∧
        (p.2.kind = .file → heuristicallyUnchanged p.2 p.1 = some true)) →
    let r := (backup H o src).run (World.clean s)
    (∀ ev ∈ r.2.trace, ∀ h v m, ev.op ≠ .write (.block h) v m)

theorem unchanged_from_invariant (hinj : Function.Injective H) (hlen : HashLen H) :
    UnchangedFromInvariantStatement H :=
  fun s o src basis b ho hsrc hci hh hr hk hsm hl hheur hmax hlist hzip =>
    unchanged_statement_from_ci hinj hlen s o src basis b ho hsrc hci hh hr hk hsm hl hheur hmax hlist hzip

/-- **`unchanged_backup_from_ci`.**  Both conclusions of `C01a.unchanged_backup_writes_no_block`
from the invariant: no block write, and the new version lists the same paths with, for every file,
exactly the basis entry's addresses. -/
theorem unchanged_backup_from_ci (hinj : Function.Injective H) (hlen : HashLen H)
    (s : Store) (o : BackupOpts) (src : List SrcEntry) (ho : 0 < o.maxBlockSize) (hsrc : SrcGood src)
    (hci : CI H s) (hheads : AllHeadsReadable s) (hrange : entriesInRange s = true) (hkinds : KindsOK s)
    (hsmall : BlocksSmall s) (hlock : s.get? .gcLock = none) (hheur : HeuristicSoundStore H src s)
    (hun : Paired (fun be sf => be.apath = sf.apath ∧
      (sf.kind = .file → heuristicallyUnchanged sf be = some true)) (basisListing s) src) :
    let r := (backup H o src).run (World.clean s)
    (∀ ev ∈ r.2.trace, ∀ h v m, ev.op ≠ .write (.block h) v m) ∧
    Paired (fun be e => e.apath = be.apath ∧ (e.kind = .file → e.addrs = be.addrs))
      (basisListing s) (listSpec r.2.store (newBandOf s)) :=
  C01a.unchanged_backup_writes_no_block H hinj hlen s o src ho hsrc
    (archiveGood_of_ci hci hheads hrange hkinds hsmall hlock hheur) hun

/-! ## 3. Produced archives -/

theorem initArchive_kindsOK : KindsOK C09.initArchive := by
  intro k v h
  have := Store.mem_of_get? h
  simp only [C09.initArchive, List.mem_cons, Prod.mk.injEq, List.not_mem_nil, or_false] at this
  rcases this with ⟨rfl, rfl⟩ | ⟨rfl, rfl⟩ | ⟨rfl, rfl⟩ <;> rfl

theorem initArchive_small : BlocksSmall C09.initArchive := by
  intro h c hg
  have := Store.mem_of_get? hg
  simp [C09.initArchive] at this

/-- **`produced_store_facts`.**  On every archive produced by fault-free operations (backups
completed or interrupted at any micro-step, with a sorted, in-range source; deletes / gc): directories
are where the layout has directories, files where it has files, and every block is shorter than
2^64 bytes. -/
theorem produced_store_facts {s : Store} (h : C09p.ProducedOK H s) : KindsOK s ∧ BlocksSmall s := by
  induction h with
  | init => exact ⟨initArchive_kindsOK, initArchive_small⟩
  | backup o src c _ hrng _ ih =>
    exact ⟨backup_kindsOK H o src _ ih.1, Gaps.Kinds.backup_small H o hrng.bytes _ ih.2⟩
  | delete D o _ ih =>
    exact ⟨delete_kindsOK true D o _ ih.1, Gaps.Kinds.delete_small true D o _ ih.2⟩

/-- **`produced_lock_free`.**  No archive produced by fault-free operations has a `GC_LOCK` lying
around: `backup` never touches the lock file (in any world), and `delete_bands` in the fault-free
world releases the lock it took — on success, on the error path and on unwinding. -/
theorem produced_lock_free (hinj : Function.Injective H) (hlen : HashLen H) {s : Store}
    (h : C09p.ProducedOK H s) : s.get? .gcLock = none := by
  induction h with
  | init => decide
  | backup o src c _ _ _ ih => rw [backup_lock_same]; exact ih
  | delete D o hp ih =>
    exact delete_lockFree true D o _ (ci_root (C09p.producedOK_inv hinj hlen hp).1) ih

/-- **`archive_good_produced`.**  An archive produced by backups that complete or are killed after
their head write, and deletes / gc, is `ArchiveGood` for every source for which the tool's assumption
holds. -/
theorem archive_good_produced (hinj : Function.Injective H) (hlen : HashLen H) {s : Store}
    (h : C09p.ProducedH H s) {src : List SrcEntry} (hheur : HeuristicSoundStore H src s) :
    ArchiveGood H src s :=
  let ⟨hci, hr⟩ := C09p.producedOK_inv hinj hlen h.ok
  let ⟨hk, hsm⟩ := produced_store_facts h.ok
  archiveGood_of_ci hci (C09p.producedH_heads hinj hlen h) hr hk hsm (produced_lock_free hinj hlen h.ok) hheur

/-- **`unchanged_statement_produced`.**  The first clause of C14 on produced archives: what is left
to assume is the source — `SrcGood` and the tool's heuristic. -/
theorem unchanged_statement_produced (hinj : Function.Injective H) (hlen : HashLen H)
    (s : Store) (hp : C09p.ProducedH H s) (o : BackupOpts) (src : List SrcEntry) (basis : List IndexEntry) (b : Nat)
    (ho : 0 < o.maxBlockSize) (hsrc : SrcGood src) (hheur : HeuristicSoundStore H src s)
    (hmax : maxNat? (bandIdsOf s) = some b)
    (hlist : ((listVersion (.specified b) [slash] (fun _ => false)).run (World.clean s)).1 = .ok basis)
    (hzip : basis.length = src.length ∧ ∀ p ∈ basis.zip src,
        p.1.apath = p.2.apath ∧ p.1.kind = p.2.kind ∧
        (p.2.kind = .file → heuristicallyUnchanged p.2 p.1 = some true)) :
    let r := (backup H o src).run (World.clean s)
    ∀ ev ∈ r.2.trace, ∀ h v m, ev.op ≠ .write (.block h) v m :=
  C01a.unchanged_statement_partial H hinj hlen s o src basis b ho hsrc
    (archive_good_produced hinj hlen hp hheur) hmax hlist hzip

/-- Both conclusions on produced archives: no block write, and the new version records, for every
file, exactly the basis entry's addresses. -/
theorem unchanged_backup_produced (hinj : Function.Injective H) (hlen : HashLen H)
    (s : Store) (hp : C09p.ProducedH H s) (o : BackupOpts) (src : List SrcEntry) (ho : 0 < o.maxBlockSize)
    (hsrc : SrcGood src) (hheur : HeuristicSoundStore H src s)
    (hun : Paired (fun be sf => be.apath = sf.apath ∧
      (sf.kind = .file → heuristicallyUnchanged sf be = some true)) (basisListing s) src) :
    let r := (backup H o src).run (World.clean s)
    (∀ ev ∈ r.2.trace, ∀ h v m, ev.op ≠ .write (.block h) v m) ∧
    Paired (fun be e => e.apath = be.apath ∧ (e.kind = .file → e.addrs = be.addrs))
      (basisListing s) (listSpec r.2.store (newBandOf s)) :=
  C01a.unchanged_backup_writes_no_block H hinj hlen s o src ho hsrc
    (archive_good_produced hinj hlen hp hheur) hun

/-- The C01 (a) end-to-end theorem on produced archives: a fault-free backup of a good source into
an archive produced by fault-free operations completes without error, and restoring the new version
yields exactly the source. -/
theorem backup_restore_exact_produced (hinj : Function.Injective H) (hlen : HashLen H)
    (s : Store) (hp : C09p.ProducedH H s) (o : BackupOpts) (src : List SrcEntry) (ho : 0 < o.maxBlockSize)
    (hsrc : SrcGood src) (hheur : HeuristicSoundStore H src s) :
    C01a.Exact H o src s ((backup H o src).run (World.clean s)) :=
  C01a.backup_restore_exact H hinj hlen s o src ho hsrc (archive_good_produced hinj hlen hp hheur)

/-! ## 4. The lock -/

/-- **`backup_refuses_when_locked`.**  With a `GC_LOCK` file present the backup fails at once with
`gcLockHeld` and touches nothing: no block is written (the first clause of C14 holds trivially) but
no version is made either — so "no `GC_LOCK`" is needed for the second conclusion of
`unchanged_backup_from_ci`, and is not a consequence of `CI` (`locked_conforms`). -/
theorem backup_refuses_when_locked (H : Str → Str) (o : BackupOpts) (src : List SrcEntry) (s : Store)
    {v : FileVal} (hl : s.get? .gcLock = some v) (hv : v.isDir = false) :
    ((backup H o src).run (World.clean s)).1 = .err .gcLockHeld ∧
    ((backup H o src).run (World.clean s)).2.store = s := by
  have hr : ((World.clean s).exec (.metadata .gcLock)).2 = .stat true (!v.isEmptyFile) := by
    rw [World.exec_clean_resp (World.clean_Clean s)]
    simp [applyOp, hl, hv]
  have hs : ((World.clean s).exec (.metadata .gcLock)).1.store = s := by
    rw [World.exec_clean_store (World.clean_Clean s)]
    simp [applyOp, hl]
  rw [backup_eq]
  unfold backupPrelude gcIsLocked isFile Prog.perform
  simp only [Prog.bind_def, Prog.op_bind, Prog.ret_bind, Prog.run_op, hr, Prog.pure_def, if_true,
    Prog.fail_bind, Prog.run_fail]
  exact ⟨trivial, hs⟩

/-- The empty archive with a `GC_LOCK` lying around. -/
def lockedArchive : Store := C09.initArchive ++ [(Key.gcLock, FileVal.lock)]

/-- A lock file does not disturb the format invariant: `lockedArchive` satisfies `CI` (so `CI` cannot
imply the lock's absence). -/
theorem locked_conforms : CI H lockedArchive ∧ lockedArchive.get? .gcLock = some .lock := by
  refine ⟨⟨?_, by decide, by unfold NoDupKeys lockedArchive C09.initArchive; decide⟩, by decide⟩
  have hb : bandIdsOf lockedArchive = [] := by
    simp [bandIdsOf, lockedArchive, C09.initArchive, sortNat]
  have h1 : lockedArchive.get? .header = some (.header [48, 46, 54]) := by decide
  have h2 : lockedArchive.get? .root = some .dir := by decide
  have h3 : lockedArchive.get? .blockRoot = some .dir := by decide
  unfold Conforms
  rw [hb, h1, h2, h3]
  simp [lockedArchive, C09.initArchive, blocksConform]

theorem initArchive_noHunk (b n : Nat) : hunkAt C09.initArchive b n = none := by
  have hn : C09.initArchive.get? (.hunk b n) = none := by
    cases hg : C09.initArchive.get? (.hunk b n) with
    | none => rfl
    | some v =>
      have := Store.mem_of_get? hg
      simp [C09.initArchive] at this
  simp [hunkAt, hn]

/-! ## Non-vacuity -/

namespace Example

/-- The hypotheses of `archive_good_from_invariant` hold of the empty archive, for any source … -/
example (src : List SrcEntry) : ArchiveGood C13.Example.exH src C09.initArchive :=
  archive_good_from_invariant C13.emptyArchive_ci (fun b hb => by simp [bandIdsOf, C09.initArchive, sortNat] at hb)
    (by decide) initArchive_kindsOK initArchive_small (by decide)
    (fun b n es h => by rw [initArchive_noHunk] at h; cases h)

/-- … and of every archive the histories of `C09p.Example` produce, as far as the invariant goes:
`s2` (a complete version and one interrupted after its head write) has readable heads, values in
range, directories where directories belong and small blocks. -/
example : AllHeadsReadable C09p.Example.s2 ∧ entriesInRange C09p.Example.s2 = true ∧
    KindsOK C09p.Example.s2 ∧ BlocksSmall C09p.Example.s2 :=
  ⟨C09p.producedH_heads C13.Example.exH_inj C13.Example.exH_len C09p.Example.s2_produced,
   (C09p.producedOK_inv C13.Example.exH_inj C13.Example.exH_len C09p.Example.s2_produced.ok).2,
   produced_store_facts C09p.Example.s2_produced.ok⟩

/-- The refusal: the empty archive with a lock file. -/
example : ((backup id {} []).run (World.clean lockedArchive)).1 = .err .gcLockHeld :=
  (backup_refuses_when_locked id {} [] lockedArchive (v := .lock) (by decide) rfl).1

end Example

end Conserve.C14p
