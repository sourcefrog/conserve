import ConserveModel.Props.C05
import ConserveModel.Proofs.DeleteExactMore
/-
C05g — the "exactly" half of C05.

"… after the delete EXACTLY those versions are gone, … no block referenced by any remaining version
has been removed and NO UNREFERENCED BLOCK REMAINS; a DRY RUN CHANGES NOTHING."

Props/C05.lean proves the functional form for `D` without repetitions whose bands all exist
(`delete_exact`, stated against the INITIAL store), the dry run on the clean world and the run that
stops at a missing band for a given split of `D`.  Added here, all for the strict reference scan:

(a) `delete_outcome`, `delete_exact_bands`, `delete_stops_at_first_missing`: ARBITRARY `D` (unsorted,
    repeated ids, ids without a directory): the run succeeds iff `D` has no repetition and every id
    has a directory entry, and then the band ids left are exactly those not in `D`; otherwise it fails
    with `BandNotFound b` at the FIRST position (in the order given) whose id is absent or repeats an
    earlier one, having removed exactly the bands before that position and no block.
(b) `delete_no_garbage_left`: stated against the FINAL store: every block file `list_blocks` can see
    is named by a decodable hunk of a band directory that is still there (complete or not: a band
    counts as soon as it has a directory; `DelArchOK` makes every such band readable — with an
    unreadable one the run fails, `referencedBlocks` opens every kept band).  What CAN remain without
    being referenced is stated exactly, with witnesses: zero-length block files, and block files whose
    name has fewer than three characters (`garbage_that_remains`).
(c) `dry_run_changes_nothing`: in EVERY world (faults, crash points, both scans, any `D`, with or
    without `--break-lock`) a dry run leaves every key but `GC_LOCK` as it was, and issues no
    mutating operation on any other key; on the clean world the store is the same LIST and the
    count it reports is the number of blocks the real run deletes (`dry_run_predicts_real`).
    `GC_LOCK` itself can be left behind by a dry run that is killed (`dry_run_killed_leaves_lock`).
(d) `gc_idempotent`: a second garbage collection removes nothing and reports zeros; more generally
    a gc after any successful delete (`gc_after_delete_removes_nothing`) — provided the newest
    REMAINING band is complete, which deleting the newest band can falsify (then gc refuses).
-/
namespace Conserve.C05g
open Conserve Prog

/-- `bNNNN` has an entry in the archive directory (what `remove_dir_all` needs to find). -/
def bandEntry (s : Store) (b : Nat) : Bool := (s.get? (.bandDir b)).isSome

/-- **What a real delete does for an arbitrary list `D`.**  Clean world, `DelArchOK s D`, newest
band complete, no lock.  EITHER `D` has no repetition and every id has a directory entry: the run
succeeds and ends in `deleted s D`; OR `D = pre ++ b :: post` where `b` is the first id, in the order
given, that has no entry or already occurred (`b ∈ pre`): the run fails with `BandNotFound b`, and the
store is the initial list minus everything at or under the directories of `pre`. -/
theorem delete_outcome (s : Store) (D : List Nat) (o : DeleteOpts) (ok : DelArchOK s D)
    (hfree : s.get? .gcLock = none) (hnew : newestComplete s) (hdry : o.dryRun = false) :
    let r := (deleteBands true D o).run (World.clean s)
    (D.Nodup ∧ (∀ b ∈ D, bandEntry s b = true) ∧ r.1 = .ok (realStats s D) ∧ r.2.store = deleted s D) ∨
    (∃ pre b post, D = pre ++ b :: post ∧ pre.Nodup ∧ (∀ b' ∈ pre, bandEntry s b' = true) ∧
      (s.get? (.bandDir b) = none ∨ b ∈ pre) ∧
      r.1 = .err (.bandNotFound b) ∧ r.2.store = eraseBands s pre) := by
  intro r
  rcases removable_or_first_missing D s with h | ⟨pre, b, post, hD, h, hb⟩
  · obtain ⟨hnd, hall⟩ := removable_iff.1 h
    have hr := Prog.run_clean_eval (eval_deleteBands_real true ok hfree hnew o hdry hnd hall)
    exact .inl ⟨hnd, hall, hr.1, hr.2.1⟩
  · obtain ⟨hnd, hall⟩ := removable_iff.1 h
    have hb' := get?_eraseBands_bandDir.1 hb
    subst hD
    have hr := Prog.run_clean_eval (eval_deleteBands_missing true ok hfree hnew o hdry hnd hall hb')
    exact .inr ⟨pre, b, post, rfl, hnd, hall, hb', hr.1, hr.2.1⟩

/-- **`delete_exact_bands`.**  Arbitrary `D`.  If a real delete returns `Ok(stats)` then: `D` has no
repetition, every id of `D` had a directory entry, the statistics are `realStats s D`, and in the final
store `s'` the band ids are exactly the former ones not in `D`; everything at or under a directory of
`D` is gone and everything at or under any other band directory is unchanged. -/
theorem delete_exact_bands (s : Store) (D : List Nat) (o : DeleteOpts) (ok : DelArchOK s D)
    (hfree : s.get? .gcLock = none) (hnew : newestComplete s) (hdry : o.dryRun = false)
    (st : DeleteStats) (hok : ((deleteBands true D o).run (World.clean s)).1 = .ok st) :
    let s' := ((deleteBands true D o).run (World.clean s)).2.store
    D.Nodup ∧ (∀ b ∈ D, bandEntry s b = true) ∧ st = realStats s D ∧
    bandIdsOf s' = (bandIdsOf s).filter (fun b => decide (b ∉ D)) ∧
    (∀ b ∈ D, ∀ k, Key.isUnder (.bandDir b) k = true → s'.get? k = none) ∧
    (∀ b, b ∉ D → ∀ k, Key.isUnder (.bandDir b) k = true → s'.get? k = s.get? k) := by
  intro s'
  rcases delete_outcome s D o ok hfree hnew hdry with ⟨hnd, hall, h1, h2⟩ | ⟨pre, b, post, _, _, _, _, h1, _⟩
  · have hs' : s' = deleted s D := h2
    rw [h1] at hok
    refine ⟨hnd, hall, by cases hok; rfl, ?_, ?_, ?_⟩
    · rw [hs', bandIdsOf_deleted, keptOf]
      apply List.filter_congr
      intro b _
      simp
    · intro b hb k hk; rw [hs']; exact deleted_band_gone s hb hk
    · intro b hb k hk; rw [hs']; exact kept_band_unchanged s hb hk
  · rw [h1] at hok; cases hok

/-- **The converse direction**: with no repetition and every id present, the run does succeed. -/
theorem delete_succeeds_iff (s : Store) (D : List Nat) (o : DeleteOpts) (ok : DelArchOK s D)
    (hfree : s.get? .gcLock = none) (hnew : newestComplete s) (hdry : o.dryRun = false) :
    (∃ st, ((deleteBands true D o).run (World.clean s)).1 = .ok st) ↔
      (D.Nodup ∧ ∀ b ∈ D, bandEntry s b = true) := by
  constructor
  · rintro ⟨st, hst⟩
    have := delete_exact_bands s D o ok hfree hnew hdry st hst
    exact ⟨this.1, this.2.1⟩
  · rintro ⟨hnd, hall⟩
    exact ⟨_, (Prog.run_clean_eval (eval_deleteBands_real true ok hfree hnew o hdry hnd hall)).1⟩

/-- **`delete_stops_at_first_missing`.**  Arbitrary `D` that is NOT (repetition-free with every id
present).  Then `D = pre ++ b :: post` with `b` the first bad id in the order given, the run fails with
`BandNotFound b`, and in the final store: the band ids are the former ones not in `pre` (so the bands
of `pre` — and only they — are gone, those of `post` are all still there); every block file is
unchanged (what only `pre` referenced stays as garbage); there is no `GC_LOCK`; every key not under a
band of `pre` is unchanged. -/
theorem delete_stops_at_first_missing (s : Store) (D : List Nat) (o : DeleteOpts) (ok : DelArchOK s D)
    (hfree : s.get? .gcLock = none) (hnew : newestComplete s) (hdry : o.dryRun = false)
    (hbad : ¬ (D.Nodup ∧ ∀ b ∈ D, bandEntry s b = true)) :
    let r := (deleteBands true D o).run (World.clean s)
    ∃ pre b post, D = pre ++ b :: post ∧ pre.Nodup ∧ (∀ b' ∈ pre, bandEntry s b' = true) ∧
      (s.get? (.bandDir b) = none ∨ b ∈ pre) ∧
      r.1 = .err (.bandNotFound b) ∧
      bandIdsOf r.2.store = (bandIdsOf s).filter (fun b' => decide (b' ∉ pre)) ∧
      (∀ h, r.2.store.get? (.block h) = s.get? (.block h)) ∧
      r.2.store.get? .gcLock = none ∧
      (∀ k, underAny pre k = false → r.2.store.get? k = s.get? k) ∧
      (∀ b' ∈ pre, ∀ k, Key.isUnder (.bandDir b') k = true → r.2.store.get? k = none) := by
  intro r
  rcases delete_outcome s D o ok hfree hnew hdry with ⟨hnd, hall, _, _⟩ | ⟨pre, b, post, hD, hnd, hall, hb, h1, h2⟩
  · exact absurd ⟨hnd, hall⟩ hbad
  · have hs' : r.2.store = eraseBands s pre := h2
    refine ⟨pre, b, post, hD, hnd, hall, hb, h1, ?_, ?_, ?_, ?_, ?_⟩
    · rw [hs', bandIdsOf_eraseBands]
      apply List.filter_congr
      intro b' _; simp
    · intro h; rw [hs', get?_eraseBands]; simp
    · rw [hs', get?_eraseBands]; simp [hfree]
    · intro k hk; rw [hs', get?_eraseBands, hk]; rfl
    · intro b' hb' k hk
      rw [hs', get?_eraseBands, underAny_eq_true.2 ⟨b', hb', isUnder_bandDir_iff.1 hk⟩]; rfl

/-- **`delete_no_garbage_left`.**  Clean world, `DelArchOK s D`, `DirsOk s`, newest band complete, no
lock, real run, arbitrary `D`.  If the run returns `Ok`, then in the final store `s'`:
* every block file that `list_blocks` can see — present, not a directory, not zero-length, name of
  at least three characters — is named by an entry of a decodable hunk of some band directory of
  `s'` (any band that still has a directory counts: complete, interrupted, newest or not);
* exactly: a visible block is in `s'` iff it was in `s` and is so referenced;
* every block so referenced is unchanged. -/
theorem delete_no_garbage_left (s : Store) (D : List Nat) (o : DeleteOpts) (ok : DelArchOK s D)
    (hdirs : DirsOk s) (hfree : s.get? .gcLock = none) (hnew : newestComplete s) (hdry : o.dryRun = false)
    (st : DeleteStats) (hok : ((deleteBands true D o).run (World.clean s)).1 = .ok st) :
    let s' := ((deleteBands true D o).run (World.clean s)).2.store
    (∀ h, blockListed s' h → subdirNameChars ≤ h.length → referencedBy s' (bandIdsOf s') h) ∧
    (∀ h, subdirNameChars ≤ h.length →
      (blockListed s' h ↔ blockListed s h ∧ referencedBy s' (bandIdsOf s') h)) ∧
    (∀ h, referencedBy s' (bandIdsOf s') h → s'.get? (.block h) = s.get? (.block h)) := by
  intro s'
  rcases delete_outcome s D o ok hfree hnew hdry with ⟨_, _, _, h2⟩ | ⟨pre, b, post, _, _, _, _, h1, _⟩
  · have hs' : s' = deleted s D := h2
    have key : ∀ h, subdirNameChars ≤ h.length →
        (blockListed s' h ↔ blockListed s h ∧ referencedBy s' (bandIdsOf s') h) := by
      intro h hlen
      rw [hs', referencedBy_deleted]
      exact blockListed_deleted_iff ok.nodup hdirs hlen
    refine ⟨fun h hl hlen => ((key h hlen).1 hl).2, key, ?_⟩
    intro h hr
    rw [hs', referencedBy_deleted] at hr
    rw [hs']
    exact get?_deleted_block_referenced ok.nodup hdirs hr
  · rw [h1] at hok; cases hok

/-- **Which bands count, and what happens with an unreadable one.**  Either scan, clean world, no
lock, newest band complete, arbitrary `D`, real or dry run, NO readability hypothesis: if
`delete_bands` returns `Ok` then EVERY band directory of the archive that is not in `D` — complete or
interrupted — has a head file the program accepts.  Contrapositive: a single kept band whose head is
missing, empty, undecodable, of an unsupported version or with unknown flags makes every delete and
every gc fail (before anything is removed: the failure is in `referenced_blocks`). -/
theorem delete_ok_kept_heads_readable (strict : Bool) (s : Store) (D : List Nat) (o : DeleteOpts)
    (hroot : s.get? .root = some .dir) (hfree : s.get? .gcLock = none) (hnew : newestComplete s)
    (st : DeleteStats) (hok : ((deleteBands strict D o).run (World.clean s)).1 = .ok st) :
    ∀ b ∈ keptOf s D, headReadable s b = true := by
  intro b hb
  rw [deleteBands_eq] at hok
  have ha := (World.clean_quiet s).runs (eval_acquire true hroot o)
  rw [acquireOutcome_ok hfree hnew] at ha
  obtain ⟨held, _, hrun⟩ := Prog.run_bind_ok_split hok
  rw [hrun] at hok
  obtain ⟨st', hbody⟩ := withLock_ok_inv hok
  have hst : ((acquire o).run (World.clean s)).2.store = s ++ [(.gcLock, .lock)] := ha.2.store
  generalize ((acquire o).run (World.clean s)).2 = w1 at hbody hst
  rw [deleteBody_eq] at hbody
  obtain ⟨all, w3, hall, hst3, hbody⟩ := run_bind_ok_readOnly (listBandIds_fp (K := (· = .root)) rfl).rd_ro hbody
  obtain ⟨refs, w4, hrefs, _, _⟩ := run_bind_ok_readOnly (referencedBlocks_fp strict _).rd_ro hbody
  have hall' : all = bandIdsOf s := by
    rw [listBandIds_sound (w := w1) (all := all) (by rw [hall]), hst, bandIdsOf_lock]
  have := referencedBlocks_heads strict _ w3 refs (by rw [hrefs]) b (by rw [hall']; exact hb)
  rw [hst3, hst] at this
  simp only [headReadable, get?_lock _ _ (show Key.bandHead b ≠ .gcLock by simp)] at this ⊢
  exact this

/-- What is NOT collected, exactly: a block FILE of the final store that no remaining band names is
zero-length, or has a name shorter than three characters (both invisible to `list_blocks`). -/
theorem remaining_garbage_is_invisible (s : Store) (D : List Nat) (o : DeleteOpts) (ok : DelArchOK s D)
    (hdirs : DirsOk s) (hfree : s.get? .gcLock = none) (hnew : newestComplete s) (hdry : o.dryRun = false)
    (st : DeleteStats) (hok : ((deleteBands true D o).run (World.clean s)).1 = .ok st) :
    let s' := ((deleteBands true D o).run (World.clean s)).2.store
    ∀ h v, s'.get? (.block h) = some v → v.isDir = false → ¬ referencedBy s' (bandIdsOf s') h →
      v = .empty ∨ h.length < subdirNameChars := by
  intro s' h v hv hd hnr
  have h1 := (delete_no_garbage_left s D o ok hdirs hfree hnew hdry st hok).1 h
  by_cases hlen : subdirNameChars ≤ h.length
  · left
    cases hve : v.isEmptyFile with
    | true => cases v <;> simp [FileVal.isEmptyFile] at hve; rfl
    | false => exact absurd (h1 ⟨v, hv, hd, hve⟩ hlen) hnr
  · right; omega

/-- **`dry_run_changes_nothing`, every world.**  Either scan, any `D`, any options with `dry_run`
set, ANY world (injected faults, crash point, dead, `CreateNew` honoured or not): after the run,
however it ended, every key other than `GC_LOCK` holds what it held before; and every operation the
run recorded is non-mutating or addresses `GC_LOCK` (never a `removeDirAll`). -/
theorem dry_run_changes_nothing (strict : Bool) (D : List Nat) (o : DeleteOpts) (hdry : o.dryRun = true)
    (w : World) :
    (∀ k, k ≠ .gcLock → ((deleteBands strict D o).run w).2.store.get? k = w.store.get? k) ∧
    ∃ new, ((deleteBands strict D o).run w).2.trace = new ++ w.trace ∧
      ∀ ev ∈ new, ev.op.isMutating = false ∨ (ev.op.key = .gcLock ∧ ∀ k, ev.op ≠ .removeDirAll k) := by
  have hfp := deleteBands_dry_fp strict D o hdry
  refine ⟨(touchesLock_of_fp hfp).frame w, ?_⟩
  obtain ⟨new, hnew, hP⟩ := Prog.run_trace_ops hfp w
  exact ⟨new, hnew, fun ev hev => (hP ev hev).lockOnly⟩

/-- **`dry_run_predicts_real`.**  On the same archive, the count a dry run reports is the
`unreferenced_block_count` AND the `deleted_block_count` of the real run (when the real run succeeds:
`D` repetition-free with every id present); the dry run reports no deleted band and no error. -/
theorem dry_run_predicts_real (s : Store) (D : List Nat) (od o : DeleteOpts) (ok : DelArchOK s D)
    (hfree : s.get? .gcLock = none) (hnew : newestComplete s) (hd : od.dryRun = true) (hr : o.dryRun = false)
    (hnd : D.Nodup) (hex : ∀ b ∈ D, bandEntry s b = true) :
    ∃ sd sr, ((deleteBands true D od).run (World.clean s)).1 = .ok sd ∧
      ((deleteBands true D o).run (World.clean s)).1 = .ok sr ∧
      sd.unreferencedBlockCount = sr.unreferencedBlockCount ∧
      sd.unreferencedBlockCount = sr.deletedBlockCount ∧
      sr.deletionErrors = 0 ∧ sr.deletedBandCount = D.length ∧
      sd.deletedBandCount = 0 ∧ sd.deletedBlockCount = 0 ∧ sd.deletionErrors = 0 := by
  have h1 := (C05.delete_dry_run s D od ok hfree hnew hd).1
  have h2 := (Prog.run_clean_eval (eval_deleteBands_real true ok hfree hnew o hr hnd hex)).1
  exact ⟨_, _, h1, h2, rfl, rfl, rfl, rfl, rfl, rfl, rfl⟩

/-- **A gc after a successful delete removes nothing.**  After a successful real `delete_bands D`
(hypotheses of `C05.delete_exact`), if the newest REMAINING band is complete, a following
`delete_bands []` (a pure gc, any options, real run) succeeds, reports zero unreferenced blocks, zero
deletions, zero errors, and ends in the very same store (list equality). -/
theorem gc_after_delete_removes_nothing (s : Store) (D : List Nat) (o o' : DeleteOpts) (ok : DelArchOK s D)
    (hdirs : DirsOk s) (hfree : s.get? .gcLock = none) (hnew : newestComplete s) (hdry : o.dryRun = false)
    (hnd : D.Nodup) (hex : ∀ b ∈ D, b ∈ bandIdsOf s) (hdry' : o'.dryRun = false) :
    let s1 := ((deleteBands true D o).run (World.clean s)).2.store
    newestComplete s1 →
    ((deleteBands true [] o').run (World.clean s1)).1 =
        .ok { unreferencedBlockCount := 0, deletedBandCount := 0, deletedBlockCount := 0, deletionErrors := 0 } ∧
      ((deleteBands true [] o').run (World.clean s1)).2.store = s1 := by
  intro s1 hnew1
  have hs1 : s1 = deleted s D := (C05.delete_exact_store s D o ok hfree hnew hdry hnd hex).2.1
  obtain ⟨ok1, hfree1, hu⟩ := hs1 ▸ deleted_ready ok hdirs hfree
  obtain ⟨h1, h2, _⟩ := C05.delete_exact_store s1 [] o' ok1 hfree1 hnew1 hdry' List.nodup_nil (fun _ h => nomatch h)
  refine ⟨?_, ?_⟩
  · rw [h1, realStats, hu]; rfl
  · rw [h2, deleted_nil_of_no_garbage hu]

/-- **`gc_idempotent`.**  Running `delete_bands []` twice (clean world, `DelArchOK s []`, `DirsOk s`,
newest band complete, no lock, real runs): the second run succeeds, finds no unreferenced block,
deletes nothing and leaves the store the first run produced, as the same list. -/
theorem gc_idempotent (s : Store) (o o' : DeleteOpts) (ok : DelArchOK s []) (hdirs : DirsOk s)
    (hfree : s.get? .gcLock = none) (hnew : newestComplete s) (hdry : o.dryRun = false)
    (hdry' : o'.dryRun = false) :
    let s1 := ((deleteBands true [] o).run (World.clean s)).2.store
    ((deleteBands true [] o').run (World.clean s1)).1 =
        .ok { unreferencedBlockCount := 0, deletedBandCount := 0, deletedBlockCount := 0, deletionErrors := 0 } ∧
      ((deleteBands true [] o').run (World.clean s1)).2.store = s1 := by
  intro s1
  have hs1 : s1 = deleted s [] :=
    (C05.delete_exact_store s [] o ok hfree hnew hdry List.nodup_nil (fun _ h => nomatch h)).2.1
  exact gc_after_delete_removes_nothing s [] o o' ok hdirs hfree hnew hdry List.nodup_nil
    (fun _ h => nomatch h) hdry' (show newestComplete s1 from hs1 ▸ newestComplete_deleted_nil hnew)

/-- Also after the second run a DRY run agrees: nothing to collect. -/
theorem gc_then_dry_run_reports_zero (s : Store) (o o' : DeleteOpts) (ok : DelArchOK s []) (hdirs : DirsOk s)
    (hfree : s.get? .gcLock = none) (hnew : newestComplete s) (hdry : o.dryRun = false)
    (hdry' : o'.dryRun = true) :
    let s1 := ((deleteBands true [] o).run (World.clean s)).2.store
    ((deleteBands true [] o').run (World.clean s1)).1 = .ok {} ∧
      ((deleteBands true [] o').run (World.clean s1)).2.store = s1 := by
  intro s1
  have hs1 : s1 = deleted s [] :=
    (C05.delete_exact_store s [] o ok hfree hnew hdry List.nodup_nil (fun _ h => nomatch h)).2.1
  obtain ⟨ok1, hfree1, hu⟩ := hs1 ▸ deleted_ready ok hdirs hfree
  have hnew1 : newestComplete s1 := hs1 ▸ newestComplete_deleted_nil hnew
  obtain ⟨h1, h2, _⟩ := C05.delete_dry_run s1 [] o' ok1 hfree1 hnew1 hdry'
  exact ⟨by rw [h1, hu]; rfl, h2⟩

/-! ### Non-vacuity and witnesses -/

section examples
open C05

/-- `delete_outcome` / `delete_exact_bands` / `delete_no_garbage_left` apply to the example archive
with `D = [0]`, and the run does return `Ok`. -/
example : DelArchOK exStore [0] ∧ DirsOk exStore ∧ exStore.get? .gcLock = none ∧ newestComplete exStore ∧
    ∃ st, ((deleteBands true [0] {}).run (World.clean exStore)).1 = .ok st :=
  ⟨ex_archOK0, ex_dirsOk, ex_lockFree, ex_newest,
    (delete_succeeds_iff exStore [0] {} ex_archOK0 ex_lockFree ex_newest rfl).2
      ⟨by decide, by decide⟩⟩

/-- `delete_ok_kept_heads_readable` on the example: the run returns `Ok`, so version 1 has a head. -/
example : headReadable exStore 1 = true := by
  obtain ⟨st, hst⟩ := (delete_succeeds_iff exStore [0] {} ex_archOK0 ex_lockFree ex_newest rfl).2
    ⟨by decide, by decide⟩
  exact delete_ok_kept_heads_readable true exStore [0] {} (by decide) ex_lockFree ex_newest st hst 1
    (by rw [ex_kept0]; simp)

/-- A repeated id: `D = [0, 0]` removes version 0, then fails with `BandNotFound 0`; version 1 and
all three blocks (the garbage block too) are still there. -/
example : ((deleteBands true [0, 0] {}).run (World.clean exStore)).1 = .err (.bandNotFound 0) ∧
    bandIdsOf ((deleteBands true [0, 0] {}).run (World.clean exStore)).2.store = [1] ∧
    ((deleteBands true [0, 0] {}).run (World.clean exStore)).2.store.get? (.block hG) =
      some (.blockData [9]) := by
  have h := C05.delete_missing_band exStore [0] [] 0 {} (ex_archOK _) ex_lockFree ex_newest rfl
    (by decide) (by rw [ex_bands]; decide) (.inr (by decide))
  simp only [List.cons_append, List.nil_append] at h
  refine ⟨h.1, ?_, ?_⟩
  · rw [h.2, bandIdsOf_filter (fun k => !underAny [0] k), ex_bands]; decide
  · rw [h.2]; decide

/-- An archive with a zero-length block file `d/xxx/xxx9` and a block file with the two-character
name `zz` (in `d/zz/`), neither referenced by anything. -/
def junkStore : Store :=
  exStore ++ [(.blockDir [120, 120, 120], .dir), (.block [120, 120, 120, 57], .empty),
              (.blockDir [122, 122], .dir), (.block [122, 122], .blockData [7])]

theorem junk_bands : bandIdsOf junkStore = [0, 1] := by
  show sortNat [0, 1] = [0, 1]
  exact sortNat_of_sorted (by decide)

theorem junk_hunks (b : Nat) (hb : b = 0 ∨ b = 1) : hunksListed junkStore b = [0] := by
  rcases hb with rfl | rfl <;> decide +kernel

theorem junk_archOK : DelArchOK junkStore [] := by
  refine .of_readable (by decide +kernel) (by decide) (by decide) ?_ []
  rw [junk_bands]
  intro b hb
  have hb' : b = 0 ∨ b = 1 := by simpa using hb
  refine ⟨?_, ?_, ?_⟩
  · rcases hb' with rfl | rfl <;> decide +kernel
  · rcases hb' with rfl | rfl <;> decide +kernel
  · rw [junk_hunks b hb']
    rcases hb' with rfl | rfl <;> decide +kernel

theorem junk_newest : newestComplete junkStore :=
  newestComplete_of_max (b := 1) (by rw [junk_bands]; rfl) (by decide)

theorem junk_refs : refsOf junkStore [0, 1] = [hA, hB] := by
  simp only [refsOf, bandRefHashes, junk_hunks 0 (.inl rfl), junk_hunks 1 (.inr rfl)]
  decide

/-- The gc finds only the garbage block: the zero-length file and the short name are not listed. -/
theorem junk_unref : unrefOf junkStore [] = [hG] := by
  have h1 : blockSubdirsOf junkStore = [[97, 97, 97], [98, 98, 98], [99, 99, 99], [120, 120, 120]] := by
    show List.mergeSort [[97, 97, 97], [98, 98, 98], [99, 99, 99], [120, 120, 120]] _ = _
    exact List.mergeSort_of_pairwise (by decide)
  have h2 : blockNamesOf junkStore = [hA, hB, hG] := by rw [blockNamesOf, h1]; decide
  rw [unrefOf, keptOf_nil, junk_bands, junk_refs, h2]
  exact List.mergeSort_singleton _

/-- **`garbage_that_remains`: the literal "no unreferenced block remains" is FALSE for block files
`list_blocks` does not see.**  On `junkStore` a successful gc leaves both the zero-length block file
and the short-named block file in place, although no band names them (the garbage block `ccc3` is
collected).  (In the code: `list_blocks` warns about empty block files and skips them, and only
looks into three-character subdirectories.) -/
theorem garbage_that_remains :
    let s' := ((deleteBands true [] {}).run (World.clean junkStore)).2.store
    (∃ st, ((deleteBands true [] {}).run (World.clean junkStore)).1 = .ok st) ∧
    s'.get? (.block [120, 120, 120, 57]) = some .empty ∧
    s'.get? (.block [122, 122]) = some (.blockData [7]) ∧
    s'.get? (.block hG) = none ∧
    ¬ referencedBy s' (bandIdsOf s') [120, 120, 120, 57] ∧ ¬ referencedBy s' (bandIdsOf s') [122, 122] := by
  intro s'
  obtain ⟨h1, h2, _⟩ := C05.delete_exact_store junkStore [] {} junk_archOK (by decide) junk_newest rfl
    List.nodup_nil (fun _ h => nomatch h)
  have hs' : s' = deleted junkStore [] := h2
  have hnr : ∀ h, h ∉ [hA, hB] → ¬ referencedBy s' (bandIdsOf s') h := by
    intro h hh
    have hd : DirsOk junkStore := by decide +kernel
    rwa [hs', referencedBy_deleted, keptOf_nil, junk_bands, ← mem_refsOf_iff fun b _ => hd.hunkDirsOk b,
      junk_refs]
  have hget : ∀ h, s'.get? (.block h) = if h ∈ [hG] then none else junkStore.get? (.block h) := by
    intro h; rw [hs', get?_deleted_block, junk_unref]
  exact ⟨⟨_, h1⟩, (hget _).trans (by decide), (hget _).trans (by decide), (hget _).trans (by decide),
    hnr _ (by decide), hnr _ (by decide)⟩

/-- `gc_idempotent` applies to `junkStore` (hypotheses satisfiable). -/
example : DelArchOK junkStore [] ∧ DirsOk junkStore ∧ junkStore.get? .gcLock = none ∧ newestComplete junkStore :=
  ⟨junk_archOK, by decide +kernel, by decide, junk_newest⟩

/-- The side condition of `gc_after_delete_removes_nothing` is needed: bands 0 (complete),
1 (no tail), 2 (complete); after deleting `[2]` the newest remaining band is incomplete. -/
def gapStore : Store :=
  [ (.root, .dir), (.blockRoot, .dir),
    (.bandDir 0, .dir), (.bandHead 0, .head .ok []), (.indexDir 0, .dir), (.bandTail 0, .tail (some 0)),
    (.bandDir 1, .dir), (.bandHead 1, .head .ok []), (.indexDir 1, .dir),
    (.bandDir 2, .dir), (.bandHead 2, .head .ok []), (.indexDir 2, .dir), (.bandTail 2, .tail (some 0)) ]

theorem gap_bands : bandIdsOf gapStore = [0, 1, 2] := by
  show sortNat [0, 1, 2] = [0, 1, 2]
  exact sortNat_of_sorted (by decide)

/-- **Deleting the newest version can make the archive refuse every later delete/gc**: on
`gapStore`, `delete_bands [2]` succeeds; the following gc fails with `DeleteWithIncompleteBackup 1`
and changes nothing. -/
theorem gc_after_deleting_newest_can_refuse :
    let s1 := ((deleteBands true [2] {}).run (World.clean gapStore)).2.store
    (∃ st, ((deleteBands true [2] {}).run (World.clean gapStore)).1 = .ok st) ∧
    ((deleteBands true [] {}).run (World.clean s1)).1 = .err (.deleteWithIncompleteBackup 1) ∧
    ((deleteBands true [] {}).run (World.clean s1)).2.store = s1 := by
  intro s1
  have hnew : newestComplete gapStore := newestComplete_of_max (b := 2) (by rw [gap_bands]; rfl) (by decide)
  have ok : DelArchOK gapStore [2] := by
    refine .of_readable (by decide) (by decide) (by decide) ?_ _
    rw [gap_bands]
    intro b hb
    have hb' : b = 0 ∨ b = 1 ∨ b = 2 := by simpa using hb
    rcases hb' with rfl | rfl | rfl <;> exact ⟨by decide, by decide, by decide +kernel⟩
  obtain ⟨h1, h2, _⟩ := C05.delete_exact_store gapStore [2] {} ok (by decide) hnew rfl (by decide)
    (by rw [gap_bands]; decide)
  have hs1 : s1 = deleted gapStore [2] := h2
  have hb1 : bandIdsOf s1 = [0, 1] := by
    rw [hs1, bandIdsOf_deleted, keptOf, gap_bands]; decide
  have hroot : s1.get? .root = some .dir := by
    rw [hs1, other_unchanged gapStore (underAny_of_bandOf_none _ rfl) (by intro h; simp)]; decide
  have hc : isComplete s1 1 = false := by
    simp only [isComplete]
    rw [hs1, kept_band_unchanged gapStore (D := [2]) (b := 1) (by decide) (isUnder_bandDir_iff.2 rfl)]
    decide
  have hm : maxNat? (bandIdsOf s1) = some 1 := by rw [hb1]; decide
  refine ⟨⟨_, h1⟩, C05.delete_refuses_incomplete true s1 [] {} hroot hm hc, ?_⟩
  have := C05.delete_refuses true s1 [] {} hroot (.inl fun hn => by
    have := hn 1 hm; rw [hc] at this; cases this)
  obtain ⟨e, _, _, h3⟩ := this
  exact h3 rfl

/-- **A killed dry run can leave `GC_LOCK` behind** (the one key `dry_run_changes_nothing` exempts):
on an archive directory with nothing in it, a dry-run gc killed right after writing the lock (before
mutating micro-step 2: the lock write is micro-steps 0 and 1, the release would be 2) leaves the lock
file; every later delete then refuses until `--break-lock`. -/
theorem dry_run_killed_leaves_lock :
    ((deleteBands true [] { dryRun := true }).run
        { store := [(.root, .dir), (.blockRoot, .dir)], crashAt := some 2 }).2.store.get? .gcLock = some .lock := by
  decide +kernel

end examples

end Conserve.C05g
