import ConserveModel.Proofs.JsonSound
import ConserveModel.Proofs.JsonBand
/-
C13 j — the JSON layer of "everything written conforms to the documented format".

doc/format.md: an index hunk is the Snappy compression of a JSON array of entry objects.  Elsewhere the
model treats a hunk as an abstract `List IndexEntry`; `ConserveModel/Json.lean` models its bytes:
`renderHunk` is what `serde_json::to_vec(&Vec<IndexEntry>)` writes (src/index/write.rs) and `parseHunk`
what `serde_json::from_slice::<Vec<IndexEntry>>` accepts (src/index/mod.rs), both followed from the
source of serde_json 1.0.149 and the derived impls.  `harness/src/c13json.rs` ties both to the real
code (real archives byte for byte; variant and malformed inputs accept/reject and value).

Proved here for ALL entry lists: the round trip holds exactly for the lists the Rust types can hold
(`parse_render_hunk_iff`, with a concrete failure `…_refuted_*` beside it), hence rendering is injective;
the string and the decimal layer on their own (the raw string layer needs NO hypothesis, the UTF-8 check
of `parse_str` is exactly the extra condition); on ARBITRARY bytes what is accepted is sound and
canonicalises idempotently, and only whitespace may trail; the same round trip for the band head and tail
(`parseHead_render`, `parseTail_render` in Proofs/JsonBand.lean).
-/
namespace Conserve.C13j
open Conserve Conserve.Json

/-- **String escaping round trip, raw layer** (`format_escaped_str` against `parse_str_raw`): for
EVERY list of naturals `s` (no bound on the "bytes", no UTF-8 requirement) and every continuation
`rest`, parsing the rendered string gives back `s` and leaves `rest`. -/
theorem string_round_trip_raw (s rest : Str) :
    parseStringRaw (renderString s ++ rest) = some (s, rest) := by
  have hlen := renderChars_length s
  simp only [parseStringRaw, renderString, List.cons_append, if_true]
  exact parseCharsF_render s rest _ (by simp; omega)

/-- **String round trip as `parse_str` reads it**: the decoded bytes must additionally be valid UTF-8
(`str::from_utf8`), which a Rust `String` always is, and that is exactly what is needed. -/
theorem string_round_trip_iff (s rest : Str) :
    parseString (renderString s ++ rest) = some (s, rest) ↔ validUtf8 s = true := by
  simp only [parseString, renderString, List.cons_append, if_true]
  exact ⟨parseStrBody_valid, fun hs => parseStrBody_render s rest hs _ (by simp)⟩

theorem string_round_trip (s rest : Str) (hs : validUtf8 s = true) :
    parseString (renderString s ++ rest) = some (s, rest) := (string_round_trip_iff s rest).2 hs

/-- Without valid UTF-8 the real reader (and the model) refuses the string the writer would produce:
the single byte ff. -/
theorem string_round_trip_refuted : parseString (renderString [255]) = none := by decide +kernel

example : renderString [34, 92, 10, 1, 31, 127, 233] = [34, 92, 34, 92, 92, 92, 110, 92, 117, 48, 48, 48, 49,
    92, 117, 48, 48, 49, 102, 127, 233, 34] := by decide +kernel
example : parseStringRaw (renderString [34, 92, 10, 1, 31, 127, 233, 300] ++ [44]) =
    some ([34, 92, 10, 1, 31, 127, 233, 300], [44]) := string_round_trip_raw _ _
/-- Escapes the writer never produces are read too: `"é😀\/"` is `é😀/`. -/
example : parseString [34, 92, 117, 48, 48, 101, 57, 92, 117, 100, 56, 51, 100, 92, 117, 100, 101, 48, 48, 92, 47, 34] =
    some ([195, 169, 240, 159, 152, 128, 47], []) := by decide +kernel

/-- **Decimal round trip, unsigned** (`itoa` against `deserialize_u64`/`u32`): a number below the
bound of its type is read back, whatever follows it, as long as that is not a further digit or the
start of a fraction or exponent (`NumEnd`; in compact JSON a `,`, `}` or `]` follows). -/
theorem nat_round_trip (bound n : Nat) (hn : n < bound) (rest : Str) (hrest : NumEnd rest) :
    parseUnsigned bound (renderNat n ++ rest) = some (n, rest) :=
  parses_unsigned hn _ rest hrest (Nat.le_refl _)

/-- **Decimal round trip, signed** (`deserialize_i64`): every `i64`. -/
theorem int_round_trip (i : Int) (h1 : -9223372036854775808 ≤ i) (h2 : i < 9223372036854775808)
    (rest : Str) (hrest : NumEnd rest) :
    parseI64 (renderInt i ++ rest) = some (i, rest) :=
  parses_i64 h1 h2 _ rest hrest (Nat.le_refl _)

/-- Outside the range of the type the number is refused … -/
theorem int_round_trip_refuted : parseI64 (renderInt 9223372036854775808 ++ [44]) = none := by decide +kernel
theorem nat_round_trip_refuted : parseUnsigned 4294967296 (renderNat 4294967296 ++ [44]) = none := by decide +kernel
/-- … and so is an integer followed by a fraction (`5.0` is a float for serde_json). -/
theorem nat_round_trip_refuted_rest : parseUnsigned 4294967296 (renderNat 5 ++ [46, 48]) = none := by decide +kernel

example : NumEnd [44, 1] := (Delim.cons44 _).numEnd
example : NumEnd [] := NumEnd.nil
example : renderInt (-1700000000) = [45, 49, 55, 48, 48, 48, 48, 48, 48, 48, 48] := by decide +kernel
example : parseI64 (renderInt (-9223372036854775808) ++ [125]) = some (-9223372036854775808, [125]) :=
  int_round_trip _ (by decide) (by decide) _ (Delim.cons125 _).numEnd

theorem addr_round_trip (a : Addr) (ha : wfAddr a = true) (rest : Str) :
    parseAddr (renderAddr a ++ rest).length (renderAddr a ++ rest) = some (a, rest) :=
  parses_addr ha _ rest trivial (Nat.le_refl _)

theorem entry_round_trip (e : IndexEntry) (he : wfEntry e = true) (rest : Str) :
    parseEntry (renderEntry e ++ rest).length (renderEntry e ++ rest) = some (e, rest) :=
  parses_entry he _ rest trivial (Nat.le_refl _)

/-- **No trailing garbage**: after the canonical bytes of a hunk, the reader accepts exactly
whitespace (`Deserializer::end`). -/
theorem trailing_bytes (es : List IndexEntry) (hes : WfEntries es) (g : Str) :
    parseHunk (renderHunk es ++ g) = if (skipWs g).isEmpty then some es else none := by
  have h := parses_array (fun e he => readsElem_entry (hes e he)) (renderHunk es ++ g).length g trivial
    (Nat.le_refl _)
  simp only [parseHunk, renderHunk] at h ⊢
  rw [h]

/-- **Round trip of an index hunk.**  For every list of entries that the Rust type
`Vec<IndexEntry>` can hold, the model of `serde_json::from_slice` applied to the model of
`serde_json::to_vec` returns exactly that list: nothing is lost, altered, merged or reordered by
the JSON layer — whatever the paths, names, targets (quotes, backslashes, control bytes, any
UTF-8), times (negative, nanoseconds), modes, owners (absent, half-present) and address lists are. -/
theorem parse_render_hunk (es : List IndexEntry) (hes : WfEntries es) :
    parseHunk (renderHunk es) = some es := by
  simpa [skipWs] using trailing_bytes es hes []

theorem parseHunk_rest (b : Str) (es : List IndexEntry) (h : parseHunk b = some es) :
    ∃ r, parseArray parseEntry b.length b = some (es, r) ∧ skipWs r = [] := by
  unfold parseHunk at h
  split at h
  · cases h
  · rename_i es' r hp
    split at h
    · rename_i hempty
      cases h
      exact ⟨r, hp, by simpa using hempty⟩
    · cases h

/-- **Soundness of the reader on arbitrary bytes**: whatever `parseHunk` accepts consists of values
the Rust types can hold (it never invents an out-of-range number, an ill-formed string or a block
name that is not 128 lower-case hex digits). -/
theorem parseHunk_sound (b : Str) (es : List IndexEntry) (h : parseHunk b = some es) : WfEntries es := by
  obtain ⟨r, hp, _⟩ := parseHunk_rest b es h
  exact parseArray_all parseEntry (fun e => wfEntry e = true) (fun _ _ _ _ h => parseEntry_wf h) hp

/-- The hypotheses of `parse_render_hunk` are exactly right: the round trip holds for a list iff
every entry is a value of the Rust type. -/
theorem parse_render_hunk_iff (es : List IndexEntry) :
    parseHunk (renderHunk es) = some es ↔ WfEntries es :=
  ⟨parseHunk_sound _ _, parse_render_hunk es⟩

theorem injective_of_parse_render {α : Type} {parse : Str → Option α} {render : α → Str} {P : α → Prop}
    (h : ∀ x, P x → parse (render x) = some x) {a b : α} (ha : P a) (hb : P b)
    (hab : render a = render b) : a = b := by
  have := h a ha
  rw [hab, h b hb] at this
  exact (Option.some.inj this).symm

/-- **Rendering is injective**: two different entry lists never render to the same bytes. -/
theorem render_injective (es₁ es₂ : List IndexEntry) (h₁ : WfEntries es₁) (h₂ : WfEntries es₂)
    (h : renderHunk es₁ = renderHunk es₂) : es₁ = es₂ :=
  injective_of_parse_render parse_render_hunk h₁ h₂ h

/-- **Canonicalisation is idempotent**: if arbitrary bytes `b` are accepted as `es` (members in any
order, whitespace, other escapes, unknown members, …) then the canonical rendering of `es` is accepted
as the same `es`. -/
theorem parse_canonical (b : Str) (es : List IndexEntry) (h : parseHunk b = some es) :
    parseHunk (renderHunk es) = some es :=
  parse_render_hunk es (parseHunk_sound b es h)

theorem render_canonical_fixed (b : Str) (es : List IndexEntry) (h : parseHunk b = some es) :
    (parseHunk (renderHunk es)).map renderHunk = some (renderHunk es) := by
  rw [parse_canonical b es h]; rfl

/-! ### Non-vacuity and what fails without each hypothesis -/

def hashA : Str := List.replicate 64 48 ++ List.replicate 64 102   -- "000…0fff…f"

/-- A file with a quote, a backslash, a control byte and `é` in its name, a pre-1970 time with
nanoseconds, a half-present owner and two addresses. -/
def exFile : IndexEntry :=
  { apath := [47, 34, 92, 1, 195, 169], kind := .file, mtime := -5, mtimeNanos := 999999999, unixMode := some 420,
    user := some [114, 111, 111, 116], group := none,
    addrs := [{ hash := hashA, start := 0, len := 7 }, { hash := hashA, start := 7, len := 18446744073709551615 }],
    target := none }
def exLink : IndexEntry :=
  { apath := [47, 108], kind := .symlink, mtime := 9223372036854775807, mtimeNanos := 0, unixMode := none,
    user := none, group := none, addrs := [], target := some [46, 46, 47, 34, 10] }

set_option maxRecDepth 8192 in
example : WfEntries [exFile, exLink] := by decide +kernel
set_option maxRecDepth 8192 in
example : parseHunk (renderHunk [exFile, exLink]) = some [exFile, exLink] :=
  parse_render_hunk _ (by decide +kernel)
example : parseHunk (renderHunk []) = some [] := parse_render_hunk [] (by decide)
example : renderHunk [exLink] =
    -- [{"apath":"/l","kind":"Symlink","mtime":9223372036854775807,"unix_mode":null,"target":"../\"\n"}]
    [91, 123, 34, 97, 112, 97, 116, 104, 34, 58, 34, 47, 108, 34, 44, 34, 107, 105, 110, 100, 34, 58, 34, 83, 121,
     109, 108, 105, 110, 107, 34, 44, 34, 109, 116, 105, 109, 101, 34, 58, 57, 50, 50, 51, 51, 55, 50, 48, 51, 54,
     56, 53, 52, 55, 55, 53, 56, 48, 55, 44, 34, 117, 110, 105, 120, 95, 109, 111, 100, 101, 34, 58, 110, 117, 108,
     108, 44, 34, 116, 97, 114, 103, 101, 116, 34, 58, 34, 46, 46, 47, 92, 34, 92, 110, 34, 125, 93] := by decide +kernel

/-- Not UTF-8 (a lone byte ff in the path): the writer would produce bytes the reader refuses. -/
theorem parse_render_hunk_refuted_utf8 :
    parseHunk (renderHunk [{ exLink with apath := [47, 255] }]) = none := by decide +kernel
/-- `mtime` beyond `i64`. -/
theorem parse_render_hunk_refuted_mtime :
    parseHunk (renderHunk [{ exLink with mtime := 9223372036854775808 }]) = none := by decide +kernel
/-- `mtime_nanos` beyond `u32`. -/
theorem parse_render_hunk_refuted_nanos :
    parseHunk (renderHunk [{ exLink with mtimeNanos := 4294967296 }]) = none := by decide +kernel
/-- `unix_mode` beyond `u32`. -/
theorem parse_render_hunk_refuted_mode :
    parseHunk (renderHunk [{ exLink with unixMode := some 4294967296 }]) = none := by decide +kernel
/-- `len` beyond `u64`. -/
theorem parse_render_hunk_refuted_len :
    parseHunk (renderHunk [{ exLink with addrs := [{ hash := hashA, start := 0, len := 18446744073709551616 }] }]) = none := by
  decide +kernel
/-- A block name that is not 128 hex digits is refused … -/
theorem parse_render_hunk_refuted_hash_len :
    parseHunk (renderHunk [{ exLink with addrs := [{ hash := [48, 48], start := 0, len := 1 }] }]) = none := by decide +kernel
/-- … and an upper-case one is read as its lower-case form, i.e. not as itself. -/
theorem parse_render_hunk_refuted_hash_case :
    parseHunk (renderHunk [{ exLink with addrs := [{ hash := List.replicate 128 65, start := 0, len := 1 }] }]) =
      some [{ exLink with addrs := [{ hash := List.replicate 128 97, start := 0, len := 1 }] }] := by decide +kernel

/-- Variants the writer never produces are accepted and canonicalised:
` [ {"kind":{"Dir":null}, "x":[1.5,{}], "apath":"/", "mtime_nanos":0} ] `. -/
example : parseHunk [32, 91, 32, 123, 34, 107, 105, 110, 100, 34, 58, 123, 34, 68, 105, 114, 34, 58, 110, 117, 108, 108,
      125, 44, 32, 34, 120, 34, 58, 91, 49, 46, 53, 44, 123, 125, 93, 44, 32, 34, 97, 112, 97, 116, 104, 34, 58, 34, 92,
      117, 48, 48, 50, 102, 34, 44, 32, 34, 109, 116, 105, 109, 101, 95, 110, 97, 110, 111, 115, 34, 58, 48, 125, 32, 93,
      32] =
    some [{ apath := [47], kind := .dir, mtime := 0, mtimeNanos := 0, unixMode := none, user := none, group := none,
            addrs := [], target := none }] := by decide +kernel
/-- Duplicate members, floats in integer positions, `-0`, trailing commas and trailing bytes are refused. -/
example : parseHunk ([91] ++ [123, 34, 97, 112, 97, 116, 104, 34, 58, 34, 47, 34, 44, 34, 97, 112, 97, 116, 104, 34, 58, 34,
    47, 34, 44, 34, 107, 105, 110, 100, 34, 58, 34, 68, 105, 114, 34, 125] ++ [93]) = none := by decide +kernel
example : parseI64 [45, 48, 44] = none := by decide +kernel
example : parseUnsigned 100 [49, 101, 49] = none := by decide +kernel
example : parseHunk [91, 93, 120] = none := by decide +kernel
example : parseHunk [91, 93, 10] = some [] := by decide +kernel

/-- The band head (`BANDHEAD`: `write_json` then `read_json`) and tail (`BANDTAIL`) are read back exactly,
trailing newline included (`parseHead_render`, `parseTail_render`); hence two different heads (tails)
never have the same bytes. -/
theorem parse_render_head (h : HeadJson) (hh : wfHead h = true) : parseHead (renderHead h) = some h :=
  parseHead_render h hh

theorem parse_render_tail (t : TailJson) (ht : wfTail t = true) : parseTail (renderTail t) = some t :=
  parseTail_render t ht

theorem renderHead_injective (h₁ h₂ : HeadJson) (w₁ : wfHead h₁ = true) (w₂ : wfHead h₂ = true)
    (h : renderHead h₁ = renderHead h₂) : h₁ = h₂ :=
  injective_of_parse_render parseHead_render w₁ w₂ h

theorem renderTail_injective (t₁ t₂ : TailJson) (w₁ : wfTail t₁ = true) (w₂ : wfTail t₂ = true)
    (h : renderTail t₁ = renderTail t₂) : t₁ = t₂ :=
  injective_of_parse_render parseTail_render w₁ w₂ h

def exHead : HeadJson := { startTime := 1700000000, bandFormatVersion := some [48, 46, 54, 46, 51], formatFlags := [] }
def exTail : TailJson := { endTime := 1700000001, indexHunkCount := some 3 }

example : wfHead exHead = true ∧ wfTail exTail = true := by decide +kernel
/-- `{"start_time":1700000000,"band_format_version":"0.6.3","format_flags":[]}` + newline. -/
example : renderHead exHead = [123, 34, 115, 116, 97, 114, 116, 95, 116, 105, 109, 101, 34, 58, 49, 55, 48, 48, 48, 48,
    48, 48, 48, 48, 44, 34, 98, 97, 110, 100, 95, 102, 111, 114, 109, 97, 116, 95, 118, 101, 114, 115, 105, 111, 110, 34,
    58, 34, 48, 46, 54, 46, 51, 34, 44, 34, 102, 111, 114, 109, 97, 116, 95, 102, 108, 97, 103, 115, 34, 58, 91, 93, 125,
    10] := by decide +kernel
/-- `{"end_time":1700000001,"index_hunk_count":3}` + newline. -/
example : renderTail exTail = [123, 34, 101, 110, 100, 95, 116, 105, 109, 101, 34, 58, 49, 55, 48, 48, 48, 48, 48, 48,
    48, 49, 44, 34, 105, 110, 100, 101, 120, 95, 104, 117, 110, 107, 95, 99, 111, 117, 110, 116, 34, 58, 51, 125, 10] := by
  decide +kernel
example : parseHead (renderHead { exHead with formatFlags := [[97], [34, 92]] }) =
    some { exHead with formatFlags := [[97], [34, 92]] } := parseHead_render _ (by decide +kernel)
/-- A tail as conserve < 0.6.4 wrote it (no count) is read with `index_hunk_count = None`:
`{"end_time":5}`. -/
example : parseTail [123, 34, 101, 110, 100, 95, 116, 105, 109, 101, 34, 58, 53, 125] =
    some { endTime := 5, indexHunkCount := none } := by decide +kernel
theorem parse_render_tail_refuted :
    parseTail (renderTail { exTail with indexHunkCount := some 18446744073709551616 }) = none := by decide +kernel
theorem parse_render_head_refuted :
    parseHead (renderHead { exHead with bandFormatVersion := some [255] }) = none := by decide +kernel

end Conserve.C13j
