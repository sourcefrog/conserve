import ConserveModel.Proofs.HistRestore
import ConserveModel.Proofs.HistFrame
import ConserveModel.Proofs.HistLatest
import ConserveModel.Proofs.GapBlockRoot
import ConserveModel.Props.C01a
import ConserveModel.Props.C05
import ConserveModel.Props.C13
/-
C02 (run level) — Every completed version keeps restoring to exactly the tree it was made from.

"Across any sequence of operations (backups, interrupted backups, deletes of other versions, gc)
every version that was completed and not deleted keeps restoring to exactly the tree it was made
from, and 'latest complete' selects the newest of them."

This file proves the run-level half that Props/C02.lean left open (`C02.InvStatement`):

1. `restore_congr` — the frame lemma: what `restore(Specified(b))` returns and reports is a function
   of the keys at or under `b`'s directory, of whether `d/` is a directory, and of the content of the
   blocks `b`'s entries name.  Hypotheses: both stores are maps (`NoDupKeys`).  NOTHING else: no tree
   shape, no readable head, no sorted index, no intact blocks — it holds for damaged archives too.
2. `backup_any_world_keeps_restore` — a backup in ANY world (any faults, any crash point, dead or
   alive) that honours `CreateNew` keeps the restore (result and events) of every complete version
   whose blocks are present (`RefsPresent`; the archive a map with `d/` a directory; nothing about `H`,
   the options or the source).  `backup_any_world_keeps_restore_ci`: the same from `CI` and `NoDangling`.
3. `delete_keeps_restore` (= `C05.delete_keeps_restore_Statement`, proved as stated there) and
   `delete_any_world_keeps_restore`: deleting OTHER versions, in any world, keeps it too.
4. `history_keeps_restore`, `history_restores_source`, `latest_complete_spec`,
   `latest_complete_after_history`: induction over histories of `C13.Step`s, each of which leaves a
   kept version's keys and blocks alone (`Kept`, a preorder: restores are compared once, at its ends).
5. `crashed_backup_keeps_latest` — C03's restore half: after a backup killed anywhere, "latest
   complete" restores to the same as before, unless the run got as far as creating the new tail file.
6. `InvStatementGood` (proved: `inv_statement_good`) and `inv_statement_refuted`: the literal
   `C02.InvStatement` is false in the model.
-/
namespace Conserve.C02h
open Conserve Conserve.Exact Conserve.Hist Conserve.Inv Conserve.Conf

variable {H : Str → Str}

/-- The restore the property is about: a given version, the whole tree, nothing excluded, in the
fault-free world on archive `s`. -/
abbrev restoreOf (H : Str → Str) (b : Nat) (s : Store) : Outcome (List RNode) × World :=
  (restore H (.specified b) [slash] (fun _ => false)).run (World.clean s)

/-- Same result (the same nodes with the same contents, or the same error) and same reported events. -/
def SameRestore (H : Str → Str) (b : Nat) (s s' : Store) : Prop :=
  (restoreOf H b s').1 = (restoreOf H b s).1 ∧ (restoreOf H b s').2.events = (restoreOf H b s).2.events

theorem SameRestore.refl (H : Str → Str) (b : Nat) (s : Store) : SameRestore H b s s := ⟨rfl, rfl⟩

theorem SameRestore.trans {b : Nat} {s s' s'' : Store} (h1 : SameRestore H b s s') (h2 : SameRestore H b s' s'') :
    SameRestore H b s s'' := ⟨h2.1.trans h1.1, h2.2.trans h1.2⟩

theorem restoreOf_raw (H : Str → Str) {s : Store} (hn : NoDupKeys s) (b : Nat) :
    (restoreOf H b s).1 = (restoreRaw H s b [slash] (fun _ => false)).1 ∧
      (restoreOf H b s).2.events = (restoreRaw H s b [slash] (fun _ => false)).2 :=
  have h := (restore_raw_runs (H := H) ((uniqueKeys_iff_nodup s).2 hn) b _ _).clean
  ⟨h.1, h.2.2⟩

theorem SameRestore.of_raw {s s' : Store} {b : Nat} (hs : NoDupKeys s) (hs' : NoDupKeys s')
    (h : restoreRaw H s' b [slash] (fun _ => false) = restoreRaw H s b [slash] (fun _ => false)) : SameRestore H b s s' := by
  obtain ⟨h1, h2⟩ := restoreOf_raw H hs b
  obtain ⟨h1', h2'⟩ := restoreOf_raw H hs' b
  exact ⟨by rw [h1', h1, h], by rw [h2', h2, h]⟩

/-- **`restore_congr`.**  Let `s` and `s'` be maps (no path twice — a property of the representation,
true of every reachable store).  If `b` has a tail in `s` and `s'` agrees with `s` on
* every key at or under `b`'s directory (`BandSame`: head, tail, `i/`, `i/DDDDD/`, the hunk files —
  hence, as sets, on the directory listings; the ORDER of the listings may differ),
* whether `d/` is a directory (`list_blocks` fails iff it is not), and
* `blockContent` — present, decompresses, hashes to its name — of every block named by an entry of a
  hunk file of `b`,
then `restore(Specified(b), "/", no exclusions)` gives the same result and reports the same events on
`s'` as on `s`.  No well-formedness of either archive is assumed: `b`'s head may be unreadable, hunks
missing or undecodable, blocks missing or corrupt — then both restores fail / complain alike.
(The archive header and the root listing are not read by a restore of a given version.) -/
theorem restore_congr (H : Str → Str) {s s' : Store} {b : Nat} (hs : NoDupKeys s) (hs' : NoDupKeys s')
    (hc : isComplete s b = true) (hband : BandSame s s' b)
    (hroot : s'.get? .blockRoot = s.get? .blockRoot)
    (hblocks : ∀ n es, hunkAt s b n = some es → ∀ e ∈ es, ∀ a ∈ e.addrs,
      blockContent H s' a.hash = blockContent H s a.hash) :
    SameRestore H b s s' := by
  refine .of_raw hs hs' (restoreRaw_same hs hs' hband (fun hn => by rw [hc] at hn; cases hn) hroot ?_)
  intro e he a ha
  obtain ⟨n, es, hh, hee⟩ := mem_stitchAllP_complete hc he
  exact hblocks n es hh e hee a ha

/-- The same for ANY version id `b`, complete or not: a version without tail is listed by stitching
it with the earlier versions, so the stores must agree on the whole chain `chain s b` (StitchSpec.lean:
`b`, then each nearest earlier version that has a head, up to the first that has a tail) — the keys
under each of its versions' directories and the blocks they name — and no version without a head
file below `b` may have one in `s'`, and (`hlost`, since the repair of `previous_existing_band`, which
reports an id it walks past if the head is gone but index hunk 0 is there) such a version has "lost
its head" in both stores or in neither. -/
theorem restore_congr_chain (H : Str → Str) {s s' : Store} {b : Nat} (hs : NoDupKeys s) (hs' : NoDupKeys s')
    (hsame : ∀ c ∈ chain s b, BandSame s s' c)
    (hnone : ∀ b', b' < b → bandPresent s b' = false → bandPresent s' b' = false)
    (hlost : ∀ b', b' < b → bandPresent s b' = false → headLost s' b' = headLost s b')
    (hroot : s'.get? .blockRoot = s.get? .blockRoot)
    (hblocks : ∀ c ∈ chain s b, ∀ n es, hunkAt s c n = some es → ∀ e ∈ es, ∀ a ∈ e.addrs,
      blockContent H s' a.hash = blockContent H s a.hash) :
    SameRestore H b s s' := by
  refine .of_raw hs hs' (restoreRaw_same hs hs' (hsame b (List.mem_cons_self ..)) ?_ hroot ?_)
  · intro hinc
    refine chainSame_of_chainBelow b (fun c hc => hsame c ?_) hnone hlost
    simp only [chain, hinc]
    exact List.mem_cons_of_mem _ hc
  · intro e he a ha
    obtain ⟨c, hc, n, es, hh, hee⟩ := mem_stitchAllP he
    exact hblocks c hc n es hh e hee a ha

/-- Every block named by an entry of a hunk file of `b` is present and not the zero-length leftover
of a killed write.  (Weaker than `NoDangling`: the block may be corrupt or too short — then the
restore complains, before and after.) -/
def RefsPresent (s : Store) (b : Nat) : Prop :=
  ∀ n es, hunkAt s b n = some es → ∀ e ∈ es, ∀ a ∈ e.addrs,
    ∃ v, s.get? (.block a.hash) = some v ∧ v ≠ .empty

theorem refsPresent_of_noDangling {s : Store} (h : NoDangling H s) (b : Nat) : RefsPresent s b :=
  fun _ _ hh _ he _ ha => let ⟨_, hg, _⟩ := h.block hh he ha; ⟨_, hg, nofun⟩

/-- What the invariant says about version `b`: it has a tail, and the blocks its entries name are present. -/
structure VersionOK (s : Store) (b : Nat) : Prop where
  complete : isComplete s b = true
  refs : RefsPresent s b

/-- `s'` serves a restore of version `b` as `s` does: the keys at or under `b`'s directory and `d/` itself
are untouched, the blocks `b`'s entries name are kept where they are present, a map stays a map.  A
preorder; every step of a history that does not delete `b` stays inside it, and restores are compared
once, at its two ends (`Kept.sameRestore`). -/
structure Kept (s s' : Store) (b : Nat) : Prop where
  keys : BandSame s s' b
  blocks : ∀ n es, hunkAt s b n = some es → ∀ e ∈ es, ∀ a ∈ e.addrs, ∀ v,
    s.get? (.block a.hash) = some v → v ≠ .empty → s'.get? (.block a.hash) = some v
  root : s'.get? .blockRoot = s.get? .blockRoot
  nodup : NoDupKeys s → NoDupKeys s'

theorem Kept.refl (s : Store) (b : Nat) : Kept s s b :=
  ⟨BandSame.refl s b, fun _ _ _ _ _ _ _ _ h _ => h, rfl, id⟩

theorem Kept.trans {s s' s'' : Store} {b : Nat} (h1 : Kept s s' b) (h2 : Kept s' s'' b) : Kept s s'' b :=
  ⟨h1.keys.trans h2.keys, fun n es hh e he a ha v hv hne =>
    h2.blocks n es (by simpa only [hunkAt, h1.keys.hunk n] using hh) e he a ha v
      (h1.blocks n es hh e he a ha v hv hne) hne,
    h2.root.trans h1.root, h2.nodup ∘ h1.nodup⟩

theorem Kept.versionOK {s s' : Store} {b : Nat} (h : Kept s s' b) (hv : VersionOK s b) : VersionOK s' b := by
  refine ⟨by rw [isComplete_same h.keys]; exact hv.complete, ?_⟩
  intro n es hh e he a ha
  have hh0 : hunkAt s b n = some es := by simpa only [hunkAt, h.keys.hunk n] using hh
  obtain ⟨v, hv1, hv2⟩ := hv.refs n es hh0 e he a ha
  exact ⟨v, h.blocks n es hh0 e he a ha v hv1 hv2, hv2⟩

theorem Kept.sameRestore (H : Str → Str) {s s' : Store} {b : Nat} (h : Kept s s' b) (hn : NoDupKeys s)
    (hv : VersionOK s b) : SameRestore H b s s' := by
  refine restore_congr H hn (h.nodup hn) hv.complete h.keys h.root fun n es hh e he a ha => ?_
  obtain ⟨v, hv1, hne⟩ := hv.refs n es hh e he a ha
  simp only [blockContent, h.blocks n es hh e he a ha v hv1 hne, hv1]

/-- A backup, in any world that honours `CreateNew`, keeps every version that has a directory: the keys
under it and `d/` are untouched in every world, and `CreateNew` keeps existing blocks. -/
theorem backup_kept (H : Str → Str) (o : BackupOpts) (src : List SrcEntry) (w : World) (b : Nat)
    (he : w.enforceCreateNew = true) (hdir : w.store.get? (.bandDir b) = some .dir) :
    Kept w.store ((backup H o src).run w).2.store b :=
  ⟨backup_bandSame H o src w hdir, fun _ _ _ _ _ _ _ _ hv hne =>
    (Prog.run_extends (backup_createOnly H o src) w he).keeps hv hne,
    Gaps.backup_keeps_blockRoot H o src w, Prog.run_noDupKeys _ w⟩

/-- **`backup_any_world_keeps_restore`.**  Take ANY world `w` — any list of injected faults (on any
operation, of any kind), any crash point `crashAt := some j` (a write is two micro-steps), already
dead or not — that honours `CreateNew`, any options, any source listing.  If the archive `w.store`
is a map in which `d/` is a directory, and version `b` has a directory and a tail and its blocks are
present, then after
`backup` ran in `w` (however it ended: success, error, panic, killed at micro-step `j`) restoring `b`
gives the same result and the same events as before.  This is `C01a.later_backup_keeps_restore`
without "fault-free", without `ArchiveGood`, `SrcGood`, the injectivity of `H` or any condition on the
options.  (The keys under `b`'s directory are untouched in every world — `Hist.backup_bandSame`, which
does not even need `CreateNew`; `CreateNew` is what keeps existing blocks from being overwritten.
`hroot` is not needed: a backup leaves `d/` itself alone in every world, `Gaps.backup_keeps_blockRoot`;
`Gaps.backup_any_world_keeps_restore'` is the statement without it.) -/
theorem backup_any_world_keeps_restore (H : Str → Str) (o : BackupOpts) (src : List SrcEntry) (w : World)
    (b : Nat) (he : w.enforceCreateNew = true) (hn : NoDupKeys w.store)
    (hroot : w.store.get? .blockRoot = some .dir)
    (hdir : w.store.get? (.bandDir b) = some .dir) (hc : isComplete w.store b = true)
    (hrefs : RefsPresent w.store b) :
    SameRestore H b w.store ((backup H o src).run w).2.store :=
  (backup_kept H o src w b he hdir).sameRestore H hn ⟨hc, hrefs⟩

theorem ci_blockRoot {s : Store} (hci : CI H s) : s.get? .blockRoot = some .dir :=
  ((conforms_iff H).1 hci.conf).2.2.1

theorem ci_root {s : Store} (hci : CI H s) : s.get? .root = some .dir :=
  ((conforms_iff H).1 hci.conf).2.1

theorem bandDir_of_child {s : Store} (hd : DirsOk s) {k : Key} {v : FileVal} {b : Nat}
    (hg : s.get? k = some v) (hp : k.parent = some (.bandDir b)) : s.get? (.bandDir b) = some .dir := by
  have := hd.parent_of_get? hg
  simpa [Store.parentOk, hp] using this

theorem dir_of_complete {s : Store} (hd : DirsOk s) {b : Nat} (hc : isComplete s b = true) :
    s.get? (.bandDir b) = some .dir := by
  unfold isComplete at hc
  cases hg : s.get? (.bandTail b) with
  | none => simp [hg] at hc
  | some v => exact bandDir_of_child hd hg rfl

/-- The same from the invariants the other properties maintain: `CI` (C13: conforms, a tree, a map —
kept by every backup and delete in every world) and `NoDangling` (C03/C04: kept by every backup in
every world, C05: by every delete). -/
theorem backup_any_world_keeps_restore_ci (H : Str → Str) (o : BackupOpts) (src : List SrcEntry) (w : World)
    (b : Nat) (he : w.enforceCreateNew = true) (hci : CI H w.store) (hnd : NoDangling H w.store)
    (hc : isComplete w.store b = true) :
    SameRestore H b w.store ((backup H o src).run w).2.store :=
  backup_any_world_keeps_restore H o src w b he hci.nodup (ci_blockRoot hci) (dir_of_complete hci.dirs hc) hc
    (refsPresent_of_noDangling hnd b)

theorem delete_kept (H : Str → Str) (D : List Nat) (o : DeleteOpts) (w : World) (b : Nat)
    (hd : DirsOk w.store) (hb : b ∉ D) : Kept w.store ((deleteBands true D o).run w).2.store b :=
  have hk := C05.delete_safe_any_world H D o w hd
  ⟨hk.keys b hb, fun n es hh e he a ha _ hv _ =>
    (hk.blocks a.hash ⟨b, hb, n, es, hh, e, he, a, ha, rfl⟩).trans hv,
    GapBlockRoot.run_sparesKey (GapBlockRoot.deleteBands_spares_blockRoot true D o) w, Prog.run_noDupKeys _ w⟩

/-- **`delete_any_world_keeps_restore`.**  ANY world (faults on any operation, any crash point — the
delete may be killed midway, between removing versions and collecting blocks, or fail and drop its
lock), `delete_bands D` in strict mode (the code as repaired, C05), any options.  If the archive is a
map and a tree, then every version `b` OUTSIDE `D` that has a tail restores afterwards exactly as it
did before (result and events).  Nothing else is assumed: no readability, no lock state, no
condition on `D`, no `NoDangling`. -/
theorem delete_any_world_keeps_restore (H : Str → Str) (D : List Nat) (o : DeleteOpts) (w : World) (b : Nat)
    (hn : NoDupKeys w.store) (hd : DirsOk w.store) (hb : b ∉ D) (hc : isComplete w.store b = true) :
    SameRestore H b w.store ((deleteBands true D o).run w).2.store := by
  have hk := C05.delete_safe_any_world H D o w hd
  refine restore_congr H hn (Prog.run_noDupKeys _ w hn) hc (hk.keys b hb) ?_ ?_
  · exact C05.delete_frame_any_world true D o w .blockRoot (by simp) (underAny_of_bandOf_none D rfl) (by simp)
  · intro n es hh e hee a ha
    simp only [blockContent, hk.blocks a.hash ⟨b, hb, n, es, hh, e, hee, a, ha, rfl⟩]

theorem c05_chainBelow_eq (s : Store) (b : Nat) : C05.chainBelow s b = chainBelow s b := by
  induction b with
  | zero => rfl
  | succ b ih =>
    have hp : fileAt s (.bandHead b) = bandPresent s b := rfl
    simp only [C05.chainBelow, chainBelow, hp, ih]
    split
    · split <;> rfl
    · rfl

theorem c05_stitchChain_eq (s : Store) (b : Nat) : C05.stitchChain s b = chain s b := by
  simp only [C05.stitchChain, chain, c05_chainBelow_eq]
  split <;> rfl

theorem headLost_absent {s : Store} {b : Nat} (hp : bandPresent s b = false) :
    headLost s b = fileAt s (.hunk b 0) :=
  (headLost_eq s b hp).symm

theorem fileAt_deleted_of_absent {s : Store} (D : List Nat) {k : Key} (h : fileAt s k = false) :
    fileAt (deleted s D) k = false := by
  unfold fileAt
  rw [get?_deleted]
  by_cases hsv : survives s D k = true
  · rw [if_pos hsv]; exact h
  · rw [if_neg hsv]

/-- **`delete_keeps_restore`: `C05.delete_keeps_restore_Statement` holds, exactly as stated there.**
After a successful real delete on a readable archive, restoring a kept version `b` whose whole
stitch chain is kept — `b` itself if it is complete; for an incomplete `b` also the earlier versions
its listing continues into — gives the same result and the same reported errors as before. -/
theorem delete_keeps_restore : C05.delete_keeps_restore_Statement := by
  intro H s D o b ok hdirs hfree hnew hdry hnd hex hchain hlostD
  have hn : NoDupKeys s := (uniqueKeys_iff_nodup s).1 ok.nodup
  have hn' := Prog.run_noDupKeys (deleteBands true D o) (World.clean s) hn
  have hk := C05.delete_safe_any_world H D o (World.clean s) hdirs
  have hroot := C05.delete_frame_any_world true D o (World.clean s) .blockRoot (by simp) (underAny_of_bandOf_none D rfl)
    (by simp)
  have hstore := (C05.delete_exact_store s D o ok hfree hnew hdry hnd hex).2.1
  rw [hstore] at hn' hk hroot
  rw [c05_stitchChain_eq] at hchain
  have hres : SameRestore H b s (deleted s D) := by
    refine restore_congr_chain H hn hn' (fun c hc => hk.keys c (hchain c hc)) ?_ ?_ hroot ?_
    · intro b' _ hno
      exact fileAt_deleted_of_absent D hno
    · intro b' hlt hno
      rw [headLost_absent (fileAt_deleted_of_absent D hno), headLost_absent hno]
      by_cases hbD : b' ∈ D
      · -- a deleted id that had lost its head would stop complaining: `hlostD` excludes it
        have hs0 : fileAt s (.hunk b' 0) = false := hlostD b' hbD hlt hno
        rw [hs0]
        exact fileAt_deleted_of_absent D hs0
      · have : (deleted s D).get? (.hunk b' 0) = s.get? (.hunk b' 0) :=
          hk.keys b' hbD (.hunk b' 0) (isUnder_bandDir_iff.2 rfl)
        simp only [fileAt, this]
    · intro c hc n es hh e hee a ha
      have hb : (deleted s D).get? (.block a.hash) = s.get? (.block a.hash) :=
        hk.blocks a.hash ⟨c, hchain c hc, n, es, hh, e, hee, a, ha, rfl⟩
      simp only [blockContent, hb]
  rw [← hstore] at hres
  exact hres

/-- The step does not delete version `b` (backups never do). -/
def Keeps (b : Nat) : C13.Step → Prop
  | .backup _ _ _ => True
  | .delete D _ _ => b ∉ D

/-- The archive after a history of steps (`C13.Step`: a backup or a strict `delete_bands`, each in a
world of its own — any faults, any crash point). -/
def runSteps (H : Str → Str) : List C13.Step → Store → Store
  | [], s => s
  | st :: rest, s => runSteps H rest (st.run H s)

theorem step_kept (H : Str → Str) (st : C13.Step) (s : Store) (hok : st.OK) (hd : DirsOk s) (b : Nat)
    (hdir : s.get? (.bandDir b) = some .dir) (hk : Keeps b st) : Kept s (st.run H s) b := by
  cases st with
  | backup o src w => exact backup_kept H o src { w with store := s } b hok.2 hdir
  | delete D o w => exact delete_kept H D o { w with store := s } b hd hk

/-- A history of steps none of which deletes `b` stays inside `Kept`, and keeps `CI`. -/
theorem steps_kept (hinj : Function.Injective H) (hlen : HashLen H) (b : Nat) (hist : List C13.Step) :
    ∀ s, C13.HistOK hist → CI H s → s.get? (.bandDir b) = some .dir → (∀ st ∈ hist, Keeps b st) →
      Kept s (runSteps H hist s) b ∧ CI H (runSteps H hist s) := by
  induction hist with
  | nil => intro s _ hci _ _; exact ⟨.refl s b, hci⟩
  | cons st rest ih =>
    intro s hok hci hdir hk
    have hst := hok st (List.mem_cons_self ..)
    have h := step_kept H st s hst hci.dirs b hdir (hk st (List.mem_cons_self ..))
    obtain ⟨i1, i2⟩ := ih (st.run H s) (fun st' h' => hok st' (List.mem_cons_of_mem _ h'))
      (C13.step_ci hinj hlen st s hst hci) (h.keys.bandDir.trans hdir) fun st' h' => hk st' (List.mem_cons_of_mem _ h')
    exact ⟨h.trans i1, i2⟩

/-- **`history_keeps_restore`.**  From any archive satisfying `CI` (C13: conforms to the format, is a
tree and a map), through ANY history of steps — backups (any options, sorted valid sources, any world
that honours `CreateNew`: faults, killed at any micro-step) and strict deletes (any world) — every
version `b` that had a tail and whose blocks were present at the start, and that no delete step names,
restores at the end exactly as it did at the start: the same result (the same nodes with the same
contents, or the same error) and the same reported events.  Also: its keys are untouched, and the
invariants (`CI`, `VersionOK`) hold at the end. -/
theorem history_keeps_restore (H : Str → Str) (hinj : Function.Injective H) (hlen : HashLen H)
    (hist : List C13.Step) :
    ∀ (s : Store), C13.HistOK hist → CI H s → ∀ (b : Nat), VersionOK s b → (∀ st ∈ hist, Keeps b st) →
      SameRestore H b s (runSteps H hist s) ∧ BandSame s (runSteps H hist s) b ∧
        CI H (runSteps H hist s) ∧ VersionOK (runSteps H hist s) b :=
  fun s hok hci b hv hk =>
  have ⟨h, hciN⟩ := steps_kept hinj hlen b hist s hok hci (dir_of_complete hci.dirs hv.complete) hk
  ⟨h.sameRestore H hci.nodup hv, h.keys, hciN, h.versionOK hv⟩

theorem clean_backup_versionOK (H : Str → Str) (hinj : Function.Injective H) (hlen : HashLen H) (s : Store)
    (o : BackupOpts) (src : List SrcEntry) (ho : 0 < o.maxBlockSize) (hsrc : SrcGood src)
    (hs : ArchiveGood H src s) :
    VersionOK ((backup H o src).run (World.clean s)).2.store (newBandOf s) := by
  obtain ⟨_, _, _, h⟩ := backup_summary_run (o := o) hinj hlen ho hsrc hs
  exact ⟨final_complete h.final, refsPresent_of_noDangling h.noDangling _⟩

/-- **`history_restores_source`: a version keeps restoring to its own source until it is deleted.**
Let a fault-free backup of a good source `src` (options `o`) run on a good archive `s`
(`C01a.backup_restore_exact`: it creates version `newBandOf s`), and let ANY history follow — more
backups, of anything, complete or interrupted at any point, with any faults; deletes of other
versions, complete or interrupted.  At the end, restoring that version yields EXACTLY
`src.map (expectedNode o)` — the same paths, kinds, bytes, targets, times, modes and owners — and
reports nothing. -/
theorem history_restores_source (H : Str → Str) (hinj : Function.Injective H) (hlen : HashLen H) (s : Store)
    (o : BackupOpts) (src : List SrcEntry) (ho : 0 < o.maxBlockSize) (hsrc : SrcGood src)
    (hsorted : C13.SrcSorted src) (hs : ArchiveGood H src s) (hci : CI H s)
    (rest : List C13.Step) (hok : C13.HistOK rest) (hkeep : ∀ st ∈ rest, Keeps (newBandOf s) st) :
    let sN := runSteps H rest ((backup H o src).run (World.clean s)).2.store
    (restoreOf H (newBandOf s) sN).1 = .ok (src.map (expectedNode o)) ∧
      (restoreOf H (newBandOf s) sN).2.events = [] := by
  intro sN
  have e1 := C01a.backup_restore_exact H hinj hlen s o src ho hsrc hs
  have hci1 : CI H ((backup H o src).run (World.clean s)).2.store :=
    C13.backup_ci_all_worlds (w := World.clean s) hinj hlen hsorted.weak rfl hci
  have hv := clean_backup_versionOK H hinj hlen s o src ho hsrc hs
  obtain ⟨⟨h1, h2⟩, _, _, _⟩ := history_keeps_restore H hinj hlen rest _ hok hci1 _ hv hkeep
  -- with `restoreOf` folded, matching `.2.events` against C01a's clause makes Lean run the restore
  unfold restoreOf at h1 h2 ⊢
  exact ⟨h1.trans e1.restoreSpecified, h2.trans e1.restoreSpecifiedSilent⟩

/-- **`latest_complete_spec`: what `Archive::last_complete_band` selects.**  On any archive whose
directory exists: it returns `b` iff `b` is the id of a version directory whose head opens
(`headOutcome … = ok`: decodes, supported format version, no unknown flags) and which has a tail, and
every LARGER id of a version directory is skipped — its head file is missing, or zero-length / undecodable,
or it opens but the version has no tail (`Hist.Skipped`).  So the newest complete version is selected,
and directories left by interrupted backups (no head, zero-length head, no tail) do not matter.
(A newer head that decodes but is refused — unsupported version or flags — makes the call FAIL; it is
neither skipped nor selected.) -/
theorem latest_complete_spec (s : Store) (hroot : s.get? .root = some .dir) (b : Nat) :
    (lastCompleteBand.run (World.clean s)).1 = .ok (some b) ↔
      b ∈ bandIdsOf s ∧ headOutcome s b = .ok () ∧ isComplete s b = true ∧
        ∀ x ∈ bandIdsOf s, b < x → Skipped s x := by
  rw [(lastCompleteBand_runsAt s).clean.1]
  exact latestP_eq_some_iff hroot b

theorem latest_selects_of_same {s s' : Store} (hci' : CI H s') {b : Nat} (hsame : BandSame s s' b)
    (hhead : headOutcome s b = .ok ()) (hc : isComplete s b = true)
    (hnewer : ∀ x ∈ bandIdsOf s', b < x → Skipped s' x) :
    (lastCompleteBand.run (World.clean s')).1 = .ok (some b) := by
  have hc' : isComplete s' b = true := (isComplete_same hsame).trans hc
  rw [latest_complete_spec _ (ci_root hci')]
  exact ⟨mem_bandIdsOf_of_get? (dir_of_complete hci'.dirs hc'), (headOutcome_same hsame).trans hhead, hc', hnewer⟩

theorem restore_latest_eq_specified (H : Str → Str) {s : Store} (hn : NoDupKeys s) {b : Nat}
    (hl : (lastCompleteBand.run (World.clean s)).1 = .ok (some b)) :
    ((restore H .latestClosed [slash] (fun _ => false)).run (World.clean s)).1 = (restoreOf H b s).1 ∧
    ((restore H .latestClosed [slash] (fun _ => false)).run (World.clean s)).2.events =
      (restoreOf H b s).2.events := by
  rw [(lastCompleteBand_runsAt s).clean.1] at hl
  have h1 := (restore_latest_raw_runs (H := H) ((uniqueKeys_iff_nodup s).2 hn) [slash] (fun _ => false)).clean
  obtain ⟨h2, h3⟩ := restoreOf_raw H hn b
  have heq : restoreLatestRaw H s [slash] (fun _ => false) = restoreRaw H s b [slash] (fun _ => false) := by
    simp only [restoreLatestRaw, hl]
  exact ⟨by rw [h1.1, h2, heq], by rw [h1.2.2, h3, heq]⟩

/-- **`latest_complete_after_history`.**  After any history (as in `history_keeps_restore`), if version
`b` — complete at the start, never deleted — is at the end the newest version that is not skipped
(every larger id at the end has no head, an undecodable head, or no tail), then
`restore(LatestClosed)` at the end selects `b` and gives exactly what restoring `b` gave at the START:
the same result and the same events. -/
theorem latest_complete_after_history (H : Str → Str) (hinj : Function.Injective H) (hlen : HashLen H)
    (hist : List C13.Step) (s : Store) (hok : C13.HistOK hist) (hci : CI H s) (b : Nat) (hv : VersionOK s b)
    (hhead : headOutcome s b = .ok ()) (hkeep : ∀ st ∈ hist, Keeps b st)
    (hnewer : ∀ x ∈ bandIdsOf (runSteps H hist s), b < x → Skipped (runSteps H hist s) x) :
    (lastCompleteBand.run (World.clean (runSteps H hist s))).1 = .ok (some b) ∧
    ((restore H .latestClosed [slash] (fun _ => false)).run (World.clean (runSteps H hist s))).1 =
      (restoreOf H b s).1 ∧
    ((restore H .latestClosed [slash] (fun _ => false)).run (World.clean (runSteps H hist s))).2.events =
      (restoreOf H b s).2.events := by
  obtain ⟨hsame, hband, hciN, hvN⟩ := history_keeps_restore H hinj hlen hist s hok hci b hv hkeep
  have hsel := latest_selects_of_same hciN hband hhead hv.complete hnewer
  obtain ⟨h1, h2⟩ := restore_latest_eq_specified H hciN.nodup hsel
  exact ⟨hsel, h1.trans hsame.1, h2.trans hsame.2⟩

/-- **`crashed_backup_keeps_latest`.**  Let `restore(LatestClosed)` select version `b` on the archive
`w.store` (a complete version exists and the selection succeeds), `b`'s blocks being present.  Run
`backup` in ANY world on that archive — killed before any micro-step `j`, or with any faults.  Then
EITHER the run got as far as creating the tail file of a NEW version (some id that had no directory
before now has a tail — possibly zero-length: `BANDTAIL` is the last thing a backup writes, so all of
that version's data is in place, and `Band::is_closed` only asks whether the file exists),
OR `restore(LatestClosed)` on the archive the run leaves gives exactly the same result and events as
before: the half-written version — directory without head, zero-length head, hunks without tail — is
skipped.  (The first alternative cannot be dropped: in the model a write is "create the file empty,
then fill it" (`World.exec`), so a backup killed between the two micro-steps of the tail write leaves a
zero-length tail, and `last_complete_band` then selects the new version — whose hunks and blocks are all
written.  That run is described here, not proved.) -/
theorem crashed_backup_keeps_latest (H : Str → Str) (hinj : Function.Injective H) (hlen : HashLen H)
    (o : BackupOpts) (src : List SrcEntry) (hsrc : C13.SrcSortedWeak src) (w : World)
    (he : w.enforceCreateNew = true) (hci : CI H w.store) (b : Nat)
    (hl : (lastCompleteBand.run (World.clean w.store)).1 = .ok (some b)) (hrefs : RefsPresent w.store b) :
    let s' := ((backup H o src).run w).2.store
    (∃ nb, nb ∉ bandIdsOf w.store ∧ isComplete s' nb = true) ∨
    (((restore H .latestClosed [slash] (fun _ => false)).run (World.clean s')).1 =
        ((restore H .latestClosed [slash] (fun _ => false)).run (World.clean w.store)).1 ∧
     ((restore H .latestClosed [slash] (fun _ => false)).run (World.clean s')).2.events =
        ((restore H .latestClosed [slash] (fun _ => false)).run (World.clean w.store)).2.events) := by
  intro s'
  have hci' : CI H s' := C13.backup_ci_all_worlds hinj hlen hsrc he hci
  obtain ⟨_, hhead, hc, hnew⟩ := (latest_complete_spec w.store (ci_root hci) b).1 hl
  by_cases hex : ∃ nb, nb ∉ bandIdsOf w.store ∧ isComplete s' nb = true
  · exact Or.inl hex
  right
  have hdir := dir_of_complete hci.dirs hc
  have hsame : BandSame w.store s' b := backup_bandSame H o src w hdir
  have hsel : (lastCompleteBand.run (World.clean s')).1 = .ok (some b) := by
    refine latest_selects_of_same hci' hsame hhead hc fun x hx hlt => ?_
    by_cases hxs : x ∈ bandIdsOf w.store
    · -- an id that was there before holds what it held
      have hdx : w.store.get? (.bandDir x) = some .dir := Store.get?_of_mem_nodup hci.nodup (mem_bandIdsOf'.1 hxs)
      exact (skipped_same (backup_bandSame H o src w hdx)).2 (hnew x hxs hlt)
    · -- a new id had no head file; what the backup can have left there is skipped
      have hnone : w.store.get? (.bandHead x) = none := by
        cases hg : w.store.get? (.bandHead x) with
        | none => rfl
        | some v => exact absurd (mem_bandIdsOf_of_get? (bandDir_of_child hci.dirs hg rfl)) hxs
      cases hg : s'.get? (.bandHead x) with
      | none => exact .inl (by simp only [headOutcome, hg])
      | some v =>
        rcases backup_head H o src w hg with h | rfl | rfl
        · rw [hnone] at h; cases h
        · exact .inr (.inl (by simp only [headOutcome, hg]))
        · refine .inr (.inr ⟨by simp [headOutcome, hg], ?_⟩)
          cases hcx : isComplete s' x with
          | false => rfl
          | true => exact absurd ⟨x, hxs, hcx⟩ hex
  -- stated with `s'`: matching it against its value under `.2.events` makes Lean run the restore
  have hkeep : SameRestore H b w.store s' :=
    backup_any_world_keeps_restore H o src w b he hci.nodup (ci_blockRoot hci) hdir hc hrefs
  obtain ⟨a1, a2⟩ := restore_latest_eq_specified H hci'.nodup hsel
  obtain ⟨b1, b2⟩ := restore_latest_eq_specified H hci.nodup hl
  exact ⟨a1.trans (hkeep.1.trans b1.symm), a2.trans (hkeep.2.trans b2.symm)⟩

/-- **`C02.InvStatement` with the hypotheses it needs** (same histories: `C07.Attempt` — backups with
any options, sources, fault lists and crash points; result AND events): the archive is a map, `d/` is
a directory, version `b` has a directory and a tail, and the blocks its entries name are present.
Nothing is assumed about `H`, the options, the sources, or the rest of the archive.  (Histories with
deletes: `history_keeps_restore`.) -/
def InvStatementGood (H : Str → Str) : Prop :=
  ∀ (s : Store) (b : Nat) (hist : List C07.Attempt),
    NoDupKeys s → s.get? .blockRoot = some .dir → s.get? (.bandDir b) = some .dir →
    isComplete s b = true → RefsPresent s b →
    SameRestore H b s (C07.runHistory H hist s)

/-- A history of backup attempts stays inside `Kept` for every version that has a directory. -/
theorem attempts_kept (H : Str → Str) (b : Nat) (hist : List C07.Attempt) :
    ∀ s, s.get? (.bandDir b) = some .dir → Kept s (C07.runHistory H hist s) b := by
  induction hist with
  | nil => intro s _; exact .refl s b
  | cons a rest ih =>
    intro s hdir
    have h := backup_kept H a.opts a.src { store := s, faults := a.faults, crashAt := a.crashAt } b rfl hdir
    exact h.trans (ih _ (h.keys.bandDir.trans hdir))

theorem inv_statement_good (H : Str → Str) : InvStatementGood H :=
  fun s b hist hn _ hdir hc hrefs => (attempts_kept H b hist s hdir).sameRestore H hn ⟨hc, hrefs⟩

theorem inv_statement_of_good (H : Str → Str) (s : Store) (b : Nat) (hist : List C07.Attempt)
    (hn : NoDupKeys s) (hroot : s.get? .blockRoot = some .dir) (hdir : s.get? (.bandDir b) = some .dir)
    (hc : isComplete s b = true) (hrefs : RefsPresent s b) :
    (restoreOf H b (C07.runHistory H hist s)).1 = (restoreOf H b s).1 :=
  (inv_statement_good H s b hist hn hroot hdir hc hrefs).1

namespace Refute

/-- A "store" that is not a tree: a tail and a zero-length head of version 0 without its directory. -/
def s0 : Store := [(.root, .dir), (.blockRoot, .dir), (.bandTail 0, .tail none), (.bandHead 0, .empty)]

/-- A backup attempt that fails after `Band::create` (the listing of `d/` fails). -/
def att : C07.Attempt := { opts := {}, src := [], faults := [⟨⟨.listDir, .blockRoot, 0⟩, .other⟩] }

/-- Did the restore return at all? (`Outcome` has no decidable equality; this separates the two runs.) -/
def isOk {α : Type} : Outcome α → Bool
  | .ok _ => true
  | _ => false

end Refute

/-- **`C02.InvStatement` as literally written (no hypothesis on the archive) is FALSE in the model.**
Witness: `Refute.s0`, where version 0 "is complete" (its tail file exists) but has no directory, so
the next backup takes id 0 again and completes the zero-length head: restoring version 0 fails with a
JSON error before the attempt and succeeds (with nothing) after it.  The witness violates `DirsOk`
(a real directory tree cannot look like this); the hypotheses that matter in practice are the ones of
`InvStatementGood`.  A second way the literal statement fails, checked by evaluation only (`#eval`; the
kernel cannot unfold `mergeTrees`): a complete version with a DANGLING reference restores with a
complaint, and differently once a later backup happens to store a block with that name. -/
theorem inv_statement_refuted : ¬ C02.InvStatement id := by
  intro h
  have := h Refute.s0 0 [Refute.att] (by decide)
  have h2 := congrArg Refute.isOk this
  revert h2
  decide +kernel

namespace Example
open C01a.Example

/-- The archive after a first, fault-free backup of `C01a.Example.source` (six entries: files through
the combiner and in several blocks, a directory, a symlink, an empty file). -/
def s1 : Store := ((backup exH opts source).run (World.clean archive)).2.store

theorem archive_good : ArchiveGood exH source archive :=
  ArchiveGood.of_noBands archive_ok archive_noBands archive_noLock source

theorem new0 : newBandOf archive = 0 := C01a.newBandOf_noBands archive_ok archive_noBands

theorem hlen : HashLen exH := fun c => exH_len c

theorem archive_ci : CI exH archive := C13.emptyArchive_ci

theorem source_sorted : C13.SrcSorted source := ⟨source_good.sorted, by decide +kernel⟩

theorem s1_ci : CI exH s1 :=
  C13.backup_ci_all_worlds (w := World.clean archive) exH_inj hlen source_sorted.weak rfl archive_ci

/-- Version 0 of `s1` satisfies the invariant (by the theorems, not by evaluation). -/
theorem s1_version : VersionOK s1 0 := by
  have := clean_backup_versionOK exH exH_inj hlen archive opts source (by decide) source_good archive_good
  rwa [new0] at this

/-- A world that injects a fault into the second write of a hunk and is killed before micro-step 9. -/
def badWorld : World := { store := [], faults := [⟨⟨.write, .hunk 1 1, 0⟩, .other⟩], crashAt := some 9 }

/-- `backup_any_world_keeps_restore` applies to `s1`, version 0, and that world. -/
example : SameRestore exH 0 s1 ((backup exH {} source).run { badWorld with store := s1 }).2.store :=
  backup_any_world_keeps_restore_ci exH {} source { badWorld with store := s1 } 0 rfl s1_ci
    (by
      obtain ⟨_, _, _, h⟩ := backup_summary_run (o := opts) exH_inj exH_len (by decide) source_good archive_good
      exact h.noDangling)
    s1_version.complete

/-- A history: an interrupted backup with a fault, a delete of (non-existent) version 7 in a world with
a read fault, a delete of version 1 — whatever the interrupted backup left of it — killed at its
second mutating step, and a complete backup. -/
def hist : List C13.Step :=
  [ .backup {} source badWorld,
    .delete [7] {} { store := [], faults := [⟨⟨.read, .bandHead 0, 0⟩, .other⟩] },
    .delete [1] { breakLock := true } { store := [], crashAt := some 1 },
    .backup opts source (World.clean []) ]

theorem hist_ok : C13.HistOK hist := by
  simp only [C13.HistOK, hist, List.forall_mem_cons]
  exact ⟨⟨source_sorted, rfl⟩, trivial, trivial, ⟨source_sorted, rfl⟩, fun _ h => nomatch h⟩

theorem hist_keeps0 : ∀ st ∈ hist, Keeps 0 st := by
  simp only [hist, List.forall_mem_cons]
  exact ⟨trivial, (by decide : 0 ∉ [7]), (by decide : 0 ∉ [1]), trivial, fun _ h => nomatch h⟩

/-- `history_keeps_restore` applies: version 0 restores after this history as it did before … -/
example : SameRestore exH 0 s1 (runSteps exH hist s1) :=
  (history_keeps_restore exH exH_inj hlen hist s1 hist_ok s1_ci 0 s1_version hist_keeps0).1

/-- … namely to exactly its source, reporting nothing (`history_restores_source`). -/
example : (restoreOf exH 0 (runSteps exH hist s1)).1 = .ok (source.map (expectedNode opts)) ∧
    (restoreOf exH 0 (runSteps exH hist s1)).2.events = [] := by
  have := history_restores_source exH exH_inj hlen archive opts source (by decide) source_good source_sorted
    archive_good archive_ci hist hist_ok (by rw [new0]; exact hist_keeps0)
  rwa [new0] at this

/-- The hypotheses of `InvStatementGood` hold of `s1` and version 0, for every history of attempts. -/
example (h : List C07.Attempt) : SameRestore exH 0 s1 (C07.runHistory exH h s1) :=
  inv_statement_good exH s1 0 h s1_ci.nodup (ci_blockRoot s1_ci) (dir_of_complete s1_ci.dirs s1_version.complete)
    s1_version.complete s1_version.refs

/-- "Latest complete" on `s1` selects version 0 (the hypothesis of `crashed_backup_keeps_latest`). -/
theorem s1_latest : (lastCompleteBand.run (World.clean s1)).1 = .ok (some 0) := by
  obtain ⟨_, _, _, h⟩ := backup_summary_run (o := opts) exH_inj exH_len (by decide) source_good archive_good
  rw [latest_complete_spec s1 (ci_root s1_ci)]
  refine ⟨mem_bandIdsOf_of_get? (dir_of_complete s1_ci.dirs s1_version.complete), ?_, s1_version.complete, ?_⟩
  · rw [← new0]; exact h.head_ok
  · intro x hx hlt
    have := h.bandIds_le archive_ok x hx
    rw [new0] at this
    omega

/-- `crashed_backup_keeps_latest` applies to `s1` and a backup killed before EVERY micro-step `j`. -/
example (j : Nat) :
    let s' := ((backup exH {} source).run { store := s1, crashAt := some j }).2.store
    (∃ nb, nb ∉ bandIdsOf s1 ∧ isComplete s' nb = true) ∨
    (((restore exH .latestClosed [slash] (fun _ => false)).run (World.clean s')).1 =
        ((restore exH .latestClosed [slash] (fun _ => false)).run (World.clean s1)).1 ∧
     ((restore exH .latestClosed [slash] (fun _ => false)).run (World.clean s')).2.events =
        ((restore exH .latestClosed [slash] (fun _ => false)).run (World.clean s1)).2.events) :=
  crashed_backup_keeps_latest exH exH_inj hlen {} source source_sorted.weak { store := s1, crashAt := some j } rfl
    s1_ci 0 s1_latest s1_version.refs

/-- `delete_keeps_restore` (C05's statement) applies to C05's example archive: deleting version 0
keeps the restore of version 1 (which shares a block with it). -/
example :
    let s' := ((deleteBands true [0] {}).run (World.clean C05.exStore)).2.store
    (restoreOf C05.exH 1 s').1 = (restoreOf C05.exH 1 C05.exStore).1 ∧
      (restoreOf C05.exH 1 s').2.events = (restoreOf C05.exH 1 C05.exStore).2.events :=
  delete_keeps_restore C05.exH C05.exStore [0] {} 1 C05.ex_archOK0 C05.ex_dirsOk C05.ex_lockFree C05.ex_newest rfl
    (by decide) (by rw [C05.ex_bands]; decide) (by decide) (by decide +kernel)

/-- `delete_any_world_keeps_restore`: the same delete, killed before its third mutating micro-step. -/
example : SameRestore C05.exH 1 C05.exStore
    ((deleteBands true [0] {}).run { store := C05.exStore, crashAt := some 2 }).2.store :=
  delete_any_world_keeps_restore C05.exH [0] {} { store := C05.exStore, crashAt := some 2 } 1
    ((uniqueKeys_iff_nodup _).1 C05.ex_archOK0.nodup) C05.ex_dirsOk (by decide) (by decide)

end Example

end Conserve.C02h
