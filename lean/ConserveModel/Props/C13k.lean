import ConserveModel.Proofs.JsonStoreBytes
import ConserveModel.Proofs.JsonStoreWalk
/-
C13 k — the bridge between the archive model and the bytes of the JSON layer.

`ConserveModel/Json.lean` + `Props/C13j.lean` model the bytes of index hunks, band heads and band
tails and prove `parseHunk (renderHunk es) = some es` for every entry list that is `WfEntries`
(values the Rust types can hold).  The archive model (`Store.lean`) keeps these files as abstract
values (`FileVal.hunk es`, `.head ver flags`, `.tail hunkCount`).  This file connects the two: the
values the model's BACKUP writes — in every world — are well-formed, so the abstract store loses
nothing with respect to the JSON bytes (Snappy aside).

Hypotheses, all of them facts about Rust types or physical limits (`Conserve.JStore`,
Proofs/JsonStoreBackup.lean):

* `HashHex H` — the block hash as a file name is 128 lower-case hex digits.  The model's own
  BLAKE2b-512 (`blake2bHex`, what the driver instantiates `H` with) is proved to be `HashHex`
  (`blake2bHex_hashHex`).  NOT assumed: injectivity of `H` (C13 assumes it; no `HashHex` function can
  be injective, the codomain is finite).
* `SrcJsonGood src` — per entry (`SrcEntryJsonGood`): apath, user, group, symlink target are valid
  UTF-8 (they are Rust `String`s: src/source.rs `to_str`/`into_string`, src/owner/unix.rs `to_str`);
  `unix_mode < 2^32` (`UnixMode(Option<u32>)`, in fact masked with 0o7777); the whole seconds of the
  mtime fit an `i64` (`-2^63·10^9 ≤ mtimeNs < 2^63·10^9`; jiff's `Timestamp`, which `source::Entry`
  holds, is far inside).  Per listing: the contents of the regular files add up to less than 2^64
  bytes (`bytes`: the combiner's buffer is a concatenation of small files with `u64` offsets, and
  after a failed flush — faults! — the buffer is put back and keeps growing, so the bound must be on
  the sum, not on `max_block_size`), and fewer than 2^64 entries (`count`: every hunk holds at least
  one entry and the tail records the number of hunks as a `u64`).
* NOT assumed: anything about options, worlds (faults, crash points, `enforceCreateNew`), sortedness or
  validity of the source paths, the basis version, `NoDupKeys`, `Conforms`.

The invariant is `StoreJsonGood s` (`storeJsonGood_iff`): every hunk value in the store is
`WfEntries`, every head's flags are UTF-8 strings, every tail's hunk count is a `u64`.  Entries that
a backup copies from the basis version are well-formed BECAUSE the store they were read from is
`StoreJsonGood` — which is why the statement is an invariant and not a fact about one run.

What the abstract store drops of a head or tail — `start_time`, `end_time`, the text of
`band_format_version` (the class `VerClass` is kept) — is a parameter (`Dropped`) of `encodeFile`,
universally quantified in the theorems; `decodeFile` takes the classification of version strings
(a semver comparison, not modelled) as a parameter `cls`.
-/
namespace Conserve.C13k
open Conserve Conserve.Json Conserve.JStore

theorem storeJsonGood_iff (s : Store) :
    StoreJsonGood s ↔
      (∀ k es, (k, FileVal.hunk es) ∈ s → WfEntries es) ∧
      (∀ k c fl, (k, FileVal.head c fl) ∈ s → ∀ f ∈ fl, validUtf8 f = true) ∧
      (∀ k n, (k, FileVal.tail (some n)) ∈ s → n < 18446744073709551616) := by
  constructor
  · intro h
    exact ⟨fun k es hm => h _ hm, fun k c fl hm => h _ hm, fun k n hm => h _ hm⟩
  · rintro ⟨h1, h2, h3⟩ ⟨k, v⟩ hm
    cases v with
    | hunk es => exact h1 k es hm
    | head c fl => exact h2 k c fl hm
    | tail n =>
      cases n with
      | none => trivial
      | some n => exact h3 k n hm
    | _ => trivial

theorem get_hunk_wf {s : Store} (h : StoreJsonGood s) {k : Key} {es : List IndexEntry}
    (hg : s.get? k = some (.hunk es)) : WfEntries es := h.get hg

/-- **`backup_writes_wf`.**  For every hash whose names are 128 lower-case hex digits, ALL options,
every `SrcJsonGood` source listing, and EVERY world — any injected faults, any crash point, dead or
alive, `CreateNew` enforced or not — whose archive is `StoreJsonGood`: every operation the backup
attempts (the trace records each operation that was answered) that writes a file writes a
`FileJsonGood` value.  In particular every `FileVal.hunk es` it writes satisfies `WfEntries es`, the
head's flags are UTF-8 and the tail's hunk count is a `u64`. -/
theorem backup_writes_wf {H : Str → Str} (hH : HashHex H) (o : BackupOpts) {src : List SrcEntry}
    (hsrc : SrcJsonGood src) (w : World) (hs : StoreJsonGood w.store) :
    ∃ new, ((backup H o src).run w).2.trace = new ++ w.trace ∧
      ∀ ev ∈ new, ∀ k v m, ev.op = .write k v m → FileJsonGood v :=
  (backup_winv hH o hsrc w hs).2

theorem backup_writes_wf_hunks {H : Str → Str} (hH : HashHex H) (o : BackupOpts) {src : List SrcEntry}
    (hsrc : SrcJsonGood src) (w : World) (hs : StoreJsonGood w.store) :
    ∃ new, ((backup H o src).run w).2.trace = new ++ w.trace ∧
      ∀ ev ∈ new, ∀ k es m, ev.op = .write k (.hunk es) m → WfEntries es := by
  obtain ⟨new, hn, hP⟩ := backup_writes_wf hH o hsrc w hs
  exact ⟨new, hn, fun ev hev k es m ho => hP ev hev k _ m ho⟩

/-- **`backup_storeJsonGood_all_worlds`.**  `StoreJsonGood` is preserved by `backup` in every
world: whatever was written, however the run ended (a write killed half-way leaves a zero-length
file, which carries no JSON). -/
theorem backup_storeJsonGood_all_worlds {H : Str → Str} (hH : HashHex H) (o : BackupOpts)
    {src : List SrcEntry} (hsrc : SrcJsonGood src) (w : World) (hs : StoreJsonGood w.store) :
    StoreJsonGood ((backup H o src).run w).2.store :=
  backup_sj hH o hsrc w hs

/-- **`delete_storeJsonGood`.**  `delete_bands` (either mode) writes nothing but the lock file, in
every world; it keeps `StoreJsonGood` unconditionally. -/
theorem delete_storeJsonGood (strict : Bool) (D : List Nat) (opts : DeleteOpts) (w : World)
    (hs : StoreJsonGood w.store) : StoreJsonGood ((deleteBands strict D opts).run w).2.store :=
  delete_sj strict D opts w hs

/-- A history (the type of `C13`: backups and deletes, each in a world of its own) is admissible
when every backup's source listing is `SrcJsonGood`.  Nothing is asked of options, worlds, deletes. -/
def HistJsonOK (hist : List C13.Step) : Prop := ∀ st ∈ hist, StepJ st

/-- **`history_storeJsonGood`.**  Over any admissible history, from any `StoreJsonGood` archive,
every archive visited — after every step, complete or interrupted — is `StoreJsonGood`. -/
theorem history_storeJsonGood {H : Str → Str} (hH : HashHex H) (hist : List C13.Step)
    (hok : HistJsonOK hist) (s : Store) (hs : StoreJsonGood s) :
    ∀ s' ∈ C13.states H hist s, StoreJsonGood s' :=
  states_sj hH hist hok s hs

/-- **`reachable_storeJsonGood`.**  Every archive reachable from the empty one (`Archive::create`)
by an admissible history is `StoreJsonGood`. -/
theorem reachable_storeJsonGood {H : Str → Str} (hH : HashHex H) (hist : List C13.Step)
    (hok : HistJsonOK hist) : ∀ s' ∈ C13.states H hist C13.emptyArchive, StoreJsonGood s' :=
  history_storeJsonGood hH hist hok _ emptyArchive_sj

/-- With the model's own BLAKE2b-512 as the hash — no hypothesis on the hash left. -/
theorem reachable_storeJsonGood_blake2b (hist : List C13.Step) (hok : HistJsonOK hist) :
    ∀ s' ∈ C13.states blake2bHex hist C13.emptyArchive, StoreJsonGood s' :=
  reachable_storeJsonGood blake2bHex_hashHex hist hok

/-- **The source walk of a good tree is `SrcJsonGood`.**  For every source tree (any depth, width,
`read_dir` order; `Node.WF` is not needed) whose names, symlink targets and owner names are UTF-8,
whose modes are `u32`s and whose times have `i64` seconds (`Node.JGood`), which holds less than 2^64
bytes in regular files and has fewer than 2^64 nodes, and every exclusion predicate, the listing the
walk (C11: the iterator of src/source.rs) hands to `backup` is `SrcJsonGood`. -/
theorem walk_srcJsonGood (T : Node) (excl : Str → Bool) (hg : T.JGood) (hb : T.bytes < 18446744073709551616)
    (hc : T.size < 18446744073709551616) : SrcJsonGood (C11.walk T excl) :=
  JStore.walk_srcJsonGood T excl hg hb hc

/-- End to end: backing up ANY good source tree with any options and exclusions, in any world, keeps
the archive `StoreJsonGood` and writes only well-formed values. -/
theorem backup_tree_storeJsonGood {H : Str → Str} (hH : HashHex H) (o : BackupOpts) (T : Node)
    (excl : Str → Bool) (hg : T.JGood) (hb : T.bytes < 18446744073709551616)
    (hc : T.size < 18446744073709551616) (w : World) (hs : StoreJsonGood w.store) :
    StoreJsonGood ((backup H o (C11.walk T excl)).run w).2.store ∧
    ∃ new, ((backup H o (C11.walk T excl)).run w).2.trace = new ++ w.trace ∧
      ∀ ev ∈ new, ∀ k v m, ev.op = .write k v m → FileJsonGood v :=
  ⟨backup_storeJsonGood_all_worlds hH o (walk_srcJsonGood T excl hg hb hc) w hs,
   backup_writes_wf hH o (walk_srcJsonGood T excl hg hb hc) w hs⟩

/-- **Round trip for any well-formed JSON-carried value**: for every `FileJsonGood` hunk, head or
tail value, every choice of what the abstraction dropped (`d.wf`: the time an `i64`, the version a
UTF-8 string — and, for a head, a version of the class the value records), the bytes `encodeFile`
produces are read back by `decodeFile` as exactly the value. -/
theorem decode_encode (cls : Option Str → VerClass) (d : Dropped) (hd : d.wf) {v : FileVal}
    (hv : FileJsonGood v) {jk : JsonKind} (hk : jsonKindOfVal v = some jk)
    (hcls : ∀ c fl, v = .head c fl → cls d.version = c) :
    ∃ b, encodeFile d v = some b ∧ decodeFile cls jk b = some v :=
  decode_encode_val cls d hd hv hk hcls

/-- **`decode_encode_reachable`.**  In every archive reachable from the empty one by an admissible
history, for every JSON-carried file `k ↦ v`: the layout puts it where a reader expects its kind
(`jsonKindOfKey k`: hunk files hold hunks, `BANDHEAD` a head, `BANDTAIL` a tail), and its bytes —
whatever times and version text the abstraction dropped — decode, by the parser the PATH selects,
to exactly the abstract value.  The abstract store loses nothing w.r.t. the JSON bytes. -/
theorem decode_encode_reachable {H : Str → Str} (hH : HashHex H) (hist : List C13.Step)
    (hok : HistJsonOK hist) (cls : Option Str → VerClass) :
    ∀ s' ∈ C13.states H hist C13.emptyArchive, ∀ k v jk, s'.get? k = some v → jsonKindOfVal v = some jk →
      jsonKindOfKey k = some jk ∧
      ∀ d : Dropped, d.wf → (∀ c fl, v = .head c fl → cls d.version = c) →
        ∃ b, encodeFile d v = some b ∧ decodeFile cls jk b = some v := by
  intro s' hs' k v jk hg hjk
  have hsj := reachable_storeJsonGood hH hist hok s' hs'
  have hpl := states_placed (H := H) hist _ emptyArchive_placed s' hs'
  exact ⟨hpl.get hg jk hjk, fun d hd hcls => decode_encode cls d hd (hsj.get hg) hjk hcls⟩

/-- The hunk case, in the words of C13 j: every index hunk of a reachable archive is read back from
its rendered bytes as exactly its abstract value. -/
theorem hunk_round_trip_reachable {H : Str → Str} (hH : HashHex H) (hist : List C13.Step)
    (hok : HistJsonOK hist) :
    ∀ s' ∈ C13.states H hist C13.emptyArchive, ∀ k es, s'.get? k = some (.hunk es) →
      parseHunk (renderHunk es) = some es := by
  intro s' hs' k es hg
  exact C13j.parse_render_hunk es (get_hunk_wf (reachable_storeJsonGood hH hist hok s' hs') hg)

/-- **No two hunk values share bytes**: hunks of reachable archives (of the same or of different
histories, at the same or at different paths) with the same rendered bytes are the same value. -/
theorem hunk_bytes_injective_reachable {H : Str → Str} (hH : HashHex H)
    (hist₁ hist₂ : List C13.Step) (hok₁ : HistJsonOK hist₁) (hok₂ : HistJsonOK hist₂)
    {s₁ s₂ : Store} (hs₁ : s₁ ∈ C13.states H hist₁ C13.emptyArchive)
    (hs₂ : s₂ ∈ C13.states H hist₂ C13.emptyArchive) {k₁ k₂ : Key} {es₁ es₂ : List IndexEntry}
    (hg₁ : s₁.get? k₁ = some (.hunk es₁)) (hg₂ : s₂.get? k₂ = some (.hunk es₂))
    (hb : renderHunk es₁ = renderHunk es₂) : es₁ = es₂ :=
  C13j.render_injective es₁ es₂
    (get_hunk_wf (reachable_storeJsonGood hH hist₁ hok₁ s₁ hs₁) hg₁)
    (get_hunk_wf (reachable_storeJsonGood hH hist₂ hok₂ s₂ hs₂) hg₂) hb

/-- The same for all three kinds: two JSON-carried values of reachable archives, of the same kind,
whose bytes agree (under whatever was dropped, classified consistently) are equal. -/
theorem encode_injective_reachable {H : Str → Str} (hH : HashHex H)
    (hist₁ hist₂ : List C13.Step) (hok₁ : HistJsonOK hist₁) (hok₂ : HistJsonOK hist₂)
    (cls : Option Str → VerClass)
    {s₁ s₂ : Store} (hs₁ : s₁ ∈ C13.states H hist₁ C13.emptyArchive)
    (hs₂ : s₂ ∈ C13.states H hist₂ C13.emptyArchive) {k₁ k₂ : Key} {v₁ v₂ : FileVal} {jk : JsonKind}
    (hg₁ : s₁.get? k₁ = some v₁) (hg₂ : s₂.get? k₂ = some v₂)
    (hk₁ : jsonKindOfVal v₁ = some jk) (hk₂ : jsonKindOfVal v₂ = some jk)
    (d₁ d₂ : Dropped) (hd₁ : d₁.wf) (hd₂ : d₂.wf)
    (hc₁ : ∀ c fl, v₁ = .head c fl → cls d₁.version = c) (hc₂ : ∀ c fl, v₂ = .head c fl → cls d₂.version = c)
    (hb : encodeFile d₁ v₁ = encodeFile d₂ v₂) : v₁ = v₂ := by
  obtain ⟨b₁, he₁, hd1⟩ := (decode_encode_reachable hH hist₁ hok₁ cls s₁ hs₁ k₁ v₁ jk hg₁ hk₁).2 d₁ hd₁ hc₁
  obtain ⟨b₂, he₂, hd2⟩ := (decode_encode_reachable hH hist₂ hok₂ cls s₂ hs₂ k₂ v₂ jk hg₂ hk₂).2 d₂ hd₂ hc₂
  rw [hb, he₂] at he₁
  cases he₁
  rw [hd1] at hd2
  exact Option.some.inj hd2

/-- **No `HashHex` function is injective** (pigeonhole: there are finitely many names of 128 hex
digits and infinitely many contents).  C13 (`backup_conforms_all_worlds`, `history_conforms`), C03,
C04 … assume `Function.Injective H`, the idealisation "no collisions"; that hypothesis and `HashHex`
cannot be made about the same `H`, so the theorems of this file deliberately do NOT assume
injectivity, and a conjunction of `C13.history_conforms` with `reachable_storeJsonGood` for one `H`
would be vacuous. -/
theorem hashHex_not_injective {H : Str → Str} (hH : HashHex H) : ¬ Function.Injective H :=
  JStore.hashHex_not_injective hH

/-- `IndexEntry::metadata_from` as the model has it (total, after the repair of D3). -/
abbrev metaOf := Conserve.Inv.metaOf

/-- Without UTF-8 in the source path the entry the backup records is not one the reader accepts.
(The real walk cannot produce it: a name that is not UTF-8 is skipped with an error, src/source.rs.) -/
theorem srcJsonGood_needed_utf8 :
    wfEntry (metaOf {} { apath := [47, 255], kind := .dir, mtimeNs := 0, unixMode := 493, user := none,
                         group := none }) = false := by decide

/-- Whole seconds beyond `i64` (2^63 s): not an entry the reader accepts.  (jiff's `Timestamp` cannot
hold it; `entry_from_fs_metadata` panics on the conversion before the backup sees it.) -/
theorem srcJsonGood_needed_mtime :
    wfEntry (metaOf {} { apath := [47], kind := .dir, mtimeNs := 9223372036854775808000000000, unixMode := 493,
                         user := none, group := none }) = false := by decide

/-- A mode beyond `u32`.  (`UnixMode::from` masks with 0o7777.) -/
theorem srcJsonGood_needed_mode :
    wfEntry (metaOf {} { apath := [47], kind := .dir, mtimeNs := 0, unixMode := 4294967296, user := none,
                         group := none }) = false := by decide

/-- The owner is only looked at when it is recorded: with `owner := false` any bytes do. -/
example : wfEntry (metaOf { owner := false }
    { apath := [47], kind := .dir, mtimeNs := 0, unixMode := 493, user := some [255], group := some [255] }) = true := by
  decide

namespace Example

/-- `/` (a directory owned by `r`), `/l` (a symlink to `é/"`), `/é` (a two-byte file last modified
1.5 s BEFORE the epoch).  -/
def src : List SrcEntry :=
  [ { apath := [47], kind := .dir, mtimeNs := 1700000000000000000, unixMode := 493, user := some [114], group := none },
    { apath := [47, 108], kind := .symlink, mtimeNs := 0, unixMode := 511, user := none, group := none,
      target := some [195, 169, 47, 34] },
    { apath := [47, 195, 169], kind := .file, mtimeNs := -1500000000, unixMode := 420, user := none, group := none,
      size := 2, content := [1, 2] } ]

theorem src_good : SrcJsonGood src := by
  refine ⟨?_, by decide, by decide⟩
  intro sf hsf
  simp only [src, List.mem_cons, List.not_mem_nil, or_false] at hsf
  rcases hsf with rfl | rfl | rfl <;> constructor <;> decide

/-- What the backup records for `/é`: seconds rounded DOWN to -2, half a second of nanoseconds. -/
example : metaOf {} { apath := [47, 195, 169], kind := .file, mtimeNs := -1500000000, unixMode := 420, user := none,
                      group := none, size := 2, content := [1, 2] } =
    { apath := [47, 195, 169], kind := .file, mtime := -2, mtimeNanos := 500000000, unixMode := some 420,
      user := none, group := none, addrs := [], target := none } := by decide

/-- A `HashHex` function that is not a hash: the name `000…0` for every content. -/
def zeroH : Str → Str := fun _ => List.replicate 128 48

set_option maxRecDepth 8192 in
theorem zeroH_hashHex : HashHex zeroH := fun _ => by show wfHash (List.replicate 128 48) = true; decide

/-- The real one. -/
example : HashHex blake2bHex := blake2bHex_hashHex

/-- The empty archive, two injected faults and a crash point. -/
def world : World :=
  { store := C13.emptyArchive,
    faults := [{ at_ := { verb := .write, key := .hunk 0 0, nth := 0 }, kind := .other },
               { at_ := { verb := .createDir, key := .blockDir [48, 48, 48], nth := 0 }, kind := .permissionDenied }],
    crashAt := some 7 }

/-- The faulty, killed first backup — with BLAKE2b — leaves a `StoreJsonGood` archive, and wrote only
well-formed values. -/
example : StoreJsonGood ((backup blake2bHex {} src).run world).2.store :=
  backup_storeJsonGood_all_worlds blake2bHex_hashHex {} src_good world emptyArchive_sj

example : ∃ new, ((backup blake2bHex {} src).run world).2.trace = new ++ world.trace ∧
    ∀ ev ∈ new, ∀ k es m, ev.op = .write k (.hunk es) m → WfEntries es :=
  backup_writes_wf_hunks blake2bHex_hashHex {} src_good world emptyArchive_sj

/-- Options at their extremes: block size 0, a flush after every entry, no owners. -/
example : StoreJsonGood ((backup zeroH { maxEntriesPerHunk := 0, maxBlockSize := 0, smallFileCap := 0, owner := false }
    src).run world).2.store :=
  backup_storeJsonGood_all_worlds zeroH_hashHex _ src_good world emptyArchive_sj

/-- An archive with one complete version, so that there IS a basis whose addresses get reused:
`/é` as recorded above, in one block. -/
def eFile : IndexEntry :=
  { apath := [47, 195, 169], kind := .file, mtime := -2, mtimeNanos := 500000000, unixMode := some 420,
    user := none, group := none, addrs := [{ hash := zeroH [], start := 0, len := 2 }], target := none }

def archive2 : Store :=
  [(.root, .dir), (.header, .header [48, 46, 54]), (.blockRoot, .dir),
   (.blockDir [48, 48, 48], .dir), (.block (zeroH []), .blockData [1, 2]),
   (.bandDir 0, .dir), (.bandHead 0, .head .ok []), (.indexDir 0, .dir), (.hunkDir 0 0, .dir),
   (.hunk 0 0, .hunk [eFile]), (.bandTail 0, .tail (some 1))]

set_option maxRecDepth 8192 in
theorem archive2_good : StoreJsonGood archive2 := by
  intro kv hkv
  simp only [archive2, List.mem_cons, List.not_mem_nil, or_false] at hkv
  rcases hkv with rfl | rfl | rfl | rfl | rfl | rfl | rfl | rfl | rfl | rfl | rfl
  all_goals first
    | trivial
    | exact fun _ hf => (List.not_mem_nil hf).elim
    | exact (by decide : WfEntries [eFile])
    | exact (by decide : 1 < u64)

/-- The source file `/é` is heuristically unchanged against that basis entry: its addresses are reused. -/
example : heuristicallyUnchanged
    { apath := [47, 195, 169], kind := .file, mtimeNs := -1500000000, unixMode := 420, user := none, group := none,
      size := 2, content := [1, 2] } eFile = some true := by decide

/-- A second, faulty and killed, backup on the archive with a basis. -/
example : StoreJsonGood ((backup zeroH {} src).run
    { store := archive2, faults := [{ at_ := { verb := .read, key := .hunk 0 0, nth := 0 }, kind := .other }],
      crashAt := some 5, enforceCreateNew := false }).2.store :=
  backup_storeJsonGood_all_worlds zeroH_hashHex _ src_good _ archive2_good

/-- A three-step history from the empty archive: a faulty, killed backup, a clean one, a delete. -/
def hist : List C13.Step :=
  [.backup {} src world, .backup { maxEntriesPerHunk := 1 } src (World.clean []), .delete [0] {} (World.clean [])]

theorem hist_ok : HistJsonOK hist := by
  intro st hst
  simp only [hist, List.mem_cons, List.not_mem_nil, or_false] at hst
  rcases hst with rfl | rfl | rfl
  · exact src_good
  · exact src_good
  · trivial

example : ∀ s' ∈ C13.states blake2bHex hist C13.emptyArchive, StoreJsonGood s' :=
  reachable_storeJsonGood_blake2b hist hist_ok

example : ∀ s' ∈ C13.states blake2bHex hist C13.emptyArchive, ∀ k es, s'.get? k = some (.hunk es) →
    parseHunk (renderHunk es) = some es :=
  hunk_round_trip_reachable blake2bHex_hashHex hist hist_ok

/-- A source tree: `/é` (a two-byte file, 1.5 s before the epoch), `/l → é/"`, `/d/x` (empty file). -/
def tree : Node :=
  .dir { mtimeNs := 1700000000000000000, unixMode := 493, user := some [114] }
    (.cons [195, 169] (.file { mtimeNs := -1500000000, unixMode := 420 } 2 [1, 2])
    (.cons [108] (.symlink { unixMode := 511 } [195, 169, 47, 34])
    (.cons [100] (.dir { unixMode := 493, group := some [119] } (.cons [120] (.file { unixMode := 384 } 0 []) .nil))
    .nil)))

theorem tree_good : tree.JGood := by
  simp only [tree, Node.JGood, Forest.JGood]
  exact ⟨.of_decide _ (by decide), by decide, .of_decide _ (by decide), by decide,
    ⟨.of_decide _ (by decide), by decide⟩, by decide,
    ⟨.of_decide _ (by decide), by decide, .of_decide _ (by decide), trivial⟩, trivial⟩

example : SrcJsonGood (C11.walk tree fun p => p == [47, 108]) :=
  walk_srcJsonGood tree _ tree_good (by decide) (by decide)

example : StoreJsonGood ((backup blake2bHex {} (C11.walk tree fun _ => false)).run world).2.store :=
  (backup_tree_storeJsonGood blake2bHex_hashHex {} tree _ tree_good (by decide) (by decide) world emptyArchive_sj).1

/-- `Dropped.wf` is satisfiable, and the classification hypothesis too (`cls` = "a version is ok"). -/
example : ({ time := 1700000000, version := some [48, 46, 54, 46, 51] } : Dropped).wf := by
  refine ⟨by decide, by decide, by decide⟩

set_option maxRecDepth 8192 in
/-- The bytes of the three JSON-carried files of `archive2` decode to their abstract values. -/
example : ∀ kv ∈ archive2, ∀ jk, jsonKindOfVal kv.2 = some jk →
    ∃ b, encodeFile { time := 1700000000, version := some [48, 46, 54, 46, 51] } kv.2 = some b ∧
      decodeFile (fun v => if v.isSome then .ok else .absent) jk b = some kv.2 := by
  intro kv hkv jk hjk
  refine decode_encode _ _ ⟨by decide, by decide, by decide⟩ (archive2_good kv hkv) hjk ?_
  intro c fl hv
  simp only [archive2, List.mem_cons, List.not_mem_nil, or_false] at hkv
  rcases hkv with rfl | rfl | rfl | rfl | rfl | rfl | rfl | rfl | rfl | rfl | rfl <;> cases hv
  rfl

end Example

end Conserve.C13k
