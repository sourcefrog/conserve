import ConserveModel.Props.C03r
import ConserveModel.Proofs.GapCrashTail
import ConserveModel.Props.GapsC10f
import ConserveModel.Props.GapsC16e
import ConserveModel.Props.GapsC14p
import ConserveModel.Props.GapsC02h
/-
Gaps left open by earlier property files, closed (or refuted) here.

§1  C03r — `interrupted_listing_tail_started`: the store a backup leaves when it is killed BETWEEN THE TWO
    MICRO-STEPS OF THE TAIL WRITE (zero-length `BANDTAIL`), or later.  `C03r.interrupted_listing_spec`
    proved `pre = src` only when the tail decodes; here: whenever the tail KEY exists in the killed
    run's store — zero-length or filled — every source entry has been recorded, the store is the
    uninterrupted run's store except for the content of the tail, the version is what "latest complete"
    selects, and restoring it (by id or as latest) returns exactly the source, silently.
    How: a killed run leaves a micro-state of the uninterrupted run (`Prog.run_killed`), and the tail
    write is the last operation of `backup` (`Crash.backup_eq_before_close`, `Crash.crashed_eq`).

    What the readers do with a zero-length tail (model = code): `Band::is_closed` is `is_file(BANDTAIL)`
    — true for a zero-length file, so `isComplete s' n = true`, `last_complete_band` selects `n`, and
    `Stitch` does not continue into the previous version; `Band::check_index_hunks` cannot read the
    hunk count from the tail and skips the count comparison (closed, count unknown), so nothing is
    reported.  The archive is therefore treated as holding a COMPLETE version `n` — rightly, as this
    theorem shows: everything but the tail's content had been written.

§2 C10f, §3 C16e, §4 C14p, §5 C02h: Props/GapsC10f.lean, GapsC16e.lean, GapsC14p.lean, GapsC02h.lean.
All five files are in namespace `Conserve.Gaps`; this file imports the other four.
-/
set_option linter.unusedSimpArgs false
namespace Conserve.Gaps
open Conserve Conserve.Exact Conserve.Inv Conserve.Conf Conserve.Fault Conserve.Crash Conserve.Rng

section c03r
open Conserve.C03r

/-- The gap of `C03r.interrupted_listing_spec`, in C03r's setting; `sF` is the store the uninterrupted run
leaves.  Hypothesis: the tail KEY of `n` exists in `s'` — holding the tail, or zero-length because the run
was killed between the two micro-steps of the tail write.  The readers: `Band::open(n)` is `headOutcome`,
`Band::is_closed(n)` is `isComplete` (the tail is a file, zero-length or not). -/
theorem interrupted_listing_tail_started (H : Str → Str) (hinj : Function.Injective H) (hlen : HashLen H)
    (s : Store) (o : BackupOpts) (src : List SrcEntry) (p : Nat) (ho : 0 < o.maxBlockSize) (hsrc : SrcGood src)
    (hsw : C13.SrcSortedWeak src) (hst : Start H src s p) (j : Nat) :
    let s' := ((backup H o src).run (crashWorld s j)).2.store
    let sF := ((backup H o src).run (World.clean s)).2.store
    let n := newBandOf s
    (s'.get? (.bandTail n)).isSome = true →
      -- the store
      (∀ k, k ≠ .bandTail n → s'.get? k = sF.get? k) ∧
      (s'.get? (.bandTail n) = some .empty ∨ s'.get? (.bandTail n) = sF.get? (.bandTail n)) ∧
      (∃ c, sF.get? (.bandTail n) = some (.tail (some c)) ∧ hunkNumsOf s' n = List.range c ∧
        hunkNumsOf sF n = List.range c) ∧
      -- every source entry has been recorded
      Paired (Records H o s') src (bandEntries s' n) ∧
      (∀ pre, pre <+: src → Paired (Records H o s') pre (bandEntries s' n) → pre = src) ∧
      listSpec s' n = bandEntries s' n ∧
      -- the readers
      headOutcome s' n = .ok () ∧ isComplete s' n = true ∧
      (lastCompleteBand.run (World.clean s')).1 = .ok (some n) ∧
          (restoreOf H n s').1 = .ok (src.map (expectedNode o)) ∧ (restoreOf H n s').2.events = [] ∧
      ((restore H .latestClosed [slash] (fun _ => false)).run (World.clean s')).1
        = .ok (src.map (expectedNode o)) ∧
      ((restore H .latestClosed [slash] (fun _ => false)).run (World.clean s')).2.events = [] := by
  intro s' sF n htail
  obtain ⟨hs, stats, evs, h⟩ := backup_summary_run (o := o) hinj (fun d => hlen d) ho hsrc hst.good
  have h : Summary H o src s sF hs stats evs := h
  obtain ⟨hagree, htail', hown⟩ := crashed_tail_all (o := o) (fun d => hlen d) ho hsrc hst.good h j htail
  have hagree : ∀ k, k ≠ .bandTail n → s'.get? k = sF.get? k := hagree
  have htail' : s'.get? (.bandTail n) = some .empty ∨ s'.get? (.bandTail n) = sF.get? (.bandTail n) := htail'
  have hown : bandEntries s' n = hs.flatten := hown
  have hfin : Final H o n s sF hs src := h.final
  have htailF : sF.get? (.bandTail n) = some (.tail (some hs.length)) := hfin.tail
  have hnd' : NoDupKeys s' := Prog.run_noDupKeys _ (crashWorld s j) hst.good.st.noDup
  have hread : bandReadable s' n = true := by
    rw [bandReadable_congr (hagree _ (by simp)) (hagree _ (by simp))]
    exact final_readable hfin
  have hcomp : isComplete s' n = true := by
    unfold isComplete
    rcases htail' with e | e
    · rw [e]; rfl
    · rw [e, htailF]; rfl
  have hnums : hunkNumsOf s' n = hunkNumsOf sF n := hunkNumsOf_congr hfin.st.noDup hnd' fun k => hagree _ (by simp)
  have hlist : listSpec s' n = bandEntries s' n := by simp [listSpec, hcomp]
  have hlen' : hs.flatten.length = src.length := by
    have := congrArg List.length hfin.shape
    rw [List.length_map, List.length_map] at this
    exact this
  have huniq : ∀ pre, pre <+: src → Paired (Records H o s') pre (bandEntries s' n) → pre = src := by
    intro pre hpre hrec
    apply hpre.eq_of_length
    rw [Paired.length_eq hrec, hown, hlen']
  obtain ⟨pre, hpre, hrec, _, _⟩ := C03r.interrupted_listing_spec H hinj hlen s o src p ho hsrc hsw hst j
  have hpre' : pre = src := huniq pre hpre hrec
  subst hpre'
  have hrec' : Paired (Records H o s') pre (bandEntries s' n) := hrec
  have hg' : ArchiveGood H pre s' := crashed_archiveGood hinj hlen ho hsrc hsw hst j (fun _ => hread)
  have hhead : headOutcome s' n = .ok () := headOutcome_of_bandReadable hread
  have hmem : n ∈ bandIdsOf s' := by
    rw [Exact.mem_bandIdsOf hg'.st, hagree _ (by simp)]
    exact hfin.bandDir
  have hmax : ∀ b ∈ bandIdsOf s', b ≤ n := by
    intro b hb
    have hb' : b ∈ bandIdsOf sF := by
      rw [Exact.mem_bandIdsOf hfin.st, ← hagree _ (by simp)]
      exact (Exact.mem_bandIdsOf hg'.st).1 hb
    exact h.bandIds_le hst.good.st b hb'
  -- the restore
  have hnb : NoneBelowSymlink (listSpec s' n) := by
    rw [hlist]
    exact noneBelow_of_src hsrc (records_src hrec' fun _ h => h)
  obtain ⟨h1, h2⟩ := restore_nodes_of_good hg' hread hnb
  have hnodes : (listSpec s' n).map (nodeOf H s') = pre.map (expectedNode o) := by
    rw [hlist]; exact map_nodeOf_records hrec'
  rw [hnodes] at h1
  have hspec := (restore_specified_runs (H := H) hg'.wf hg'.st n).clean
  have hlat := (restore_latest_runs (H := H) hg'.wf hg'.st hmem hmax hhead hcomp).clean
  have hlcb := (lastCompleteBand_runs_newest hg'.st hmem hmax hhead hcomp).clean
  refine ⟨hagree, htail', ⟨_, htailF, ?_, ?_⟩, hrec', huniq, hlist, hhead, hcomp, hlcb.1, ?_, ?_, ?_, ?_⟩
  · rw [hnums]; exact final_hunkNums hfin
  · exact final_hunkNums hfin
  · unfold restoreOf; exact h1
  · unfold restoreOf; exact h2
  · rw [hlat.1, ← hspec.1]; exact h1
  · rw [hlat.2.2, ← hspec.2.2]; exact h2

/-- With the tail key present, "the same is true" of `C03r.interrupted_listing_spec`'s last clause: its
`pre` is the whole source — no matter whether the tail decodes. -/
theorem interrupted_listing_spec_full (H : Str → Str) (hinj : Function.Injective H) (hlen : HashLen H) (s : Store)
    (o : BackupOpts) (src : List SrcEntry) (p : Nat) (ho : 0 < o.maxBlockSize) (hsrc : SrcGood src)
    (hsw : C13.SrcSortedWeak src) (hst : Start H src s p) (j : Nat) :
    let s' := ((backup H o src).run (crashWorld s j)).2.store
    let n := newBandOf s
    ∃ pre, pre <+: src ∧ Paired (Records H o s') pre (bandEntries s' n) ∧
      listSpec s' n = bandEntries s' n ++ oldPart s s' p n ∧
      (isComplete s' n = true → pre = src) := by
  intro s' n
  obtain ⟨pre, hpre, hrec, hlist, _⟩ := C03r.interrupted_listing_spec H hinj hlen s o src p ho hsrc hsw hst j
  refine ⟨pre, hpre, hrec, hlist, fun hc => ?_⟩
  have htail : (s'.get? (.bandTail n)).isSome = true := by
    unfold isComplete at hc
    cases hg : s'.get? (.bandTail n) with
    | none => rw [hg] at hc; cases hc
    | some v => rfl
  exact (interrupted_listing_tail_started H hinj hlen s o src p ho hsrc hsw hst j htail).2.2.2.2.1 pre hpre hrec

/-- The crash point of the gap — between the two micro-steps of the tail write — exists, and is covered. -/
theorem interrupted_tail_zero_length (H : Str → Str) (hinj : Function.Injective H) (hlen : HashLen H)
    (s : Store) (o : BackupOpts) (src : List SrcEntry) (p : Nat) (ho : 0 < o.maxBlockSize) (hsrc : SrcGood src)
    (hsw : C13.SrcSortedWeak src) (hst : Start H src s p) :
    ∃ j, let s' := ((backup H o src).run (crashWorld s j)).2.store
      s'.get? (.bandTail (newBandOf s)) = some .empty ∧
      Paired (Records H o s') src (bandEntries s' (newBandOf s)) ∧
      (lastCompleteBand.run (World.clean s')).1 = .ok (some (newBandOf s)) ∧
      ((restore H .latestClosed [slash] (fun _ => false)).run (World.clean s')).1
        = .ok (src.map (expectedNode o)) := by
  obtain ⟨j, hj⟩ := crashed_tail_zero_length (o := o) (fun d => hlen d) ho hsrc hst.good
  refine ⟨j, hj, ?_⟩
  have h := interrupted_listing_tail_started H hinj hlen s o src p ho hsrc hsw hst j
    (by show (Option.isSome ((crashed H o src s j).get? _)) = true; rw [hj]; rfl)
  exact ⟨h.2.2.2.1, h.2.2.2.2.2.2.2.2.1, h.2.2.2.2.2.2.2.2.2.2.2.1⟩

namespace Example1
open C01a.Example C02h.Example C03r.Example

/-- The theorem applies to C03r's example archive (`s1`: the archive a first backup of the example source
left) and source, at every crash point that leaves the tail key. -/
example (j : Nat)
    (htail : (((backup exH {} source).run (crashWorld s1 j)).2.store.get? (.bandTail (newBandOf s1))).isSome = true) :
    let s' := ((backup exH {} source).run (crashWorld s1 j)).2.store
    Paired (Records exH {} s') source (bandEntries s' (newBandOf s1)) ∧
      (restoreOf exH (newBandOf s1) s').1 = .ok (source.map (expectedNode {})) :=
  let h := interrupted_listing_tail_started exH exH_inj hlen s1 {} source 0 (by decide) source_good
    source_sorted.weak s1_start j htail
  ⟨h.2.2.2.1, h.2.2.2.2.2.2.2.2.2.1⟩

/-- … and there is such a crash point with a zero-length tail (`#eval` of the model: `j = 8`). -/
example : ∃ j, ((backup exH {} source).run (crashWorld s1 j)).2.store.get? (.bandTail (newBandOf s1)) = some .empty :=
  let ⟨j, h, _⟩ := interrupted_tail_zero_length exH exH_inj hlen s1 {} source 0 (by decide) source_good
    source_sorted.weak s1_start
  ⟨j, h⟩

end Example1

end c03r

#print axioms interrupted_listing_tail_started
#print axioms interrupted_listing_spec_full
#print axioms interrupted_tail_zero_length

end Conserve.Gaps
