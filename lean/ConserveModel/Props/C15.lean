import ConserveModel.Proofs.GlobExclude
import ConserveModel.Proofs.GlobAnchor
import ConserveModel.Proofs.ApathPrefix
/-
C15 — Exclusions mean the same thing at backup, list and restore time.

This file holds the part of C15 that is about the exclusion test itself (src/excludes.rs on top
of globset; model in ConserveModel/Glob.lean, tied to the real `Exclude` by harness/src/c15.rs); the
tree walk and the three programs are in Props/C15e.lean.

All theorems are for ALL patterns that globset accepts within the modelled grammar (literals,
`?`, `*`, `**` in every position, classes, backslash escapes; not `{..}` alternates) unless the name
ends in `_partial`, and for all byte strings as paths (validity of the apath is not needed).
-/
namespace Conserve.C15
open Conserve

/-- `p` is strictly below `a` by whole components, at the level of bytes: `p = a ++ "/" ++ z`.
For valid apaths other than the root this is descent by whole components (`Conserve.strictDesc_iff`). -/
def StrictDesc (a p : Str) : Prop := ∃ z, p = a ++ slash :: z

/-- `y` is `x` or a prefix of `x` that ends just before a '/' (for an apath `/a/b`: "", "/a", "/a/b";
the empty prefix stands for the root directory — globset sees the root's children as "" ++ "/" ++ name). -/
def SelfOrAbove (y x : Str) : Prop := y = x ∨ StrictDesc y x

/-- The decidable class G of globs for which appending "/**" appends a `RecursiveSuffix` token and
which are not just `**`: every glob that parses to something other than `[RecursivePrefix]` and does
not end in "**" is in G (`inG_of_not_endsWith`), among them globs ending in '/' (but not "**/"). -/
def inG (p : Str) : Bool :=
  match parseGlob p with
  | none => false
  | some ts => ts != [.recPrefix] && parseGlob (p ++ slashStarStar) == some (ts ++ [.recSuffix])

/-- **suffix_rule.** For `p` in G, the glob `p/**` matches `x` iff `p` matches a prefix `y` of `x` that
is followed by a '/': `p/**` = "something strictly below a match of `p`". -/
theorem suffix_rule (p : Str) (hG : inG p = true) (x : Str) :
    globMatch (p ++ slashStarStar) x = true ↔ ∃ y z, x = y ++ slash :: z ∧ globMatch p y = true := by
  unfold inG at hG
  cases hp : parseGlob p with
  | none => simp [hp] at hG
  | some ts =>
    simp only [hp, Bool.and_eq_true, bne_iff_ne, ne_eq, beq_iff_eq] at hG
    obtain ⟨hne, hs⟩ := hG
    simp only [globMatch_of_parse hp, globMatch_of_parse hs]
    exact matchToks_snoc_recSuffix hne x

theorem inG_of_not_endsWith {p : Str} {ts : List Tok} (hp : parseGlob p = some ts)
    (hne : ts ≠ [.recPrefix]) (hend : ¬ ∃ q, p = q ++ [42, 42]) : inG p = true := by
  unfold inG
  simp [hp, hne, parseGlob_slashStarStar_of_not_endsWith hp hend]

/-- **suffix_cases.** Every glob `p` that parses falls in one of three cases: it is in G (the suffix
rule holds); or it is equivalent to `**` and matches everything; or it ends in a `**` component, and
then `p/**` has the same tokens as `p`, and `p` already matches everything below what it matches. -/
theorem suffix_cases {p : Str} {ts : List Tok} (hp : parseGlob p = some ts) :
    inG p = true ∨ (∀ x, globMatch p x = true) ∨
    (parseGlob (p ++ slashStarStar) = some ts ∧
      ∀ a z, globMatch p a = true → globMatch p (a ++ slash :: z) = true) := by
  by_cases hrp : ts = [.recPrefix]
  · right; left; intro x; rw [globMatch_of_parse hp, hrp]; exact matchToks_recPrefix x
  · rcases parseGlob_slashStarStar hp with h1 | ⟨h1, h2⟩
    · left; unfold inG; simp [hp, hrp, h1]
    · right; right
      refine ⟨h1, ?_⟩
      rcases h2 with h2 | ⟨t0, rfl⟩
      · exact absurd h2 hrp
      · intro a z ha
        rw [globMatch_of_parse hp] at ha ⊢
        exact matchToks_recSuffix_closed t0 a z ha

/-- `Q` or `Q/**` matches `x` iff `Q` matches `x` or a prefix of `x` that is followed by '/'. -/
theorem globPair_iff {q : Str} {ts : List Tok} (h : parseGlob q = some ts) (x : Str) :
    (globMatch q x = true ∨ globMatch (q ++ slashStarStar) x = true) ↔
      ∃ y, SelfOrAbove y x ∧ globMatch q y = true := by
  rcases suffix_cases h with hG | hall | ⟨hsame, hcl⟩
  · rw [suffix_rule q hG]
    constructor
    · rintro (hx | ⟨y, z, e, hy⟩)
      · exact ⟨x, .inl rfl, hx⟩
      · exact ⟨y, .inr ⟨z, e⟩, hy⟩
    · rintro ⟨y, rfl | ⟨z, e⟩, hy⟩
      · exact .inl hy
      · exact .inr ⟨y, z, e, hy⟩
  · exact ⟨fun _ => ⟨x, .inl rfl, hall x⟩, fun _ => .inl (hall x)⟩
  · rw [globMatch_of_parse hsame, ← globMatch_of_parse h, or_self]
    constructor
    · exact fun hx => ⟨x, .inl rfl, hx⟩
    · rintro ⟨y, rfl | ⟨z, rfl⟩, hy⟩
      · exact hy
      · exact hcl y z hy

theorem anchorPattern_anchored (P : Str) (h : P.head? = some slash) : anchorPattern P = P := by
  simp [anchorPattern, h]

theorem anchorPattern_unanchored (P : Str) (h : P.head? ≠ some slash) :
    anchorPattern P = starStarSlash ++ P := by
  simp [anchorPattern, h, starStarSlash]

/-- **unanchored_rule_partial** (side condition: the pattern is not empty and does not itself start
with '*'; such patterns merge with the "**/" in front of them).  `**/P` matches `y` iff `P` matches
all of `y` or the part of `y` after one of its slashes — `P` matches "at any depth". -/
theorem unanchored_rule_partial (P : Str) (h0 : P ≠ []) (hstar : P.head? ≠ some 42) (y : Str) :
    globMatch (starStarSlash ++ P) y = true ↔
      ∃ u v, y = u ++ v ∧ (u = [] ∨ ∃ w, u = w ++ [slash]) ∧ globMatch P v = true := by
  cases hp : parseGlob P with
  | none =>
    simp [globMatch, hp, parseGlob_starStarSlash_none hstar hp]
  | some ts =>
    have hp' := parseGlob_starStarSlash hstar hp
    have hR : RPHead (.recPrefix :: ts) := parseGlob_RPHead hp'
    have hts : ts ≠ [.recPrefix] := by
      intro h; subst h; exact hR (by simp)
    have hne : (Tok.recPrefix :: ts) ≠ [.recPrefix] := by
      intro h
      exact parseGlob_toks_ne_nil h0 hstar hp (by simpa using h)
    simp only [globMatch_of_parse hp, globMatch_of_parse hp', matchToks_of_ne hne, matchToks_of_ne hts]
    exact matchT_cons .recPrefix ts y

/-- `Exclude::from_strings` succeeds iff every pattern, in its anchored form, is accepted by globset
(the second glob `Q/**` can then never fail). -/
theorem fromStrings_isSome_iff (pats : List Str) :
    (∃ E, Exclude.fromStrings pats = some E) ↔ ∀ P ∈ pats, ∃ ts, parseGlob (anchorPattern P) = some ts := by
  have : (∃ E, Exclude.fromStrings pats = some E) ↔ ∃ tss, parseAll (pats.flatMap expandPattern) = some tss :=
    ⟨fun ⟨E, h⟩ => ⟨_, fromStrings_eq_some.mp h⟩, fun ⟨tss, h⟩ => ⟨⟨tss⟩, fromStrings_eq_some.mpr h⟩⟩
  rw [this, parseAll_isSome_iff]
  simp only [List.mem_flatMap, mem_expandPattern]
  constructor
  · exact fun h P hP => h _ ⟨P, hP, .inl rfl⟩
  · rintro h g ⟨P, hP, rfl | rfl⟩
    · exact h P hP
    · -- the second glob `Q/**` can then never fail
      obtain ⟨ts, hts⟩ := h P hP
      rcases parseGlob_slashStarStar hts with h2 | ⟨h2, _⟩ <;> exact ⟨_, h2⟩

/-- **excluded_iff.** A path is excluded iff it, or a prefix of it ending just before a '/' (an
ancestor by whole components; "" for the root directory), matches one of the patterns in its
anchored form (`P` itself if it starts with '/', else `**/P`). Nothing else is dropped or kept. -/
theorem excluded_iff (pats : List Str) (E : Exclude) (h : Exclude.fromStrings pats = some E) (x : Str) :
    E.matches x = true ↔
      ∃ P ∈ pats, ∃ y, SelfOrAbove y x ∧ globMatch (anchorPattern P) y = true := by
  have hparse := (fromStrings_isSome_iff pats).mp ⟨E, h⟩
  rw [Exclude.matches, excluded_parseAll (fromStrings_eq_some.mp h)]
  simp only [List.mem_flatMap, mem_expandPattern]
  constructor
  · rintro ⟨g, ⟨P, hP, hg⟩, hm⟩
    obtain ⟨ts, hts⟩ := hparse P hP
    exact ⟨P, hP, (globPair_iff hts x).mp (by rcases hg with rfl | rfl <;> simp [hm])⟩
  · rintro ⟨P, hP, hy⟩
    obtain ⟨ts, hts⟩ := hparse P hP
    rcases (globPair_iff hts x).mpr hy with hm | hm
    · exact ⟨_, ⟨P, hP, .inl rfl⟩, hm⟩
    · exact ⟨_, ⟨P, hP, .inr rfl⟩, hm⟩

/-- **excl_desc_closed.** Everything strictly below an excluded path is excluded — for every set of
patterns from which an `Exclude` can be built. -/
theorem excl_desc_closed (pats : List Str) (E : Exclude) (h : Exclude.fromStrings pats = some E)
    (a p : Str) (ha : E.matches a = true) (hd : StrictDesc a p) : E.matches p = true := by
  rw [excluded_iff pats E h] at ha ⊢
  obtain ⟨P, hP, y, hy, hm⟩ := ha
  obtain ⟨z, rfl⟩ := hd
  refine ⟨P, hP, y, Or.inr ?_, hm⟩
  rcases hy with rfl | ⟨w, rfl⟩
  · exact ⟨z, rfl⟩
  · exact ⟨w ++ slash :: z, by simp⟩

/-- **prune_eq_filter.** Take any list of paths in which every path's parent directory (if it is
not directly below the root) occurs earlier — e.g. all entries below the root in walk order.  The walk
that skips the children of excluded directories and otherwise drops excluded entries (`pruneWalk`)
keeps exactly the entries that are not excluded. -/
theorem prune_eq_filter (pats : List Str) (E : Exclude) (h : Exclude.fromStrings pats = some E)
    (xs : List Str) (hclosed : ParentClosed parentOf [] xs) :
    pruneWalk E.matches parentOf [] xs = xs.filter fun x => !E.matches x := by
  apply pruneWalk_eq_filter E.matches parentOf _ [] xs hclosed
  intro x q hq hex
  obtain ⟨n, rfl⟩ := parentOf_eq hq
  exact excl_desc_closed pats E h q _ hex ⟨n, rfl⟩

/-- The root is excepted, as in the property text ("entries below the root"): the pattern "/" excludes
the root itself but nothing below it — the children of the root are `"" ++ "/" ++ name` for globset, not
`"/" ++ "/" ++ name`.  (The backup walk never tests the root; listing and restore do.) -/
theorem root_not_closed :
    (Exclude.fromStrings [[47]]).map (fun E => (E.matches [47], E.matches [47, 97])) = some (true, false) := by
  decide +kernel

/-- Pattern "*" (that is `**/*`) matches the root as well as everything else. -/
theorem star_matches_root :
    (Exclude.fromStrings [[42]]).map (fun E => (E.matches [47], E.matches [47, 97], E.matches [47, 97, 47, 98]))
      = some (true, true, true) := by
  decide +kernel

/-! ### Non-vacuity and corner cases (all evaluated by the kernel) -/

-- G is inhabited: "/a", "**/foo*", "/a/" (ending in '/'), "/[!a]?", "/a**" (a `**` that is not a component).
example : inG [47, 97] = true := by decide +kernel
example : inG [42, 42, 47, 102, 111, 111, 42] = true := by decide +kernel
example : inG [47, 97, 47] = true := by decide +kernel
example : inG [47, 91, 33, 97, 93, 63] = true := by decide +kernel
-- "/a**" ends in "**" but is in G all the same (the criterion `inG_of_not_endsWith` is sufficient only).
example : inG [47, 97, 42, 42] = true := by decide +kernel
-- Not in G: "**" and "**/" (match everything), "/a/**" (third case of `suffix_cases`), "[a" (rejected).
example : inG [42, 42] = false := by decide +kernel
example : inG [42, 42, 47] = false := by decide +kernel
example : inG [47, 97, 47, 42, 42] = false := by decide +kernel
example : inG [91, 97] = false := by decide +kernel
-- the suffix rule really fails for "**/" on a string without a leading slash: "a/b"
example : globMatch ([42, 42, 47] ++ slashStarStar) [97, 47, 98] = false ∧ globMatch [42, 42, 47] [97] = true := by
  decide +kernel
-- and for "/a/**": "/a/**/**" matches "/a/b", but no prefix of "/a/b" followed by '/' matches "/a/**"
example : globMatch ([47, 97, 47, 42, 42] ++ slashStarStar) [47, 97, 47, 98] = true := by decide +kernel
example : globMatch [47, 97, 47, 42, 42] [47, 97] = false ∧ globMatch [47, 97, 47, 42, 42] [] = false := by decide +kernel

-- An Exclude exists and excludes something but not everything: ["foo*", "/exc"] (tests of excludes.rs).
example : (Exclude.fromStrings [[102, 111, 111, 42], [47, 101, 120, 99]]).map
    (fun E => (E.matches [47, 115, 47, 102, 111, 111, 98],      -- "/s/foob"   excluded (any depth)
               E.matches [47, 101, 120, 99, 47, 97],            -- "/exc/a"    excluded (below /exc)
               E.matches [47, 115, 47, 101, 120, 99],           -- "/s/exc"    kept (anchored)
               E.matches [47, 98]))                              -- "/b"        kept
    = some (true, true, false, false) := by decide +kernel
-- A rejected pattern: no Exclude.
example : (Exclude.fromStrings [[91, 97]]).isNone = true := by decide +kernel
-- `?` is one byte: "?" does not exclude "/é" (c3 a9), "??" does.
example : (Exclude.fromStrings [[63]]).map (·.matches [47, 195, 169]) = some false := by decide +kernel
example : (Exclude.fromStrings [[63, 63]]).map (·.matches [47, 195, 169]) = some true := by decide +kernel
-- a negated class matches '/': the unanchored pattern "a[!b]c" excludes "/a/c".
example : (Exclude.fromStrings [[97, 91, 33, 98, 93, 99]]).map (·.matches [47, 97, 47, 99]) = some true := by decide +kernel
-- ParentClosed lists exist, and pruning a directory drops its children: patterns ["b"],
-- list [/a, /a/b, /a/b/c, /d]
example : ParentClosed parentOf [] [[47, 97], [47, 97, 47, 98], [47, 97, 47, 98, 47, 99], [47, 100]] := by
  simp [ParentClosed, parentOf, splitLastSlash, slash]
example : (Exclude.fromStrings [[98]]).map (fun E =>
    pruneWalk E.matches parentOf [] [[47, 97], [47, 97, 47, 98], [47, 97, 47, 98, 47, 99], [47, 100]])
    = some [[47, 97], [47, 100]] := by decide +kernel

end Conserve.C15
