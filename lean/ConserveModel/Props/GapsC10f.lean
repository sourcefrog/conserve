import ConserveModel.Proofs.GapTotalTop
import ConserveModel.Props.C10f
/-
The "C10f gap", closed: `C10.BackupCompletes` — clause 3 of C10 as Props/C10.lean words it — quantifies
over EVERY source listing `src : List SrcEntry` and EVERY `o : BackupOpts`; Props/C10f.lean proves it
(`backup_completes`) only for good sources (`Exact.SrcGood`), `0 < o.maxBlockSize`, and an injective
hash with names of three characters or more, and only states `C10f.BackupCompletesAnySourceStatement`.

The one hypothesis of `backup_total_clean` that is not in `backup_restore_exact_fair`'s list,
`LongNames`, is needed (`backup_total_needs_longNames`); for a `Good` archive it follows from `Conforms`.

Why no hypothesis on the source is needed.  In the main part of `backup()` only three things can end a
fault-free run early: a storage error in `flush_group` / `finish_hunk` / `Band::close` (an error inside
`copy_entry` is only counted), the panic of `metadata_from` (repaired: total), and the panic of
`IndexEntry::mtime()` on a BASIS entry — and basis entries come out of `listEntries`, which drops every
entry that fails `IndexEntry::check`.  The source only decides WHAT is written, never WHERE: hunks go
to `i/DDDDD/<sequence>` with `sequence` counting up in a directory this run created, blocks go to
`d/xxx/<H data>` guarded by the in-memory set `exists_`, which knows every non-empty block file
`list_blocks` could see.  A non-injective hash merely deduplicates more; a hash with short names creates
`d/x` directories the NEXT run will not list — harmless within one run, and excluded on the archive
the run starts from by `Conforms` (every `d/…` directory has a three-character name).
-/
set_option linter.unusedSimpArgs false
namespace Conserve.Gaps
open Conserve Conserve.NP Conserve.C10 Conserve.Exact

variable {H : Str → Str}

/-- **backup_total_clean.**  On a fault-free, crash-free world holding store `s`, `backup H o src` returns
statistics — it neither fails with a conserve `Error` nor panics — for EVERY source listing `src`,
EVERY options record `o` and EVERY hash `H`, provided
* `StoreOK H s`: `s` is a map and a tree, directories where the layout has directories and files where
  it has files, `d/` exists, every block file is a zero-length leftover or holds content named by
  its hash (and shorter than 2^64);
* `ArchWF s`: within every version the entries of the usable hunks are sorted (so that the basis
  listing is the one C08 specifies);
* no `GC_LOCK`;
* `LongNames s`: every non-empty block file has a name of at least three characters, i.e. lives in a
  `d/xxx` that `list_blocks` lists (necessary: `backup_total_needs_longNames`).
Nothing is assumed about versions listing silently, hunks, heads or tails being present, or entries
referring to present blocks; nothing at all about `src`, `o`, `H`. -/
theorem backup_total_clean {s : Store} (hst : StoreOK H s) (hwf : ArchWF s) (noLock : s.get? .gcLock = none)
    (hn : GapTotal.LongNames s) (o : BackupOpts) (src : List SrcEntry) :
    ∃ st w', (backup H o src).run (World.clean s) = (.ok st, w') := by
  obtain ⟨st, s', evs, hr⟩ := GapTotal.backup_runs_total hst hwf noLock hn o src
  exact ⟨st, _, Prod.ext hr.clean.1 rfl⟩

/-- `LongNames` is part of `StoreOK` when the hash only produces names of three characters or more (the
`hlen` of C01a / C10f). -/
theorem backup_total_clean_of_hlen (hlen : ∀ d, subdirNameChars ≤ (H d).length) {s : Store}
    (hst : StoreOK H s) (hwf : ArchWF s) (noLock : s.get? .gcLock = none) (o : BackupOpts)
    (src : List SrcEntry) : ∃ st w', (backup H o src).run (World.clean s) = (.ok st, w') :=
  backup_total_clean hst hwf noLock (GapTotal.longNames_of_hlen hlen hst.blocks) o src

/-- `Conforms` gives every `d/…` directory a three-character name. -/
theorem longNames_after_loss {s s' : Store} {k : Key} (g : C10.Good H s) (hd : FileDamage s s' k)
    (hdel : s'.get? k = none ∨ s'.get? k = some .empty) : GapTotal.LongNames s' := by
  intro h v hg hne
  have hp := parent_dir (Contain.good_dirsOk g) (Contain.get?_of_loss hd.1 hdel hg hne) rfl
  have := Contain.conforms_blockDir_len g.1 hp
  simp only [List.length_take, subdirNameChars] at this ⊢
  omega

/-- **backup_completes_any_source** — `C10f.BackupCompletesAnySourceStatement`, for EVERY hash `H`.
`s` is `Good` (the documented format, a map, a tree, no gc lock) with `KindsOK` and `BlocksSmall`; one
file `k` other than the header — a block, a hunk, a tail, a head, a stray file — is deleted or
emptied, giving `s'`.  Then for EVERY options record and EVERY source listing the fault-free backup
onto `s'` returns statistics: `(backup H o src).run (World.clean s') = (.ok st, w')`.  This is clause 3
of C10 exactly as `C10.BackupCompletes` words it; `C10f.backup_completes` has it for `SrcGood src`,
`0 < o.maxBlockSize`, injective `H` with long names.  None of these is needed for the backup to
COMPLETE (they are needed for the new version to restore the source EXACTLY — `backup_after_loss`). -/
theorem backup_completes_any_source : C10f.BackupCompletesAnySourceStatement H := by
  intro s s' k g hkinds hsmall hd hdel o src
  exact backup_total_clean (C10f.storeOK_after_loss g hkinds hsmall hd hdel) (C10f.archWF_after_loss g hd hdel)
    (hd.none_kept g.2.2.2) (longNames_after_loss g hd hdel) o src

/-- Clause 3 of `C10.C10StatementComplete` / `C10.C10Statement`, with the two hypotheses it needs
(`C10f.backup_completes_refuted`: false from `Good` alone) and nothing else. -/
theorem c10_clause3 (s s' : Store) (k : Key) (g : C10.Good H s) (hkinds : Rng.KindsOK s)
    (hsmall : Exact.BlocksSmall s) (hd : FileDamage s s' k) : BackupCompletes H s' k :=
  backup_completes_any_source s s' k g hkinds hsmall hd

/-- The undamaged case: a fault-free backup of ANYTHING onto a `Good` archive with `KindsOK` and
`BlocksSmall` returns statistics. -/
theorem backup_completes_undamaged {s : Store} (g : C10.Good H s) (hkinds : Rng.KindsOK s)
    (hsmall : Exact.BlocksSmall s) (o : BackupOpts) (src : List SrcEntry) :
    ∃ st w', (backup H o src).run (World.clean s) = (.ok st, w') := by
  have hst := Rng.storeOK_of_ci (C10f.good_ci g) hkinds hsmall
  exact backup_total_clean hst (Contain.good_archWF g) g.2.2.2
    (GapTotal.longNames_of_dirNames hst fun _ _ hg => Contain.conforms_blockDir_len g.1 hg) o src

def shortH : Str → Str := fun _ => [97, 98]

/-- A fresh archive with the block `ab` (content `[1]`) in the two-character directory `d/ab` —
`list_blocks` skips `d/ab`, so the in-memory set does not know the block. -/
def shortStore : Store :=
  [ (.root, .dir), (.header, .header [48, 46, 54]), (.blockRoot, .dir),
    (.blockDir [97, 98], .dir), (.block [97, 98], .blockData [1]) ]

/-- One small file `/f` with content `[2]` (which `shortH` names `ab`, too). -/
def oneFile : List SrcEntry :=
  [ { apath := [47, 102], kind := .file, mtimeNs := 0, unixMode := 420, user := none, group := none,
      size := 1, content := [2] } ]

theorem shortStore_ok : StoreOK shortH shortStore := StoreOK.of_checks (by decide +kernel)

theorem shortStore_noBands : Inv.NoBands shortStore := by
  intro kv hkv b
  simp only [shortStore, List.mem_cons, List.not_mem_nil, or_false] at hkv
  rcases hkv with rfl | rfl | rfl | rfl | rfl <;> intro e <;> cases e

theorem shortStore_wf : ArchWF shortStore :=
  (ArchiveGood.of_noBands shortStore_ok shortStore_noBands (by decide) []).wf

/-- Evaluating a run of `backup` in two steps: the prelude, then the main part on a GIVEN merged listing.
(The kernel cannot unfold `mergeTrees`, which is defined by well-founded recursion; everything else in
a run of `backup` on a small store evaluates.) -/
theorem backup_run_of_prelude {H : Str → Str} {o : BackupOpts} {src : List SrcEntry} {s : Store}
    {x : Nat × List Str × List IndexEntry} {w1 : World} {ms : List Matched}
    (hp : Inv.backupPrelude.run (World.clean s) = (.ok x, w1)) (hm : mergeTrees x.2.2 src = ms) :
    (backup H o src).run (World.clean s) =
      ((backupLoop H o { band := x.1, exists_ := x.2.1 } ms).bind fun w =>
        (flushGroup H w).bind fun w => (finishHunk w).bind fun w =>
        (bandClose w.band w.hunksWritten).bind fun _ => Prog.ret w.stats).run w1 := by
  rw [Inv.backup_eq, Prog.run_bind, hp]
  simp only [Inv.backupMain, hm]

/-- **backup_total_needs_longNames.**  `backup_total_clean` without `LongNames` is FALSE: `StoreOK`, `ArchWF`
and "no lock" hold of `shortStore` under `shortH`, yet the backup of `oneFile` ends with
`AlreadyExists` — `store_or_deduplicate` does not find `ab` in the in-memory set (its directory is
not listed), and the `CreateNew` write hits the existing file; in `flush_group` that error is fatal.
No real archive is like this (BLAKE2b names have 128 characters); the hypothesis is about `H`, which
the theorems leave arbitrary. -/
theorem backup_total_needs_longNames :
    ¬ ∀ (H : Str → Str) (s : Store), StoreOK H s → ArchWF s → s.get? .gcLock = none →
        ∀ o src, ∃ st w', (backup H o src).run (World.clean s) = (.ok st, w') := by
  intro h
  obtain ⟨st, w', hrun⟩ := h shortH shortStore shortStore_ok shortStore_wf (by decide) {} oneFile
  have hp : Inv.backupPrelude.run (World.clean shortStore)
      = (.ok (0, [], []), (Inv.backupPrelude.run (World.clean shortStore)).2) :=
    Prod.ext (okOf?_eq_some.mp (by decide +kernel)) rfl
  have herr : errOf? ((backup shortH {} oneFile).run (World.clean shortStore)).1
      = some (.transport .alreadyExists) := by
    rw [backup_run_of_prelude hp (ms := oneFile.map .right) (by rw [mergeTrees])]
    decide +kernel
  rw [hrun] at herr
  cases herr

/-- … and `LongNames` fails of that store, as it must. -/
example : ¬ GapTotal.LongNames shortStore := fun h => by
  have := h [97, 98] (.blockData [1]) (by decide +kernel) (by decide)
  revert this
  decide

/-- A source listing that violates every clause of `Exact.SrcGood`: not sorted, a path twice, an invalid
path (no leading slash, an empty component), `size` larger and smaller than the content, a file of
size 0 that has content, an entry of unknown kind, a symlink without target whose mtime is far beyond
year 9999, a pre-epoch mtime. -/
def wildSource : List SrcEntry :=
  [ { apath := [47, 122], kind := .file, mtimeNs := -1, unixMode := 420, user := none, group := none,
      size := 7, content := [1, 2] },
    { apath := [98, 47, 47], kind := .dir, mtimeNs := 0, unixMode := 493, user := none, group := none },
    { apath := [47, 122], kind := .file, mtimeNs := 5, unixMode := 420, user := some [117], group := none,
      size := 1, content := [1, 2, 3] },
    { apath := [47, 99], kind := .file, mtimeNs := 5, unixMode := 420, user := none, group := none,
      size := 0, content := [9] },
    { apath := [47, 117], kind := .unknown, mtimeNs := 0, unixMode := 0, user := none, group := none },
    { apath := [47, 97], kind := .symlink, mtimeNs := 1000000000000000000000000000000, unixMode := 511,
      user := none, group := none, target := none } ]

/-- Degenerate options: a flush after every entry, a block size of zero. -/
def wildOpts : BackupOpts := { maxEntriesPerHunk := 0, maxBlockSize := 0, smallFileCap := 1 }

/-- `wildSource` is none of the sources the earlier theorems speak about. -/
example : ¬ Exact.SrcGood wildSource := fun h => absurd h.sorted (by decide +kernel)

example : ¬ 0 < wildOpts.maxBlockSize := by decide

namespace Example
open C01a.Example C02h.Example C10f.Example

/-- **Instance on the archive a real backup wrote.**  `C02h.Example.s1` is the archive after a fault-free
backup of `C01a.Example.source`; delete the TAIL of its only version.  By `backup_completes_any_source`
the backup of `wildSource` with `wildOpts` onto it returns statistics.  Every hypothesis is discharged
by a theorem, none by evaluating the run. -/
example : ∃ st w', (backup exH wildOpts wildSource).run (World.clean (s1.erase (.bandTail 0))) = (.ok st, w') := by
  obtain ⟨v, hv, hvd⟩ := s1_tail
  exact backup_completes_any_source (H := exH) s1 _ (.bandTail 0) s1_good s1_archiveGood.st.kinds
    s1_archiveGood.st.small (C10f.fileDamage_erase s1_good hv hvd (by decide)) (.inl (by simp)) wildOpts wildSource

/-- The same with a BLOCK that version 0 refers to deleted: the basis now has a dangling reference (C01a's
`ArchiveGood` fails), and the backup of the ill-formed source still completes. -/
example : ∃ h : Str, ¬ NoDangling exH (s1.erase (.block h)) ∧
    ∃ st w', (backup exH wildOpts wildSource).run (World.clean (s1.erase (.block h))) = (.ok st, w') := by
  obtain ⟨h, c, hg, hnd⟩ := s1_dangling_after_erase
  exact ⟨h, hnd, backup_completes_any_source (H := exH) s1 _ (.block h) s1_good s1_archiveGood.st.kinds
    s1_archiveGood.st.small (C10f.fileDamage_erase s1_good hg (by simp) (fun e => by cases e))
    (.inl (by simp)) wildOpts wildSource⟩

end Example

/-- **A constant hash.**  `C10f.closed` (one complete version, no blocks) is `Good` for EVERY hash, so also
for the constant, two-character `shortH`; delete its only hunk.  The backup of `wildSource` completes
— by the theorem … -/
example : ∃ st w', (backup shortH wildOpts wildSource).run (World.clean (C10f.closed.erase (.hunk 0 0)))
    = (.ok st, w') := by
  have g : C10.Good shortH C10f.closed :=
    ⟨by decide +kernel, by decide +kernel, by decide +kernel, by decide +kernel⟩
  have hk : Rng.KindsOK C10f.closed := fun k v hg =>
    List.all_eq_true.mp (by decide +kernel : List.all C10f.closed (fun kv => Exact.kindOk kv.1 kv.2) = true)
      (k, v) (Store.mem_of_get? hg)
  have hs : Exact.BlocksSmall C10f.closed := fun h c hg => by
    have hm := Store.mem_of_get? hg
    revert hm
    simp [C10f.closed]
  exact backup_completes_any_source (H := shortH) C10f.closed _ (.hunk 0 0) g hk hs
    (C10f.fileDamage_erase g (v := .hunk [dirEntry [slash], emptyFile [47, 102]]) (by decide +kernel)
      (by decide) (by decide)) (.inl (by simp)) wildOpts wildSource

/-- … and by evaluation (in two steps, see `backup_run_of_prelude`): the basis listing is empty (the only
hunk of version 0 is gone), the run returns, counts no error, and the new version 1 is complete. -/
example :
    (okOf? ((backup shortH wildOpts wildSource).run (World.clean (C10f.closed.erase (.hunk 0 0)))).1).map
      (·.errors) = some 0 ∧
    isComplete ((backup shortH wildOpts wildSource).run (World.clean (C10f.closed.erase (.hunk 0 0)))).2.store 1
      = true := by
  have hp : Inv.backupPrelude.run (World.clean (C10f.closed.erase (.hunk 0 0)))
      = (.ok (1, [], []), (Inv.backupPrelude.run (World.clean (C10f.closed.erase (.hunk 0 0)))).2) :=
    Prod.ext (okOf?_eq_some.mp (by decide +kernel)) rfl
  rw [backup_run_of_prelude hp (ms := wildSource.map .right) (by rw [mergeTrees])]
  decide +kernel

end Conserve.Gaps

#print axioms Conserve.Gaps.backup_total_clean
#print axioms Conserve.Gaps.backup_total_clean_of_hlen
#print axioms Conserve.Gaps.backup_completes_any_source
#print axioms Conserve.Gaps.c10_clause3
#print axioms Conserve.Gaps.backup_completes_undamaged
#print axioms Conserve.Gaps.backup_total_needs_longNames
#print axioms Conserve.GapTotal.backupMain_total
#print axioms Conserve.GapTotal.backup_runs_total
