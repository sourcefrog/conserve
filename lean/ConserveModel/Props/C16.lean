import ConserveModel.Proofs.FsModeFull
import ConserveModel.Proofs.FsWalkTree
import ConserveModel.Proofs.FsGuard
import ConserveModel.Proofs.GapFsLoop
import ConserveModel.Props.C11Walk
/-
C16 — Restore stays inside its destination and never clobbers by default; and C01 (c), the
modes of restored files.

Model: ConserveModel/Fs.lean (`Fs`, path resolution, the system calls restore issues with
Linux's follow / no-follow behaviour, `restoreToFs` = src/restore.rs `restore()` from
`ensure_dir_exists` on).  The list of `RNode`s is what the store-level half (Restore.lean)
hands over.  Property theorems only; helper lemmas live in Proofs/Fs*.lean and Proofs/GapFs*.lean.

Trusted, not verified: that `Fs` describes Linux (validated by the C16 harness against the
kernel: final file system of the real restore vs `restoreToFs`, path by path).
-/
namespace Conserve.C16
open Conserve

abbrev under (D p : Path) : Prop := D <+: p

/-- A listing as a complete version produces it (decidable): valid apaths, strictly increasing,
and every entry but the first (the root of the selected subtree) lies below the first and has
its parent directory among the EARLIER entries, as a `Dir`. -/
abbrev TreeConsistent (nodes : List RNode) : Prop := treeConsistent nodes = true

theorem treeConsistent_confinable {nodes : List RNode} (h : TreeConsistent nodes) : Confinable nodes :=
  confinable_of_treeConsistent h

/-- **Confinement.**  Restoring a tree-consistent listing WITHOUT the overwrite option, into any
well-formed file system, whatever the symlinks in the listing point at: every node that is not
under the destination is exactly as before — content, target, mode, owner, mtime.

Side conditions, all about the CALLER's destination path (`DestPlain`): its components are real
names (no "." or ".."), none of its proper prefixes is a symlink or a file (the destination
"resolves to itself"), and the destination itself is a directory or does not exist.

The one exception is what `mkdir(destination)` does when the destination does not exist yet:
the kernel stamps the mtime of the destination's parent (`restore_confined_parent`). -/
theorem restore_confined (fs : Fs) (dest : Path) (nodes : List RNode)
    (uidOf gidOf : Str → Option Nat) (oldOrder : Bool)
    (hT : TreeConsistent nodes) (hwf : fs.wf = true) (hD : DestPlain fs dest) :
    let fs' := (restoreToFs fs dest false nodes uidOf gidOf oldOrder).1
    ∀ p, ¬ under dest p → (p ≠ dest.dropLast ∨ fs.node dest ≠ none) → fs'.node p = fs.node p :=
  have hC := (treeConsistent_confinable hT).toL
  (restoreToFs_confined_ord hC.valid hC.notBelowLink hwf hD).1

/-- Confinement when the destination already exists: no exception at all. -/
theorem restore_confined_existing (fs : Fs) (dest : Path) (nodes : List RNode)
    (uidOf gidOf : Str → Option Nat) (oldOrder : Bool)
    (hT : TreeConsistent nodes) (hwf : fs.wf = true) (hD : DestPlain fs dest)
    (hex : fs.isDir dest = true) :
    let fs' := (restoreToFs fs dest false nodes uidOf gidOf oldOrder).1
    ∀ p, ¬ under dest p → fs'.node p = fs.node p := by
  intro fs' p hp
  refine restore_confined fs dest nodes uidOf gidOf oldOrder hT hwf hD p hp (Or.inr ?_)
  obtain ⟨x, hx, _⟩ := Fs.isDir_iff.1 hex
  rw [hx]; simp

/-- The parent of the destination keeps kind, content, mode and owner; only its mtime may be
stamped (by `mkdir(destination)` when the destination was absent). -/
theorem restore_confined_parent (fs : Fs) (dest : Path) (nodes : List RNode)
    (uidOf gidOf : Str → Option Nat) (oldOrder : Bool)
    (hT : TreeConsistent nodes) (hwf : fs.wf = true) (hD : DestPlain fs dest) (hne : dest ≠ []) :
    EqMod (fs.node dest.dropLast)
      ((restoreToFs fs dest false nodes uidOf gidOf oldOrder).1.node dest.dropLast) :=
  have hC := (treeConsistent_confinable hT).toL
  (restoreToFs_confined_ord hC.valid hC.notBelowLink hwf hD).2 hne

/-- Confinement under `Confinable`, weaker than tree-consistency: distinct valid apaths, and every
entry that is a proper ancestor of another entry is a directory (entries whose parent is
missing from the listing are allowed: their creation fails, or `create_dir_all` makes the
parents).  Weaker still: `restore_confined_of_confinableL`, and `Gaps.restore_confined_ordered`
(Props/GapsC16e.lean). -/
theorem restore_confined_of_confinable (fs : Fs) (dest : Path) (nodes : List RNode)
    (uidOf gidOf : Str → Option Nat) (oldOrder : Bool)
    (hC : Confinable nodes) (hwf : fs.wf = true) (hD : DestPlain fs dest) :
    let fs' := (restoreToFs fs dest false nodes uidOf gidOf oldOrder).1
    ∀ p, ¬ under dest p → (p ≠ dest.dropLast ∨ fs.node dest ≠ none) → fs'.node p = fs.node p :=
  (restoreToFs_confined_ord hC.valid hC.toL.notBelowLink hwf hD).1

/-- Confinement under `ConfinableL` (the ordered hypothesis of `Gaps.restore_confined_ordered`,
Props/GapsC16e.lean, is weaker still): distinct valid
apaths, and every entry that is a proper ancestor of another entry is a directory or a FILE —
never a symlink (an entry for the root apath apart: it never becomes a symlink, the destination
exists).  Below a file entry nothing can be created: the path fails to resolve with ENOTDIR. -/
theorem restore_confined_of_confinableL (fs : Fs) (dest : Path) (nodes : List RNode)
    (uidOf gidOf : Str → Option Nat) (oldOrder : Bool)
    (hC : ConfinableL nodes) (hwf : fs.wf = true) (hD : DestPlain fs dest) :
    let fs' := (restoreToFs fs dest false nodes uidOf gidOf oldOrder).1
    ∀ p, ¬ under dest p → (p ≠ dest.dropLast ∨ fs.node dest ≠ none) → fs'.node p = fs.node p :=
  (restoreToFs_confined_ord hC.valid hC.notBelowLink hwf hD).1

/-! ### Any listing: the guard of commit 7db24bb -/

/-- **The guard** (src/restore.rs since commit 7db24bb; `restoreEntries` in Restore.lean), as an
invariant with `syms`: in ANY world (any store, faults, crash point), if the per-entry loop
started with the symlink set `syms` returns `nodes`, then no node is strictly below (by
`belowSymlink`: proper ancestor by whole components, the root never counting) an element of
`syms` or the apath of a SYMLINK node that precedes it in `nodes`. -/
theorem restoreEntries_no_entry_below_symlink_syms (H : Str → Str) (syms : List Str)
    (es : List IndexEntry) (w w' : World) (nodes : List RNode)
    (h : (restoreEntries H syms es).run w = (.ok nodes, w')) :
    ∀ pre n post, nodes = pre ++ n :: post →
      ∀ s, (s ∈ syms ∨ ∃ m ∈ pre, m.kind = .symlink ∧ m.apath = s) →
        belowSymlink [s] n.apath = false := by
  intro pre n post e s hs
  have := (restoreEntries_guarded H h).1
  rw [e] at this
  exact guardedFrom_split pre syms n post this s hs

/-- The guard for `restore()` itself (`syms = []`), by whole components: no returned node has a
proper ancestor, other than the root, that is the apath of an EARLIER SYMLINK node (apaths
valid, as every listing's are). -/
theorem restoreEntries_no_entry_below_symlink (H : Str → Str) (es : List IndexEntry) (w w' : World)
    (nodes : List RNode) (h : (restoreEntries H [] es).run w = (.ok nodes, w')) :
    ∀ pre n post, nodes = pre ++ n :: post → ∀ m ∈ pre, m.kind = .symlink →
      isValid m.apath = true → isValid n.apath = true → comps m ≠ [] →
      comps m <+: comps n → comps m = comps n := by
  intro pre n post e m hm hk hvm hvn hroot hpre
  have := (restoreEntries_guarded H h).1
  rw [e] at this
  exact guardedFrom_at this hm hk hvm hvn hroot hpre

/-- What `restoreEntries` returns for a listing with valid, strictly increasing apaths — what
`C08.listed_valid` / `C08.stitch_sorted` give for ANY version, complete or stitched from an
interrupted one — satisfies `ConfinableL`: entries may still lie below a FILE entry of the same
listing (harmless), never below a symlink entry. -/
theorem restoreEntries_confinableL (H : Str → Str) (es : List IndexEntry) (w w' : World)
    (nodes : List RNode)
    (hv : ∀ e ∈ es, isValid e.apath = true)
    (hs : es.Pairwise fun a b => apathCmp a.apath b.apath = .lt)
    (h : (restoreEntries H [] es).run w = (.ok nodes, w')) : ConfinableL nodes :=
  guardedOut_confinableL hv hs (restoreEntries_guarded H h)

/-- **Confinement for any listing** (complete or interrupted version): for every list of index
entries with valid, strictly increasing apaths, in any world, whatever nodes the per-entry loop
of `restore()` hands to the file system, restoring them without the overwrite option changes
nothing outside the destination (same side conditions on the caller's destination path as
`restore_confined`; same single exception, the mtime of the parent of an absent destination). -/
theorem restore_confined_any_listing (H : Str → Str) (es : List IndexEntry) (w w' : World)
    (nodes : List RNode) (fs : Fs) (dest : Path) (uidOf gidOf : Str → Option Nat) (oldOrder : Bool)
    (hv : ∀ e ∈ es, isValid e.apath = true)
    (hs : es.Pairwise fun a b => apathCmp a.apath b.apath = .lt)
    (h : (restoreEntries H [] es).run w = (.ok nodes, w'))
    (hwf : fs.wf = true) (hD : DestPlain fs dest) :
    let fs' := (restoreToFs fs dest false nodes uidOf gidOf oldOrder).1
    (∀ p, ¬ under dest p → (p ≠ dest.dropLast ∨ fs.node dest ≠ none) → fs'.node p = fs.node p) ∧
    (dest ≠ [] → EqMod (fs.node dest.dropLast) (fs'.node dest.dropLast)) :=
  have hC := restoreEntries_confinableL H es w w' nodes hv hs h
  restoreToFs_confined_ord hC.valid hC.notBelowLink hwf hD

/-- **No clobbering by default.**  Without the overwrite option, a destination that exists and
has at least one entry is refused with `DestinationNotEmpty`, no error goes to the monitor, and
the file system is the SAME afterwards (not a single node touched), for ANY listing.
`dest.length < resolveFuel` only says the path is shorter than the resolution step bound. -/
theorem restore_refuses_nonempty (fs : Fs) (dest : Path) (nodes : List RNode)
    (uidOf gidOf : Str → Option Nat) (oldOrder : Bool)
    (hD : DestPlain fs dest) (hlen : dest.length < resolveFuel)
    (hdir : fs.isDir dest = true) (hne : fs.hasChild dest = true) :
    restoreToFs fs dest false nodes uidOf gidOf oldOrder = (fs, [], some .destinationNotEmpty) :=
  restoreToFs_refuses hD hlen hdir hne

/-! ### C01 (c): modes of restored files -/

/-- **Modes are restored exactly** (C01 c; order owner-then-mode, commit 1d92d82).  Restoring a
tree-consistent listing whose first entry — the root of the selected subtree — is a directory,
into an absent or empty destination, as root (the model has no permission checks), whatever the
stored owners resolve to: every complete file entry with a stored mode `m < 0o10000` (setuid,
setgid and sticky included) is, at the end of the restore, a regular file at its place with
mode exactly `m`.  This includes that every call made for it succeeds and that nothing restore
does later (other entries, the deferred directory metadata) changes it.

`hlen` says the restored paths are shorter than the resolution step bound (`resolveFuel`,
standing for PATH_MAX); `DestPlain` is the caller's obligation as in `restore_confined`. -/
theorem file_mode_restored (fs : Fs) (dest : Path) (nodes : List RNode)
    (uidOf gidOf : Str → Option Nat) (m : Nat)
    (hT : TreeConsistent nodes) (hhead : ∀ h ∈ nodes.head?, h.kind = .dir)
    (hwf : fs.wf = true) (hD : DestPlain fs dest)
    (hlen : ∀ n ∈ nodes, (dest ++ comps n).length < resolveFuel)
    (hempty : fs.node dest = none ∨ fs.hasChild dest = false) :
    ∀ n ∈ nodes, n.kind = .file → n.complete = true → n.unixMode = some m → m < 0o10000 →
      ∃ x, (restoreToFs fs dest false nodes uidOf gidOf).1.node (dest ++ comps n) = some x ∧
        x.kind = .file ∧ x.mode = m :=
  restoreToFs_mode_full hT hhead hwf hD hlen hempty

/-- The same conclusion for ANY destination the restore accepted (e.g. with the first entry a
file), from the observable fact that the restore reported no error: empty monitor list and
`Ok(())`. -/
theorem file_mode_restored_of_no_errors (fs : Fs) (dest : Path) (nodes : List RNode)
    (uidOf gidOf : Str → Option Nat) (m : Nat)
    (hT : TreeConsistent nodes) (hwf : fs.wf = true) (hD : DestPlain fs dest)
    (hok : (restoreToFs fs dest false nodes uidOf gidOf).2 = ([], none)) :
    ∀ n ∈ nodes, n.kind = .file → n.complete = true → n.unixMode = some m → m < 0o10000 →
      ∃ x, (restoreToFs fs dest false nodes uidOf gidOf).1.node (dest ++ comps n) = some x ∧
        x.kind = .file ∧ x.mode = m :=
  restoreToFs_mode (treeConsistent_confinable hT) hwf hD hok

private def sSandbox : Str := [115, 97, 110, 100, 98, 111, 120]
private def sDest : Str := [100, 101, 115, 116]
private def sOutside : Str := [111, 117, 116, 115, 105, 100, 101]
private def sA : Str := [97]
private def sB : Str := [98]

private def t0 : Mtime := .at 1600000000000000000

/-- `/sandbox/dest` (empty) and `/sandbox/outside` (a directory). -/
private def fsD11 : Fs :=
  { nodes := [([], .dir 0o755 0 0 t0), ([sSandbox], .dir 0o755 0 0 t0),
      ([sSandbox, sDest], .dir 0o755 0 0 t0), ([sSandbox, sOutside], .dir 0o750 8 8 t0)] }

private def destD11 : Path := [sSandbox, sDest]

theorem fsD11_wf : fsD11.wf = true := by decide
theorem destD11_plain : DestPlain fsD11 destD11 := destPlain_of_B (by decide)
theorem destD11_isDir : fsD11.isDir destD11 = true := by decide

/-- The stitched listing of the interrupted version (D11): `/` dir, `/a` symlink to
`../outside` (from the new, interrupted band), `/a/b` file (from the older band). -/
private def nodesD11 : List RNode :=
  [{ apath := [47], kind := .dir, unixMode := some 0o755 },
   { apath := [47, 97], kind := .symlink, target := some ([46, 46, 47] ++ sOutside) },
   { apath := [47, 97, 47, 98], kind := .file, content := [104, 105], unixMode := some 0o644 }]

private def nobody : Str → Option Nat := fun _ => none

/-- Confinement claimed for ARBITRARY valid, strictly increasing lists of nodes handed to the
file system UNGUARDED — what `restore()` did BEFORE commit 7db24bb with the stitched listing of
an interrupted version — even into an existing empty destination. -/
def C16InterruptedStatement : Prop :=
  ∀ (fs : Fs) (dest : Path) (nodes : List RNode) (uidOf gidOf : Str → Option Nat),
    (∀ n ∈ nodes, isValid n.apath = true) →
    nodes.Pairwise (fun a b => apathCmp a.apath b.apath = .lt) →
    fs.wf = true → DestPlain fs dest → fs.isDir dest = true →
    ∀ p, ¬ under dest p → (restoreToFs fs dest false nodes uidOf gidOf).1.node p = fs.node p

theorem d11Run :
    (restoreToFs fsD11 destD11 false nodesD11 nobody nobody).2 = ([], none) ∧
    (restoreToFs fsD11 destD11 false nodesD11 nobody nobody).1.node [sSandbox, sOutside, sB] =
      some (.file [104, 105] 0o644 0 0 (.at 0)) ∧
    (restoreToFs fsD11 destD11 false nodesD11 nobody nobody).1.node [sSandbox, sOutside] =
      some (.dir 0o750 8 8 .now) := by
  decide +kernel

/-- **D11, the behaviour of the code BEFORE commit 7db24bb** (`restoreToFs` applied to the
unguarded node list).  For the listing `/` (dir), `/a` (symlink → `../outside`), `/a/b` (file)
restore created `/sandbox/outside/b`, beside the destination `/sandbox/dest`, and reported no
error.  Since 7db24bb the per-entry loop drops `/a/b` (`d11_guarded`, below) and
`restore_confined_any_listing` holds. -/
theorem c16_interrupted_refuted : ¬ C16InterruptedStatement := by
  intro h
  have := h fsD11 destD11 nodesD11 nobody nobody (by decide) (by decide) fsD11_wf
    destD11_plain destD11_isDir [sSandbox, sOutside, sB] (by decide)
  rw [d11Run.2.1] at this
  exact absurd this (by decide)

/-- The same theorem under the name that says what it is about. -/
theorem c16_unguarded_refuted_before_7db24bb : ¬ C16InterruptedStatement := c16_interrupted_refuted

/-- What exactly happened in the D11 witness: the file lands in `outside`, whose mtime is stamped,
and restore is silent about it. -/
example : (restoreToFs fsD11 destD11 false nodesD11 nobody nobody).2 = ([], none) := d11Run.1
example : ((restoreToFs fsD11 destD11 false nodesD11 nobody nobody).1.node [sSandbox, sOutside, sB]) =
    some (.file [104, 105] 0o644 0 0 (.at 0)) := d11Run.2.1
example : ((restoreToFs fsD11 destD11 false nodesD11 nobody nobody).1.node [sSandbox, sOutside]) =
    some (.dir 0o750 8 8 .now) := d11Run.2.2
/-- The D11 listing is valid and sorted but not tree-consistent. -/
example : ¬ TreeConsistent nodesD11 := by decide +kernel

/-! ### D11 after the repair -/

/-- The D11 listing as index entries (the file has no content addresses). -/
private def esD11 : List IndexEntry :=
  [{ apath := [47], kind := .dir, mtime := 0, mtimeNanos := 0, unixMode := some 0o755, user := none,
     group := none, addrs := [], target := none },
   { apath := [47, 97], kind := .symlink, mtime := 0, mtimeNanos := 0, unixMode := none, user := none,
     group := none, addrs := [], target := some ([46, 46, 47] ++ sOutside) },
   { apath := [47, 97, 47, 98], kind := .file, mtime := 0, mtimeNanos := 0, unixMode := some 0o644,
     user := none, group := none, addrs := [], target := none }]

private def guardedD11 : List RNode :=
  [{ apath := [47], kind := .dir, unixMode := some 0o755 },
   { apath := [47, 97], kind := .symlink, target := some ([46, 46, 47] ++ sOutside) }]

/-- **D11 repaired.**  For the D11 witness listing the per-entry loop of `restore()` now returns
`/` and `/a` only — `/a/b`, below the symlink `/a`, is dropped and reported as
`InvalidMetadata` — and restoring these nodes leaves `/sandbox/outside` exactly as it was and
creates no `/sandbox/outside/b`. -/
theorem d11_guarded :
    ((restoreEntries id [] esD11).run (World.clean [])).1 = .ok guardedD11 ∧
    ((restoreEntries id [] esD11).run (World.clean [])).2.events = [.error .invalidMetadata] ∧
    (restoreToFs fsD11 destD11 false guardedD11 nobody nobody).1.node [sSandbox, sOutside] =
      fsD11.node [sSandbox, sOutside] ∧
    (restoreToFs fsD11 destD11 false guardedD11 nobody nobody).1.node [sSandbox, sOutside, sB] = none ∧
    (restoreToFs fsD11 destD11 false guardedD11 nobody nobody).2 = ([], none) :=
  ⟨rfl, rfl, by decide +kernel⟩

/-- `restore_confined_any_listing` applies to the D11 listing (its hypotheses are satisfiable):
nothing outside `/sandbox/dest` changes. -/
example : ∀ p, ¬ under destD11 p →
    (restoreToFs fsD11 destD11 false guardedD11 nobody nobody).1.node p = fsD11.node p := by
  intro p hp
  have h := (restore_confined_any_listing id esD11 (World.clean []) _ guardedD11 fsD11 destD11 nobody nobody
    false (by decide) (by decide) rfl fsD11_wf destD11_plain).1
  exact h p hp (Or.inr (by decide))

/-- A listing in which an entry lies below a FILE entry (`/f` file, `/f/x` file) is confinable
in the weak sense, and restore reports ENOTDIR for the second entry. -/
example : (restoreToFs fsD11 destD11 false
    [{ apath := [47], kind := .dir }, { apath := [47, 102], kind := .file, content := [1] },
     { apath := [47, 102, 47, 120], kind := .file, content := [2] }] nobody nobody).2 =
    ([{ what := .restoreFile, apath := [47, 102, 47, 120], errno := some .ENOTDIR }], none) := by decide +kernel

/-! ### Non-vacuity -/

/-- A complete listing with symlinks pointing out of the destination in every way: absolute,
upward to a directory, upward to a file, `..`, `.`, dangling, to another entry. -/
private def nodesOk : List RNode :=
  [{ apath := [47], kind := .dir, unixMode := some 0o700, mtime := 5 },
   { apath := [47, 97], kind := .symlink, target := some ([46, 46, 47] ++ sOutside) },
   { apath := [47, 98], kind := .symlink, target := some ([47] ++ sSandbox ++ [47] ++ sOutside) },
   { apath := [47, 99], kind := .symlink, target := some [46, 46] },
   { apath := [47, 100], kind := .dir, unixMode := some 0o2755, mtime := 7, mtimeNanos := 1 },
   { apath := [47, 101], kind := .file, content := [1, 2, 3], unixMode := some 0o6755,
     user := some [98, 105, 110], mtime := 9 },
   { apath := [47, 100, 47, 120], kind := .symlink, target := some [46, 46, 47, 46, 46, 47, 111, 117, 116, 115, 105, 100, 101] },
   { apath := [47, 100, 47, 121], kind := .file, content := [9], unixMode := some 0o4711 }]

private def uidBin : Str → Option Nat := fun s => if s = [98, 105, 110] then some 2 else none

theorem nodesOk_tc : TreeConsistent nodesOk := by decide +kernel

theorem okRun :
    (restoreToFs fsD11 destD11 false nodesOk uidBin uidBin).2 = ([], none) ∧
    (restoreToFs fsD11 destD11 false nodesOk uidBin uidBin).1.node (destD11 ++ [[101]]) =
      some (.file [1, 2, 3] 0o6755 2 0 (.at 9000000000)) ∧
    (restoreToFs fsD11 destD11 false nodesOk uidBin uidBin).1.node (destD11 ++ [[100]]) =
      some (.dir 0o2755 0 0 (.at 7000000001)) ∧
    (restoreToFs fsD11 destD11 false nodesOk uidBin uidBin).1.node [sSandbox, sOutside] =
      fsD11.node [sSandbox, sOutside] := by
  decide +kernel

example : TreeConsistent nodesOk := nodesOk_tc
example : fsD11.wf = true := fsD11_wf
example : DestPlain fsD11 destD11 := destD11_plain
example : (restoreToFs fsD11 destD11 false nodesOk uidBin uidBin).2 = ([], none) := okRun.1
/-- The setuid+setgid file owned by `bin` comes back with mode 0o6755, owner 2, its mtime. -/
example : (restoreToFs fsD11 destD11 false nodesOk uidBin uidBin).1.node (destD11 ++ [[101]]) =
    some (.file [1, 2, 3] 0o6755 2 0 (.at 9000000000)) := okRun.2.1
/-- Directory metadata is applied at the end (`apply_deferrals`), after the children. -/
example : (restoreToFs fsD11 destD11 false nodesOk uidBin uidBin).1.node (destD11 ++ [[100]]) =
    some (.dir 0o2755 0 0 (.at 7000000001)) := okRun.2.2.1
/-- `outside` is exactly as before. -/
example : (restoreToFs fsD11 destD11 false nodesOk uidBin uidBin).1.node [sSandbox, sOutside] =
    fsD11.node [sSandbox, sOutside] := okRun.2.2.2

/-- An absent destination: it is created, and only its parent's mtime changes outside. -/
private def fsAbsent : Fs :=
  { nodes := [([], .dir 0o755 0 0 t0), ([sSandbox], .dir 0o755 0 0 t0),
      ([sSandbox, sOutside], .dir 0o750 8 8 t0)] }
example : DestPlain fsAbsent destD11 := destPlain_of_B (by decide)
theorem absentRun :
    (restoreToFs fsAbsent destD11 false nodesOk uidBin uidBin).1.node [sSandbox] =
      some (.dir 0o755 0 0 .now) ∧
    (restoreToFs fsAbsent destD11 false nodesOk uidBin uidBin).2 = ([], none) := by
  decide +kernel
example : (restoreToFs fsAbsent destD11 false nodesOk uidBin uidBin).1.node [sSandbox] =
    some (.dir 0o755 0 0 .now) := absentRun.1
example : (restoreToFs fsAbsent destD11 false nodesOk uidBin uidBin).2 = ([], none) := absentRun.2

/-- A non-empty destination is refused and nothing is touched. -/
private def fsFull : Fs :=
  { nodes := [([], .dir 0o755 0 0 t0), ([sSandbox], .dir 0o755 0 0 t0),
      ([sSandbox, sDest], .dir 0o755 0 0 t0), ([sSandbox, sDest, sA], .file [7] 0o600 1 1 t0)] }
example : fsFull.isDir destD11 = true ∧ fsFull.hasChild destD11 = true ∧
    destD11.length < resolveFuel := by decide
example : restoreToFs fsFull destD11 false nodesOk uidBin uidBin =
    (fsFull, [], some .destinationNotEmpty) := by decide +kernel
/-- With the overwrite option the same restore goes ahead (and `/a` there is EEXIST). -/
example : (restoreToFs fsFull destD11 true nodesOk uidBin uidBin).2 =
    ([{ what := .restoreSymlink, apath := [47, 97], errno := some .EEXIST }], none) := by decide +kernel

/-- Without the hypothesis on the first entry the statement is false: a listing that consists
of one file two levels down (`restore --only /d/y` of a file) cannot create it, its parent is
missing; the real code reports `RestoreFile … NotFound` likewise. -/
example : (restoreToFs fsD11 destD11 false
    [{ apath := [47, 100, 47, 121], kind := .file, unixMode := some 0o644 }] nobody nobody).2 =
    ([{ what := .restoreFile, apath := [47, 100, 47, 121], errno := some .ENOENT }], none) := by decide +kernel

/-! ### The order before commit 1d92d82 -/

private def nodesSuid : List RNode :=
  [{ apath := [47], kind := .dir, unixMode := some 0o755 },
   { apath := [47, 102], kind := .file, content := [1], unixMode := some 0o4755,
     user := some [98, 105, 110] }]

/-- **D2.**  With chmod-then-lchown (the order before commit 1d92d82) a file stored with mode
0o4755 and an owner that resolves ends as 0o755: `lchown` clears S_ISUID after the mode was set. -/
theorem file_mode_refuted_old_order :
    (restoreToFs fsD11 destD11 false nodesSuid uidBin uidBin (oldOrder := true)).1.node
        (destD11 ++ [[102]]) = some (.file [1] 0o755 2 0 (.at 0)) ∧
    (restoreToFs fsD11 destD11 false nodesSuid uidBin uidBin (oldOrder := true)).2 = ([], none) := by
  decide +kernel

/-- The same restore with the repaired order gives 0o4755. -/
example : (restoreToFs fsD11 destD11 false nodesSuid uidBin uidBin).1.node (destD11 ++ [[102]]) =
    some (.file [1] 0o4755 2 0 (.at 0)) := by decide +kernel

/-- On Linux the old order lost the bit even when NO owner resolved: `lchown(-1, -1)` still
clears S_ISUID (observed on 6.18; `chown_common`). -/
example : (restoreToFs fsD11 destD11 false nodesSuid nobody nobody (oldOrder := true)).1.node
    (destD11 ++ [[102]]) = some (.file [1] 0o755 0 0 (.at 0)) := by decide +kernel

example : clearSetid 0o6755 = 0o755 ∧ clearSetid 0o6745 = 0o2745 ∧ clearSetid 0o7777 = 0o1777 ∧
    clearSetid 0o7767 = 0o3767 := by decide

/-- `file_mode_restored` applies to the listing above (its hypotheses are satisfiable). -/
example : ∃ x, (restoreToFs fsD11 destD11 false nodesOk uidBin uidBin).1.node
    (destD11 ++ comps { apath := [47, 100, 47, 121], kind := .file, content := [9], unixMode := some 0o4711 })
      = some x ∧ x.kind = .file ∧ x.mode = 0o4711 :=
  file_mode_restored fsD11 destD11 nodesOk uidBin uidBin 0o4711 nodesOk_tc (by decide) fsD11_wf
    destD11_plain (by decide) (by decide) _ (by decide) rfl rfl rfl (by decide)

/-- **The walk of a well-formed tree is tree-consistent**: for any source tree (any depth and
width), any exclusion predicate, and any translation `g` of walk entries into restore nodes
that keeps apath and kind (whatever it does with content and metadata), the list of nodes in
walk order satisfies `TreeConsistent` — every entry's parent directory was emitted earlier, as
a directory.  (A complete band's index is such a list; that a stored listing equals it needs
the backup invariants and is not part of this file.) -/
theorem walk_treeConsistent (T : Node) (excl : Str → Bool) (hwf : T.WF = true)
    (g : SrcEntry → RNode) (hg : ∀ e, (g e).apath = e.apath ∧ (g e).kind = e.kind) :
    TreeConsistent ((C11.walk T excl).map g) := by
  have hv := C11.walk_valid T excl hwf
  have hs := C11.walk_sorted T excl hwf
  unfold TreeConsistent treeConsistent
  simp only [Bool.and_eq_true, List.all_eq_true, decide_eq_true_eq]
  refine ⟨⟨?_, ?_⟩, ?_⟩
  · intro n hn
    obtain ⟨e, he, rfl⟩ := List.mem_map.1 hn
    rw [(hg e).1]; exact hv e he
  · rw [List.pairwise_map] at hs ⊢
    exact hs.imp fun {a b} h => by rw [(hg a).1, (hg b).1]; exact h
  · rw [C11.walk_eq, List.map_cons]
    exact walk_tcFrom T excl hwf g hg

/-- Non-vacuity: a tree with a symlink beside a directory of the same prefix, walked and
translated with empty metadata. -/
private def tWalk : Node :=
  .dir {} (.ofList [([97], .dir {} (.ofList [([98], .file {} 0 [])])), ([97, 46], .symlink {} [46, 46])])

example : tWalk.WF = true := by decide
example : ((C11.walk tWalk C11.noExcl).map fun e => ({ apath := e.apath, kind := e.kind } : RNode)).map (·.apath) =
    [[47], [47, 97], [47, 97, 46], [47, 97, 47, 98]] := by decide +kernel

end Conserve.C16
