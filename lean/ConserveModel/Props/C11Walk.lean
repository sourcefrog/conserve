import ConserveModel.Proofs.WalkConvex
import ConserveModel.Proofs.WalkPerm
/-
C11 (walk part) — the source walk emits entries in strictly increasing apath order, for any
tree; direct children precede grandchildren and the strict descendants of a directory are
contiguous.

Model: ConserveModel/Tree.lean (`walkDeque` = src/source.rs `Iter` as written, `walkRec` = the
recursive specification).
-/
namespace Conserve.C11
open Conserve

/-- "The walk" is the literal model of the iterator. -/
abbrev walk (root : Node) (excl : Str → Bool) : List SrcEntry := walkDeque root excl

/-- The exclusion predicate that excludes nothing (`Exclude::nothing()`). -/
abbrev noExcl : Str → Bool := fun _ => false

/-- The iterator with its two deques emits exactly what the recursive specification says, for
ALL trees (well-formed or not) and all exclusion predicates. -/
theorem walk_deque_eq_rec (T : Node) (excl : Str → Bool) : walkDeque T excl = walkRec T excl := by
  unfold walkDeque
  rw [iterRun_eq_pending _ _ _ _ (turnsNeeded_root_le T excl), walkRec_eq]
  simp [pending]

/-- The fuel given to the iterator loop does not matter once it reaches `walkFuel T`
(= 2·size + 2): the loop has stopped by itself. -/
theorem iterRun_fuel_irrelevant (T : Node) (excl : Str → Bool) (fuel : Nat)
    (h : walkFuel T ≤ fuel) :
    iterRun excl fuel [T.entry [slash]] [([slash], T.kids)] = walkDeque T excl := by
  have hb := turnsNeeded_root_le T excl
  unfold walkDeque
  rw [iterRun_eq_pending excl fuel _ _ (Nat.le_trans hb h), iterRun_eq_pending excl _ _ _ hb]

theorem walk_eq (T : Node) (excl : Str → Bool) :
    walk T excl = T.entry [slash] :: T.kids.walkBelow excl (pathOf []) := by
  unfold walk
  rw [walk_deque_eq_rec, walkRec_eq]
  rfl

/-- The root entry comes first, whatever `excl` says about "/". -/
theorem walk_root_first (T : Node) (excl : Str → Bool) :
    (walk T excl).head? = some (T.entry [slash]) ∧ (T.entry [slash]).apath = [slash] := by
  rw [walk_eq]
  exact ⟨rfl, Node.entry_apath _ _⟩

theorem root_lt_pathOf {x : Str} {t : List Str} (h : GoodComps (x :: t)) :
    apathCmp [slash] (pathOf (x :: t)) = .lt := by
  unfold apathCmp
  rw [splitSlash_pathOf h]
  cases t with
  | cons _ _ => rfl
  | nil =>
    cases x with
    | nil => exact absurd rfl ((goodName_iff _).1 (h _ List.mem_cons_self)).1
    | cons _ _ => rfl

/-- **Walk order.** For any well-formed tree (any depth and width) and any exclusion predicate,
the emitted apaths are strictly increasing in `Apath::cmp`. -/
theorem walk_sorted (T : Node) (excl : Str → Bool) (hwf : T.WF = true) :
    ((walk T excl).map (·.apath)).Pairwise (fun a b => apathCmp a b = .lt) := by
  rw [walk_eq]
  have hk := Node.WF_kids hwf
  simp only [List.map_cons, List.pairwise_cons, Node.entry_apath]
  refine ⟨?_, List.pairwise_map.2 (walkBelow_sorted excl T.kids [] .nil hk)⟩
  intro a ha
  obtain ⟨e, he, rfl⟩ := List.mem_map.1 ha
  obtain ⟨x, t, hg, hea⟩ := Forest.mem_walkBelow_path .nil hk he
  rw [hea]
  exact root_lt_pathOf hg

theorem walk_valid (T : Node) (excl : Str → Bool) (hwf : T.WF = true) :
    ∀ e ∈ walk T excl, isValid e.apath = true := by
  rw [walk_eq]
  intro e he
  rcases List.mem_cons.1 he with rfl | he
  · rw [Node.entry_apath]; decide
  · obtain ⟨x, t, hg, hea⟩ := Forest.mem_walkBelow_path .nil (Node.WF_kids hwf) he
    rw [hea]
    exact pathOf_valid hg

theorem walk_nodup (T : Node) (excl : Str → Bool) (hwf : T.WF = true) :
    ((walk T excl).map (·.apath)).Nodup := by
  refine (walk_sorted T excl hwf).imp ?_
  intro a b h e
  subst e
  exact cmp_irrefl a h

/-- **Independence of `read_dir` order** (used by C17): two well-formed trees that differ only
in the order in which each directory lists its children give the same walk — the same entries
in the same order. -/
theorem walk_perm_invariant (T₁ T₂ : Node) (excl : Str → Bool) (hwf : T₁.WF = true)
    (h : Node.PermEq T₁ T₂) : walk T₁ excl = walk T₂ excl := by
  rw [walk_eq, walk_eq]
  rcases h with rfl | ⟨m, k₁, k₂, rfl, rfl, hk⟩
  · rfl
  · simp only [Node.kids]
    rw [hk.walkBelow_eq (by simpa [Node.WF] using hwf) excl .nil]
    rfl

theorem wf_perm_invariant (f g : Forest) (h : Forest.PermEq f g) (hwf : f.WF = true) :
    g.WF = true := h.wf.2 hwf

/-- **Pruning = filtering.**  If the exclusion predicate is closed under descendants (as
`Exclude` is below the root: every glob `p` is added together with `p/**`; at the root itself it
is not, `C15.root_not_closed`, and Props/C15e.lean has the form that asks for closure only below
the root), then skipping excluded
directories at walk time gives the same as walking everything and dropping every excluded
entry.  The root is excepted, as in the code (it is emitted without being tested). -/
theorem walk_prune_eq_filter (T : Node) (excl : Str → Bool) (hwf : T.WF = true)
    (hcl : ∀ a p, isValid a = true → isValid p = true → excl a = true → StrictDesc a p →
      excl p = true) :
    (walk T excl).tail = ((walk T noExcl).tail).filter (fun e => !excl e.apath) := by
  rw [walk_eq, walk_eq, List.tail_cons, List.tail_cons]
  exact walkBelow_prune excl (fun a p ha hp _ => hcl a p ha hp) T.kids [] .nil (Node.WF_kids hwf)

theorem children_before_grandchildren (d x y z : Str) (hd : isValid d = true)
    (hx : goodName x = true) (hy : goodName y = true) (hz : goodName z = true) :
    apathCmp (apathAppend d x) (apathAppend (apathAppend d y) z) = .lt := by
  obtain ⟨hg, e⟩ := valid_eq_pathOf hd
  rw [e, apathAppend_pathOf hg, apathAppend_pathOf hg,
    apathAppend_pathOf (hg.append (GoodComps.single hy))]
  have h2 : GoodComps (components d ++ y :: z :: []) :=
    hg.append (fun c hc => by
      rcases List.mem_cons.1 hc with rfl | hc
      · exact hy
      · rw [List.mem_singleton.1 hc]; exact hz)
  have := apathCmp_child_deeper (hg.append (GoodComps.single hx)) h2
  simpa using this

/-- **Contiguity.**  The strict descendants (by whole components) of a valid directory path
form an interval of the order: whatever lies between two of them is one of them.  `b` is
arbitrary (not assumed valid).  (The subtree INCLUDING `d` is not an interval: `/a < /b < /a/x`.) -/
theorem strict_descendants_convex (d a b c : Str) (hd : isValid d = true)
    (ha : isValid a = true) (hc : isValid c = true)
    (hda : StrictDesc d a) (hdc : StrictDesc d c)
    (hab : apathCmp a b = .lt) (hbc : apathCmp b c = .lt) : StrictDesc d b := by
  obtain ⟨hg, e⟩ := valid_eq_pathOf hd
  rw [e] at hda hdc ⊢
  exact strict_descendants_convex_comps hg ha hc hda hdc hab hbc

theorem walk_descendants_contiguous (T : Node) (excl : Str → Bool) (hwf : T.WF = true)
    (d : Str) (hd : isValid d = true) (i j k : Nat) (hij : i < j) (hjk : j < k)
    (hk : k < (walk T excl).length)
    (hi' : StrictDesc d ((walk T excl)[i]'(by omega)).apath)
    (hk' : StrictDesc d ((walk T excl)[k]'hk).apath) :
    StrictDesc d ((walk T excl)[j]'(by omega)).apath := by
  have hs := walk_sorted T excl hwf
  rw [List.pairwise_map, List.pairwise_iff_getElem] at hs
  have hv := walk_valid T excl hwf
  exact strict_descendants_convex d _ _ _ hd
    (hv _ (List.getElem_mem _)) (hv _ (List.getElem_mem _)) hi' hk'
    (hs i j (by omega) (by omega) hij) (hs j k (by omega) hk hjk)

/-! ### Non-vacuity: a concrete tree with names "a", "ab", "a.b" and a directory "a" -/

private def leaf : Node := .file {} 0 []

/-- `/ab` (file), `/a/` (dir with `b` and an empty dir `a`), `/a.b/` (dir with `x`), listed in
that order by `read_dir`. -/
private def t1 : Node :=
  .dir {} (.ofList [([97, 98], leaf),
    ([97], .dir {} (.ofList [([98], leaf), ([97], .dir {} .nil)])),
    ([97, 46, 98], .dir {} (.ofList [([120], leaf)]))])

/-- The same tree with every listing in another order. -/
private def t1' : Node :=
  .dir {} (.ofList [([97], .dir {} (.ofList [([97], .dir {} .nil), ([98], leaf)])),
    ([97, 98], leaf),
    ([97, 46, 98], .dir {} (.ofList [([120], leaf)]))])

example : t1.WF = true := by decide +kernel

/-- "/", "/a", "/a.b", "/ab", "/a/a", "/a/b", "/a.b/x" — not the byte order of the strings. -/
example : (walk t1 noExcl).map (·.apath) =
    [[47], [47, 97], [47, 97, 46, 98], [47, 97, 98], [47, 97, 47, 97], [47, 97, 47, 98],
     [47, 97, 46, 98, 47, 120]] := by decide +kernel

example : walkDeque t1 noExcl = walkRec t1 noExcl := by decide +kernel

example : Node.PermEq t1 t1' :=
  .inr ⟨_, _, _, rfl, rfl, .trans (.swap _ _ _ _ _) (.consDir _ _ (.swap _ _ _ _ _) (.refl _))⟩

example : walk t1 noExcl = walk t1' noExcl := by decide +kernel

/-- Excluding `/a` and everything below it (a descendant-closed predicate). -/
private def exclA : Str → Bool := fun p => isAncestorOrSelf [47, 97] p

example : ∀ a p, isValid a = true → isValid p = true → exclA a = true → StrictDesc a p →
    exclA p = true := by
  intro a p _ _ h1 ⟨h2, _⟩
  unfold exclA isAncestorOrSelf at *
  rw [List.isPrefixOf_iff_prefix] at *
  exact h1.trans h2

example : (walk t1 exclA).map (·.apath) =
    [[47], [47, 97, 46, 98], [47, 97, 98], [47, 97, 46, 98, 47, 120]] := by decide +kernel

example : (walk t1 exclA).tail = ((walk t1 noExcl).tail).filter (fun e => !exclA e.apath) := by
  decide +kernel

/-- The root is emitted even when the predicate is true on "/". -/
example : ((walk t1 (fun _ => true)).map (·.apath)) = [[47]] := by decide +kernel

/-- Without distinct sibling names the order is not strict: `WF` is needed in `walk_sorted`. -/
example : ¬ ((walk (.dir {} (.ofList [([97], leaf), ([97], leaf)])) noExcl).map (·.apath)).Pairwise
    (fun a b => apathCmp a b = .lt) := by decide +kernel

example : StrictDesc [47, 97] [47, 97, 47, 98] := by decide +kernel
example : apathCmp [47, 97, 47, 97] [47, 97, 46, 98, 47, 120] = .lt := by decide +kernel

end Conserve.C11
