import ConserveModel.Proofs.RaceStepA
import ConserveModel.Props.C02h
import ConserveModel.Props.C13
/-
C06 on the FULL model — A garbage collection (or delete) and a backup running together never lose data.

"For every interleaving of a delete or garbage collection with a backup on the same archive, once
both have finished (each either succeeding or refusing with an error) every version marked complete
restores completely: no version, old or just written, refers to a block the collector removed."

Props/C06.lean proves this on a protocol skeleton.  This file proves it on the programs themselves:
`backup H o src` (Backup.lean) and `deleteBands true D opts` (Gc.lean: strict reading, any list `D`
of versions to delete — `[]` is a pure gc —, `dry_run` and `break_lock` as given), started as two
`Actor`s on one store and advanced one storage operation at a time by an ARBITRARY schedule
(`Conc.runSched`, `CreateNew` honoured), then each run to its end.

* `c06_full_ci` — the store at the end satisfies `CI` (C13's invariant: it conforms to the format —
  in particular every address of every file entry of every version resolves to a present, intact,
  long-enough block —, parents are directories, keys are distinct) whenever the store at the start does;
  hence `c06_full` (`C02h.RefsPresent`, what `C02h.restore_congr` needs) and `c06_full_noDangling`.
* `c06_full_finished` — both commands have indeed finished.
* `c06_full_everywhere`, `c06_full_exclusive` — the joint invariant `Race.J`, and with it mutual
  exclusion, at every point of every run (`runPrefix`).

Hypotheses: `H` injective with names of at least three characters (as in C13), the source listing
strictly increasing and valid (`C13.SrcSortedWeak`), the archive at the start satisfies `CI`.
Nothing about `D`, the options of either command, the lock file, or the schedule.

Proof: Proofs/Race*.lean.  The two programs are cut at their storage operations (`RaceBackup`,
`RaceGc`: every residual program as an explicit term, or — inside the long reading/writing parts —
characterised by the operations it can still issue and by what it would do if run alone from the
current store).  `Race.J` relates the store and the two positions; `J.stepA` / `J.stepB`: every single
operation of either actor preserves it; `runPrefix_inv`, `runSched_inv`: induction over the schedule.
-/
namespace Conserve.C06f
open Conserve Conserve.Race Conserve.Conf Conserve.Inv

variable {H : Str → Str}

theorem noDangling_of_ci {s : Store} (hci : CI H s) : NoDangling H s := by
  intro b n es hh e he a ha
  have := entry_of_hunk_conforms hci hh he
  unfold entryConforms at this
  simp only [Bool.and_eq_true] at this
  have h2 := this.2
  cases hk : e.kind <;> simp only [hk, Bool.and_eq_true, List.all_eq_true, List.isEmpty_iff] at h2
  · exact h2.2 a ha
  · rw [h2.1] at ha; cases ha
  · rw [h2.1] at ha; cases ha
  · cases h2

theorem J_start (o : BackupOpts) (src : List SrcEntry) (D : List Nat) (opts : DeleteOpts) {s : Store} (hs : CI H s) :
    J H o src D opts s (Actor.start (backup H o src)).prog (Actor.start (deleteBands true D opts)).prog := by
  rw [Actor.start_prog, Actor.start_prog, backup_start, deleteBands_start]
  split
  · exact ⟨.l1, .b1, rfl, rfl, hs, trivial, Cross.idle _ s rfl, hs.nodup⟩
  · exact ⟨.l1, .atN, rfl, rfl, hs, trivial, Cross.idle _ s rfl, hs.nodup⟩

theorem ci_of_J_done {o : BackupOpts} {src : List SrcEntry} {D : List Nat} {opts : DeleteOpts} {s : Store}
    {pA : Prog Stats} {pB : Prog DeleteStats} (h : J H o src D opts s pA pB) (hd : pA.Done) : CI H s := by
  obtain ⟨β, γ, hpA, _, hbf, _, _, _⟩ := h
  cases β <;> simp only [BSt.prog] at hpA
  case done => exact hbf
  case crit n => exact absurd hd hpA.2.2
  all_goals (subst hpA; cases hd)

/-- Follow the schedule and stop there (no running to completion): the states `runSched` visits. -/
def runPrefix {α β : Type} : List Bool → Store → Actor α → Actor β → Store × Actor α × Actor β
  | [], s, a, b => (s, a, b)
  | false :: rest, s, a, b =>
    let (s', a') := a.step true s
    runPrefix rest s' a' b
  | true :: rest, s, a, b =>
    let (s', b') := b.step true s
    runPrefix rest s' a b'

theorem runPrefix_inv {α β : Type} (J : Store → Prog α → Prog β → Prop)
    (hA : ∀ s o k pB, J s (.op o k) pB → J (applyOp true s o).1 (k (applyOp true s o).2).strip pB)
    (hB : ∀ s pA o k, J s pA (.op o k) → J (applyOp true s o).1 pA (k (applyOp true s o).2).strip)
    (sched : List Bool) (s : Store) (a : Actor α) (b : Actor β) (h : J s a.prog b.prog) :
    J (runPrefix sched s a b).1 (runPrefix sched s a b).2.1.prog (runPrefix sched s a b).2.2.prog := by
  induction sched generalizing s a b with
  | nil => exact h
  | cons t rest ih =>
    cases t with
    | false =>
      simp only [runPrefix]
      obtain ⟨h1, h2⟩ := a.step_turn s
      refine ih _ _ _ ?_
      rw [h1, h2]
      exact Prog.turn_inv (I := fun s p => J s p b.prog) (fun s o k => hA s o k _) _ s h
    | true =>
      simp only [runPrefix]
      obtain ⟨h1, h2⟩ := b.step_turn s
      refine ih _ _ _ ?_
      rw [h1, h2]
      exact Prog.turn_inv (I := fun s p => J s a.prog p) (fun s o k => hB s _ o k) _ s h

theorem runSched_eq_prefix {α β : Type} (sched : List Bool) (s : Store) (a : Actor α) (b : Actor β) :
    runSched true sched s a b =
      (let p := runPrefix sched s a b
       let x := p.2.1.finish true p.1
       let y := p.2.2.finish true x.1
       (y.1, x.2, y.2)) := by
  induction sched generalizing s a b with
  | nil => rfl
  | cons t rest ih =>
    cases t <;> simp only [runSched, runPrefix] <;> exact ih _ _ _

/-- Actors are parked at an operation or finished (`strip` does nothing to their programs); the
prefix keeps that too, which is what lets each be run to its end under the same invariant. -/
theorem runSched_inv {α β : Type} (J : Store → Prog α → Prog β → Prop)
    (hA : ∀ s o k pB, J s (.op o k) pB → J (applyOp true s o).1 (k (applyOp true s o).2).strip pB)
    (hB : ∀ s pA o k, J s pA (.op o k) → J (applyOp true s o).1 pA (k (applyOp true s o).2).strip)
    (sched : List Bool) (s : Store) (a : Actor α) (b : Actor β)
    (ha : a.prog.strip = a.prog) (hb : b.prog.strip = b.prog) (h : J s a.prog b.prog) :
    J (runSched true sched s a b).1 (runSched true sched s a b).2.1.prog (runSched true sched s a b).2.2.prog ∧
    (runSched true sched s a b).2.1.prog.Done ∧ (runSched true sched s a b).2.2.prog.Done := by
  obtain ⟨hj, ha', hb'⟩ := runPrefix_inv (fun s pA pB => J s pA pB ∧ pA.strip = pA ∧ pB.strip = pB)
    (fun s o k pB h => ⟨hA s o k pB h.1, Prog.strip_strip _, h.2.2⟩)
    (fun s pA o k h => ⟨hB s pA o k h.1, h.2.1, Prog.strip_strip _⟩) sched s a b ⟨h, ha, hb⟩
  rw [runSched_eq_prefix]
  generalize runPrefix sched s a b = p at hj ha' hb'
  simp only
  rw [Actor.finish_store, Actor.finish_prog, Actor.finish_store, Actor.finish_prog]
  refine ⟨?_, Outcome.toProg_done _, Outcome.toProg_done _⟩
  have h1 : J (p.2.1.prog.solo p.1).2 (p.2.1.prog.solo p.1).1.toProg p.2.2.prog :=
    Prog.solo_inv (I := fun s q => J s q p.2.2.prog) (fun s o k hh => hA s o k _ hh) _ _ (by rw [ha']; exact hj)
  exact Prog.solo_inv (I := fun s q => J s (p.2.1.prog.solo p.1).1.toProg q) (fun s o k hh => hB s _ o k hh) _ _
    (by rw [hb']; exact h1)

section
variable (hinj : Function.Injective H) (hlen : HashLen H) (o : BackupOpts) (src : List SrcEntry)
  (D : List Nat) (opts : DeleteOpts)
include hinj hlen

theorem J_end (s : Store) (hs : CI H s) (hsrc : C13.SrcSortedWeak src) (sched : List Bool) :
    let r := runSched true sched s (Actor.start (backup H o src)) (Actor.start (deleteBands true D opts))
    J H o src D opts r.1 r.2.1.prog r.2.2.prog ∧ r.2.1.prog.Done ∧ r.2.2.prog.Done := by
  have hsrc' : SrcOK src := ⟨hsrc.1, fun sf hsf => hsrc.2 sf hsf⟩
  exact runSched_inv (J H o src D opts)
    (fun s o' k pB h => J.stepA hinj hlen hsrc' h)
    (fun s pA o' k h => J.stepB h)
    sched s _ _ (by rw [Actor.start_prog, Prog.strip_strip]) (by rw [Actor.start_prog, Prog.strip_strip])
    (J_start o src D opts hs)

/-- **C06 on the full model, store invariant.**  For every archive satisfying `CI`, every source
listing (strictly increasing, valid), all options of both commands, every list `D` of versions to
delete and EVERY schedule: after `backup` and `delete_bands` have run interleaved one storage
operation at a time and then each to its end, the archive satisfies `CI` again. -/
theorem c06_full_ci (s : Store) (hs : CI H s) (hsrc : C13.SrcSortedWeak src) (sched : List Bool) :
    let r := runSched true sched s (Actor.start (backup H o src)) (Actor.start (deleteBands true D opts))
    CI H r.1 := by
  intro r
  obtain ⟨hj, hda, _⟩ := J_end hinj hlen o src D opts s hs hsrc sched
  exact ci_of_J_done hj hda

/-- **C06 on the full model**: once both have finished, every block a version marked complete names —
an old version or the one just written — is present and not the zero-length leftover of a killed
write: the collector removed no block that a surviving version refers to. -/
theorem c06_full (s : Store) (hs : CI H s) (hsrc : C13.SrcSortedWeak src) (sched : List Bool) :
    let r := runSched true sched s (Actor.start (backup H o src)) (Actor.start (deleteBands true D opts))
    ∀ b ∈ bandIdsOf r.1, isComplete r.1 b = true → C02h.RefsPresent r.1 b := by
  intro r b _ _
  exact C02h.refsPresent_of_noDangling (H := H)
    (noDangling_of_ci (c06_full_ci hinj hlen o src D opts s hs hsrc sched)) b

/-- The same in the sense of Invariants.lean: no entry of any version (complete or not) refers to a
block that is missing, corrupt or shorter than needed. -/
theorem c06_full_noDangling (s : Store) (hs : CI H s) (hsrc : C13.SrcSortedWeak src) (sched : List Bool) :
    let r := runSched true sched s (Actor.start (backup H o src)) (Actor.start (deleteBands true D opts))
    NoDangling H r.1 :=
  noDangling_of_ci (c06_full_ci hinj hlen o src D opts s hs hsrc sched)

omit hinj hlen in
/-- Both commands have finished (a result, an error or a panic) at the end of every schedule: "once
both have finished" is not a hypothesis one could fail to meet. -/
theorem c06_full_finished (s : Store) (sched : List Bool) :
    let r := runSched true sched s (Actor.start (backup H o src)) (Actor.start (deleteBands true D opts))
    r.2.1.outcome ≠ none ∧ r.2.2.outcome ≠ none := by
  intro r
  have h := runSched_inv (fun _ (_ : Prog Stats) (_ : Prog DeleteStats) => True) (fun _ _ _ _ _ => trivial)
    (fun _ _ _ _ _ => trivial) sched s (Actor.start (backup H o src)) (Actor.start (deleteBands true D opts))
    (by rw [Actor.start_prog, Prog.strip_strip]) (by rw [Actor.start_prog, Prog.strip_strip]) trivial
  exact ⟨Actor.outcome_of_done h.2.1, Actor.outcome_of_done h.2.2⟩

end

/-- The collector's removals: a version directory, a block. -/
def isSweepOp : Op → Bool
  | .removeFile (.block _) => true
  | .removeDirAll _ => true
  | _ => false

/-- What `backup` writes after its second look at the lock: hunk and block sub-directories, hunks,
blocks, the tail. -/
def isDataWrite : Op → Bool
  | .write (.hunk _ _) _ _ | .write (.block _) _ _ | .write (.bandTail _) _ _ => true
  | .createDir (.hunkDir _ _) | .createDir (.blockDir _) => true
  | _ => false

theorem sweeping_of_sweepOp {D : List Nat} {opts : DeleteOpts} {γ : GSt} {oB : Op} {kB : Resp → Prog DeleteStats}
    (hpB : γ.prog D opts (.op oB kB)) (hsw : isSweepOp oB = true) : γ.sweeping = true := by
  cases γ with
  | sweepB | sweepU => rfl
  | read m q =>
    obtain ⟨hp, ⟨o1, k1, rfl⟩, hro⟩ := hpB
    simp only [gcRead, Prog.op_bind, wl_op] at hp
    injection hp with ho _
    subst ho
    cases hro with
    | op ho1 _ => cases oB <;> first | exact False.elim ho1 | cases hsw
  | unl =>
    cases hpB with
    | op ho _ => rw [show oB = .removeFile .gcLock from ho] at hsw; cases hsw
  | _ => cases (hpB : Prog.op oB kB = .op _ _); cases hsw

theorem not_dataWrite_of_not_crit {o : BackupOpts} {src : List SrcEntry} {β : BSt} {oA : Op} {kA : Resp → Prog Stats}
    (hpA : β.prog H o src (.op oA kA)) (hc : β.isCrit = false) : isDataWrite oA = false := by
  cases β with
  | crit => cases hc
  | done => cases hpA
  | _ => cases (hpA : Prog.op oA kA = .op _ _); rfl

section
variable (hinj : Function.Injective H) (hlen : HashLen H) (o : BackupOpts) (src : List SrcEntry)
  (D : List Nat) (opts : DeleteOpts)
include hinj hlen

/-- **The joint invariant holds at every point of every run** (after every prefix of every schedule),
not only at the end. -/
theorem c06_full_everywhere (s : Store) (hs : CI H s) (hsrc : C13.SrcSortedWeak src) (sched : List Bool) :
    let r := runPrefix sched s (Actor.start (backup H o src)) (Actor.start (deleteBands true D opts))
    J H o src D opts r.1 r.2.1.prog r.2.2.prog := by
  have hsrc' : SrcOK src := ⟨hsrc.1, fun sf hsf => hsrc.2 sf hsf⟩
  exact runPrefix_inv (J H o src D opts)
    (fun s o' k pB h => J.stepA hinj hlen hsrc' h)
    (fun s pA o' k h => J.stepB h)
    sched s _ _ (J_start o src D opts hs)

/-- **Mutual exclusion on the full model** (the reason C06 holds): at every point of every run,
whenever the collector's pending operation removes a version directory or a block, the backup's
pending operation is not one of the writes it does after its second look at the gc lock (hunk and
block sub-directories, hunks, blocks, tail): the backup has not got that far — and will refuse when
it sees the lock —, or it has finished. -/
theorem c06_full_exclusive (s : Store) (hs : CI H s) (hsrc : C13.SrcSortedWeak src) (sched : List Bool) :
    let r := runPrefix sched s (Actor.start (backup H o src)) (Actor.start (deleteBands true D opts))
    ∀ oB kB, r.2.2.prog = .op oB kB → isSweepOp oB = true →
      ∀ oA kA, r.2.1.prog = .op oA kA → isDataWrite oA = false := by
  intro r oB kB hB hsw oA kA hA
  obtain ⟨β, γ, hpA, hpB, _, _, hx, _⟩ : J H o src D opts r.1 r.2.1.prog r.2.2.prog :=
    c06_full_everywhere hinj hlen o src D opts s hs hsrc sched
  rw [hB] at hpB
  rw [hA] at hpA
  exact not_dataWrite_of_not_crit hpA (hx.excl (sweeping_of_sweepOp hpB hsw))

end

namespace Example
open Conserve.C13.Example

/-- `C13.Example.archive2` (one complete version holding `/a` in one block) plus one GARBAGE block —
referenced by no version — whose content `[3, 4]` is the first chunk of `/b` in `C04.Example.source`
(block size 2): the block a backup of that source wants to deduplicate against and a gc wants to
remove — the situation of defect D7. -/
def archive3 : Store := archive2 ++ [(.block [0, 0, 0, 3, 4], .blockData [3, 4])]

/-- `archive2` conforms, and one more block under the hash of its content does no harm. -/
theorem archive3_conforms : Conforms exH archive3 = true :=
  conforms_put exH (s := archive2) (k := .block [0, 0, 0, 3, 4]) (v := .blockData [3, 4]) archive2_noDup
    archive2_conforms (Or.inl (by decide)) (by decide) (fun b hb => by rcases hb with h | h | h | ⟨n, h⟩ <;> cases h)

theorem archive3_ci : CI exH archive3 :=
  ⟨archive3_conforms, by decide, archive2_noDup.put (.block [0, 0, 0, 3, 4]) (.blockData [3, 4])⟩

/-- The garbage block is there and no version refers to it. -/
example : archive3.get? (.block [0, 0, 0, 3, 4]) = some (.blockData [3, 4]) ∧
    ∀ b n es, hunkAt archive3 b n = some es → ∀ e ∈ es, ∀ a ∈ e.addrs, a.hash ≠ [0, 0, 0, 3, 4] := by
  refine ⟨by decide, ?_⟩
  intro b n es h e he a ha
  have hk : ∀ k, archive3.get? k = some (.hunk es) → es = [ea] := by
    intro k hk
    have := Store.mem_of_get? hk
    simp only [archive3, archive2, List.mem_append, List.mem_cons, List.not_mem_nil, or_false, Prod.mk.injEq] at this
    rcases this with (⟨_, h⟩ | ⟨_, h⟩ | ⟨_, h⟩ | ⟨_, h⟩ | ⟨_, h⟩ | ⟨_, h⟩ | ⟨_, h⟩ | ⟨_, h⟩ | ⟨_, h⟩ | ⟨_, h⟩ | ⟨_, h⟩) | ⟨_, h⟩ <;>
      first | (cases h; rfl) | cases h
  unfold hunkAt at h
  split at h
  · rename_i es' hg
    cases h
    rw [hk _ hg] at he
    simp only [List.mem_singleton] at he
    subst he
    simp only [ea, List.mem_singleton] at ha
    subst ha
    decide
  · cases h

/-- The schedule of D7 on the real code ("`00` then 15 gc operations": the backup's first look at the
lock, then the collector up to and beyond `check()`, then the backup to its end, then the collector):
the theorem applies — whatever each command answers, no complete version dangles. -/
example :
    let r := runSched true ([false] ++ List.replicate 15 true) archive3
      (Actor.start (backup exH C04.Example.opts C04.Example.source)) (Actor.start (deleteBands true [] {}))
    (∀ b ∈ bandIdsOf r.1, isComplete r.1 b = true → C02h.RefsPresent r.1 b) ∧
      r.2.1.outcome ≠ none ∧ r.2.2.outcome ≠ none :=
  ⟨c06_full exH_inj exH_len _ _ _ _ archive3 archive3_ci source_sorted.weak _,
   c06_full_finished _ _ _ _ archive3 _⟩

/-- A delete of the existing version (and of the id the new one will get) racing the backup, every schedule. -/
example (sched : List Bool) :
    CI exH (runSched true sched archive3 (Actor.start (backup exH C04.Example.opts C04.Example.source))
      (Actor.start (deleteBands true [0, 1] { breakLock := true }))).1 :=
  c06_full_ci exH_inj exH_len _ _ _ _ archive3 archive3_ci source_sorted.weak sched

/-- The very first step is possible and is what one expects: both actors are parked at their first
storage operation (the two looks at the lock file / the listing of the archive directory). -/
example : (Actor.start (backup exH C04.Example.opts C04.Example.source)).prog = bkL1 exH C04.Example.opts C04.Example.source ∧
    (Actor.start (deleteBands true [] {})).prog = gcN [] {} := by
  constructor
  · rw [Actor.start_prog, backup_start]; rfl
  · rw [Actor.start_prog, deleteBands_start]; rfl

end Example

end Conserve.C06f
