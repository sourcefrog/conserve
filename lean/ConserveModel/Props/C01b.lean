import ConserveModel.Proofs.Mtime
/-
C01 (b) — a file's modification time survives backup and restore, for every value a
`jiff::Timestamp` can hold, including pre-1970 and fractional ones.

The property statement is `MtimeStatement`; `mtime_roundtrip` proves it, at full strength, for
the code as it is now (after commit 6ea0861, which made both conversions round seconds down).

For the code as it was before that commit (`…Pre` in Mtime.lean) the statement is
`MtimeStatementPre`, and it is REFUTED (`mtime_refuted_pre`, witness −1.5 s: the whole backup
panicked); `mtime_roundtrip_partial_pre` gives the exact set of times for which it held and
`mtime_panics_exactly_pre` the exact set where the backup panicked;
`toFileTimePre_negative_rejected` is the second half of the defect on the read side.
-/
namespace Conserve.C01b
open Conserve Conserve.DM

theorem inRange_iff (t : Int) :
    inRange t ↔ -377705023201000000000 ≤ t ∧ t ≤ 253402207200999999999 := Iff.rfl

/-- What a faithful restore hands to the OS for source time `t` (ns): floor seconds and the
non-negative nanosecond rest — the only `timespec` that denotes `t`. -/
def expected (t : Int) : Int × Nat := (t / 1000000000, (t % 1000000000).toNat)

/-- The floor pair denotes the instant. -/
theorem expected_total (t : Int) : (expected t).1 * nsPerSec + ((expected t).2 : Int) = t := by
  unfold expected nsPerSec
  dsimp only
  rw [Int.toNat_of_nonneg (Int.emod_nonneg _ (by decide)), Int.ediv_mul_add_emod]

theorem expected_denotes (t : Int) : osAccepts (expected t) = some t := by
  unfold osAccepts
  rw [if_pos (by unfold expected; dsimp only; omega), expected_total]

/-- **C01 (b), full strength**: every representable source mtime comes back exactly (and
nothing panics on the way). -/
def MtimeStatement : Prop :=
  ∀ t : Int, inRange t → mtimeRoundTrip t = .ok (expected t)

/-- The same statement about the conversions before commit 6ea0861. -/
def MtimeStatementPre : Prop :=
  ∀ t : Int, inRange t → mtimeRoundTripPre t = .ok (expected t)

/-- `metadata_from` stores floor seconds and the non-negative rest, for EVERY `t`; its
`try_into::<u32>().unwrap()` is dead. -/
theorem toIndex_eq_floor (t : Int) :
    toIndex t = .ok (t / 1000000000, (t % 1000000000).toNat) := by
  unfold toIndex
  simp only [floorPair]
  rw [if_neg (by omega)]

/-- `to_file_time` yields floor seconds and the non-negative rest: nothing negative is cast. -/
theorem toFileTime_eq_floor (ts : Int) :
    toFileTime ts = (ts / 1000000000, (ts % 1000000000).toNat) := by
  unfold toFileTime castUnsigned
  simp only [floorPair]
  rw [if_pos (by omega)]

theorem floor_bounds {t : Int} (hr : inRange t) :
    (t % 1000000000).toNat ≤ 999999999 ∧ secMin ≤ t / 1000000000 ∧ t / 1000000000 ≤ secMax := by
  rw [inRange_iff] at hr
  unfold secMin secMax
  omega

/-- Reading back what `metadata_from` stored gives the same `Timestamp`.  This is what `diff`
and the unchanged-file heuristic of the next backup rely on (C18). -/
theorem index_mtime_roundtrip (t : Int) (hr : inRange t) :
    indexMtime (t / 1000000000) (t % 1000000000).toNat = .ok t := by
  obtain ⟨hn, h1, h2⟩ := floor_bounds hr
  rw [indexMtime_eq_ok hn h1 h2]
  exact congrArg _ (expected_total t)

theorem mtime_roundtrip : MtimeStatement := by
  intro t hr
  unfold mtimeRoundTrip mtimeEncode sourceTimestamp restoredTime
  simp only [hr, if_true, Outcome.bind, toIndex_eq_floor]
  rw [index_mtime_roundtrip t hr]
  simp only [toFileTime_eq_floor]
  rfl

/-- Times outside jiff's range (year > 9999 or < −9999, settable on file systems with 64-bit
timestamps) panic the source walk itself (source.rs:99 `expect`), before and after the repair.
Not reachable on this sandbox's ext4 (1901..2446); a C10-style robustness finding. -/
theorem source_out_of_range_panics (t : Int) (h : ¬ inRange t) :
    mtimeRoundTrip t = .panic siteSourceRange := by
  unfold mtimeRoundTrip mtimeEncode sourceTimestamp restoredTime
  simp [h, Outcome.bind]

/-- `cast_unsigned` of a sub-second value never produces `UTIME_NOW` (2³⁰−1) or `UTIME_OMIT`
(2³⁰−2), so `osAccepts` need not special-case them. -/
theorem castUnsigned_not_special (ts : Int) :
    castUnsigned (subsecNanosecond ts) ≠ 1073741823 ∧
      castUnsigned (subsecNanosecond ts) ≠ 1073741822 := by
  have := subsec_range ts
  unfold castUnsigned
  split <;> omega

/-- The old `metadata_from` stored the same pair as now, except that it panicked
(`subsec_nanosecond().try_into::<u32>().unwrap()`, index/entry.rs:146) exactly for pre-epoch times
with a non-zero sub-second part. -/
theorem toIndexPre_eq (t : Int) :
    toIndexPre t =
      if t < 0 ∧ t % 1000000000 ≠ 0 then .panic siteEncNanos else .ok (expected t) := by
  unfold toIndexPre
  by_cases h : t < 0 ∧ t % 1000000000 ≠ 0
  · rw [if_pos ((subsec_neg_iff t).2 h), if_pos h]
  · have hc : 0 ≤ t ∨ t % 1000000000 = 0 := by omega
    rw [if_neg (mt (subsec_neg_iff t).1 h), if_neg h, subsec_eq, asSecond_eq, if_pos hc, if_pos hc]
    rfl

/-- The whole old pipeline likewise. -/
theorem mtimeRoundTripPre_eq (t : Int) (hr : inRange t) :
    mtimeRoundTripPre t =
      if t < 0 ∧ t % 1000000000 ≠ 0 then .panic siteEncNanos else .ok (expected t) := by
  unfold mtimeRoundTripPre mtimeEncodePre sourceTimestamp restoredTimePre
  by_cases h : t < 0 ∧ t % 1000000000 ≠ 0
  · simp only [hr, if_true, Outcome.bind, toIndexPre_eq, if_pos h]
  · have hc : 0 ≤ t ∨ t % 1000000000 = 0 := by omega
    have h0 : 0 ≤ t % 1000000000 := by omega
    simp only [hr, if_true, Outcome.bind, toIndexPre_eq, if_neg h, expected,
      index_mtime_roundtrip t hr, toFileTimePre, subsec_eq, asSecond_eq, hc, castUnsigned, h0]

theorem mtime_roundtrip_partial_pre (t : Int) (hr : inRange t)
    (hc : 0 ≤ t ∨ t % 1000000000 = 0) : mtimeRoundTripPre t = .ok (expected t) := by
  rw [mtimeRoundTripPre_eq t hr, if_neg (by omega)]

theorem mtime_panics_exactly_pre (t : Int) (hr : inRange t) :
    mtimeRoundTripPre t = .panic siteEncNanos ↔ t < 0 ∧ t % 1000000000 ≠ 0 := by
  rw [mtimeRoundTripPre_eq t hr]
  split <;> simp [*]

/-- **Refutation for the old code**: a file last modified 1.5 s before the epoch (mtime
−1 500 000 000 ns, `FileTime::from_unix_time(-2, 500_000_000)`) panicked the whole backup at
index/entry.rs:146 instead of being stored. -/
theorem mtime_refuted_pre : ¬ MtimeStatementPre := by
  intro h
  have := h (-1500000000) (by decide)
  revert this; decide

/-- The second half of the defect, on the READ side: for an index pair denoting a pre-epoch
time with a sub-second part (as the repaired writer, and conserve versions that stored floor
seconds, write it) the old `to_file_time` cast the negative `subsec_nanosecond` to `u32`; the
resulting `tv_nsec ≥ 3 294 967 297` is refused by `utimensat` (`EINVAL`), so restore reported an
error and left the time unset.  Repairing only `metadata_from` would not have been enough. -/
theorem toFileTimePre_negative_rejected (ts : Int) (h : ts < 0 ∧ ts % 1000000000 ≠ 0) :
    osAccepts (toFileTimePre ts) = none := by
  have h1 := (subsec_neg_iff ts).2 h
  have h2 := subsec_range ts
  unfold osAccepts toFileTimePre castUnsigned
  dsimp only
  rw [if_neg (Int.not_le.2 h1), if_neg (by omega)]

/-- The repair agrees with the old write side wherever the old one worked, so archives written
before and after are interchangeable. -/
theorem repair_extends_pre (t : Int) (p : Int × Nat) (h : toIndexPre t = .ok p) :
    toIndex t = .ok p := by
  rw [toIndexPre_eq] at h
  split at h
  · cases h
  · exact (toIndex_eq_floor t).trans h

-- Non-vacuity and concrete values.
example : inRange (-1500000000) := by decide +kernel
example : mtimeRoundTrip (-1500000000) = .ok (-2, 500000000) := by decide +kernel
example : mtimeRoundTrip (-1) = .ok (-1, 999999999) := by decide +kernel
example : mtimeRoundTrip (-2000000000) = .ok (-2, 0) := by decide +kernel
example : mtimeRoundTrip 1700000000000000123 = .ok (1700000000, 123) := by decide +kernel
example : mtimeRoundTrip (tsMax + 1) = .panic siteSourceRange := rfl
example : mtimeRoundTripPre (-1500000000) = .panic siteEncNanos := rfl
example : mtimeRoundTripPre (-1) = .panic siteEncNanos := rfl
example : mtimeRoundTripPre (-2000000000) = .ok (-2, 0) := by decide +kernel
-- what the old `to_file_time` did with the pair stored for −1.5 s:
example : restoredTimePre (.ok (-2, 500000000)) = .ok (-1, 3794967296) := by decide +kernel
example : osAccepts (-1, 3794967296) = none := by decide +kernel
example : restoredTime (.ok (-2, 500000000)) = .ok (-2, 500000000) := by decide +kernel
-- decoded-but-odd index values (C10 territory): both `unwrap`s of `IndexEntry::mtime`
example : indexMtime 0 2147483648 = .panic siteDecNanos := rfl
example : indexMtime 0 1000000000 = .panic siteDecNew := rfl
example : indexMtime 253402207201 0 = .panic siteDecNew := rfl

end Conserve.C01b
