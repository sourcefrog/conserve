import ConserveModel.Proofs.GapBlockRoot
import ConserveModel.Props.C02h
/-
The "C02h gap": a backup never creates `d/`.

`C02h.backup_any_world_keeps_restore` and `C02h.InvStatementGood` (Props/C02h.lean) assume
`w.store.get? .blockRoot = some .dir`.  The hypothesis is not needed; this file states both without it.

Why it is not needed.  `C02h.restore_congr` needs `s'.get? .blockRoot = s.get? .blockRoot` (a restore
starts with `list_blocks`, which lists `d/` and fails iff `d/` is not a directory; nothing else of the
restore looks at `d/` itself).  `Extends` gives that equation only for a `d/` that IS there; with `d/`
absent (or a file) it would allow the backup to create it (or, for a zero-length file, to fill it).  It
does not: no operation a backup can issue has `d/` as its key (`BackupFp`: the directories created are
`bNNNN`, `bNNNN/i`, `bNNNN/i/DDDDD`, `d/xxx`; the files written are heads, hunks, tails, blocks; nothing
is removed), and `World.exec` changes the store at the key of the operation only
(`World.exec_get?_of_not_affects`) — in every world: faults, crash between the two micro-steps of a write,
dead, `CreateNew` honoured or not.  So the equation holds outright (`backup_keeps_blockRoot`; it is the
field `root` of `C02h.Kept`): when `d/` is missing both restores fail alike at `list_blocks` (and every
block write of the backup failed, the parent of `d/xxx` being missing — not needed for the proof).

1. `backup_keeps_blockRoot` (Proofs/GapBlockRoot.lean) — every world, nothing assumed: `get? d/` after = before.
   (`backup_keeps_root`, `backup_keeps_header`: likewise the archive directory and `CONSERVE`;
   `delete_keeps_blockRoot`: likewise `delete_bands`, strict or not.)
2. `backup_never_creates_blockRoot`, `backup_never_removes_blockRoot` — the two readings.
3. `backup_any_world_keeps_restore'` — `C02h.backup_any_world_keeps_restore` WITHOUT the `blockRoot`
   hypothesis (all other hypotheses as there).  DONE, not partial, nothing refuted.
4. `InvStatementGood'` / `inv_statement_good'` — `C02h.InvStatementGood` without the `blockRoot`
   hypothesis, over histories of backup attempts.

Helper file: Proofs/GapBlockRoot.lean (`SparesKey`, `run_sparesKey`, `BackupFp.spares`,
`backup_spares_blockRoot`).
-/
namespace Conserve.Gaps
open Conserve Conserve.Exact Conserve.Hist Conserve.Inv Conserve.Conf Conserve.C02h Conserve.GapBlockRoot

/-! ## 1. `d/` is left alone, in every world -/

theorem backup_never_creates_blockRoot (H : Str → Str) (o : BackupOpts) (src : List SrcEntry) (w : World)
    (h : w.store.get? .blockRoot = none) : ((backup H o src).run w).2.store.get? .blockRoot = none := by
  rw [backup_keeps_blockRoot]; exact h

/-- A backup never removes or replaces `d/`: a directory before, a directory after — in every world
(also one that does not honour `CreateNew`; `Extends` gives this only when it is honoured). -/
theorem backup_never_removes_blockRoot (H : Str → Str) (o : BackupOpts) (src : List SrcEntry) (w : World)
    (h : w.store.get? .blockRoot = some .dir) : ((backup H o src).run w).2.store.get? .blockRoot = some .dir := by
  rw [backup_keeps_blockRoot]; exact h

theorem backup_keeps_root (H : Str → Str) (o : BackupOpts) (src : List SrcEntry) (w : World) :
    ((backup H o src).run w).2.store.get? .root = w.store.get? .root :=
  run_sparesKey (backup_spares_root H o src) w

theorem backup_keeps_header (H : Str → Str) (o : BackupOpts) (src : List SrcEntry) (w : World) :
    ((backup H o src).run w).2.store.get? .header = w.store.get? .header :=
  run_sparesKey (backup_spares_header H o src) w

/-- `delete_bands` (strict or as shipped, any versions, any options) never touches `d/` itself
either, in every world and with no hypothesis on the archive (`C05.delete_frame_any_world` has this
for the strict mode). -/
theorem delete_keeps_blockRoot (strict : Bool) (D : List Nat) (o : DeleteOpts) (w : World) :
    ((deleteBands strict D o).run w).2.store.get? .blockRoot = w.store.get? .blockRoot :=
  run_sparesKey (deleteBands_spares_blockRoot strict D o) w

/-! ## 2. `backup_any_world_keeps_restore` without the `blockRoot` hypothesis -/

/-- **`backup_any_world_keeps_restore'` — `C02h.backup_any_world_keeps_restore` with the hypothesis
"`d/` is a directory" REMOVED.**  Take ANY world `w` — any faults, any crash point, dead or not — that
honours `CreateNew`, any options, any source listing.  If the archive `w.store` is a map (no path
twice), version `b` has a directory and a tail, and the blocks its entries name are present and not
zero-length, then after `backup` ran in `w` (however it ended) restoring `b` gives the same result and
reports the same events as before.  `d/` may be a directory, missing, or a file: in the last two cases
the restore fails at `list_blocks`, with the same error before and after
(`backup_keeps_blockRoot`).  Hypotheses, exactly: `w.enforceCreateNew = true`, `NoDupKeys w.store`,
`w.store.get? (.bandDir b) = some .dir`, `isComplete w.store b = true`, `RefsPresent w.store b`. -/
theorem backup_any_world_keeps_restore' (H : Str → Str) (o : BackupOpts) (src : List SrcEntry) (w : World)
    (b : Nat) (he : w.enforceCreateNew = true) (hn : NoDupKeys w.store)
    (hdir : w.store.get? (.bandDir b) = some .dir) (hc : isComplete w.store b = true)
    (hrefs : RefsPresent w.store b) :
    SameRestore H b w.store ((backup H o src).run w).2.store :=
  (backup_kept H o src w b he hdir).sameRestore H hn ⟨hc, hrefs⟩

theorem backup_any_world_keeps_restore_of' (H : Str → Str) (o : BackupOpts) (src : List SrcEntry) (w : World)
    (b : Nat) (he : w.enforceCreateNew = true) (hn : NoDupKeys w.store)
    (_hroot : w.store.get? .blockRoot = some .dir)
    (hdir : w.store.get? (.bandDir b) = some .dir) (hc : isComplete w.store b = true)
    (hrefs : RefsPresent w.store b) :
    SameRestore H b w.store ((backup H o src).run w).2.store :=
  backup_any_world_keeps_restore' H o src w b he hn hdir hc hrefs

/-! ## 3. Histories of backup attempts, without the `blockRoot` hypothesis -/

/-- `C02h.InvStatementGood` without "`d/` is a directory": the archive is a map, version `b` has a
directory and a tail, and the blocks its entries name are present.  Histories: `C07.Attempt` — backups
with any options, sources, fault lists and crash points. -/
def InvStatementGood' (H : Str → Str) : Prop :=
  ∀ (s : Store) (b : Nat) (hist : List C07.Attempt),
    NoDupKeys s → s.get? (.bandDir b) = some .dir → isComplete s b = true → RefsPresent s b →
    SameRestore H b s (C07.runHistory H hist s)

/-- **The restated property holds**, for every `H`, whatever `d/` is: every attempt stays inside
`C02h.Kept` (`attempts_kept`). -/
theorem inv_statement_good' (H : Str → Str) : InvStatementGood' H :=
  fun s b hist hn hdir hc hrefs => (attempts_kept H b hist s hdir).sameRestore H hn ⟨hc, hrefs⟩

theorem inv_statement_good_of' (H : Str → Str) : C02h.InvStatementGood H :=
  fun s b hist hn _ hdir hc hrefs => inv_statement_good' H s b hist hn hdir hc hrefs

/-! ## Non-vacuity -/

namespace Example
open C01a.Example C02h.Example

/-- `backup_keeps_blockRoot` on the example archive `C02h.Example.s1` in the world with an injected
fault that is killed before micro-step 9: `d/` is still the directory it was. -/
example : ((backup exH {} source).run { badWorld with store := s1 }).2.store.get? .blockRoot = some .dir :=
  backup_never_removes_blockRoot exH {} source { badWorld with store := s1 } (ci_blockRoot s1_ci)

/-- `backup_any_world_keeps_restore'` applies to `s1`, version 0, and that world (here `d/` exists). -/
example : SameRestore exH 0 s1 ((backup exH {} source).run { badWorld with store := s1 }).2.store :=
  backup_any_world_keeps_restore' exH {} source { badWorld with store := s1 } 0 rfl s1_ci.nodup
    (dir_of_complete s1_ci.dirs s1_version.complete) s1_version.complete s1_version.refs

/-- An archive WITHOUT `d/` (somebody removed it): header, and a complete, empty version 0. -/
def noD : Store :=
  [(.root, .dir), (.header, .header [48, 46, 54]), (.bandDir 0, .dir), (.bandHead 0, .head .ok []),
   (.indexDir 0, .dir), (.bandTail 0, .tail (some 0))]

theorem noD_nodup : NoDupKeys noD := by unfold NoDupKeys; decide

theorem noD_blockRoot : noD.get? .blockRoot = none := by decide

/-- Version 0 of `noD` has no hunks, so names no blocks. -/
theorem noD_refs : RefsPresent noD 0 := by
  intro n es hh
  have hnone : hunkAt noD 0 n = none := rfl
  rw [hnone] at hh
  cases hh

theorem noD_dir : noD.get? (.bandDir 0) = some .dir := by decide

theorem noD_complete : isComplete noD 0 = true := by decide

/-- The hypotheses of `backup_any_world_keeps_restore'` hold of `noD` — where the hypothesis of the
original theorem fails — in every world: the new theorem covers a case the old one did not. -/
example (w : World) (he : w.enforceCreateNew = true) :
    SameRestore exH 0 noD ((backup exH {} source).run { w with store := noD }).2.store :=
  backup_any_world_keeps_restore' exH {} source { w with store := noD } 0 he noD_nodup noD_dir noD_complete
    noD_refs

/-- … and `d/` is still missing afterwards, in every world. -/
example (w : World) : ((backup exH {} source).run { w with store := noD }).2.store.get? .blockRoot = none :=
  backup_never_creates_blockRoot exH {} source { w with store := noD } noD_blockRoot

/-- The backup on `noD` is not a no-op: in the fault-free world it creates version 1 (directory and
head) and then fails, listing `d/` — the store changed, `d/` did not appear. -/
example :
    let s' := ((backup id {} []).run (World.clean noD)).2.store
    s'.get? (.bandDir 1) = some .dir ∧ s'.get? (.bandHead 1) = some (.head .ok []) ∧
      s'.get? .blockRoot = none := by
  decide +kernel

/-- `InvStatementGood'` applies to `noD`, version 0, for every history of attempts. -/
example (h : List C07.Attempt) : SameRestore exH 0 noD (C07.runHistory exH h noD) :=
  inv_statement_good' exH noD 0 h noD_nodup noD_dir noD_complete noD_refs

/-- `delete_keeps_blockRoot` on C05's example archive, killed before its third mutating micro-step. -/
example : ((deleteBands true [0] {}).run { store := C05.exStore, crashAt := some 2 }).2.store.get? .blockRoot =
    C05.exStore.get? .blockRoot :=
  delete_keeps_blockRoot true [0] {} { store := C05.exStore, crashAt := some 2 }

end Example

#print axioms backup_keeps_blockRoot
#print axioms backup_never_creates_blockRoot
#print axioms backup_never_removes_blockRoot
#print axioms backup_keeps_root
#print axioms backup_keeps_header
#print axioms delete_keeps_blockRoot
#print axioms backup_any_world_keeps_restore'
#print axioms inv_statement_good'

end Conserve.Gaps
