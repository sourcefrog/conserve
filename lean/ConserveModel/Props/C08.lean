import ConserveModel.Proofs.StitchOps
import ConserveModel.Props.C12
/-
C08 — Listing a version follows the stitching rule and is strictly ordered.

"For any arrangement of complete, incomplete, empty and deleted versions, listing version N
yields N's own entries and, if N is incomplete, continues with the entries of the nearest
earlier existing version that sort after the last path taken so far, recursively, stopping at
the first complete version or when no earlier version exists.  The result is strictly increasing
in path order (no duplicates), every entry comes unmodified from the newest version that covers
its path, and the listing always terminates."

The RULE is `listSpec` in StitchSpec.lean (pure functions of the store, one clause per phrase of
the sentence above: `ownEntries`, `bandPresent`, `isComplete`, `sortsAfter`, `lastOr`, `contSpec`,
`listSpec`, `chain`).  The CODE is `stitchAll` / `listEntries` / `listVersion` in IndexRead.lean: the
model of `Stitch::next` over `IndexHunkIter::next` with its three-way skip-ahead and trimming.

All theorems are about the fault-free, crash-free world `World.clean s` (the `_quiet` and `_total`
forms: any world without faults) and quantify over ALL
stores `s` with `ArchWF s` (no duplicate paths, a tree, and each version's usable hunks
strictly increasing within and across hunks).  Versions may be absent, have a directory but no
head, an empty / undecodable / unsupported head, no index directory, no hunks, gaps anywhere in
the hunk numbering, undecodable, empty (`[]`) or zero-length hunk files, and a tail or none — in
every combination, with every split of the entries into hunks.

A hunk file is "usable" when its bytes decompress and parse AND every entry passes
`IndexEntry::check` (valid path, representable time, known kind, …), or when it is the zero-length
leftover of a killed write (no entries); anything else is treated like a missing hunk but
REPORTED: `stitch_eq_spec` also pins down the error events (one per unreadable version, one if
`Band::check_index_hunks` finds hunks missing or a zero-length hunk misplaced, one per unusable hunk;
and, since the repair of `previous_existing_band`, one `bandHeadMissing` for every id the walk passes
over whose head file is gone although its index still holds hunk 0 — `headLost`, see `stitch_errors`
and Props/C10h.lean).
Because every listed entry passed the check, the exclusion filter's `assert!(is_valid)` can never
fire (`listed_valid`), and since the repair of `Band::open` an unparsable `band_format_version` is
an error like any other unsupported version — so no hypothesis beyond `ArchWF` is needed.

Termination: `stitchAll`, `stitchDown` and `readHunks` are total Lean functions by structural
recursion on the band id and on the list of hunk numbers, and `Prog.run` interprets a finite tree;
that Lean accepts the definitions IS the proof that the listing terminates.  `stitch_total` below
records it.
-/
namespace Conserve.C08
open Conserve

/-- `stitch_eq_spec` in any quiet world (no faults, not crashed), whatever happened before. -/
theorem stitch_eq_spec_quiet {s : Store} (wf : ArchWF s) (n : Nat)
    {evs : List Event} {w : World} (hq : Quiet s evs w) :
    ((stitchAll n).run w).1 = .ok (listSpec s n) ∧
    Quiet s (((listErrors s n).map Event.error).reverse ++ evs) ((stitchAll n).run w).2 := by
  obtain ⟨w', h, q⟩ := run_stitchAll n hq
  rw [h]
  refine ⟨by rw [stitchAllP_fst wf], ?_⟩
  rw [stitchAllP_snd wf] at q; exact q

/-- **stitch_eq_spec.**  For every well-formed store and every version id `n` (existing or not),
collecting the real iterator's output gives exactly the rule's listing; nothing is written; and
the error events are exactly `listErrors s n` (StitchSpec.lean; newest event first in the world).
This is the statement that the skip-ahead logic — whole hunk before the resume path: skip; whole
hunk after it: take and stop searching; hunk straddling it: binary search and trim — is correct for
every alignment of hunk boundaries with the resume path. -/
theorem stitch_eq_spec {s : Store} (wf : ArchWF s) (n : Nat) :
    ((stitchAll n).run (World.clean s)).1 = .ok (listSpec s n) ∧
    ((stitchAll n).run (World.clean s)).2.store = s ∧
    ((stitchAll n).run (World.clean s)).2.events = ((listErrors s n).map Event.error).reverse := by
  obtain ⟨h, q⟩ := stitch_eq_spec_quiet wf n (Quiet.clean s)
  exact ⟨h, q.store, by simpa using q.events⟩

/-- What is reported, spelled out.  The version asked for, then — if it is incomplete — the walk
down (`errorsBelow`): a version that exists is consulted (`bandErrors`) and, if complete, ends the
walk; an id without head file is passed over, and since the repair of `previous_existing_band` it is
reported with one `bandHeadMissing` if its index still holds hunk 0 (`headLost`: the head was there
once and is gone; a directory left by a backup killed before its head write has no hunk and stays
silent).  A version consulted that cannot be read gives exactly one error (`unreadableError`) and
contributes nothing; a readable one gives no error unless hunks are missing or misplaced (numbering
not 0,1,2,…, not as many as the tail says, or a zero-length hunk that is not the last one of a
version without tail: one `invalidMetadata`) or a hunk file cannot be used (one error each, in hunk
order). -/
theorem stitch_errors (s : Store) (n : Nat) :
    listErrors s n = bandErrors s n ++ (if isComplete s n then [] else errorsBelow s n) ∧
    errorsBelow s 0 = [] ∧
    (∀ b, errorsBelow s (b + 1) =
      if bandPresent s b then bandErrors s b ++ (if isComplete s b then [] else errorsBelow s b)
      else (if headLost s b then [Err.bandHeadMissing b] else []) ++ errorsBelow s b) ∧
    ∀ b, bandErrors s b =
      if bandReadable s b then
        (indexCheckError s b).toList ++ (hunkNumsOf s b).filterMap (hunkError s b)
      else [unreadableError s b] := ⟨rfl, rfl, fun _ => rfl, fun _ => rfl⟩

/-- The same, relative to the chain of versions consulted: the errors of the chain's versions
(`chainErrors`, what was reported before the repair) all occur, in order; anything else reported is
the `bandHeadMissing` of an id below `n` that lost its head; and if no id below `n` has lost its head
the listing reports exactly the chain's errors. -/
theorem stitch_errors_chain (s : Store) (n : Nat) :
    (chainErrors s n = (chain s n).flatMap fun b =>
      if bandReadable s b then
        (indexCheckError s b).toList ++ (hunkNumsOf s b).filterMap (hunkError s b)
      else [unreadableError s b]) ∧
    (chainErrors s n).Sublist (listErrors s n) ∧
    (∀ e ∈ listErrors s n, (∃ c ∈ chain s n, e ∈ bandErrors s c) ∨
      ∃ c, c < n ∧ headLost s c = true ∧ e = Err.bandHeadMissing c) ∧
    ((∀ c, c < n → headLost s c = false) → listErrors s n = chainErrors s n) :=
  ⟨rfl, chainErrors_sublist s n, fun _ he => mem_listErrors he, listErrors_eq_chainErrors n⟩

/-- A listing of intact versions is silent: if every version of the chain is readable, has its
hunks numbered 0,1,2,… (as many as the tail says) and all of them usable, and no id below `n` has
lost its head (`hl`: needed since the repair of `previous_existing_band`, which reports such ids),
no error is reported. -/
theorem stitch_silent {s : Store} (n : Nat)
    (h : ∀ b ∈ chain s n, bandReadable s b = true ∧ indexCheckError s b = none ∧
      ∀ k ∈ hunkNumsOf s b, hunkError s b k = none)
    (hl : ∀ c, c < n → headLost s c = false) :
    listErrors s n = [] := by
  rw [listErrors_eq_chainErrors n hl]
  unfold chainErrors
  rw [List.flatMap_eq_nil_iff]
  intro b hb
  obtain ⟨h1, h2, h3⟩ := h b hb
  simp only [bandErrors, h1, if_true, h2, Option.toList, List.nil_append, List.filterMap_eq_nil_iff]
  exact h3

/-- **stitch_sorted.**  The listing of any version of a well-formed store is strictly increasing
in path order; in particular no path occurs twice. -/
theorem stitch_sorted {s : Store} (wf : ArchWF s) (n : Nat) :
    ((listSpec s n).map (·.apath)).Pairwise (fun a b => apathCmp a b = .lt) := by
  rw [List.pairwise_map, listSpec_eq_stitchList]
  exact (stitchList_sorted wf (chain s n) none).1

theorem stitch_nodup {s : Store} (wf : ArchWF s) (n : Nat) : ((listSpec s n).map (·.apath)).Nodup := by
  refine (stitch_sorted wf n).imp ?_
  intro a b h e
  subst e
  exact C11.cmp_irrefl a h

theorem stitch_sorted_run {s : Store} (wf : ArchWF s) (n : Nat) :
    ∃ es, ((stitchAll n).run (World.clean s)).1 = .ok es ∧
      (es.map (·.apath)).Pairwise (fun a b => apathCmp a b = .lt) :=
  ⟨_, (stitch_eq_spec wf n).1, stitch_sorted wf n⟩

/-- The entries the listing of `n` takes from version `b`: those entries of `b` that sort after
everything every newer version of the chain holds — `b` is the newest version of the chain that
reaches ("covers") their path. -/
def takenFrom (s : Store) (n b : Nat) : List IndexEntry := takenFromChain s (chain s n) b

theorem mem_takenFrom {s : Store} {n b : Nat} {e : IndexEntry} :
    e ∈ takenFrom s n b ↔
      e ∈ bandEntries s b ∧
      ∀ b' ∈ chain s n, b < b' → ∀ e' ∈ bandEntries s b', apathCmp e'.apath e.apath = .lt := by
  simp only [takenFrom, takenFromChain, List.mem_filter, List.all_eq_true, Bool.or_eq_true,
    decide_eq_true_eq, beq_iff_eq]
  constructor
  · rintro ⟨he, h⟩
    refine ⟨he, fun b' hb' hlt e' he' => ?_⟩
    rcases h b' hb' with hle | h
    · omega
    · exact h e' he'
  · rintro ⟨he, h⟩
    refine ⟨he, fun b' hb' => ?_⟩
    by_cases hle : b' ≤ b
    · exact Or.inl hle
    · exact Or.inr (h b' hb' (by omega))

/-- Version `b` covers path `p`: its (readable) index reaches `p` or beyond. -/
def covers (s : Store) (b : Nat) (p : Str) : Prop :=
  ∃ e' ∈ bandEntries s b, apathCmp e'.apath p ≠ .lt

/-- Taken from `b` = an entry of `b` whose path no newer version of the chain covers; `b` itself
covers it, so `b` is the newest version of the chain that covers the path. -/
theorem taken_iff_newest_cover {s : Store} {n b : Nat} {e : IndexEntry} :
    e ∈ takenFrom s n b ↔
      e ∈ bandEntries s b ∧ covers s b e.apath ∧
      ∀ b' ∈ chain s n, b < b' → ¬ covers s b' e.apath := by
  rw [mem_takenFrom]
  constructor
  · rintro ⟨he, h⟩
    refine ⟨he, ⟨e, he, C11.cmp_irrefl _⟩, fun b' hb' hlt ⟨e', he', hne⟩ => hne (h b' hb' hlt e' he')⟩
  · rintro ⟨he, _, h⟩
    refine ⟨he, fun b' hb' hlt e' he' => ?_⟩
    cases hc : apathCmp e'.apath e.apath with
    | lt => rfl
    | eq => exact absurd ⟨e', he', by simp [hc]⟩ (h b' hb' hlt)
    | gt => exact absurd ⟨e', he', by simp [hc]⟩ (h b' hb' hlt)

/-- **stitch_provenance.**  The listing is the concatenation, along the chain, of what is taken
from each version; every listed entry is taken from exactly one version `b` of the chain; it is
an element of a stored, usable hunk of `b` (unmodified); and every newer version of the chain
holds only paths sorting before it (so `b` is the newest version covering its path). -/
theorem stitch_provenance {s : Store} (wf : ArchWF s) (n : Nat) :
    listSpec s n = ((chain s n).map (takenFrom s n)).flatten ∧
    ∀ e ∈ listSpec s n,
      (∃ b, (b ∈ chain s n ∧ e ∈ takenFrom s n b) ∧
        ∀ b₂, (b₂ ∈ chain s n ∧ e ∈ takenFrom s n b₂) → b₂ = b) ∧
      ∀ b ∈ chain s n, e ∈ takenFrom s n b →
        (∃ k es, usableHunk s b k = some es ∧ e ∈ es) ∧
        ∀ b' ∈ chain s n, b < b' → ∀ e' ∈ bandEntries s b', apathCmp e'.apath e.apath = .lt := by
  have heq : listSpec s n = ((chain s n).map (takenFrom s n)).flatten := by
    rw [listSpec_eq_stitchList]
    exact stitchList_eq_taken wf (chain_decreasing s n) _ none [] (Summ.nil s) rfl
  refine ⟨heq, fun e he => ⟨?_, ?_⟩⟩
  · rw [heq, List.mem_flatten] at he
    obtain ⟨l, hl, hel⟩ := he
    obtain ⟨b, hb, rfl⟩ := List.mem_map.mp hl
    refine ⟨b, ⟨hb, hel⟩, ?_⟩
    rintro b₂ ⟨hb₂, he₂⟩
    rcases Nat.lt_trichotomy b₂ b with hlt | heq' | hgt
    · -- `e` is an entry of `b`, and everything in `b` sorts before what is taken from `b₂`
      have := (mem_takenFrom.mp he₂).2 b hb hlt e (mem_takenFrom.mp hel).1
      exact absurd this (C11.cmp_irrefl _)
    · exact heq'
    · have := (mem_takenFrom.mp hel).2 b₂ hb₂ hgt e (mem_takenFrom.mp he₂).1
      exact absurd this (C11.cmp_irrefl _)
  · intro b _ hel
    obtain ⟨hbe, hnewer⟩ := mem_takenFrom.mp hel
    obtain ⟨k, _, es, h⟩ := mem_bandEntries hbe
    exact ⟨⟨k, es, h⟩, hnewer⟩

/-- Every listed entry is literally stored in some hunk file of the archive, all of whose
entries pass `IndexEntry::check`. -/
theorem listed_is_stored {s : Store} {n : Nat} {e : IndexEntry} (he : e ∈ listSpec s n) :
    ∃ b k es, s.get? (.hunk b k) = some (.hunk es) ∧ es.all entryUsable = true ∧ e ∈ es := by
  rw [listSpec_eq_stitchList] at he
  obtain ⟨b, _, hbe⟩ := mem_stitchList he
  obtain ⟨k, _, es, hk, hee⟩ := mem_bandEntries hbe
  obtain ⟨hh, hu⟩ := usableHunk_mem hk hee
  exact ⟨b, k, es, hunkAt_eq_some_iff.mp hh, hu, hee⟩

theorem listed_usable {s : Store} {n : Nat} {e : IndexEntry} (he : e ∈ listSpec s n) : entryUsable e = true := by
  obtain ⟨_, _, es, _, hu, hee⟩ := listed_is_stored he
  exact List.all_eq_true.mp hu e hee

/-- Every listed path is valid: `Exclude::matches`' `assert!(is_valid)` cannot fire on a listing. -/
theorem listed_valid {s : Store} {n : Nat} {e : IndexEntry}
    (he : e ∈ listSpec s n) : isValid e.apath = true := by
  have := listed_usable he
  simp only [entryUsable, Bool.and_eq_true] at this
  exact this.1.1.1.1

theorem run_listEntries {s : Store} (wf : ArchWF s) (n : Nat) (subtree : Str) (excl : Str → Bool)
    {evs : List Event} {w : World} (hq : Quiet s evs w) :
    ∃ w', (listEntries n subtree excl).run w =
        (.ok ((listSpec s n).filter fun e => isPrefixOfImpl subtree e.apath && !excl e.apath), w') ∧
      Quiet s (evsOf (listErrors s n) ++ evs) w' :=
  Quiet.run_of_eval (e := true) (listEntries_ro n subtree excl) (by
    rw [eval_listEntries, stitchAllP_fst wf, stitchAllP_snd wf, Hist.filterP_valid fun e he _ => listed_valid he]) hq

/-- **stitch_filter.**  Listing with a subtree and an exclusion predicate is the unfiltered rule
listing, filtered: inside the subtree (`Apath::is_prefix_of`) and not excluded.  (The model's
`filterEntries` panics on an invalid stored path like `Exclude::matches` does; `listed_valid`
shows the listing never reaches one.) -/
theorem stitch_filter {s : Store} (wf : ArchWF s) (n : Nat) (subtree : Str) (excl : Str → Bool) :
    ((listEntries n subtree excl).run (World.clean s)).1 =
      .ok ((listSpec s n).filter fun e => isPrefixOfImpl subtree e.apath && !excl e.apath) ∧
    ((listEntries n subtree excl).run (World.clean s)).2.store = s := by
  obtain ⟨w', h, q⟩ := run_listEntries wf n subtree excl (Quiet.clean s)
  rw [h]
  exact ⟨rfl, q.store⟩

/-- With C12 (`prefix_iff_ancestor`): for a valid subtree path, the subtree listing consists of
exactly the listed entries at or below the subtree by WHOLE path components, minus the excluded
ones, in the same (strictly increasing) order. -/
theorem subtree_listing {s : Store} (wf : ArchWF s) (n : Nat) (subtree : Str)
    (hsub : isValid subtree = true) (excl : Str → Bool) :
    ((listEntries n subtree excl).run (World.clean s)).1 =
      .ok ((listSpec s n).filter fun e => isAncestorOrSelf subtree e.apath && !excl e.apath) := by
  rw [(stitch_filter wf n subtree excl).1]
  congr 1
  apply List.filter_congr
  intro e he
  rw [C12.prefix_iff_ancestor subtree e.apath hsub (listed_valid he)]

/-- `Archive::iter_entries(Specified(n), subtree, exclude)`: `StoredTree::open` first opens the
version, so a requested version whose head cannot be opened is refused with that error (it is NOT
treated as an empty version that continues downward); otherwise the filtered rule. -/
theorem list_version_specified {s : Store} (wf : ArchWF s) (n : Nat) (subtree : Str)
    (excl : Str → Bool) :
    ((listVersion (.specified n) subtree excl).run (World.clean s)).1 =
      match bandOpenP s n with
      | .ok () => .ok ((listSpec s n).filter fun e => isPrefixOfImpl subtree e.apath && !excl e.apath)
      | .error e => .err e := by
  obtain ⟨w1, h1, q1⟩ := run_bandOpen (Quiet.clean s) n
  simp only [listVersion, resolveBandId, Prog.bind_def, Prog.pure_def, Prog.ret_bind, Prog.run_bind, h1]
  cases hb : bandOpenP s n with
  | error e => rfl
  | ok u =>
    obtain ⟨w', h, _⟩ := run_listEntries wf n subtree excl q1
    simp only [toOutcome, h]

/-- The listing always terminates: `run` is a total function, so there is a result, in every
world (faults, crashes and malformed stores included).  The content of the statement is that Lean
accepted `stitchAll`, `stitchDown`, `readHunks` (structural recursion) and `Prog.run`. -/
theorem stitch_total (n : Nat) (w : World) : ∃ r, (stitchAll n).run w = r := ⟨_, rfl⟩

/-- The meaningful bound: listing version `n` of a well-formed store issues at most
`(n + 1) · (6 + 3·|s|)` storage operations (`|s|` = number of files and directories in the
archive): per version consulted one existence test, one head read, one tail test, one tail read,
the directory listings (twice) and one read per hunk file.  The trace of the clean world records
every operation. -/
theorem stitch_ops_bounded {s : Store} (wf : ArchWF s) (n : Nat) :
    ((stitchAll n).run (World.clean s)).2.trace.length ≤ (n + 1) * (6 + 3 * s.length) := by
  obtain ⟨w', h, _, ht⟩ := (Quiet.clean s).run_eval (stitchAll_fp n).rd_ro
  rw [h, ht]
  exact Nat.le_trans (Nat.le_of_eq (Nat.zero_add _)) (evalOps_stitchAll true wf n)

/-- **stitch_terminates.**  Both halves together: on every well-formed store the listing of every
version id returns (no error, no panic) after a number of storage operations bounded by a
computable function of the store. -/
theorem stitch_terminates {s : Store} (wf : ArchWF s) (n : Nat) :
    ∃ es, ((stitchAll n).run (World.clean s)).1 = .ok es ∧
      ((stitchAll n).run (World.clean s)).2.trace.length ≤ (n + 1) * (6 + 3 * s.length) :=
  ⟨_, (stitch_eq_spec wf n).1, stitch_ops_bounded wf n⟩

/-! ## Non-vacuity: a concrete archive -/

/-- A file entry at path `p`, marked with the version it was written by. -/
def ent (p : Str) (m : Int) : IndexEntry :=
  { apath := p, kind := .file, mtime := m, mtimeNanos := 0, unixMode := none, user := none,
    group := none, addrs := [], target := none }

/-- b0000 complete (`/ /a /b /c /d` in one hunk); b0001 incomplete, two hunks (`/ /a /b`, `/c`);
b0002 incomplete, one hunk (`/ /a`); b0003 a directory without head; b0005 with an empty head. -/
def demo : Store :=
  [ (.root, .dir), (.header, .header [48, 46, 54]), (.blockRoot, .dir),
    (.bandDir 0, .dir), (.bandHead 0, .head .ok []), (.indexDir 0, .dir), (.hunkDir 0 0, .dir),
    (.hunk 0 0, .hunk [ent [47] 0, ent [47, 97] 0, ent [47, 98] 0, ent [47, 99] 0, ent [47, 100] 0]),
    (.bandTail 0, .tail (some 1)),
    (.bandDir 1, .dir), (.bandHead 1, .head .ok []), (.indexDir 1, .dir), (.hunkDir 1 0, .dir),
    (.hunk 1 0, .hunk [ent [47] 1, ent [47, 97] 1, ent [47, 98] 1]),
    (.hunk 1 1, .hunk [ent [47, 99] 1]),
    (.bandDir 2, .dir), (.bandHead 2, .head .ok []), (.indexDir 2, .dir), (.hunkDir 2 0, .dir),
    (.hunk 2 0, .hunk [ent [47] 2, ent [47, 97] 2]),
    (.bandDir 3, .dir),
    (.bandDir 5, .dir), (.bandHead 5, .empty) ]

-- `sortNat` is `List.mergeSort` (well-founded recursion, which `decide` cannot unfold), so the
-- hunk numbers of the three versions are computed once by hand.
theorem demo_nums0 : hunkNumsOf demo 0 = [0] := by
  rw [hunkNumsOf_eq, show demo.filterMap (hunkSel 0) = [0] by decide +kernel]
  exact sortNat_of_sorted (by decide)
theorem demo_nums1 : hunkNumsOf demo 1 = [0, 1] := by
  rw [hunkNumsOf_eq, show demo.filterMap (hunkSel 1) = [0, 1] by decide +kernel]
  exact sortNat_of_sorted (by decide)
theorem demo_nums2 : hunkNumsOf demo 2 = [0] := by
  rw [hunkNumsOf_eq, show demo.filterMap (hunkSel 2) = [0] by decide +kernel]
  exact sortNat_of_sorted (by decide)

theorem demo_own0 : ownEntries demo 0 =
    [ent [47] 0, ent [47, 97] 0, ent [47, 98] 0, ent [47, 99] 0, ent [47, 100] 0] := by
  unfold ownEntries; rw [demo_nums0]; decide +kernel
theorem demo_own1 : ownEntries demo 1 = [ent [47] 1, ent [47, 97] 1, ent [47, 98] 1, ent [47, 99] 1] := by
  unfold ownEntries; rw [demo_nums1]; decide +kernel
theorem demo_own2 : ownEntries demo 2 = [ent [47] 2, ent [47, 97] 2] := by
  unfold ownEntries; rw [demo_nums2]; decide +kernel

theorem demo_hunks {b n : Nat} {v : FileVal} (hm : (Key.hunk b n, v) ∈ demo) : (b = 0 ∨ b = 1) ∨ b = 2 := by
  have hb : demo.all (fun kv => match kv.1 with
      | .hunk b _ => b == 0 || b == 1 || b == 2 | _ => true) = true := by decide +kernel
  simpa using List.all_eq_true.mp hb _ hm

/-- The hypotheses of all theorems above are satisfiable: the demo archive is well-formed. -/
theorem demo_wf : ArchWF demo := by
  refine ⟨by decide +kernel, by decide +kernel, ?_⟩
  unfold bandsSorted
  rw [List.all_eq_true]
  intro ⟨k, v⟩ hm
  split
  · rename_i b n hk
    obtain rfl : k = .hunk b n := hk
    rcases demo_hunks hm with (rfl | rfl) | rfl
    · rw [demo_own0]; decide +kernel
    · rw [demo_own1]; decide +kernel
    · rw [demo_own2]; decide +kernel
  · rfl


/-- Listing b0002 (incomplete): its own `/ /a`; then b0001 resumes after `/a` — its first hunk
`/ /a /b` STRADDLES the resume path and is trimmed to `/b`, its second hunk `/c` is taken whole;
b0001 is incomplete too, so b0000 resumes after `/c` with `/d` and, being complete, ends the listing. -/
theorem demo_list2 : listSpec demo 2 =
    [ent [47] 2, ent [47, 97] 2, ent [47, 98] 1, ent [47, 99] 1, ent [47, 100] 0] := by
  simp only [listSpec, contSpec, bandEntries, demo_own0, demo_own1, demo_own2]
  decide +kernel

/-- Listing b0005 (empty head: unreadable, exists, no tail): nothing of its own, then down past
the absent b0004 and the head-less b0003 to b0002 and on as above. -/
example : listSpec demo 5 = listSpec demo 2 := by
  have h5 : bandEntries demo 5 = [] := by decide +kernel
  have h4 : bandPresent demo 4 = false := by decide +kernel
  have h3 : bandPresent demo 3 = false := by decide +kernel
  have h2 : bandPresent demo 2 = true := by decide +kernel
  have hc : isComplete demo 5 = false := by decide +kernel
  simp [listSpec, contSpec, h5, h4, h3, h2, hc, lastOr_nil, filter_sortsAfter_none]

theorem demo_noLost : ∀ c, headLost demo c = false := by
  intro c
  unfold headLost
  cases hg : demo.get? (.hunk c 0) with
  | none => simp
  | some v =>
    rcases demo_hunks (Store.mem_of_get? hg) with (rfl | rfl) | rfl
    · simp [show bandPresent demo 0 = true by decide +kernel]
    · simp [show bandPresent demo 1 = true by decide +kernel]
    · simp [show bandPresent demo 2 = true by decide +kernel]

/-- Listing b0002 reports nothing; listing b0005 reports its undecodable head, once (the head-less
directory b0003 it passes over holds no hunk: it was never started, nothing is reported for it). -/
example : listErrors demo 2 = [] := by
  rw [listErrors_eq_chainErrors _ (fun c _ => demo_noLost c)]
  simp only [chainErrors, show chain demo 2 = [2, 1, 0] by decide +kernel, List.flatMap_cons,
    List.flatMap_nil, bandErrors, indexCheckError, demo_nums0, demo_nums1, demo_nums2]
  decide +kernel
example : listErrors demo 5 = [Err.json] := by
  rw [listErrors_eq_chainErrors _ (fun c _ => demo_noLost c)]
  simp only [chainErrors, show chain demo 5 = [5, 2, 1, 0] by decide +kernel, List.flatMap_cons,
    List.flatMap_nil, bandErrors, indexCheckError, demo_nums0, demo_nums1, demo_nums2]
  decide +kernel

example : chain demo 5 = [5, 2, 1, 0] := by decide +kernel
example : chain demo 0 = [0] := by decide +kernel

/-- And the code agrees, on this store, by the theorem (not by evaluation). -/
example : ((stitchAll 2).run (World.clean demo)).1 =
    .ok [ent [47] 2, ent [47, 97] 2, ent [47, 98] 1, ent [47, 99] 1, ent [47, 100] 0] := by
  rw [(stitch_eq_spec demo_wf 2).1, demo_list2]

/-- Subtree `/b` of version 2 is the one entry that version 1 supplied. -/
example : ((listEntries 2 [47, 98] (fun _ => false)).run (World.clean demo)).1 = .ok [ent [47, 98] 1] := by
  rw [(stitch_filter demo_wf 2 _ _).1, demo_list2]
  exact congrArg Outcome.ok (by decide +kernel)

end Conserve.C08
