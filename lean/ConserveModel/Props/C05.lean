import ConserveModel.Proofs.DeleteFault
/-
C05 — Deleting versions and collecting garbage never harm what is kept.

"Deleting versions and collecting garbage never harm what is kept.  For any archive history and
any set of versions to delete, after the delete exactly those versions are gone, every remaining
complete version restores exactly as it did before, no block referenced by any remaining version
has been removed and no unreferenced block remains; a dry run changes nothing.  If the delete is
killed at any point, or a storage read fails while it is working out what is referenced, every
remaining complete version still restores exactly."

Model: Gc.lean `deleteBands strict D opts` (src/archive.rs `delete_bands`, `referenced_blocks`;
src/gc_lock.rs).  `strict = true` is the code after the repair of defect D6 (a hunk that is listed
must be read; any failure aborts); `strict = false` the code before, kept for the refutation.

How to read the statements:
* the archive is any store `s` (not only ones a backup history produces) under explicit
  well-formedness hypotheses: `DelArchOK s D` (unique keys; the archive directory and `d/` exist; every
  KEPT band has an accepted head, an index directory and hunks that all decode with every entry
  passing `IndexEntry::check` (`entryUsable`) — otherwise strict mode aborts), `DirsOk s` (every
  stored key's parent is a directory), `newestComplete s`, no `GC_LOCK`;
* `D` is any list of band ids; `keptOf s D` = the band directories of `s` not in `D`;
* `deleted s D` is the store after the delete, given as a FILTER of the initial association list
  (`survives`): the final store is that very list, not merely `get?`-equal;
* `referencedBy s keep h`: hash `h` is named by an entry of a decodable hunk of a band in `keep`;
* `KeptIntact H s D s'` is the pure-function form of "every remaining version restores exactly":
  all keys under kept band directories and all blocks they name are unchanged, hence `hunkAt`,
  `isComplete` and `readBack H` give the same answers.
-/
namespace Conserve.C05
open Conserve Prog

/-- **`delete_refuses`.**  In a fault-free world, if the newest band has no tail, or a `GC_LOCK`
entry is present and `--break-lock` was not given, `delete_bands` fails and nothing is touched —
for every `D`, every option set, both versions of the code.  The one exception is stated exactly:
with `--break-lock` a stale lock FILE has already been removed when the incomplete newest band is
noticed (`refusedStore`); without `--break-lock` the store is the very same list. -/
theorem delete_refuses (strict : Bool) (s : Store) (D : List Nat) (o : DeleteOpts)
    (hroot : s.get? .root = some .dir)
    (h : ¬ newestComplete s ∨ ((s.get? .gcLock).isSome = true ∧ o.breakLock = false)) :
    ∃ e, ((deleteBands strict D o).run (World.clean s)).1 = .err e ∧
      ((deleteBands strict D o).run (World.clean s)).2.store = refusedStore o s ∧
      (o.breakLock = false → ((deleteBands strict D o).run (World.clean s)).2.store = s) := by
  obtain ⟨e, he⟩ := acquireOutcome_refuses o h
  have hr := Prog.run_clean_eval (eval_deleteBands_refuse true hroot strict D o (err := e) (by rw [he]))
  rw [he] at hr
  obtain ⟨h1, h2, _⟩ := hr
  refine ⟨e, h1, h2, ?_⟩
  intro hb
  rw [h2]
  simp [refusedStore, hb]

/-- The error when the newest band has no tail. -/
theorem delete_refuses_incomplete (strict : Bool) (s : Store) (D : List Nat) (o : DeleteOpts)
    (hroot : s.get? .root = some .dir) {b : Nat} (hm : maxNat? (bandIdsOf s) = some b)
    (hc : isComplete s b = false) :
    ((deleteBands strict D o).run (World.clean s)).1 = .err (.deleteWithIncompleteBackup b) := by
  have hacq : (acquireOutcome o s).1 = .err (.deleteWithIncompleteBackup b) := by
    simp only [acquireOutcome, breakOutcome]
    have h1 := lockOutcome_incomplete hm hc
    have h2 := lockOutcome_incomplete (s := s.erase .gcLock) (b := b)
      (by rw [bandIdsOf_erase_lock]; exact hm) (by rw [isComplete_erase_lock]; exact hc)
    cases o.breakLock <;> cases fileAt s .gcLock <;> simp [h1, h2]
  exact (Prog.run_clean_eval (eval_deleteBands_refuse true hroot strict D o hacq)).1

/-- The error when the lock file is there (and the newest band is complete). -/
theorem delete_refuses_locked (strict : Bool) (s : Store) (D : List Nat) (o : DeleteOpts)
    (hroot : s.get? .root = some .dir) (hnew : newestComplete s) (hl : fileAt s .gcLock = true)
    (hb : o.breakLock = false) :
    ((deleteBands strict D o).run (World.clean s)).1 = .err .gcLockHeld ∧
      ((deleteBands strict D o).run (World.clean s)).2.store = s := by
  have hacq : acquireOutcome o s = (.err .gcLockHeld, s) := by
    simp [acquireOutcome, hb, lockOutcome_held hnew hl]
  have hr := Prog.run_clean_eval
    (eval_deleteBands_refuse true hroot strict D o (err := .gcLockHeld) (by rw [hacq]))
  rw [hacq] at hr
  exact ⟨hr.1, hr.2.1⟩

/-- **`delete_dry_run`.**  A dry run succeeds, reports the number of unreferenced blocks, and
changes nothing: the lock file is written and removed again, and the final store is the very same
association list as before (list equality, not only `get?`-equality), with no event emitted. -/
theorem delete_dry_run (s : Store) (D : List Nat) (o : DeleteOpts) (ok : DelArchOK s D)
    (hfree : s.get? .gcLock = none) (hnew : newestComplete s) (hdry : o.dryRun = true) :
    ((deleteBands true D o).run (World.clean s)).1 = .ok { unreferencedBlockCount := (unrefOf s D).length } ∧
      ((deleteBands true D o).run (World.clean s)).2.store = s ∧
      ((deleteBands true D o).run (World.clean s)).2.events = [] :=
  Prog.run_clean_eval (eval_deleteBands_dry true ok hfree hnew o hdry)

/-- **`delete_exact`, core.**  A real run on a well-formed archive succeeds with the expected
statistics and the final store is `deleted s D` — the initial association list with the keys
at or under the band directories of `D` and the block files of `unrefOf s D` filtered out. -/
theorem delete_exact_store (s : Store) (D : List Nat) (o : DeleteOpts) (ok : DelArchOK s D)
    (hfree : s.get? .gcLock = none) (hnew : newestComplete s) (hdry : o.dryRun = false)
    (hnd : D.Nodup) (hex : ∀ b ∈ D, b ∈ bandIdsOf s) :
    ((deleteBands true D o).run (World.clean s)).1 = .ok (realStats s D) ∧
      ((deleteBands true D o).run (World.clean s)).2.store = deleted s D ∧
      ((deleteBands true D o).run (World.clean s)).2.events = [] := by
  refine Prog.run_clean_eval (eval_deleteBands_real true ok hfree hnew o hdry hnd ?_)
  intro b hb
  rw [(Store.mem_iff_get? ok.nodup).1 (mem_bandIdsOf'.1 (hex b hb))]
  rfl

/-- **`delete_exact`.**  Clean world, real run, `DelArchOK s D`, `DirsOk s`, newest band complete, no
lock, `D` without repetitions and every band of `D` present.  Then the run succeeds with
`deleted_band_count = |D|`, `unreferenced_block_count = deleted_block_count = |unrefOf s D|`, no
deletion errors, and for the final store `s'`:
(a) the versions left are exactly those not in `D`; every key at or under a deleted band directory
    is gone; every key at or under any other band directory is unchanged;
(b) a listed block file (`blockListed`: present, non-empty) is still there iff it is named by a kept
    band — or its name has fewer than three characters, which `list_blocks` never sees; every
    block named by a kept band is unchanged; no listed unreferenced block (name ≥ 3 chars) is left;
    `unrefOf s D` has no repetitions, so its length is the number of such blocks;
(c) everything else (header, `d/` and its subdirectories, stray files) is unchanged and there is
    no `GC_LOCK`. -/
theorem delete_exact (s : Store) (D : List Nat) (o : DeleteOpts) (ok : DelArchOK s D) (hdirs : DirsOk s)
    (hfree : s.get? .gcLock = none) (hnew : newestComplete s) (hdry : o.dryRun = false)
    (hnd : D.Nodup) (hex : ∀ b ∈ D, b ∈ bandIdsOf s) :
    let r := (deleteBands true D o).run (World.clean s)
    let s' := r.2.store
    r.1 = .ok { unreferencedBlockCount := (unrefOf s D).length, deletedBandCount := D.length,
                deletedBlockCount := (unrefOf s D).length, deletionErrors := 0 } ∧
    -- (a)
    bandIdsOf s' = (bandIdsOf s).filter (fun b => !D.contains b) ∧
    (∀ b ∈ D, ∀ k, Key.isUnder (.bandDir b) k = true → s'.get? k = none) ∧
    (∀ b, b ∉ D → ∀ k, Key.isUnder (.bandDir b) k = true → s'.get? k = s.get? k) ∧
    -- (b)
    (∀ h, blockListed s' h ↔
      blockListed s h ∧ (referencedBy s (keptOf s D) h ∨ h.length < subdirNameChars)) ∧
    (∀ h, referencedBy s (keptOf s D) h → s'.get? (.block h) = s.get? (.block h)) ∧
    (∀ h, blockListed s' h → subdirNameChars ≤ h.length → referencedBy s (keptOf s D) h) ∧
    (unrefOf s D).Nodup ∧
    (∀ h, h ∈ unrefOf s D ↔
      blockListed s h ∧ subdirNameChars ≤ h.length ∧ ¬ referencedBy s (keptOf s D) h) ∧
    -- (c)
    (∀ k, underAny D k = false → (∀ h, k ≠ .block h) → s'.get? k = s.get? k) ∧
    s'.get? .gcLock = none := by
  intro r s'
  obtain ⟨h1, h2, _⟩ := delete_exact_store s D o ok hfree hnew hdry hnd hex
  have hs' : s' = deleted s D := h2
  have hblock : ∀ h, blockListed s' h ↔
      blockListed s h ∧ (referencedBy s (keptOf s D) h ∨ h.length < subdirNameChars) := by
    intro h
    rw [hs']
    by_cases hlen : subdirNameChars ≤ h.length
    · rw [blockListed_deleted_iff ok.nodup hdirs hlen]
      exact and_congr_right fun _ => ⟨Or.inl, fun hr => hr.resolve_right (by omega)⟩
    · rw [blockListed_deleted]
      exact and_congr_right fun _ =>
        ⟨fun _ => Or.inr (by omega), fun _ hm => hlen ((mem_unrefOf_iff ok.nodup hdirs).1 hm).2.1⟩
  refine ⟨h1, ?_, ?_, ?_, hblock, ?_, ?_, nodup_unrefOf ok.nodup D, ?_, ?_, ?_⟩
  · rw [hs', bandIdsOf_deleted]; rfl
  · intro b hb k hk; rw [hs']; exact deleted_band_gone s hb hk
  · intro b hb k hk; rw [hs']; exact kept_band_unchanged s hb hk
  · intro h hr; rw [hs']; exact get?_deleted_block_referenced ok.nodup hdirs hr
  · intro h hl hlen
    exact ((hblock h).1 hl).2.resolve_right (by omega)
  · intro h; exact mem_unrefOf_iff ok.nodup hdirs
  · intro k hk hb; rw [hs']; exact other_unchanged s hk hb
  · rw [hs', other_unchanged s (underAny_gcLock D) (by intro h; simp)]; exact hfree

/-- **`--break-lock`.**  With `break_lock = true` and a stale lock FILE present, the delete first
removes it and then behaves exactly as on the archive without it: same statistics, and the
final store is `deleted (s.erase GC_LOCK) D` (so `delete_exact`'s conclusions (a)–(c) hold with
`s.erase GC_LOCK` in place of `s`); a dry run ends in `s.erase GC_LOCK` — the stale lock is gone,
nothing else has changed. -/
theorem delete_exact_break_lock (s : Store) (D : List Nat) (o : DeleteOpts)
    (ok : DelArchOK (s.erase .gcLock) D) (hroot : s.get? .root = some .dir)
    (hb : o.breakLock = true) (hl : fileAt s .gcLock = true) (hnew : newestComplete s)
    (hnd : D.Nodup) (hex : ∀ b ∈ D, b ∈ bandIdsOf s) :
    let r := (deleteBands true D o).run (World.clean s)
    (o.dryRun = false → r.1 = .ok (realStats (s.erase .gcLock) D) ∧ r.2.store = deleted (s.erase .gcLock) D) ∧
    (o.dryRun = true → r.1 = .ok (dryStats (s.erase .gcLock) D) ∧ r.2.store = s.erase .gcLock) := by
  intro r
  have hacq := lockTaken_break o hb hl hnew
  have hfree : (s.erase .gcLock).get? .gcLock = none := Store.get?_erase_self s _
  refine ⟨fun hdry => ?_, fun hdry => ?_⟩
  · have hr := Prog.run_clean_eval (eval_deleteBands_real_gen true ok hroot hfree o hacq hdry hnd
      (by intro b hb'
          have hm : b ∈ bandIdsOf (s.erase .gcLock) := by rw [bandIdsOf_erase_lock]; exact hex b hb'
          rw [(Store.mem_iff_get? ok.nodup).1 (mem_bandIdsOf'.1 hm)]; rfl))
    exact ⟨hr.1, hr.2.1⟩
  · have hr := Prog.run_clean_eval (eval_deleteBands_dry_gen true ok hroot hfree o hacq hdry)
    exact ⟨hr.1, hr.2.1⟩

/-- **`delete_missing_band`.**  If `D = pre ++ b :: post` and `b` is the first band of the list
that cannot be removed — it has no directory entry, or it already occurs in `pre` (a repeated id) —
the run fails with `BandNotFound b` midway: the bands of `pre` are gone, no block has been removed
(the blocks only they referenced stay as garbage), and the lock is released by `Drop`. -/
theorem delete_missing_band (s : Store) (pre post : List Nat) (b : Nat) (o : DeleteOpts)
    (ok : DelArchOK s (pre ++ b :: post)) (hfree : s.get? .gcLock = none) (hnew : newestComplete s)
    (hdry : o.dryRun = false) (hnd : pre.Nodup) (hex : ∀ b' ∈ pre, b' ∈ bandIdsOf s)
    (hb : s.get? (.bandDir b) = none ∨ b ∈ pre) :
    ((deleteBands true (pre ++ b :: post) o).run (World.clean s)).1 = .err (.bandNotFound b) ∧
      ((deleteBands true (pre ++ b :: post) o).run (World.clean s)).2.store =
        s.filter (fun kv => !underAny pre kv.1) := by
  have hr := Prog.run_clean_eval (eval_deleteBands_missing true ok hfree hnew o hdry hnd
    (by intro b' hb'
        rw [(Store.mem_iff_get? ok.nodup).1 (mem_bandIdsOf'.1 (hex b' hb'))]; rfl)
    hb)
  exact ⟨hr.1, hr.2.1.trans (eraseBands_eq_filter pre s)⟩

/-- **Safety in every world** (the common strengthening of `delete_crash_safe` and
`delete_readfault_safe`).  Strict mode.  For ANY world on the store `s` — any fault list (faults of
any kind on any operation, reads and writes alike), any crash point or none, even a world that is
already dead — after `delete_bands D`, however it ended, the kept versions are intact:
keys under every band directory outside `D` unchanged, blocks they name unchanged, contents read
back the same.  Only `HunkTreeOk` (a consequence of `DirsOk`) is assumed of the archive: no
readability, no lock state, no condition on `D`. -/
theorem delete_safe_any_world (H : Str → Str) (D : List Nat) (o : DeleteOpts) (w : World)
    (hd : DirsOk w.store) : KeptIntact H w.store D ((deleteBands true D o).run w).2.store :=
  deleteBands_keptIntact H D o w hd.hunkTreeOk

/-- **`delete_crash_safe`.**  Killed before any mutating micro-step `j` (a write is two
micro-steps), on an otherwise fault-free world: the kept versions are intact in the store the
crash leaves (`j` beyond the end: the run completes; the same conclusion). -/
theorem delete_crash_safe (H : Str → Str) (s : Store) (D : List Nat) (o : DeleteOpts) (hd : DirsOk s)
    (j : Nat) :
    KeptIntact H s D ((deleteBands true D o).run { World.clean s with crashAt := some j }).2.store :=
  delete_safe_any_world H D o { World.clean s with crashAt := some j } hd

/-- **`delete_readfault_safe`.**  Any list of injected faults (in particular any faults on
`read` / `listDir` / `metadata` while the delete works out what is referenced): the kept versions
are intact.  Either the delete fails before removing anything, or what it removes is still only
bands of `D` and blocks no band outside `D` names.  What the model does on each read-only
operation, exactly: a failing `listDir` of the archive directory, of `bNNNN/i` or of a subdirectory
`bNNNN/i/DDDDD`, a failing read of a head or of a listed hunk, a hunk that lists but reads
`NotFound`, a failing `listDir` of `d/` (transport error) or of ANY one subdirectory `d/xxx`
(`list_blocks` fails as a whole with `ListBlocks`, see `list_blocks_all_or_nothing`), a failing
`metadata` of an unreferenced block — each makes `delete_bands` fail before `gc_lock.check()`, i.e.
before the first removal; the lock is then removed by `Drop`. -/
theorem delete_readfault_safe (H : Str → Str) (s : Store) (D : List Nat) (o : DeleteOpts)
    (hd : DirsOk s) (faults : List Fault) :
    KeptIntact H s D ((deleteBands true D o).run { World.clean s with faults := faults }).2.store :=
  delete_safe_any_world H D o { World.clean s with faults := faults } hd

/-- The frame half holds for BOTH versions of the code and needs no hypothesis at all: in any
world, `delete_bands D` can only change `GC_LOCK`, keys at or under band directories of `D`, and
block files. -/
theorem delete_frame_any_world (strict : Bool) (D : List Nat) (o : DeleteOpts) (w : World) (k : Key)
    (h1 : k ≠ .gcLock) (h2 : underAny D k = false) (h3 : ∀ h, k ≠ .block h) :
    ((deleteBands strict D o).run w).2.store.get? k = w.store.get? k :=
  deleteBands_frame strict D o w k h1 h2 h3

/-- The crux of the repair of D6, stated on its own: in strict mode, in any world, if
`referenced_blocks` returns at all then its result contains every hash named by a decodable hunk of
the given bands (whose hunk files sit in real subdirectories).  A failing read can make it fail;
it can never shrink the set. -/
theorem referenced_blocks_never_shrinks (bs : List Nat) (w : World) (refs : List Str)
    (h : ((referencedBlocks true bs).run w).1 = .ok refs) (b : Nat) (hb : b ∈ bs)
    (hok : HunkFilesOk w.store b) (n : Nat) (es : List IndexEntry) (hes : hunkAt w.store b n = some es)
    (e : IndexEntry) (he : e ∈ es) (a : Addr) (ha : a ∈ e.addrs) : a.hash ∈ refs :=
  referencedBlocks_sound bs w refs h b hb hok n es hes e he a ha

/-- In any world, `list_blocks` either fails or returns exactly the block names the store holds
(`blockNamesOf`): a fault on the listing of one subdirectory never yields a shorter list.
(Safety does not depend on this — a shorter `present` list only means fewer removals — but the
statistics would.) -/
theorem list_blocks_all_or_nothing (w : World) (hs : List Str) (h : (listBlocks.run w).1 = .ok hs) :
    hs = blockNamesOf w.store := listBlocks_sound h

/-- **Defect D6: `delete_readfault_safe` is FALSE for the code before the repair**, general form:
`strict = false`, a single version `b` with a single hunk `n`, nothing to delete, and one failing
read of that hunk.  The run succeeds and removes every block `list_blocks` can see. -/
theorem delete_readfault_nonstrict_removes_all {s : Store} {b n : Nat} (hn : UniqueKeys s)
    (hroot : s.get? .root = some .dir) (hbr : s.get? .blockRoot = some .dir)
    (hfree : s.get? .gcLock = none) (hnew : newestComplete s) (hbands : bandIdsOf s = [b])
    (hhead : headReadable s b = true) (hidx : s.get? (.indexDir b) = some .dir)
    (hhunks : hunksListed s b = [n]) (o : DeleteOpts) (hdry : o.dryRun = false) :
    let w : World := { store := s, faults := readFault (.hunk b n) }
    (∃ st, ((deleteBands false [] o).run w).1 = .ok st) ∧
      ∀ h ∈ blockNamesOf s, ((deleteBands false [] o).run w).2.store.get? (.block h) = none :=
  nonstrict_read_fault_removes_all hn hroot hbr hfree hnew hbands hhead hidx hhunks o hdry

/-- The earlier bands `Stitch` continues into below band `b`: going down, every band with a head
file is read; the walk stops after the first one that has a tail. -/
def chainBelow (s : Store) : Nat → List Nat
  | 0 => []
  | b + 1 =>
    if fileAt s (.bandHead b) then (if isComplete s b then [b] else b :: chainBelow s b)
    else chainBelow s b

/-- The bands whose index the listing of version `b` is stitched from: `b` alone if it is complete. -/
def stitchChain (s : Store) (b : Nat) : List Nat := if isComplete s b then [b] else b :: chainBelow s b

/-- **`delete_keeps_restore`, full statement** (proved as `C02h.delete_keeps_restore`).  After a successful real delete,
restoring a kept version `b` whose whole stitch chain is kept — `b` itself if it is complete; for an
incomplete `b` also the earlier bands it continues into — gives the same result (outcome: the same
list of restored nodes with the same contents, or the same error) and the same reported errors as
before the delete.  A kept INCOMPLETE band that stitches into a deleted band is outside the
property ("every remaining COMPLETE version restores exactly"): the chain condition excludes it.
Since the repair of `previous_existing_band` (a listing that walks past an id whose head file is gone
but whose index still holds hunk 0 reports `bandHeadMissing` for it) one more condition is needed for
an INCOMPLETE `b`: no band of `D` below `b` is such a band — deleting it would (rightly) end the
complaint, so the events would differ.  Nothing is added for a complete `b`
(`C02h.delete_any_world_keeps_restore`). -/
def delete_keeps_restore_Statement : Prop :=
  ∀ (H : Str → Str) (s : Store) (D : List Nat) (o : DeleteOpts) (b : Nat),
    DelArchOK s D → DirsOk s → s.get? .gcLock = none → newestComplete s → o.dryRun = false → D.Nodup →
    (∀ b' ∈ D, b' ∈ bandIdsOf s) → (∀ c ∈ stitchChain s b, c ∉ D) →
    (∀ b' ∈ D, b' < b → fileAt s (.bandHead b') = false → fileAt s (.hunk b' 0) = false) →
    let s' := ((deleteBands true D o).run (World.clean s)).2.store
    let r := (restore H (.specified b) [slash] (fun _ => false)).run (World.clean s)
    let r' := (restore H (.specified b) [slash] (fun _ => false)).run (World.clean s')
    r'.1 = r.1 ∧ r'.2.events = r.2.events

/-- **`delete_keeps_restore_partial`: the pure-function level.**  After `delete_bands D` (however it
ended — success, error, killed, faults: the hypotheses are only `DirsOk s`), for every band `b`
outside `D` (so for every band of a kept stitch chain): every key at or under its directory is
unchanged, so its head, tail and hunk files read the same (`hunkAt`, `isComplete`); and every file
entry of every hunk reads back the same content (`readBack H`).  `delete_keeps_restore_Statement` follows from this with the refinement "the result of
`restore (.specified b)` on a clean world is a function of exactly these things" (Props/C08.lean,
Proofs/HistRestore.lean) and `delete_keeps_listings` below; it is put together in Props/C02h.lean. -/
theorem delete_keeps_restore_partial (H : Str → Str) (s : Store) (D : List Nat) (o : DeleteOpts)
    (hd : DirsOk s) :
    let s' := ((deleteBands true D o).run (World.clean s)).2.store
    (∀ b, b ∉ D → ∀ n, hunkAt s' b n = hunkAt s b n) ∧
    (∀ b, b ∉ D → isComplete s' b = isComplete s b) ∧
    (∀ b, b ∉ D → ∀ n es, hunkAt s b n = some es → ∀ e ∈ es, readBack H s' e.addrs = readBack H s e.addrs) ∧
    (∀ b, b ∉ D → ∀ k, Key.isUnder (.bandDir b) k = true → s'.get? k = s.get? k) := by
  intro s'
  have h := delete_safe_any_world H D o (World.clean s) hd
  exact ⟨h.hunks, h.complete, h.content, h.keys⟩

/-- After a successful real delete the directory listings of every kept band (band directory,
`i`, `i/DDDDD`) are the very same lists as before, so `hunks_available` and `check_index_hunks` see
the same; and `stitchChain` is the same for every version whose chain is kept... the chain
membership tests (`BANDHEAD` / `BANDTAIL` present) are among the unchanged keys. -/
theorem delete_keeps_listings (s : Store) (D : List Nat) (o : DeleteOpts) (ok : DelArchOK s D)
    (hfree : s.get? .gcLock = none) (hnew : newestComplete s) (hdry : o.dryRun = false)
    (hnd : D.Nodup) (hex : ∀ b ∈ D, b ∈ bandIdsOf s) :
    let s' := ((deleteBands true D o).run (World.clean s)).2.store
    ∀ b, b ∉ D → ∀ k, Key.isUnder (.bandDir b) k = true → s'.children k = s.children k := by
  intro s' b hb k hk
  have h2 := (delete_exact_store s D o ok hfree hnew hdry hnd hex).2.1
  have hs' : s' = deleted s D := h2
  rw [hs']
  exact kept_band_listing_unchanged s hb hk

/-- **`delete_order_irrelevant`.**  The code iterates a `HashSet`; the model removes the
unreferenced blocks in name order.  Whatever order is used — any permutation `l` of `unrefOf s D` —
the removal loop, run in a fault-free world from the state in which the bands of `D` have just
been removed, reports no error and ends in the very same store (list equality), which is the one
the model's order gives. -/
theorem delete_order_irrelevant (s : Store) (D : List Nat) (l : List Str) (hn : UniqueKeys s)
    (hl : l.Perm (unrefOf s D)) (w : World) (hq : w.Quiet) (hs : w.store = eraseBands s D) :
    ((deleteBody.delBlocks l 0).run w).1 = .ok 0 ∧
      ((deleteBody.delBlocks l 0).run w).2.store = eraseBlocks (eraseBands s D) (unrefOf s D) := by
  have hnd : l.Nodup := (hl.nodup_iff).2 (nodup_unrefOf hn D)
  have hfile : ∀ h ∈ l, fileAt (eraseBands s D) (.block h) = true := by
    intro h hh
    simp only [fileAt, get?_eraseBands, underAny_block, Bool.false_eq_true, if_false]
    exact blockNamesOf_file hn (mem_unrefOf.1 (hl.mem_iff.1 hh)).1
  have hr : Runs (deleteBody.delBlocks l 0) w (.ok 0) (eraseBlocks (eraseBands s D) l) [] :=
    hq.runs (by rw [hs]; exact eval_delBlocks _ l (eraseBands s D) 0 hnd hfile)
  exact ⟨hr.1, by rw [hr.2.store, eraseBlocks_perm _ hl]⟩

/-! ### Non-vacuity: a concrete archive with two versions and a garbage block -/

section examples

def hA : Str := [97, 97, 97, 49]      -- "aaa1"
def hB : Str := [98, 98, 98, 50]      -- "bbb2"
def hG : Str := [99, 99, 99, 51]      -- "ccc3": garbage, no version names it

def fileEntry (p : Str) (as : List Addr) : IndexEntry :=
  { apath := p, kind := .file, mtime := 0, mtimeNanos := 0, unixMode := some 420, user := none,
    group := none, addrs := as, target := none }

/-- Version 0 holds `/a`; version 1 holds `/a` (same block) and `/b`; block `ccc3` is garbage. -/
def exStore : Store :=
  [ (.root, .dir), (.header, .header [48, 46, 54]), (.blockRoot, .dir),
    (.blockDir [97, 97, 97], .dir), (.block hA, .blockData [1, 2, 3]),
    (.blockDir [98, 98, 98], .dir), (.block hB, .blockData [4, 5]),
    (.blockDir [99, 99, 99], .dir), (.block hG, .blockData [9]),
    (.bandDir 0, .dir), (.bandHead 0, .head .ok []), (.indexDir 0, .dir), (.hunkDir 0 0, .dir),
    (.hunk 0 0, .hunk [fileEntry [47, 97] [⟨hA, 0, 3⟩]]), (.bandTail 0, .tail (some 1)),
    (.bandDir 1, .dir), (.bandHead 1, .head .ok []), (.indexDir 1, .dir), (.hunkDir 1 0, .dir),
    (.hunk 1 0, .hunk [fileEntry [47, 97] [⟨hA, 0, 3⟩], fileEntry [47, 98] [⟨hB, 0, 2⟩]]),
    (.bandTail 1, .tail (some 1)) ]

/-- A hash function that names the three blocks correctly. -/
def exH : Str → Str := fun c => if c = [1, 2, 3] then hA else if c = [4, 5] then hB else hG

theorem ex_bands : bandIdsOf exStore = [0, 1] := by
  show sortNat [0, 1] = [0, 1]
  exact sortNat_of_sorted (by decide)

theorem ex_hunks (b : Nat) (hb : b = 0 ∨ b = 1) : hunksListed exStore b = [0] := by
  rcases hb with rfl | rfl <;> decide +kernel

theorem ex_blocks : blockNamesOf exStore = [hA, hB, hG] := by
  have h1 : blockSubdirsOf exStore = [[97, 97, 97], [98, 98, 98], [99, 99, 99]] := by
    show List.mergeSort [[97, 97, 97], [98, 98, 98], [99, 99, 99]] _ = _
    exact List.mergeSort_of_pairwise (by decide)
  rw [blockNamesOf, h1]
  decide

theorem ex_kept0 : keptOf exStore [0] = [1] := by rw [keptOf, ex_bands]; decide

/-- Deleting version 0: the only unreferenced block is the garbage block. -/
theorem ex_unref0 : unrefOf exStore [0] = [hG] := by
  have hr : refsOf exStore [1] = [hA, hB] := by
    simp only [refsOf, bandRefHashes, ex_hunks 1 (Or.inr rfl)]
    decide
  rw [unrefOf, ex_kept0, hr, ex_blocks]
  show List.mergeSort [hG] strLe = [hG]
  exact List.mergeSort_singleton _

theorem ex_kept1 : keptOf exStore [1] = [0] := by rw [keptOf, ex_bands]; decide

/-- Deleting version 1 instead: `bbb2` becomes unreferenced too. -/
theorem ex_unref1 : unrefOf exStore [1] = [hB, hG] := by
  have hr : refsOf exStore [0] = [hA] := by
    simp only [refsOf, bandRefHashes, ex_hunks 0 (Or.inl rfl)]
    decide
  rw [unrefOf, ex_kept1, hr, ex_blocks]
  show List.mergeSort [hB, hG] strLe = [hB, hG]
  exact List.mergeSort_of_pairwise (by decide)

theorem ex_readable (b : Nat) (hb : b = 0 ∨ b = 1) : BandReadable exStore b := by
  refine ⟨?_, ?_, ?_⟩
  · rcases hb with rfl | rfl <;> decide
  · rcases hb with rfl | rfl <;> decide
  · rw [ex_hunks b hb]
    rcases hb with rfl | rfl <;> decide

theorem ex_archOK (D : List Nat) : DelArchOK exStore D :=
  .of_readable (by decide +kernel) (by decide) (by decide)
    (by rw [ex_bands]; intro b hb; exact ex_readable b (by simpa using hb)) D

theorem ex_archOK0 : DelArchOK exStore [0] := ex_archOK _

theorem ex_archOK1 : DelArchOK exStore [1] := ex_archOK _

theorem ex_dirsOk : DirsOk exStore := by decide +kernel

theorem ex_lockFree : exStore.get? .gcLock = none := by decide

theorem ex_newest : newestComplete exStore :=
  newestComplete_of_max (b := 1) (by rw [ex_bands]; rfl) (by decide)

/-- All hypotheses of `delete_exact` (and `delete_dry_run`) hold for `D = [0]` on the example. -/
example : DelArchOK exStore [0] ∧ DirsOk exStore ∧ exStore.get? .gcLock = none ∧ newestComplete exStore ∧
    [0].Nodup ∧ ∀ b ∈ [0], b ∈ bandIdsOf exStore :=
  ⟨ex_archOK0, ex_dirsOk, ex_lockFree, ex_newest, by decide, by rw [ex_bands]; decide⟩

/-- … and the conclusion, concretely: one band and one block deleted, and the final store is the
initial list without version 0 and without the garbage block. -/
example : ((deleteBands true [0] {}).run (World.clean exStore)).1 =
      .ok { unreferencedBlockCount := 1, deletedBandCount := 1, deletedBlockCount := 1, deletionErrors := 0 } ∧
    ((deleteBands true [0] {}).run (World.clean exStore)).2.store =
      [ (.root, .dir), (.header, .header [48, 46, 54]), (.blockRoot, .dir),
        (.blockDir [97, 97, 97], .dir), (.block hA, .blockData [1, 2, 3]),
        (.blockDir [98, 98, 98], .dir), (.block hB, .blockData [4, 5]),
        (.blockDir [99, 99, 99], .dir),
        (.bandDir 1, .dir), (.bandHead 1, .head .ok []), (.indexDir 1, .dir), (.hunkDir 1 0, .dir),
        (.hunk 1 0, .hunk [fileEntry [47, 97] [⟨hA, 0, 3⟩], fileEntry [47, 98] [⟨hB, 0, 2⟩]]),
        (.bandTail 1, .tail (some 1)) ] := by
  obtain ⟨h1, h2, _⟩ := delete_exact_store exStore [0] {} ex_archOK0 ex_lockFree ex_newest rfl
    (by decide) (by rw [ex_bands]; decide)
  refine ⟨?_, ?_⟩
  · rw [h1, realStats, ex_unref0]; rfl
  · rw [h2, deleted]
    simp only [survives, ex_unref0]
    decide

/-- Deleting version 1 removes two blocks (`delete_exact` for `D = [1]`). -/
example : ((deleteBands true [1] {}).run (World.clean exStore)).1 =
      .ok { unreferencedBlockCount := 2, deletedBandCount := 1, deletedBlockCount := 2, deletionErrors := 0 } := by
  obtain ⟨h1, _, _⟩ := delete_exact_store exStore [1] {} ex_archOK1 ex_lockFree ex_newest rfl
    (by decide) (by rw [ex_bands]; decide)
  rw [h1, realStats, ex_unref1]; rfl

/-- The kept version really names blocks, and their content really reads back: the conclusion of
`KeptIntact` is not about `none = none`. -/
example : referencedBy exStore (keptOf exStore [0]) hB ∧
    readBack exH exStore [⟨hA, 0, 3⟩] = some [1, 2, 3] ∧ readBack exH exStore [⟨hB, 0, 2⟩] = some [4, 5] := by
  refine ⟨?_, by decide, by decide⟩
  rw [ex_kept0]
  exact ⟨1, by simp, 0, _, rfl, fileEntry [47, 98] [⟨hB, 0, 2⟩], by simp, ⟨hB, 0, 2⟩, by simp [fileEntry], rfl⟩

/-- `delete_refuses`, first disjunct: a third version without tail makes every delete refuse. -/
example : ¬ newestComplete (exStore ++ [(.bandDir 2, .dir), (.bandHead 2, .head .ok [])]) := by
  intro h
  have hb : bandIdsOf (exStore ++ [(.bandDir 2, .dir), (.bandHead 2, .head .ok [])]) = [0, 1, 2] := by
    show sortNat [0, 1, 2] = [0, 1, 2]
    exact sortNat_of_sorted (by decide)
  have := h 2 (by rw [hb]; decide)
  revert this
  decide

/-- `delete_refuses`, second disjunct: a lock file. -/
example : (Store.get? (exStore ++ [(Key.gcLock, FileVal.lock)]) .gcLock).isSome = true := by decide

/-- `delete_missing_band`: `D = [0, 7]`, version 7 does not exist; version 0 is removed, then the
run fails. -/
example : DelArchOK exStore ([0] ++ 7 :: []) ∧ exStore.get? (.bandDir 7) = none := by
  exact ⟨ex_archOK _, by decide⟩

/-! #### The witness for D6 -/

/-- One complete version whose only file `/a` is stored in block `aaa1`. -/
def rfStore : Store :=
  [ (.root, .dir), (.header, .header [48, 46, 54]), (.blockRoot, .dir),
    (.blockDir [97, 97, 97], .dir), (.block hA, .blockData [1, 2, 3]),
    (.bandDir 0, .dir), (.bandHead 0, .head .ok []), (.indexDir 0, .dir), (.hunkDir 0 0, .dir),
    (.hunk 0 0, .hunk [fileEntry [47, 97] [⟨hA, 0, 3⟩]]), (.bandTail 0, .tail (some 1)) ]

/-- The first read of the only index hunk fails with `Other`. -/
def rfWorld : World := { store := rfStore, faults := [⟨⟨.read, .hunk 0 0, 0⟩, .other⟩] }

theorem rf_bands : bandIdsOf rfStore = [0] := by decide +kernel

theorem rf_hunks : hunksListed rfStore 0 = [0] := by decide +kernel

theorem rf_blocks : blockNamesOf rfStore = [hA] := by decide +kernel

theorem rf_newest : newestComplete rfStore :=
  newestComplete_of_max (b := 0) (by rw [rf_bands]; rfl) (by decide)

/-- **`delete_readfault_refuted_nonstrict`** (D6).  With the code before the repair, on `rfStore`, a
pure garbage collection (`D = []`) during which the first read of the index hunk fails reports
success and has removed block `aaa1` — which the kept, complete version 0 names for `/a`, whose
content `[1,2,3]` read back correctly before and cannot be read back any more.  With the repaired
code the same run leaves the block alone (`delete_readfault_safe`). -/
theorem delete_readfault_refuted_nonstrict :
    (∃ st, ((deleteBands false [] {}).run rfWorld).1 = .ok st) ∧
    referencedBy rfStore (keptOf rfStore []) hA ∧
    readBack exH rfStore [⟨hA, 0, 3⟩] = some [1, 2, 3] ∧
    ((deleteBands false [] {}).run rfWorld).2.store.get? (.block hA) = none ∧
    readBack exH ((deleteBands false [] {}).run rfWorld).2.store [⟨hA, 0, 3⟩] = none ∧
    ((deleteBands true [] {}).run rfWorld).2.store.get? (.block hA) = some (.blockData [1, 2, 3]) := by
  have h := nonstrict_read_fault_removes_all (s := rfStore) (b := 0) (n := 0) (by decide +kernel) (by decide)
    (by decide) (by decide) rf_newest rf_bands (by decide) (by decide) rf_hunks {} rfl
  have hgone : ((deleteBands false [] {}).run rfWorld).2.store.get? (.block hA) = none :=
    h.2 hA (by rw [rf_blocks]; simp)
  have href : referencedBy rfStore (keptOf rfStore []) hA := by
    have hk : keptOf rfStore [] = [0] := by rw [keptOf, rf_bands]; decide
    rw [hk]
    exact ⟨0, by simp, 0, _, rfl, fileEntry [47, 97] [⟨hA, 0, 3⟩], by simp, ⟨hA, 0, 3⟩, by simp [fileEntry], rfl⟩
  refine ⟨h.1, href, by decide, hgone, ?_, ?_⟩
  · simp [readBack, readAddrPure, blockContent, hgone]
  · have hsafe := (delete_readfault_safe exH rfStore [] {} (by decide) [⟨⟨.read, .hunk 0 0, 0⟩, .other⟩]).blocks
      hA (referencedOutside_of_by href)
    exact hsafe.trans (by decide)

end examples

end Conserve.C05
