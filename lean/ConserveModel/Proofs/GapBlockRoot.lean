import ConserveModel.Proofs.ProducedOps
/-
C02h gap "a backup never creates `d/`": helper lemmas.

`SparesKey k0 o` — the operation `o` cannot change what the store holds at key `k0`: it reads, or it
creates / writes / removes ONE key other than `k0`, or it removes a whole tree that `k0` is not in:
`Op.affects o k0 = false`.  A program built from such operations keeps `get? k0` in EVERY world
(`run_sparesKey`).  Every operation `backup` can issue (its footprint `BackupFp`) spares `d/`, the
archive directory itself, the header and the lock file; every operation of `delete_bands` (`GcOp`)
spares `d/`.  Hence `Gaps.backup_keeps_blockRoot`, stated here because C02h's history theorems rest on it.
-/
namespace Conserve.GapBlockRoot
open Conserve Prog

/-- The operation cannot change the value at key `k0`: a read, or a single-key mutation of another
key, or `removeDirAll` of a directory that `k0` is neither equal to nor below. -/
def SparesKey (k0 : Key) : Op → Prop
  | .read _ | .listDir _ | .metadata _ => True
  | .createDir k | .write k _ _ | .removeFile k => k ≠ k0
  | .removeDirAll k => Key.isUnder k k0 = false

instance (k0 : Key) : DecidablePred (SparesKey k0) := fun o => by
  cases o <;> simp only [SparesKey] <;> infer_instance

theorem SparesKey.iff_not_affects {k0 : Key} {o : Op} : SparesKey k0 o ↔ Op.affects o k0 = false := by
  cases o with
  | createDir k | write k _ _ | removeFile k => simpa [SparesKey, Op.affects] using ne_comm
  | _ => simp [SparesKey, Op.affects]

/-- A program all of whose operations spare `k0` leaves `get? k0` as it was, in every world and
whatever its outcome. -/
theorem run_sparesKey {α : Type} {p : Prog α} {k0 : Key} (hp : AllOps (SparesKey k0) p) (w : World) :
    (p.run w).2.store.get? k0 = w.store.get? k0 :=
  Prog.run_get?_of_not_affects (hp.mono fun _ => SparesKey.iff_not_affects.1) w

theorem _root_.Conserve.ReadOnly.spares {k0 : Key} {o : Op} (h : ReadOnly o) : SparesKey k0 o := by
  cases o <;> first | trivial | exact h.elim

/-- The directories a backup creates are `bNNNN`, `bNNNN/i`, `bNNNN/i/DDDDD` and `d/xxx`; the files it
writes are heads, hunks, tails and blocks: none of them `d/`, the archive directory, the header or the
lock file. -/
theorem _root_.Conserve.BackupFp.spares {H : Str → Str} {o : Op} (h : BackupFp H o) {k0 : Key}
    (hk : k0 = .root ∨ k0 = .blockRoot ∨ k0 = .header ∨ k0 = .gcLock) : SparesKey k0 o := by
  rcases hk with rfl | rfl | rfl | rfl <;>
  · cases h with
    | rd h => exact h.readOnly.spares
    | new h => cases h <;> simp [SparesKey]
    | wr h => refine WrOp.elim (fun _ h => ?_) (fun _ _ h => ?_) _ h <;> cases h <;> simp [SparesKey]
    | tail => simp [SparesKey]

/-- `delete_bands` removes the lock, blocks, and whole version directories, which `d/` is not in. -/
theorem _root_.Conserve.GcOp.spares_blockRoot {D : List Nat} {Q : Str → Prop} {o : Op} (h : GcOp D Q o) :
    SparesKey .blockRoot o := by
  cases h with
  | rd h => exact h.spares
  | band _ => simp [SparesKey, isUnder_bandDir, Key.bandOf]
  | _ => simp [SparesKey]

theorem backup_spares_blockRoot (H : Str → Str) (o : BackupOpts) (src : List SrcEntry) :
    AllOps (SparesKey .blockRoot) (backup H o src) :=
  (backup_fp H o src).mono fun _ h => h.spares (.inr (.inl rfl))

theorem backup_spares_root (H : Str → Str) (o : BackupOpts) (src : List SrcEntry) :
    AllOps (SparesKey .root) (backup H o src) :=
  (backup_fp H o src).mono fun _ h => h.spares (.inl rfl)

theorem backup_spares_header (H : Str → Str) (o : BackupOpts) (src : List SrcEntry) :
    AllOps (SparesKey .header) (backup H o src) :=
  (backup_fp H o src).mono fun _ h => h.spares (.inr (.inr (.inl rfl)))

theorem deleteBands_spares_blockRoot (strict : Bool) (D : List Nat) (o : DeleteOpts) :
    AllOps (SparesKey .blockRoot) (deleteBands strict D o) :=
  (deleteBands_fp strict D o).mono fun _ => GcOp.spares_blockRoot

end Conserve.GapBlockRoot

namespace Conserve.Gaps
open Conserve Conserve.GapBlockRoot

/-- **`backup_keeps_blockRoot`: a backup never touches `d/` itself.**  Take ANY world `w` — any store
(well-formed or not), any list of injected faults, any crash point (also between the two micro-steps
of a write), already dead or not, `CreateNew` honoured or not — any hash function, options and source
listing.  After `backup` ran in `w`, however it ended (success, error, panic, killed), the store holds
at the key `d/` exactly what it held before: the same directory, the same (stray) file, or nothing.
In particular a backup never creates `d/`, never removes it, never replaces it.  No hypothesis. -/
theorem backup_keeps_blockRoot (H : Str → Str) (o : BackupOpts) (src : List SrcEntry) (w : World) :
    ((backup H o src).run w).2.store.get? .blockRoot = w.store.get? .blockRoot :=
  run_sparesKey (backup_spares_blockRoot H o src) w

end Conserve.Gaps
