import ConserveModel.Proofs.GapBlockRoot
/-
C14 from the invariant: no `GC_LOCK` is left lying around by fault-free operations.
* `backup` never touches the lock file, in any world (`backup_lock_same`);
* `delete_bands` on a fault-free, crash-free world that starts without a lock ends without one,
  whatever its outcome (`delete_lockFree`): the lock it takes is released on the success path
  (`GarbageCollectionLock::release`), on the error path (`release`, then `Drop`) and on unwinding.
  The body is walked with `Prog.Framed (fun _ => CJ)` (`deleteBody_framed`); of the triple with a
  separate postcondition for the exceptional outcomes, `XSat`, the definition and its two leaf rules
  are left, which nothing below uses.
No property statements here.
-/
namespace Conserve.Rng
open Conserve Conserve.Inv Conserve.Conf Conserve.GapBlockRoot Prog

section
variable (H : Str → Str)

/-- **`backup` never touches the lock file**, in any world. -/
theorem backup_lock_same (o : BackupOpts) (src : List SrcEntry) (w : World) :
    ((backup H o src).run w).2.store.get? .gcLock = w.store.get? .gcLock :=
  run_sparesKey ((backup_fp H o src).mono fun _ h => h.spares (.inr (.inr (.inr rfl)))) w

end

/-- The lock file is absent or is the lock `delete_bands` wrote. -/
def LockState (s : Store) : Prop := s.get? .gcLock = none ∨ s.get? .gcLock = some .lock

/-- Fault-free, crash-free, alive, and the lock path is in one of its two states. -/
def CJ (w : World) : Prop := w.Clean ∧ LockState w.store

/-- What an operation of `delete_bands` does to the lock file's path: nothing, write the lock, remove it. -/
theorem GcOp.lock_cases {D : List Nat} {Q : Str → Prop} {o : Op} (h : GcOp D Q o) :
    SparesKey .gcLock o ∨ o = .write .gcLock .lock .createNew ∨ o = .removeFile .gcLock := by
  cases h with
  | rd h => exact .inl h.spares
  | lock => exact .inr (.inl rfl)
  | unlock => exact .inr (.inr rfl)
  | band _ => exact .inl (by simp [SparesKey, isUnder_bandDir, Key.bandOf])
  | block _ => exact .inl (by simp [SparesKey])

theorem exec_cj {D : List Nat} {Q : Str → Prop} (w : World) {o : Op} (ho : GcOp D Q o) (h : CJ w) :
    CJ (w.exec o).1 := by
  obtain ⟨hc, hj⟩ := h
  refine ⟨World.exec_clean_Clean hc o, ?_⟩
  rw [World.exec_clean_store hc]
  rcases GcOp.lock_cases ho with hn | rfl | rfl
  · unfold LockState
    rw [applyOp_get?_of_not_affects true w.store o .gcLock (SparesKey.iff_not_affects.1 hn)]
    exact hj
  · rcases applyOp_write_store true w.store .gcLock .lock .createNew with ⟨_, hs⟩ | ⟨_, hs⟩
    · rw [hs]; exact Or.inr (by simp)
    · rw [hs]; exact hj
  · simp only [applyOp]
    split
    · exact hj
    · exact hj
    · exact Or.inl (Store.get?_erase_self _ _)

theorem run_cj {D : List Nat} {Q : Str → Prop} {α : Type} {p : Prog α} (hp : Prog.AllOps (GcOp D Q) p)
    (w : World) (h : CJ w) : CJ (p.run w).2 :=
  Prog.run_world_inv (I := CJ) (fun _ _ h => h) (fun w' _ ho h' => exec_cj w' ho h') hp w h

/-- Removing the lock file in such a world: afterwards it is gone. -/
theorem exec_removeLock {w : World} (h : CJ w) :
    (w.exec (.removeFile .gcLock)).1.Clean ∧ (w.exec (.removeFile .gcLock)).1.store.get? .gcLock = none ∧
    ((w.exec (.removeFile .gcLock)).2 = .unit ∨ ∃ e, (w.exec (.removeFile .gcLock)).2 = .err e) := by
  obtain ⟨hc, hj⟩ := h
  refine ⟨World.exec_clean_Clean hc _, ?_⟩
  rw [World.exec_clean_store hc, World.exec_clean_resp hc]
  rcases hj with hn | hl
  · simp [applyOp, hn]
  · simp [applyOp, hl]

/-- A specification with a postcondition for the exceptional outcomes too. -/
def XSat {α : Type} (p : Prog α) (w : World) (Q : α → World → Prop) (E : World → Prop) : Prop :=
  (∀ a, (p.run w).1 = .ok a → Q a (p.run w).2) ∧ ((∀ a, (p.run w).1 ≠ .ok a) → E (p.run w).2)

namespace XSat

theorem ret {α : Type} {a : α} {w : World} {Q : α → World → Prop} {E : World → Prop} (h : Q a w) :
    XSat (.ret a) w Q E := ⟨fun _ h' => by cases h'; exact h, fun h' => absurd rfl (h' a)⟩

theorem fail {α : Type} {e : Err} {w : World} {Q : α → World → Prop} {E : World → Prop} (h : E w) :
    XSat (.fail e : Prog α) w Q E := ⟨fun _ h' => (nomatch h'), fun _ => h⟩

end XSat

/-- `GarbageCollectionLock::release` and then return: success means the lock file is gone. -/
theorem release_framed (st : DeleteStats) (w : World) (h : CJ w) :
    Framed (fun _ => CJ) (gcLockRelease.bind fun _ => Prog.ret st) w
      (fun _ w' => w'.Clean ∧ w'.store.get? .gcLock = none) := by
  obtain ⟨h1, h2, h3⟩ := exec_removeLock h
  unfold gcLockRelease performUnit perform Framed
  simp only [Prog.bind_def, Prog.op_bind, Prog.ret_bind, Prog.run_op, Prog.pure_def]
  rcases h3 with hu | ⟨e, he⟩
  · rw [hu]
    exact ⟨⟨h1, Or.inl h2⟩, fun _ _ => ⟨h1, h2⟩⟩
  · rw [he]
    exact ⟨⟨h1, Or.inl h2⟩, fun _ h' => nomatch h'⟩

/-- Sequencing after a part of `delete_bands` of which only its footprint matters: it keeps `CJ`. -/
theorem _root_.Conserve.Prog.Framed.bind_cj {α β : Type} (D : List Nat) {p : Prog α} {f : α → Prog β}
    {w : World} {Q : β → World → Prop} (hp : Prog.AllOps (GcOp D fun _ => True) p) (h : CJ w)
    (hf : ∀ a w', CJ w' → Framed (fun _ => CJ) (f a) w' Q) : Framed (fun _ => CJ) (p.bind f) w Q :=
  Framed.bind ⟨run_cj hp w h, fun a _ => hf a _ (run_cj hp w h)⟩ fun _ _ _ _ h => h

/-- The body of `delete_bands` while the lock is held: if it succeeds the lock file is gone. -/
theorem deleteBody_framed (strict : Bool) (D : List Nat) (o : DeleteOpts) (held : Option Nat) (w : World) (h : CJ w) :
    Framed (fun _ => CJ) (deleteBody strict D o held) w (fun _ w' => w'.Clean ∧ w'.store.get? .gcLock = none) := by
  have rd : ∀ {α : Type} {p : Prog α}, Prog.AllOps ReadOnly p → Prog.AllOps (GcOp D fun _ => True) p :=
    fun hp => hp.mono fun _ => .rd
  rw [deleteBody_eq]
  refine .bind_cj D (rd _root_.Conserve.listBandIds_ro) h fun all w1 h1 =>
    .bind_cj D (rd (referencedBlocks_ro strict _)) h1 fun refs w2 h2 => ?_
  simp only [bodyRest]
  refine .bind_cj D (rd listBlocks_ro) h2 fun present w3 h3 =>
    .bind_cj D (rd (deleteBody_measure_ro _)) h3 fun _ w4 h4 => ?_
  split
  · simp only [Prog.ret_bind]
    exact release_framed _ w4 h4
  · refine .bind_cj D (rd (gcLockCheck_ro held)) h4 fun _ w5 h5 =>
      .bind_cj D (delBands_fp D 0 fun _ hb => .band hb) h5 fun nb w6 h6 =>
        .bind_cj D (delBlocks_fp _ 0 fun _ _ => .block trivial) h6 fun errs w7 h7 => ?_
    simp only [Prog.ret_bind]
    exact release_framed _ w7 h7

/-- The tail of `delete_bands`: whatever the body's outcome, the lock file is gone at the end. -/
theorem withLock_tail_lockFree (r : Outcome DeleteStats) (w : World) (h : CJ w)
    (hok : ∀ st, r = .ok st → w.store.get? .gcLock = none) :
    ((match r with
      | .ok st => (.ret st : Prog DeleteStats)
      | .err e => gcLockReleaseOnError.bind fun _ => .fail e
      | .panic site => gcLockDrop.bind fun _ => .panic site).run w).2.store.get? .gcLock = none := by
  obtain ⟨h1, h2, h3⟩ := exec_removeLock h
  cases r with
  | ok st => exact hok st rfl
  | err e =>
    unfold gcLockReleaseOnError perform
    simp only [Prog.bind_def, Prog.op_bind, Prog.ret_bind, Prog.run_op, Prog.pure_def]
    rcases h3 with hu | ⟨e', he⟩
    · rw [hu]; exact h2
    · rw [he]
      -- `release` failed (nothing to remove): `Drop` tries once more
      unfold gcLockDrop perform
      simp only [Prog.bind_def, Prog.op_bind, Prog.ret_bind, Prog.run_op, Prog.pure_def, Prog.run_fail]
      exact (exec_removeLock ⟨h1, Or.inl h2⟩).2.1
  | panic site =>
    unfold gcLockDrop perform
    simp only [Prog.bind_def, Prog.op_bind, Prog.ret_bind, Prog.run_op, Prog.pure_def, Prog.run_panic]
    exact h2

/-- What taking the lock does to an archive without lock file: it fails and changes nothing, or it
succeeds and the lock file is there. -/
theorem acquireOutcome_free {s : Store} (hfree : s.get? .gcLock = none) (o : DeleteOpts) :
    ((acquireOutcome o s).2 = s ∧ ∃ e, (acquireOutcome o s).1 = .err e) ∨
    ((acquireOutcome o s).2 = s.put .gcLock .lock ∧ ∃ last, (acquireOutcome o s).1 = .ok last) := by
  have hf : fileAt s .gcLock = false := by simp [fileAt, hfree]
  have hlt : ∀ last, lockTailOutcome s last = (.ok last, s.put .gcLock .lock) := by
    intro last; simp [lockTailOutcome, hf, hfree]
  have hlo : ((lockOutcome s).2 = s ∧ ∃ e, (lockOutcome s).1 = .err e) ∨
      ((lockOutcome s).2 = s.put .gcLock .lock ∧ ∃ last, (lockOutcome s).1 = .ok last) := by
    unfold lockOutcome
    split
    · split
      · exact Or.inl ⟨rfl, _, rfl⟩
      · rw [hlt]; exact Or.inr ⟨rfl, _, rfl⟩
    · rw [hlt]; exact Or.inr ⟨rfl, _, rfl⟩
  unfold acquireOutcome breakOutcome
  split
  · rw [hf]; simpa using hlo
  · exact hlo

/-- **`delete_bands` leaves no lock behind** in the fault-free, crash-free world, whatever its outcome
(it refuses, fails half-way, panics, or completes), when it starts on an archive directory without
lock file. -/
theorem delete_lockFree (strict : Bool) (D : List Nat) (o : DeleteOpts) (s : Store)
    (hroot : s.get? .root = some .dir) (hfree : s.get? .gcLock = none) :
    ((deleteBands strict D o).run (World.clean s)).2.store.get? .gcLock = none := by
  rw [deleteBands_eq]
  have hacq := (World.clean_quiet s).runs (eval_acquire true hroot o)
  rcases acquireOutcome_free hfree o with ⟨hs, e, he⟩ | ⟨hs, last, hl⟩
  · rw [he] at hacq
    rw [Prog.run_bind_err hacq.1]
    show ((acquire o).run (World.clean s)).2.store.get? .gcLock = none
    rw [hacq.2.store, hs]; exact hfree
  · rw [hl] at hacq
    rw [Prog.run_bind_ok hacq.1]
    have hc1 : ((acquire o).run (World.clean s)).2.Clean :=
      Prog.run_clean _ (World.clean_Clean s)
    have hj1 : CJ ((acquire o).run (World.clean s)).2 :=
      ⟨hc1, Or.inr (by rw [hacq.2.store, hs]; simp)⟩
    simp only [withLock]
    rw [Prog.run_bind, Prog.run_attemptAll]
    have hb := deleteBody_framed strict D o last _ hj1
    exact withLock_tail_lockFree _ _ hb.1 fun st hst => (hb.2 st hst).2

end Conserve.Rng
