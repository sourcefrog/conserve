import ConserveModel.Proofs.GapCrashTwin
/-
The store a backup killed at or after the start of its tail write leaves: it is the store of the
uninterrupted run, except that the tail may still be zero-length, so the new version lists all its hunks
(`crashed_tail_all`; what the listing functions compute on two stores that agree on a version's hunk
files: `ownEntries_congr`).
No property statements here.
-/
set_option linter.unusedSimpArgs false
namespace Conserve.Crash
open Conserve Conserve.Exact Conserve.Inv Prog

variable {H : Str → Str} {o : BackupOpts}

theorem ownEntries_congr {s s' : Store} {b : Nat} (hn : NoDupKeys s) (hn' : NoDupKeys s')
    (h : ∀ n, s'.get? (.hunk b n) = s.get? (.hunk b n)) : ownEntries s' b = ownEntries s b := by
  unfold ownEntries
  rw [hunkNumsOf_congr hn hn' h]
  congr 2
  funext n
  simp only [usableHunk, h]

theorem Paired.length_eq {α β : Type} {R : α → β → Prop} {l1 : List α} {l2 : List β} (h : Paired R l1 l2) :
    l1.length = l2.length := by
  induction h with
  | nil => rfl
  | cons _ _ ih => simp [ih]

/-- Once the tail key is there — zero-length or filled — the killed run's store is the uninterrupted
run's but for the content of the tail: the new version lists all the hunks. -/
theorem crashed_tail_all (hlen : ∀ d, subdirNameChars ≤ (H d).length) (hmax : 0 < o.maxBlockSize)
    {src : List SrcEntry} {s sF : Store} {hs : List (List IndexEntry)} {stats : Stats} {evs : List Event}
    (hsrc : SrcGood src) (hg : ArchiveGood H src s) (h : Summary H o src s sF hs stats evs) (j : Nat)
    (htail : ((crashed H o src s j).get? (.bandTail (newBandOf s))).isSome = true) :
    (∀ k, k ≠ .bandTail (newBandOf s) → (crashed H o src s j).get? k = sF.get? k) ∧
      ((crashed H o src s j).get? (.bandTail (newBandOf s)) = some .empty ∨
        (crashed H o src s j).get? (.bandTail (newBandOf s)) = sF.get? (.bandTail (newBandOf s))) ∧
      bandEntries (crashed H o src s j) (newBandOf s) = hs.flatten := by
  obtain ⟨s2, c, N, hnone, hF, hall⟩ := crashed_eq (o := o) hlen hmax hsrc hg
  obtain ⟨hj, hx⟩ := hall j
  rw [h.runs.clean.2.1] at hF
  have hcr : crashed H o src s j = s2.put (.bandTail (newBandOf s)) .empty ∨ crashed H o src s j = sF := by
    unfold crashed at htail ⊢
    rw [hj] at htail ⊢
    split at htail
    · -- killed before the tail write: no tail key
      obtain ⟨v, hv⟩ := Option.isSome_iff_exists.mp htail
      rcases hx _ _ hv with h1 | ⟨_, h1⟩ <;> rw [hnone] at h1 <;> cases h1
    · rw [if_neg ‹_›, hF]
      split
      · exact Or.inl rfl
      · exact Or.inr rfl
  have hagree : ∀ k, k ≠ .bandTail (newBandOf s) → (crashed H o src s j).get? k = sF.get? k := by
    intro k hk
    rcases hcr with e | e <;> rw [e]
    rw [hF, Store.get?_put, Store.get?_put, if_neg hk, if_neg hk]
  have hnd' : NoDupKeys (crashed H o src s j) := Prog.run_noDupKeys _ { store := s, crashAt := some j } hg.st.noDup
  refine ⟨hagree, ?_, ?_⟩
  · rcases hcr with e | e
    · left; rw [e, Store.get?_put, if_pos rfl]
    · right; rw [e]
  unfold bandEntries
  rw [if_pos (by rw [Rng.bandReadable_congr (hagree _ (by simp)) (hagree _ (by simp))]; exact final_readable h.final),
    ownEntries_congr h.final.st.noDup hnd' fun k => hagree _ (by simp)]
  exact final_ownEntries h.final h.usable

/-- **The crash point of the gap exists**: killed between the two micro-steps of its tail write — at
micro-step `j = N + 1`, `N` the micro-steps the run makes before `Band::close` — the backup leaves a
zero-length tail. -/
theorem crashed_tail_zero_length (hlen : ∀ d, subdirNameChars ≤ (H d).length) (hmax : 0 < o.maxBlockSize)
    {src : List SrcEntry} {s : Store} (hsrc : SrcGood src) (hg : ArchiveGood H src s) :
    ∃ j, (crashed H o src s j).get? (.bandTail (newBandOf s)) = some .empty := by
  obtain ⟨s2, c, N, _, _, hall⟩ := crashed_eq (o := o) hlen hmax hsrc hg
  refine ⟨N + 1, ?_⟩
  unfold crashed
  rw [(hall (N + 1)).1, if_neg (by omega), if_pos rfl, Store.get?_put, if_pos rfl]

end Conserve.Crash
