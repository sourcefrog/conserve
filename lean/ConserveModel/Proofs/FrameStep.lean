import ConserveModel.Proofs.Picks
import ConserveModel.Proofs.ProgLemmas
/-
Frame reasoning, one step at a time: what `put`/`erase` do to `get?`, the classes of
operations (`ReadOnly ⊆ WriterOp ⊆ BackupOp ⊆ CreateOnly`), which keys an operation can change
(`Op.affects`), what one `World.exec` does (`World.applied` when nothing interferes, `exec_kinds` /
`exec_cases` for faults, crash points and the dead flag), the single-step frame lemma
`exec_extends`, and what a step can put into the store (`Op.Puts`) with the rule that a store
invariant kept by those puts and by erasing is kept by the step (`exec_store_inv`).  No property
statements here.
-/
namespace Conserve
open Prog

theorem Store.get?_filter_key (p : Key → Bool) (s : Store) (k : Key) :
    Store.get? (s.filter fun kv => p kv.1) k = if p k then s.get? k else none := by
  induction s with
  | nil => simp [Store.get?]
  | cons kv s ih =>
    obtain ⟨k', v⟩ := kv
    simp only [Store.get?] at ih ⊢
    by_cases hp : p k' = true
    · simp only [List.filter_cons, hp, if_true, List.lookup_cons]
      by_cases hk : k = k'
      · subst hk; simp [hp]
      · have : (k == k') = false := by simpa using hk
        simp only [this, ih]
    · have hp' : p k' = false := by simpa using hp
      simp only [List.filter_cons, hp', Bool.false_eq_true, if_false, List.lookup_cons, ih]
      by_cases hk : k = k'
      · subst hk; simp [hp']
      · have : (k == k') = false := by simpa using hk
        simp only [this]

theorem Store.get?_erase (s : Store) (k k' : Key) :
    (s.erase k).get? k' = if k' = k then none else s.get? k' := by
  have := Store.get?_filter_key (fun x => x != k) s k'
  by_cases h : k' = k <;> simpa [Store.erase, h] using this

theorem Store.get?_put (s : Store) (k k' : Key) (v : FileVal) :
    (s.put k v).get? k' = if k' = k then some v else s.get? k' := by
  have h := Store.get?_erase s k k'
  simp only [Store.put, Store.get?, List.lookup_append] at h ⊢
  by_cases hk : k' = k
  · subst hk; simp [h]
  · have : (k' == k) = false := by simpa using hk
    simp [h, hk, List.lookup_cons, this]

theorem Store.get?_eraseTree (s : Store) (k k' : Key) :
    (s.eraseTree k).get? k' = if Key.isUnder k k' then none else s.get? k' := by
  have := Store.get?_filter_key (fun x => !(Key.isUnder k x)) s k'
  simp only [Store.eraseTree]
  rw [this]
  cases Key.isUnder k k' <;> simp

theorem Store.erase_erase (s : Store) (k : Key) : (s.erase k).erase k = s.erase k := by
  simp [Store.erase, List.filter_filter]

theorem Store.put_put (s : Store) (k : Key) (a b : FileVal) : (s.put k a).put k b = s.put k b := by
  simp [Store.put, Store.erase, List.filter_append, List.filter_filter]

theorem Store.has_iff (s : Store) (k : Key) : s.has k = true ↔ ∃ v, s.get? k = some v := by
  simp [Store.has, Option.isSome_iff_exists]

theorem Extends.trans {a b c : Store} (h1 : Extends a b) (h2 : Extends b c) : Extends a c := by
  intro k v hv
  rcases h1 k v hv with h | ⟨he, hs⟩
  · exact h2 k v h
  · obtain ⟨v', hv'⟩ := Option.isSome_iff_exists.mp hs
    right
    refine ⟨he, ?_⟩
    rcases h2 k v' hv' with h | ⟨_, h⟩
    · simp [h]
    · exact h

theorem Extends.put {s : Store} {k : Key} (v : FileVal)
    (h : s.get? k = none ∨ s.get? k = some .empty) : Extends s (s.put k v) := by
  intro k' v' hv'
  rw [Store.get?_put]
  by_cases hk : k' = k
  · subst hk
    rcases h with h | h
    · rw [h] at hv'; cases hv'
    · rw [h] at hv'; cases hv'; right; simp
  · left; simpa [hk] using hv'

theorem Extends.keeps {s s' : Store} (h : Extends s s') {k : Key} {v : FileVal}
    (hv : s.get? k = some v) (hne : v ≠ .empty) : s'.get? k = some v := by
  rcases h k v hv with h | ⟨he, _⟩
  · exact h
  · exact absurd he hne

theorem Extends.present {s s' : Store} (h : Extends s s') {k : Key} {v : FileVal}
    (hv : s.get? k = some v) : (s'.get? k).isSome = true := by
  rcases h k v hv with h | ⟨_, h⟩
  · simp [h]
  · exact h

def ReadOnly : Op → Prop
  | .read _ | .listDir _ | .metadata _ => True
  | _ => False

def CreateOnly : Op → Prop
  | .read _ | .listDir _ | .metadata _ | .createDir _ => True
  | .write _ _ m => m = .createNew
  | _ => False

def BackupOp : Op → Prop
  | .read _ | .listDir _ | .metadata _ | .createDir _ => True
  | .write _ v m => m = .createNew ∧ v ≠ .empty
  | _ => False

def isHeadWrite : Op → Prop
  | .write (.bandHead _) _ _ => True
  | _ => False

def isBandDirCreate : Op → Prop
  | .createDir (.bandDir _) => True
  | .createDir (.indexDir _) => True
  | _ => False

/-- What the index/block writer issues: `BackupOp` other than creating a band (or index) directory or
writing a band head (those two belong to `bandCreate`). -/
def WriterOp (o : Op) : Prop := BackupOp o ∧ ¬ isHeadWrite o ∧ ¬ isBandDirCreate o

def Op.isRemove : Op → Bool
  | .removeFile _ | .removeDirAll _ => true
  | _ => false

instance : DecidablePred ReadOnly := fun o => by cases o <;> simp only [ReadOnly] <;> infer_instance
instance : DecidablePred CreateOnly := fun o => by cases o <;> simp only [CreateOnly] <;> infer_instance
instance : DecidablePred BackupOp := fun o => by cases o <;> simp only [BackupOp] <;> infer_instance
instance : DecidablePred isHeadWrite := fun o => by
  cases o with
  | write k v m => cases k <;> simp only [isHeadWrite] <;> infer_instance
  | _ => simp only [isHeadWrite]; infer_instance

instance : DecidablePred isBandDirCreate := fun o => by
  cases o with
  | createDir k => cases k <;> simp only [isBandDirCreate] <;> infer_instance
  | _ => simp only [isBandDirCreate]; infer_instance

theorem ReadOnly.writerOp {o : Op} (h : ReadOnly o) : WriterOp o := by
  cases o <;> simp_all [ReadOnly, WriterOp, BackupOp, isHeadWrite, isBandDirCreate]
theorem WriterOp.backupOp {o : Op} (h : WriterOp o) : BackupOp o := h.1
theorem BackupOp.createOnly {o : Op} (h : BackupOp o) : CreateOnly o := by
  cases o <;> simp_all [BackupOp, CreateOnly]
theorem ReadOnly.backupOp {o : Op} (h : ReadOnly o) : BackupOp o := h.writerOp.backupOp
theorem ReadOnly.createOnly {o : Op} (h : ReadOnly o) : CreateOnly o := h.backupOp.createOnly
theorem ReadOnly.not_mutating {o : Op} (h : ReadOnly o) : o.isMutating = false := by
  cases o <;> simp_all [ReadOnly, Op.isMutating]
theorem ReadOnly.of_not_mutating {o : Op} (h : o.isMutating = false) : ReadOnly o := by
  cases o <;> simp_all [ReadOnly, Op.isMutating]
theorem CreateOnly.not_remove {o : Op} (h : CreateOnly o) : o.isRemove = false := by
  cases o <;> simp_all [CreateOnly, Op.isRemove]
theorem CreateOnly.write_mode {k : Key} {v : FileVal} {m : WriteMode} (h : CreateOnly (.write k v m)) :
    m = .createNew := h

theorem Prog.AllOps.mono {α : Type} {P Q : Op → Prop} (h : ∀ o, P o → Q o) {p : Prog α}
    (hp : Prog.AllOps P p) : Prog.AllOps Q p := by
  induction hp with
  | ret a => exact .ret a
  | fail e => exact .fail e
  | panic s => exact .panic s
  | emit ev _ ih => exact .emit ev ih
  | op ho _ ih => exact .op (h _ ho) ih

theorem applyOp_write_resp (e : Bool) (s : Store) (k : Key) (v v' : FileVal) (m : WriteMode) :
    (applyOp e s (.write k v m)).2 = (applyOp e s (.write k v' m)).2 := by
  simp only [applyOp]
  split
  · rfl
  · split <;> (try rfl)
    split <;> rfl

theorem applyOp_write_store (e : Bool) (s : Store) (k : Key) (v : FileVal) (m : WriteMode) :
    ((applyOp e s (.write k v m)).2 = .unit ∧ (applyOp e s (.write k v m)).1 = s.put k v) ∨
    ((∃ err, (applyOp e s (.write k v m)).2 = .err err) ∧ (applyOp e s (.write k v m)).1 = s) := by
  simp only [applyOp]
  split
  · right; exact ⟨⟨_, rfl⟩, rfl⟩
  · split
    · right; exact ⟨⟨_, rfl⟩, rfl⟩
    · split
      · right; exact ⟨⟨_, rfl⟩, rfl⟩
      · left; exact ⟨rfl, rfl⟩
    · left; exact ⟨rfl, rfl⟩

theorem applyOp_createNew_pre {s : Store} {k : Key} {v : FileVal}
    (h : (applyOp true s (.write k v .createNew)).2 = .unit) :
    s.get? k = none ∨ s.get? k = some .empty := by
  simp only [applyOp] at h
  split at h
  · cases h
  · split at h
    · cases h
    · rename_i old hold _
      split at h
      · cases h
      · rename_i hc
        right
        cases old <;> simp_all [FileVal.isEmptyFile]
    · left; assumption

theorem applyOp_createDir_store (e : Bool) (s : Store) (k : Key) :
    (applyOp e s (.createDir k)).1 = s ∨
    (s.get? k = none ∧ (applyOp e s (.createDir k)).1 = s.put k .dir) := by
  simp only [applyOp]
  split
  · left; rfl
  · rename_i hhas
    split
    · left; rfl
    · right
      refine ⟨?_, rfl⟩
      simpa [Store.has] using hhas

theorem applyOp_extends {s : Store} {o : Op} (ho : CreateOnly o) : Extends s (applyOp true s o).1 := by
  cases o with
  | read k => simp only [applyOp]; split <;> exact Extends.refl _
  | listDir k => simp only [applyOp]; split <;> exact Extends.refl _
  | metadata k => simp only [applyOp]; split <;> exact Extends.refl _
  | createDir k =>
    rcases applyOp_createDir_store true s k with h | ⟨hn, h⟩
    · rw [h]; exact Extends.refl _
    · rw [h]; exact Extends.put _ (Or.inl hn)
  | write k v m =>
    have hm : m = .createNew := ho
    subst hm
    rcases applyOp_write_store true s k v .createNew with ⟨hr, hs⟩ | ⟨_, hs⟩
    · rw [hs]; exact Extends.put _ (applyOp_createNew_pre hr)
    · rw [hs]; exact Extends.refl _
  | removeFile k => exact absurd ho (by simp [CreateOnly])
  | removeDirAll k => exact absurd ho (by simp [CreateOnly])

theorem applyOp_readOnly_store {e : Bool} {s : Store} {o : Op} (ho : ReadOnly o) : (applyOp e s o).1 = s := by
  cases o <;> simp only [ReadOnly] at ho <;> simp only [applyOp] <;> split <;> rfl

/-- Can operation `o` change what is stored under key `k`?  (Only mutating operations; a
`removeDirAll` reaches everything under its key.) -/
def Op.affects : Op → Key → Bool
  | .write k' _ _, k => k == k'
  | .createDir k', k => k == k'
  | .removeFile k', k => k == k'
  | .removeDirAll k', k => Key.isUnder k' k
  | _, _ => false

theorem applyOp_get?_of_not_affects (ecn : Bool) (s : Store) (o : Op) (k : Key)
    (h : Op.affects o k = false) : (applyOp ecn s o).1.get? k = s.get? k := by
  cases o with
  | read k' => rw [applyOp_readOnly_store (o := .read k') trivial]
  | listDir k' => rw [applyOp_readOnly_store (o := .listDir k') trivial]
  | metadata k' => rw [applyOp_readOnly_store (o := .metadata k') trivial]
  | write k' v m =>
    have hk : k ≠ k' := by simpa [Op.affects] using h
    rcases applyOp_write_store ecn s k' v m with ⟨_, hs⟩ | ⟨_, hs⟩
    · rw [hs, Store.get?_put, if_neg hk]
    · rw [hs]
  | createDir k' =>
    have hk : k ≠ k' := by simpa [Op.affects] using h
    rcases applyOp_createDir_store ecn s k' with hs | ⟨_, hs⟩
    · rw [hs]
    · rw [hs, Store.get?_put, if_neg hk]
  | removeFile k' =>
    have hk : k ≠ k' := by simpa [Op.affects] using h
    simp only [applyOp]
    split
    · rfl
    · rfl
    · rw [Store.get?_erase, if_neg hk]
  | removeDirAll k' =>
    have hk : Key.isUnder k' k = false := by simpa [Op.affects] using h
    simp only [applyOp]
    split
    · rfl
    · rw [Store.eraseTree, Store.get?_filter_key fun x => !(Key.isUnder k' x)]; simp [hk]

/-- Unfolded form of `exec` for a write that is neither dead, faulted nor killed before it starts. -/
theorem World.exec_write_eq (w : World) (k : Key) (v : FileVal) (m : WriteMode)
    (hd : w.dead = false) (hf : w.faultFor (.write k v m) = none) (hc : w.crashesAt w.steps = false) :
    w.exec (.write k v m) =
      if (applyOp w.enforceCreateNew w.store (.write k v m)).2 = .unit then
        if w.crashesAt (w.steps + 1) then
          ({ w with store := w.store.put k .empty, steps := w.steps + 1, dead := true }, .err .other)
        else
          ({ w with store := w.store.put k v, steps := w.steps + 2,
                    trace := ⟨.write k v m, .unit⟩ :: w.trace }, .unit)
      else
        ({ w with trace := ⟨.write k v m, (applyOp w.enforceCreateNew w.store (.write k v m)).2⟩ :: w.trace },
         (applyOp w.enforceCreateNew w.store (.write k v m)).2) := by
  have hresp := applyOp_write_resp w.enforceCreateNew w.store k .empty v m
  rcases h1 : applyOp w.enforceCreateNew w.store (.write k .empty m) with ⟨s1, r1⟩
  have hs1 := applyOp_write_store w.enforceCreateNew w.store k .empty m
  rw [h1] at hresp hs1
  simp only at hresp hs1
  rw [← hresp]
  simp only [World.exec, hd, hf, hc, Op.isMutating, h1]
  rcases hs1 with ⟨hr, hs⟩ | ⟨⟨err, hr⟩, hs⟩
  · subst hr; subst hs
    simp [Store.put_put]
  · subst hr; subst hs
    simp

/-- Micro-steps an operation answered with `r` has made: none if it was refused, two for a write
(the file comes into existence empty, then the content arrives), one for any other mutating operation. -/
def Op.microSteps (o : Op) : Resp → Nat
  | .err _ => 0
  | _ =>
    match o with
    | .write .. => 2
    | .createDir _ | .removeFile _ | .removeDirAll _ => 1
    | _ => 0

/-- `applyOp` on the world's store, counted and recorded: what `exec` does when the world is alive, no
fault applies and no crash point falls inside the operation. -/
def World.applied (w : World) (o : Op) : World × Resp :=
  ({ w with store := (applyOp w.enforceCreateNew w.store o).1,
            steps := w.steps + o.microSteps (applyOp w.enforceCreateNew w.store o).2,
            trace := ⟨o, (applyOp w.enforceCreateNew w.store o).2⟩ :: w.trace },
   (applyOp w.enforceCreateNew w.store o).2)

theorem World.applied_frame (w : World) (o : Op) :
    (w.applied o).1.faults = w.faults ∧ (w.applied o).1.crashAt = w.crashAt ∧
      (w.applied o).1.dead = w.dead ∧ (w.applied o).1.enforceCreateNew = w.enforceCreateNew ∧
      (w.applied o).1.events = w.events ∧
      (w.applied o).1.trace = ⟨o, (w.applied o).2⟩ :: w.trace :=
  ⟨rfl, rfl, rfl, rfl, rfl, rfl⟩

/-- `h0`: a mutating operation is not killed before it starts; `h1`: a write that goes through is not
killed between its two micro-steps. -/
theorem World.exec_eq_applied {w : World} {o : Op} (hd : w.dead = false)
    (hf : w.faultFor o = none) (h0 : o.isMutating = true → w.crashesAt w.steps = false)
    (h1 : o.microSteps (applyOp w.enforceCreateNew w.store o).2 = 2 → w.crashesAt (w.steps + 1) = false) :
    w.exec o = w.applied o := by
  by_cases hm : o.isMutating = true
  · cases o with
    | write k v m =>
      rw [World.exec_write_eq w k v m hd hf (h0 hm)]
      rcases applyOp_write_store w.enforceCreateNew w.store k v m with ⟨hr, hs⟩ | ⟨⟨e, hr⟩, hs⟩
      · rw [if_pos hr, if_neg (by simp [h1 (by rw [hr]; rfl)])]
        simp only [World.applied, Op.microSteps, hr, hs]
      · rw [if_neg (by simp [hr])]
        simp only [World.applied, Op.microSteps, hr, hs, Nat.add_zero]
    | read k | listDir k | metadata k => cases hm
    | createDir k | removeFile k | removeDirAll k =>
      simp only [World.exec, World.applied, hd, hf, Op.isMutating, h0 hm, Op.microSteps]
      generalize applyOp w.enforceCreateNew w.store _ = x
      cases x.2 <;> rfl
  · have hro : ReadOnly o := by cases o <;> simp_all [Op.isMutating, ReadOnly]
    have hz : o.microSteps (applyOp w.enforceCreateNew w.store o).2 = 0 := by
      cases o <;> first | exact absurd rfl hm | (unfold Op.microSteps; split <;> rfl)
    simp [World.exec, World.applied, hd, hf, hm, applyOp_readOnly_store hro, hz]

/- The ways `exec` can go other than applying the operation (`World.exec_eq_applied`), each under the
condition that selects it. -/
theorem World.exec_of_dead {w : World} (o : Op) (hd : w.dead = true) : w.exec o = (w, .err .other) := by
  unfold World.exec
  rw [if_pos hd]

theorem World.exec_of_fault {w : World} {o : Op} {e : ErrKind} (hd : w.dead = false)
    (hf : w.faultFor o = some e) : w.exec o = ({ w with trace := ⟨o, .err e⟩ :: w.trace }, .err e) := by
  unfold World.exec
  rw [if_neg (by rw [hd]; nofun), hf]

theorem World.exec_of_crash {w : World} {o : Op} (hd : w.dead = false) (hf : w.faultFor o = none)
    (hm : o.isMutating = true) (hc : w.crashesAt w.steps = true) :
    w.exec o = ({ w with dead := true }, .err .other) := by
  simp [World.exec, hd, hf, hm, hc]

/-- Killed between the two micro-steps of a write that was going through: the file exists, empty. -/
theorem World.exec_of_crash_mid {w : World} {k : Key} {v : FileVal} {m : WriteMode} (hd : w.dead = false)
    (hf : w.faultFor (.write k v m) = none) (h0 : w.crashesAt w.steps = false)
    (hu : (applyOp w.enforceCreateNew w.store (.write k v m)).2 = .unit) (hc : w.crashesAt (w.steps + 1) = true) :
    w.exec (.write k v m) =
      ({ w with store := w.store.put k .empty, steps := w.steps + 1, dead := true }, .err .other) := by
  rw [World.exec_write_eq w k v m hd hf h0, if_pos hu, if_pos hc]

/-- Everything `exec` can do: apply the operation; answer with an injected fault; nothing (dead world);
die at the crash point before the operation (it is then a mutating one, which the statement does not
record); die between the two micro-steps of a write that was going through. -/
theorem World.exec_kinds (w : World) (o : Op) :
    w.exec o = w.applied o ∨
    (∃ e, w.faultFor o = some e ∧ w.exec o = ({ w with trace := ⟨o, .err e⟩ :: w.trace }, .err e)) ∨
    (w.dead = true ∧ w.exec o = (w, .err .other)) ∨
    (w.crashesAt w.steps = true ∧ w.exec o = ({ w with dead := true }, .err .other)) ∨
    (∃ k v m, o = .write k v m ∧ w.crashesAt (w.steps + 1) = true ∧
      applyOp w.enforceCreateNew w.store o = (w.store.put k v, .unit) ∧
      w.exec o = ({ w with store := w.store.put k .empty, steps := w.steps + 1, dead := true }, .err .other)) := by
  by_cases hd : w.dead = true
  · exact .inr (.inr (.inl ⟨hd, World.exec_of_dead o hd⟩))
  have hd : w.dead = false := by simpa using hd
  cases hf : w.faultFor o with
  | some e => exact .inr (.inl ⟨e, rfl, World.exec_of_fault hd hf⟩)
  | none =>
    by_cases h0 : o.isMutating = true → w.crashesAt w.steps = false
    · by_cases h1 : o.microSteps (applyOp w.enforceCreateNew w.store o).2 = 2 → w.crashesAt (w.steps + 1) = false
      · exact .inl (World.exec_eq_applied hd hf h0 h1)
      · have h2 : o.microSteps (applyOp w.enforceCreateNew w.store o).2 = 2 ∧ w.crashesAt (w.steps + 1) = true := by
          simpa using h1
        cases o with
        | write k v m =>
          rcases applyOp_write_store w.enforceCreateNew w.store k v m with ⟨hr, hs⟩ | ⟨⟨e, hr⟩, _⟩
          · exact .inr (.inr (.inr (.inr ⟨k, v, m, rfl, h2.2, Prod.ext hs hr,
              World.exec_of_crash_mid hd hf (h0 rfl) hr h2.2⟩)))
          · rw [hr] at h2; cases h2.1
        | _ =>
          -- only a write makes two micro-steps
          exfalso
          have := h2.1
          unfold Op.microSteps at this
          split at this <;> cases this
    · have h2 : o.isMutating = true ∧ w.crashesAt w.steps = true := by simpa using h0
      exact .inr (.inr (.inr (.inl ⟨h2.2, World.exec_of_crash hd hf h2.1 h2.2⟩)))

theorem World.exec_frame (w : World) (o : Op) :
    (w.exec o).1.faults = w.faults ∧ (w.exec o).1.crashAt = w.crashAt ∧ (w.exec o).1.events = w.events ∧
      (w.exec o).1.enforceCreateNew = w.enforceCreateNew ∧ w.steps ≤ (w.exec o).1.steps := by
  rcases w.exec_kinds o with h | ⟨e, _, h⟩ | ⟨_, h⟩ | ⟨_, h⟩ | ⟨k, v, m, _, _, _, h⟩ <;> rw [h]
  · exact ⟨rfl, rfl, rfl, rfl, Nat.le_add_right _ _⟩
  · exact ⟨rfl, rfl, rfl, rfl, Nat.le_refl _⟩
  · exact ⟨rfl, rfl, rfl, rfl, Nat.le_refl _⟩
  · exact ⟨rfl, rfl, rfl, rfl, Nat.le_refl _⟩
  · exact ⟨rfl, rfl, rfl, rfl, Nat.le_add_right _ _⟩

theorem World.crashesAt_of_none {w : World} (h : w.crashAt = none) (n : Nat) :
    w.crashesAt n = false := by
  simp [World.crashesAt, h]

theorem World.exec_of_noCrash {w : World} {o : Op} (hd : w.dead = false) (hc : w.crashAt = none)
    (hf : w.faultFor o = none) : w.exec o = w.applied o :=
  World.exec_eq_applied hd hf (fun _ => World.crashesAt_of_none hc _) (fun _ => World.crashesAt_of_none hc _)

/-- What one `exec` can do, with faults, crash points and the dead flag abstracted away:
1. nothing at all (dead world, or killed just before the operation) — not recorded, response `other`;
2. killed between the two micro-steps of a write that would have succeeded: the key now holds a
   zero-length file — not recorded, response `other`;
3. an injected fault: recorded with its error, the store untouched;
4. the operation is applied (`applyOp`) and recorded with its response.
In every case the `enforceCreateNew` flag is unchanged. -/
theorem World.exec_cases (w : World) (o : Op) :
    (w.exec o).1.enforceCreateNew = w.enforceCreateNew ∧
    (((w.exec o).1.store = w.store ∧ (w.exec o).1.trace = w.trace ∧ (w.exec o).2 = .err .other) ∨
    (∃ k v m, o = .write k v m ∧ (applyOp w.enforceCreateNew w.store o).2 = .unit ∧
      (w.exec o).1.store = w.store.put k .empty ∧ (w.exec o).1.trace = w.trace ∧ (w.exec o).2 = .err .other) ∨
    (∃ e, (w.exec o).1.store = w.store ∧ (w.exec o).1.trace = ⟨o, .err e⟩ :: w.trace ∧ (w.exec o).2 = .err e) ∨
    ((w.exec o).1.store = (applyOp w.enforceCreateNew w.store o).1 ∧
      (w.exec o).1.trace = ⟨o, (applyOp w.enforceCreateNew w.store o).2⟩ :: w.trace ∧
      (w.exec o).2 = (applyOp w.enforceCreateNew w.store o).2)) := by
  rcases w.exec_kinds o with h | ⟨e, _, h⟩ | ⟨_, h⟩ | ⟨_, h⟩ | ⟨k, v, m, rfl, _, ha, h⟩ <;> rw [h]
  · exact ⟨rfl, .inr (.inr (.inr ⟨rfl, rfl, rfl⟩))⟩
  · exact ⟨rfl, .inr (.inr (.inl ⟨e, rfl, rfl, rfl⟩))⟩
  · exact ⟨rfl, .inl ⟨rfl, rfl, rfl⟩⟩
  · exact ⟨rfl, .inl ⟨rfl, rfl, rfl⟩⟩
  · exact ⟨rfl, .inr (.inl ⟨k, v, m, rfl, by rw [ha], rfl, rfl, rfl⟩)⟩

@[simp] theorem World.exec_enforce (w : World) (o : Op) :
    (w.exec o).1.enforceCreateNew = w.enforceCreateNew := (World.exec_frame w o).2.2.2.1

/-- **The single-step frame lemma.**  In every world that honours `CreateNew` (any faults, any
crash point, dead or alive) a `CreateOnly` operation leaves a store that extends the old one. -/
theorem World.exec_extends (w : World) (o : Op) (he : w.enforceCreateNew = true) (ho : CreateOnly o) :
    Extends w.store (w.exec o).1.store := by
  rcases (World.exec_cases w o).2 with ⟨hs, _, _⟩ | ⟨k, v, m, rfl, hr, hs, _, _⟩ | ⟨e, hs, _, _⟩ | ⟨hs, _, _⟩
  · rw [hs]; exact Extends.refl _
  · rw [hs]
    have hm : m = .createNew := ho
    subst hm
    rw [he] at hr
    exact Extends.put _ (applyOp_createNew_pre hr)
  · rw [hs]; exact Extends.refl _
  · rw [hs, he]; exact applyOp_extends ho

theorem World.exec_readOnly_store (w : World) (o : Op) (ho : ReadOnly o) : (w.exec o).1.store = w.store := by
  rcases (World.exec_cases w o).2 with ⟨hs, _, _⟩ | ⟨k, v, m, rfl, _, _, _, _⟩ | ⟨e, hs, _, _⟩ | ⟨hs, _, _⟩
  · exact hs
  · exact absurd ho (by simp [ReadOnly])
  · exact hs
  · rw [hs]; exact applyOp_readOnly_store ho

theorem World.exec_get?_of_not_affects (w : World) (o : Op) (k : Key)
    (h : Op.affects o k = false) : (w.exec o).1.store.get? k = w.store.get? k := by
  rcases (World.exec_cases w o).2 with ⟨hs, _, _⟩ | ⟨k', v, m, rfl, _, hs, _, _⟩ | ⟨e, hs, _, _⟩ | ⟨hs, _, _⟩
  · rw [hs]
  · rw [hs, Store.get?_put, if_neg (by simpa [Op.affects] using h)]
  · rw [hs]
  · rw [hs, applyOp_get?_of_not_affects _ _ _ _ h]

/-- What a step of `o` can put into the store: the value written, the zero-length file a write killed
between its two micro-steps leaves, the directory created. -/
inductive Op.Puts : Op → Key → FileVal → Prop
  | write (k v m) : Puts (.write k v m) k v
  | torn (k v m) : Puts (.write k v m) k .empty
  | dir (k) : Puts (.createDir k) k .dir

/-- What `applyOp` leaves is the store before, or one `put` of what `o` can put, or one `erase` /
`eraseTree` at `o`'s key. -/
theorem applyOp_store_inv {I : Store → Prop} (e : Bool) (s : Store) (o : Op)
    (hput : ∀ k v, o.Puts k v → I (s.put k v))
    (herase : ∀ k, o = .removeFile k → I (s.erase k))
    (htree : ∀ k, o = .removeDirAll k → I (s.eraseTree k))
    (h : I s) : I (applyOp e s o).1 := by
  cases o with
  | read k => rw [applyOp_readOnly_store (by simp [ReadOnly])]; exact h
  | listDir k => rw [applyOp_readOnly_store (by simp [ReadOnly])]; exact h
  | metadata k => rw [applyOp_readOnly_store (by simp [ReadOnly])]; exact h
  | write k v m =>
    rcases applyOp_write_store e s k v m with ⟨_, hs⟩ | ⟨_, hs⟩
    · rw [hs]; exact hput k v (.write k v m)
    · rw [hs]; exact h
  | createDir k =>
    rcases applyOp_createDir_store e s k with hs | ⟨_, hs⟩
    · rw [hs]; exact h
    · rw [hs]; exact hput k .dir (.dir k)
  | removeFile k =>
    simp only [applyOp]
    split
    · exact h
    · exact h
    · exact herase k rfl
  | removeDirAll k =>
    simp only [applyOp]
    split
    · exact h
    · exact htree k rfl

/-- **One step, in every world** (any faults, any crash point, dead or alive): the same, where a
write killed between its two micro-steps puts the zero-length file.  So a property of stores kept
by these is kept by the step. -/
theorem World.exec_store_inv {I : Store → Prop} (w : World) (o : Op)
    (hput : ∀ k v, o.Puts k v → I (w.store.put k v))
    (herase : ∀ k, o = .removeFile k → I (w.store.erase k))
    (htree : ∀ k, o = .removeDirAll k → I (w.store.eraseTree k))
    (h : I w.store) : I (w.exec o).1.store := by
  rcases (World.exec_cases w o).2 with ⟨hs, _, _⟩ | ⟨k, v, m, rfl, _, hs, _, _⟩ | ⟨e, hs, _, _⟩ | ⟨hs, _, _⟩
  · rw [hs]; exact h
  · rw [hs]; exact hput k .empty (.torn k v m)
  · rw [hs]; exact h
  · rw [hs]; exact applyOp_store_inv _ _ _ hput herase htree h

/-- A property of the single entries of the store — `φ k v` for every `get? k = some v` — is kept by a
step, in every world, if what the operation can put has it: erasing only takes entries away. -/
theorem World.exec_pointwise {φ : Key → FileVal → Prop} (w : World) {o : Op}
    (hput : ∀ k v, o.Puts k v → φ k v) (h : ∀ k v, w.store.get? k = some v → φ k v) :
    ∀ k v, (w.exec o).1.store.get? k = some v → φ k v := by
  refine w.exec_store_inv (I := fun s => ∀ k v, s.get? k = some v → φ k v) o ?_ ?_ ?_ h
  · intro k v hp k' v' hg
    rw [Store.get?_put] at hg
    split at hg
    · rename_i hk; cases hg; rw [hk]; exact hput k v hp
    · exact h k' v' hg
  · intro k _ k' v' hg
    rw [Store.get?_erase] at hg
    split at hg
    · cases hg
    · exact h k' v' hg
  · intro k _ k' v' hg
    rw [Store.get?_eraseTree] at hg
    split at hg
    · cases hg
    · exact h k' v' hg

theorem Prog.run_store_inv {α : Type} {P : Op → Prop} {I : Store → Prop}
    (hstep : ∀ (w : World) (o : Op), P o → I w.store → I (w.exec o).1.store)
    {p : Prog α} (hp : Prog.AllOps P p) (w : World) (h : I w.store) : I (p.run w).2.store :=
  Prog.run_world_inv (P := P) (I := fun w' => I w'.store) (fun _ _ h => h) hstep hp w h

/-- One step, in every world, for a store invariant that speaks of the files one by one: a directory
and the zero-length file (what a write killed half-way leaves) must satisfy it. -/
theorem World.exec_forall_mem (P : Key × FileVal → Prop) (hdir : ∀ k, P (k, .dir))
    (hempty : ∀ k, P (k, .empty)) (w : World) {o : Op} (ho : ∀ k v m, o = .write k v m → P (k, v))
    (h : ∀ kv ∈ w.store, P kv) : ∀ kv ∈ (w.exec o).1.store, P kv := by
  have put : ∀ {k v}, P (k, v) → ∀ kv ∈ w.store.put k v, P kv := by
    intro k v hv kv hm
    simp only [Store.put, Store.erase, List.mem_append, List.mem_filter, List.mem_singleton] at hm
    rcases hm with ⟨hm, _⟩ | rfl
    · exact h kv hm
    · exact hv
  have filter : ∀ p : Key × FileVal → Bool, ∀ kv ∈ w.store.filter p, P kv :=
    fun p kv hm => h kv (List.mem_filter.mp hm).1
  refine w.exec_store_inv (I := fun s => ∀ kv ∈ s, P kv) o ?_ (fun _ _ => filter _) (fun _ _ => filter _) h
  intro k v hp
  apply put
  cases hp with
  | write k v m => exact ho k v m rfl
  | torn k v m => exact hempty k
  | dir k => exact hdir k

theorem World.exec_createNew_pre (w : World) (k : Key) (v : FileVal) (he : w.enforceCreateNew = true)
    (h : (w.exec (.write k v .createNew)).2 = .unit) :
    w.store.get? k = none ∨ w.store.get? k = some .empty := by
  rcases (World.exec_cases w (.write k v .createNew)).2 with
    ⟨_, _, hr⟩ | ⟨_, _, _, _, _, _, _, hr⟩ | ⟨e, _, _, hr⟩ | ⟨_, _, hr⟩
  · rw [hr] at h; cases h
  · rw [hr] at h; cases h
  · rw [hr] at h; cases h
  · rw [hr, he] at h; exact applyOp_createNew_pre h

theorem World.exec_trace_resp (w : World) (o : Op) :
    (w.exec o).1.trace = w.trace ∨ (w.exec o).1.trace = ⟨o, (w.exec o).2⟩ :: w.trace := by
  rcases (World.exec_cases w o).2 with ⟨_, ht, _⟩ | ⟨_, _, _, _, _, _, ht, _⟩ | ⟨e, _, ht, hr⟩ | ⟨_, ht, hr⟩
  · exact .inl ht
  · exact .inl ht
  · exact .inr (by rw [ht, hr])
  · exact .inr (by rw [ht, hr])

theorem World.exec_trace (w : World) (o : Op) :
    (w.exec o).1.trace = w.trace ∨ ∃ r, (w.exec o).1.trace = ⟨o, r⟩ :: w.trace :=
  (World.exec_trace_resp w o).imp_right fun h => ⟨_, h⟩

theorem Prog.run_enforce {α : Type} (p : Prog α) (w : World) :
    (p.run w).2.enforceCreateNew = w.enforceCreateNew := by
  induction p generalizing w with
  | ret a => rfl
  | fail e => rfl
  | panic s => rfl
  | emit ev k ih => simpa using ih _
  | op o k ih => rw [Prog.run_op, ih]; simp

theorem Prog.run_extends {α : Type} {p : Prog α} (hp : Prog.AllOps CreateOnly p) (w : World)
    (he : w.enforceCreateNew = true) : Extends w.store (p.run w).2.store := by
  have := Prog.run_world_inv (P := CreateOnly)
    (I := fun w' => w'.enforceCreateNew = true ∧ Extends w.store w'.store)
    (fun _ _ h => h)
    (fun w' o ho ⟨he', hx⟩ => ⟨by simpa using he', hx.trans (World.exec_extends w' o he' ho)⟩)
    hp w ⟨he, Extends.refl _⟩
  exact this.2

theorem Prog.run_readOnly_store {α : Type} {p : Prog α} (hp : Prog.AllOps ReadOnly p) (w : World) :
    (p.run w).2.store = w.store :=
  Prog.run_store_rel (R := fun a b => b = a) (fun _ => rfl) (fun _ _ _ h1 h2 => h2.trans h1)
    (fun w o ho => World.exec_readOnly_store w o ho) hp w

end Conserve
