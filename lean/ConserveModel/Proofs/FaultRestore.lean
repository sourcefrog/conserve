import ConserveModel.Proofs.FaultFinal
import ConserveModel.Proofs.ValidateGood
import ConserveModel.Proofs.ConformsStep
import ConserveModel.Proofs.HistRestore
import ConserveModel.Proofs.ExclSymlink
import ConserveModel.Proofs.ContainWF
/-
Restoring a version of a conforming archive returns nodes (`restoreRaw_ok`); the store a backup leaves
(`Final`, with C04's content fact) restores, by id or as the latest complete version, to exactly the
source (`FinalFacts`, `final_exact`).  No property statements here.
-/
set_option linter.unusedSimpArgs false
namespace Conserve.Fault
open Conserve Conserve.Exact Conserve.Inv Conserve.Conf Conserve.Hist Prog

variable {H : Str → Str} {o : BackupOpts}

/-- **Restoring a version whose head opens, on a conforming archive, returns nodes** (it neither fails
nor panics; damaged blocks are reported per file, C10). -/
theorem restoreRaw_ok {s : Store} (hci : CI H s) {b : Nat} (hh : headOutcome s b = .ok ()) :
    ∃ nodes, (restoreRaw H s b [slash] (fun _ => false)).1 = .ok nodes := by
  have wf := Contain.archWF_of_ci hci
  have hroot : s.get? .blockRoot = some .dir := ((Conf.conforms_iff H).1 hci.conf).2.2.1
  obtain ⟨nodes, hn⟩ := restoreP_ok (H := H) (s := s)
    ((listSpec s b).filter fun e => isPrefixOfImpl [slash] e.apath && !(fun _ => false) e.apath) []
    (fun e he => C08.listed_usable (List.mem_filter.mp he).1)
  exact ⟨nodes, by simp only [restoreRaw, hh, hroot, if_true, stitchAllP_fst wf,
    filterP_valid fun e he _ => C08.listed_valid he, hn]⟩

theorem restoreRaw_ok_inv {s : Store} {b : Nat} {nodes : List RNode}
    (h : (restoreRaw H s b [slash] (fun _ => false)).1 = .ok nodes) :
    ∃ es, filterP [slash] (fun _ => false) (stitchAllP s b).1 = .ok es ∧ (restoreP H s [] es).1 = .ok nodes := by
  unfold restoreRaw at h
  split at h
  · cases h
  · cases h
  · split at h
    · split at h
      · rename_i es hfil
        exact ⟨es, hfil, h⟩
      · cases h
      · cases h
    · cases h

/-- What C01 (a) says about the new version in the archive after the backup (not: that nothing else changed,
`Extends`), from `Final` and C04's content fact. -/
structure FinalFacts (H : Str → Str) (o : BackupOpts) (src : List SrcEntry) (s s' : Store) : Prop where
  complete : isComplete s' (newBandOf s) = true
  wf : ArchWF s'
  st : StoreOK H s'
  listing : Paired (Records H o s') src (listSpec s' (newBandOf s))
  restoreSpecified :
    ((restore H (.specified (newBandOf s)) [slash] (fun _ => false)).run (World.clean s')).1
      = .ok (src.map (expectedNode o))
  restoreSpecifiedSilent :
    ((restore H (.specified (newBandOf s)) [slash] (fun _ => false)).run (World.clean s')).2.events = []
  restoreLatest :
    ((restore H .latestClosed [slash] (fun _ => false)).run (World.clean s')).1 = .ok (src.map (expectedNode o))
  restoreLatestSilent :
    ((restore H .latestClosed [slash] (fun _ => false)).run (World.clean s')).2.events = []

theorem final_exact {src : List SrcEntry} {s s' : Store} {hs : List (List IndexEntry)}
    (hf : Final H o (newBandOf s) s s' hs src) (hsrc : SrcGood src) (hst : StoreOK H s) (wf0 : ArchWF s)
    (hrec : ∀ n es, hunkAt s' (newBandOf s) n = some es → ∀ e ∈ es, e.kind = .file → RecOK H src s' e) :
    FinalFacts H o src s s' := by
  have hrecs := final_records hf hsrc hrec
  have husable : ∀ e ∈ hs.flatten, entryUsable e = true := by
    intro e he
    obtain ⟨sf, hsf, hr⟩ := hrecs.mem_right he
    exact hr.usable hsrc hsf hf.st.small
  have wf : ArchWF s' := final_archWF hf wf0 husable hsrc.sorted
  have h := restore_of_records hf hsrc hst hrecs husable wf
  exact ⟨final_complete hf, wf, hf.st, final_listSpec hf husable ▸ hrecs, h.1.1, h.1.2, h.2.1, h.2.2⟩

end Conserve.Fault
