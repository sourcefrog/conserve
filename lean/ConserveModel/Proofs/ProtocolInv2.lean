import ConserveModel.Proofs.ProtocolEffect
/-
The invariants of the protocol skeleton, group 2 (which bands there are): they hold at the start and are
preserved by both step functions.  The clauses are defined in Proofs/ProtocolInv.lean; how preservation is
proved is said there.
-/
namespace Conserve.Proto

theorem Inv2.start (c : Config) : Inv2 c c.start := by
  constructor <;>
    simp [Config.start, isNew, BPc.mkdirDone, BPc.listIdDone, GPc.pending, OldBands, Below, NewBand,
      NewPresent, FailedGone, NewestWitness]

section
variable {c : Config} {p q : State}

theorem OldBands.presB (hs : StepB p q) (h : Inv2 c p) : OldBands c q :=
  fun b hb hn => let ⟨hb', hn'⟩ := hs.old_band hb hn; h.old b hb' hn'

theorem OldBands.presG (hs : StepG p q) (h : Inv2 c p) : OldBands c q :=
  fun b hb hn => h.old b (hs.bands_sub hb) (mt hs.isNew_iff.mpr hn)

theorem Below.presB (hs : StepB p q) (h : Inv2 c p) : Below q := by
  intro hl b hb hn
  obtain ⟨hb', hn'⟩ := hs.old_band hb hn
  rcases hs.newId_cases with ⟨e, _⟩ | ⟨e, hl'⟩
  · rw [e]; exact lt_nextId hb'
  · rw [e]; exact h.below (hl' hl) b hb' hn'

theorem Below.presG (hs : StepG p q) (h : Inv2 c p) : Below q := by
  unfold Below; rw [hs.b_eq]
  exact fun hl b hb hn => h.below hl b (hs.bands_sub hb) (mt hs.isNew_iff.mpr hn)

theorem NewBand.presB (hs : StepB p q) (h : Inv2 c p) : NewBand q := by
  intro b' hb' hn
  rw [hs.needed_eq]
  cases hs.own_band h.below hb' hn with
  | created _ hr hc => exact ⟨.inl hr, by simp [hr], by simp [hc]⟩
  | same b hb hnb _ hr hc hpc =>
    obtain ⟨h1, h2, h3⟩ := h.newBand b hb hnb
    rw [hr, hc]
    rcases hpc with e | ⟨e1, e2⟩
    · rw [e]; exact ⟨h1, h2, h3⟩
    · exact ⟨.inl (h1.resolve_right (by simp [e1, e2])), h2, fun hc => absurd (h3 hc) e2⟩
  | hunk b hb hnb hpc _ hq hr hc =>
    rw [hr, hc, hq]
    exact ⟨.inr (.inl rfl), fun _ => id, fun hc => by have := (h.newBand b hb hnb).2.2 hc; simp [hpc] at this⟩
  | tail b hb hnb _ hq hr => rw [hr, hq]; exact ⟨.inr (.inr rfl), (h.newBand b hb hnb).2.1, fun _ => rfl⟩

theorem NewBand.presG (hs : StepG p q) (h : Inv2 c p) : NewBand q := by
  unfold NewBand; rw [hs.b_eq]
  exact fun b hb hn => h.newBand b (hs.bands_sub hb) (hs.isNew_iff.mp hn)

theorem NewPresent.presB (hs : StepB p q) (h : Inv2 c p) : NewPresent q := by
  intro hm hp
  rw [hs.g_eq] at hp
  rcases hs.mkdirDone_new hm with hm' | hpc
  · have hpc : p.b.pc ≠ .listId := fun e => by rw [e] at hm'; cases hm'
    rw [hs.newId_eq hpc]
    exact hs.hasId_iff.mpr (.inl (h.newPresent hm' hp))
  · rw [hs.newId_eq (by simp [hpc])]
    exact hs.hasId_iff.mpr (.inr ⟨hpc, rfl⟩)

theorem NewPresent.presG (hs : StepG p q) (h1 : Inv1 c p) (h : Inv2 c p) : NewPresent q := by
  have o := h.newPresent
  unfold NewPresent at *
  cases hs with
  | check => exact fun _ => nofun
  | rmBand hpc _ _ _ _ => exact fun _ hp => by rw [h1.sweepPassed hpc] at hp; cases hp
  | _ => exact o

/-- The transitions into `failed` are those that found the band directory gone. -/
theorem FailedGone.presB (hs : StepB p q) (h : Inv2 c p) : FailedGone q := by
  have o := h.failedGone
  unfold FailedGone at *
  cases hs with
  | head_failed _ hb | hunk_failed _ _ hb | tail_failed _ hb => exact fun _ => hasBand_false_iff.mp hb
  | _ => frame_pc o

theorem FailedGone.presG (hs : StepG p q) (h : Inv2 c p) : FailedGone q := by
  unfold FailedGone; rw [hs.b_eq]
  exact fun hpc b hb => h.failedGone hpc b (hs.bands_sub hb)

theorem NewestWitness.presB (hs : StepB p q) (h : Inv2 c p) : NewestWitness q := by
  unfold NewestWitness; rw [hs.g_eq]
  exact fun hp m hm => hs.hasId_iff.mpr (.inl (h.newestWitness hp m hm))

theorem NewestWitness.presG (hs : StepG p q) (h : Inv2 c p) : NewestWitness q := by
  have o := h.newestWitness
  unfold NewestWitness at *
  cases hs with
  | last => exact fun _ m hm => (newestId_some hm).2
  | _ => frame_pc o

theorem Inv2.presB (hs : StepB p q) (h : Inv2 c p) : Inv2 c q :=
  ⟨OldBands.presB hs h, Below.presB hs h, NewBand.presB hs h, NewPresent.presB hs h,
   FailedGone.presB hs h, NewestWitness.presB hs h⟩

theorem Inv2.presG (hs : StepG p q) (h1 : Inv1 c p) (h : Inv2 c p) : Inv2 c q :=
  ⟨OldBands.presG hs h, Below.presG hs h, NewBand.presG hs h, NewPresent.presG hs h1 h,
   FailedGone.presG hs h, NewestWitness.presG hs h⟩

end

end Conserve.Proto
