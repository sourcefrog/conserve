import ConserveModel.Proofs.ExactList
import ConserveModel.Props.C16
import ConserveModel.Proofs.ConformsWalk
/-
The walk of a well-formed source tree (Tree.lean) satisfies the structural clauses of `SrcGood`:
strictly increasing valid paths (C11), kinds and symlink targets, and nothing below a symlink
(from C16 `walk_treeConsistent`).  No property statements here.
-/
namespace Conserve.Exact
open Conserve

/-- The walk of a well-formed tree is a good source listing, given what the tree's metadata must
satisfy entry by entry (sizes are lengths, times representable) and the total size bound. -/
theorem walk_srcGood (T : Node) (excl : Str → Bool) (hwf : T.WF = true)
    (hsize : ∀ sf ∈ C11.walk T excl, sf.kind = .file → sf.size = sf.content.length)
    (htime : ∀ sf ∈ C11.walk T excl,
      -377705023201 * nanosPerSec ≤ sf.mtimeNs ∧ sf.mtimeNs < 253402207201 * nanosPerSec)
    (hbytes : totalSize (C11.walk T excl) < 18446744073709551616) : SrcGood (C11.walk T excl) := by
  have hv := C11.walk_valid T excl hwf
  refine ⟨hsize, C11.walk_sorted T excl hwf, hv, ?_, ?_, htime, ?_, hbytes⟩
  · exact fun sf hsf => (Conf.walk_entries_shape T excl sf hsf).2
  · exact fun sf hsf hk => (Conf.walk_entries_shape T excl sf hsf).1.1 hk
  · intro a ha b hb hk _ hne
    let g : SrcEntry → RNode := fun e => { apath := e.apath, kind := e.kind }
    have hC := C16.treeConsistent_confinable (C16.walk_treeConsistent T excl hwf g (fun _ => ⟨rfl, rfl⟩))
    cases hpre : isPrefixOfImpl a.apath b.apath with
    | false => rfl
    | true =>
      rw [C12.prefix_iff_ancestor a.apath b.apath (hv a ha) (hv b hb)] at hpre
      have hp : comps (g a) <+: comps (g b) := List.isPrefixOf_iff_prefix.mp hpre
      have hcne : comps (g a) ≠ comps (g b) := by
        intro e
        apply hne
        have ea := (valid_eq_pathOf (hv a ha)).2
        have eb := (valid_eq_pathOf (hv b hb)).2
        rw [ea, eb]
        exact congrArg pathOf e
      have := hC.anc (g a) (List.mem_map.mpr ⟨a, ha, rfl⟩) (g b) (List.mem_map.mpr ⟨b, hb, rfl⟩) hp hcne
      have hk' : (g a).kind = .symlink := hk
      rw [this] at hk'
      cases hk'

end Conserve.Exact
