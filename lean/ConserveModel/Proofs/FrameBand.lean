import ConserveModel.Proofs.FrameTrace
import ConserveModel.Proofs.CleanWorld
import ConserveModel.Proofs.ReadOnlyProg
/-
`bandCreate`: the id it picks is one above the largest id in the root listing it saw; a failed
head write ends it (and hence `backup`) with an error.  `backup_decomp` splits `backup` into lock
check, basis, `bandCreate` and a tail of `WriterOp`s; everything before `bandCreate` is read-only, so
the listing that decides the id is the listing of the store the run started on, and a new version's
id is above every existing one, in every world (`backup_newId_above_existing`).
-/
namespace Conserve
open Prog

/-- Does the operation create something that carries a band id `b`: the band directory, its
index directory, or its head? -/
def Op.createsBand (o : Op) (b : Nat) : Prop :=
  o = .createDir (.bandDir b) ∨ o = .createDir (.indexDir b) ∨ ∃ v m, o = .write (.bandHead b) v m

/-- After the response `r` to `listDir root`: every band-creating operation uses the id after
the largest one listed in `r`. -/
def NewIdFrom (r : Resp) (o : Op) : Prop :=
  ∀ b, o.createsBand b → ∃ xs, r = .listing xs ∧ b = nextBandId (listingBandIds xs)

/-- Shape of `bandCreate`, independent of any world: it first lists the root; whatever the
response `r`, all band-creating operations that can follow use `nextBandId` of that listing. -/
theorem bandCreate_shape :
    ∃ k, bandCreate = .op (.listDir .root) k ∧ ∀ r, AllOps (NewIdFrom r) (k r) := by
  unfold bandCreate lastBandId listBandIds
  simp only [Prog.bind_def, Prog.perform, Prog.op_bind, Prog.ret_bind, Prog.pure_def]
  refine ⟨_, rfl, ?_⟩
  intro r
  cases r with
  | listing xs =>
    simp only [Prog.ret_bind]
    have hid : ∀ o : Op, o.createsBand (nextBandId (listingBandIds xs)) ∨ (∀ b, ¬ o.createsBand b) →
        NewIdFrom (.listing xs) o := by
      intro o ho b hb
      refine ⟨xs, rfl, ?_⟩
      rcases ho with ho | ho
      · rcases ho with rfl | rfl | ⟨_, _, rfl⟩ <;> rcases hb with hb | hb | ⟨_, _, hb⟩ <;> cases hb <;> rfl
      · exact absurd hb (ho b)
    have h1 := hid (.createDir (.bandDir (nextBandId (listingBandIds xs)))) (.inl (.inl rfl))
    have h2 := hid (.createDir (.indexDir (nextBandId (listingBandIds xs)))) (.inl (.inr (.inl rfl)))
    have h3 := hid (.write (.bandHead (nextBandId (listingBandIds xs))) (.head .ok []) .createNew)
      (.inl (.inr (.inr ⟨_, _, rfl⟩)))
    exact AllOps.bind (performUnit_allOps h1) fun _ =>
      AllOps.bind (performUnit_allOps h2) fun _ =>
      AllOps.bind (performUnit_allOps h3) fun _ => .ret _
  | val v => exact .fail _
  | stat a b => exact .fail _
  | unit => exact .fail _
  | err e => exact .fail _

theorem World.exec_listing_recorded {w : World} {o : Op} {xs : List DirEnt} (h : (w.exec o).2 = .listing xs) :
    (w.exec o).1.trace = ⟨o, .listing xs⟩ :: w.trace := by
  rcases (World.exec_cases w o).2 with ⟨_, _, hr⟩ | ⟨_, _, _, _, _, _, _, hr⟩ | ⟨e, _, _, hr⟩ | ⟨_, ht, hr⟩
  · rw [hr] at h; cases h
  · rw [hr] at h; cases h
  · rw [hr] at h; cases h
  · rw [ht, ← hr, h]

/-- Events a run appends: whenever a band-creating operation for id `b` is recorded, a root
listing `xs` is recorded too and `b = nextBandId` of the ids in `xs`. -/
def NewIdTrace (new : List TraceEv) : Prop :=
  ∀ ev ∈ new, ∀ b, ev.op.createsBand b →
    ∃ xs, (⟨.listDir .root, .listing xs⟩ : TraceEv) ∈ new ∧ b = nextBandId (listingBandIds xs)

theorem bandCreate_newIdTrace : TraceProp NewIdTrace bandCreate := by
  intro w
  obtain ⟨k, hk, hall⟩ := bandCreate_shape
  rw [hk, Prog.run_op]
  obtain ⟨n1, ht1, hP⟩ := Prog.run_trace_ops (hall (w.exec (.listDir .root)).2) (w.exec (.listDir .root)).1
  rcases World.exec_trace_resp w (.listDir .root) with ht | ht
  · refine ⟨n1, by rw [ht1, ht], ?_⟩
    intro ev hev b hb
    obtain ⟨xs, hx, _⟩ := hP ev hev b hb
    have := World.exec_listing_recorded hx
    rw [ht] at this
    exact absurd (congrArg List.length this) (by simp)
  · refine ⟨n1 ++ [⟨.listDir .root, (w.exec (.listDir .root)).2⟩], by rw [ht1, ht]; simp, ?_⟩
    intro ev hev b hb
    rcases List.mem_append.mp hev with hev | hev
    · obtain ⟨xs, hx, hb'⟩ := hP ev hev b hb
      exact ⟨xs, List.mem_append.mpr (.inr (by rw [hx]; simp)), hb'⟩
    · rw [List.mem_singleton.mp hev] at hb
      rcases hb with hb | hb | ⟨_, _, hb⟩ <;> cases hb

theorem WriterOp.not_createsBand {o : Op} (h : WriterOp o) (b : Nat) : ¬ o.createsBand b := by
  obtain ⟨_, hnh, hnd⟩ := h
  rintro (hb | hb | ⟨_, _, hb⟩)
  · rw [hb] at hnd; exact hnd trivial
  · rw [hb] at hnd; exact hnd trivial
  · rw [hb] at hnh; exact hnh trivial

theorem bandCreate_run_ok {w : World} {b : Nat} (h : (bandCreate.run w).1 = .ok b) :
    ∃ xs, (w.exec (.listDir .root)).2 = .listing xs ∧ b = nextBandId (listingBandIds xs) := by
  unfold bandCreate lastBandId at h
  simp only [Prog.bind_def, Prog.pure_def] at h
  obtain ⟨last, h1, h2⟩ := Prog.run_bind_ok_inv h
  obtain ⟨ids, h3, h4⟩ := Prog.run_bind_ok_inv h1
  obtain ⟨xs, hx, rfl⟩ := listBandIds_run_ok h3
  simp only [Prog.run_ret, Outcome.ok.injEq] at h4
  subst h4
  obtain ⟨_, _, h5⟩ := Prog.run_bind_ok_inv h2
  obtain ⟨_, _, h6⟩ := Prog.run_bind_ok_inv h5
  obtain ⟨_, _, h7⟩ := Prog.run_bind_ok_inv h6
  simp only [Prog.run_ret, Outcome.ok.injEq] at h7
  exact ⟨xs, hx, h7.symm⟩

theorem bandCreate_run_clean {w : World} (hc : w.Clean) {b : Nat} (h : (bandCreate.run w).1 = .ok b) :
    w.store.get? .root = some .dir ∧ b = nextBandId (bandIdsOf w.store) := by
  obtain ⟨xs, hx, hb⟩ := bandCreate_run_ok h
  rw [World.exec_clean_resp hc] at hx
  simp only [applyOp] at hx
  split at hx
  · cases hx
  · rename_i hroot
    cases hx
    exact ⟨hroot, hb.trans (congrArg nextBandId (bandIds_listing _))⟩
  · cases hx

theorem bandCreate_headGuard : HeadGuard bandCreate := by
  unfold bandCreate
  simp only [Prog.bind_def, Prog.pure_def]
  refine HeadGuard.bind (HeadGuard.of_readOnly lastBandId_ro) fun last => ?_
  refine HeadGuard.bind (HeadGuard.of_allOps (performUnit_allOps (by simp [isHeadWrite]))) fun _ => ?_
  refine HeadGuard.bind (HeadGuard.of_allOps (performUnit_allOps (by simp [isHeadWrite]))) fun _ => ?_
  unfold performUnit
  simp only [Prog.bind_def, Prog.perform, Prog.op_bind, Prog.ret_bind, Prog.pure_def]
  refine .op ?_ ?_
  · intro r; cases r <;> first | exact .fail _ | exact .ret _
  · intro _ r hr
    cases r with
    | unit => exact absurd rfl hr
    | err e => exact ⟨_, rfl⟩
    | val v => exact ⟨_, rfl⟩
    | listing xs => exact ⟨_, rfl⟩
    | stat a b => exact ⟨_, rfl⟩

/-- `backup` = check the gc lock; find the basis; `bandCreate`; then a tail made of `WriterOp`s
(no band directory, no head). -/
theorem backup_decomp (H : Str → Str) (o : BackupOpts) (src : List SrcEntry) :
    ∃ tail : Option Nat → Nat → Prog Stats,
      backup H o src = (gcIsLocked.bind fun c =>
        if c = true then .fail .gcLockHeld
        else lastBandId.bind fun basis => bandCreate.bind fun band => tail basis band) ∧
      ∀ basis band, AllOps WriterOp (tail basis band) := by
  refine ⟨?tail, ?eq, ?ops⟩
  case eq =>
    unfold backup
    simp only [Prog.bind_def, Prog.pure_def, Prog.fail_bind]
    rfl
  case ops =>
    intro basis band
    have hwrite : ∀ w ms, AllOps WriterOp ((backupLoop H o w ms).bind fun w => (flushGroup H w).bind fun w =>
        (finishHunk w).bind fun w => (bandClose w.band w.hunksWritten).bind fun _ => .ret w.stats) :=
      fun w ms => (backupLoop_wr H o w ms).bind fun w => (flushGroup_wr H w).bind fun w =>
        (finishHunk_wr w).bind fun w => (bandClose_wr _ _).bind fun _ => .ret _
    refine gcLockListed_ro.ro_wr.bind fun c => ?_
    split
    · exact .fail _
    · refine listBlocks_ro.ro_wr.bind fun blocks => ?_
      split
      · exact (listEntries_ro _ _ _).ro_wr.bind fun _ => hwrite _ _
      · exact hwrite _ _

theorem backup_headGuard (H : Str → Str) (o : BackupOpts) (src : List SrcEntry) :
    HeadGuard (backup H o src) := by
  obtain ⟨tail, heq, hops⟩ := backup_decomp H o src
  rw [heq]
  refine HeadGuard.bind (HeadGuard.of_readOnly gcIsLocked_ro) fun c => ?_
  split
  · exact .fail _
  · refine HeadGuard.bind (HeadGuard.of_readOnly lastBandId_ro) fun basis => ?_
    exact HeadGuard.bind bandCreate_headGuard fun band => HeadGuard.of_writerOp (hops basis band)

/-- The footprint of a run of `backup`, in every world: every band-creating operation it executes is
for an id above all band ids of the store it started on. -/
theorem backup_newId_runOps (H : Str → Str) (o : BackupOpts) (src : List SrcEntry) (w : World) :
    RunOps (fun op => ∀ b, op.createsBand b → ∀ b' ∈ bandIdsOf w.store, b' < b) (backup H o src) w := by
  obtain ⟨tail, heq, hops⟩ := backup_decomp H o src
  rw [heq]
  have wr : ∀ {β : Type} {p : Prog β} (w' : World), AllOps WriterOp p →
      RunOps (fun op => ∀ b, op.createsBand b → ∀ b' ∈ bandIdsOf w.store, b' < b) p w' :=
    fun w' hp => (hp.runOps w').mono fun _ h b hb => absurd hb (h.not_createsBand b)
  refine .bind (wr w gcIsLocked_ro.ro_wr) fun c w1 h1 => ?_
  have e1 : w1.store = w.store := by have := Prog.run_readOnly_store gcIsLocked_ro w; rwa [h1] at this
  split
  · exact .fail _ _
  · refine .bind (wr w1 lastBandId_ro.ro_wr) fun basis w2 h2 => ?_
    have e2 : w2.store = w.store := by
      have := Prog.run_readOnly_store lastBandId_ro w1; rw [h2] at this; exact this.trans e1
    refine .bind ?_ fun band w3 _ => wr w3 (hops basis band)
    -- `bandCreate`: the listing it takes is the listing of the store `backup` started on
    obtain ⟨k, hk, hall⟩ := bandCreate_shape
    rw [hk]
    refine .op (fun b hb => ?_) (((hall _).runOps _).mono fun op hop b hb b' hb' => ?_)
    · rcases hb with hb | hb | ⟨_, _, hb⟩ <;> cases hb
    · obtain ⟨xs, hx, rfl⟩ := hop b hb
      cases World.exec_listDir_listing hx
      refine nextBandId_gt _ b' ?_
      rw [show listingBandIds _ = _ from bandIds_listing w2.store, e2]
      exact hb'

/-- **A new version gets an id above every existing one** — in every world (any faults, any crash
point, `CreateNew` honoured or not, any store): whenever a run of `backup` records an operation that
creates a band directory, its index directory or its head, for id `b`, then `b` is larger than every
band id the store had when the run started. -/
theorem backup_newId_above_existing (H : Str → Str) (o : BackupOpts) (src : List SrcEntry) (w : World) :
    ∃ new, ((backup H o src).run w).2.trace = new ++ w.trace ∧
      ∀ ev ∈ new, ∀ b, ev.op.createsBand b → ∀ b' ∈ bandIdsOf w.store, b' < b :=
  (backup_newId_runOps H o src w).trace

end Conserve
