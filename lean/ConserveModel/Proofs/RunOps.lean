import ConserveModel.Proofs.FrameStep
/-
The footprint of ONE run.  `Prog.AllOps P p` asks `P` of every operation on every branch of the
program text, so `P` cannot depend on what an earlier step returned.  `Prog.RunOps P p w` asks it
only of the operations the run of `p` from world `w` executes: the continuation is followed along
the responses `w` really gives, `P` may speak of the starting world, and the rule for `bind` knows
the value and the world the first part produced.
-/
namespace Conserve
open Prog

def Prog.RunOps {α : Type} (P : Op → Prop) : Prog α → World → Prop
  | .ret _, _ => True
  | .fail _, _ => True
  | .panic _, _ => True
  | .emit ev k, w => RunOps P k { w with events := ev :: w.events }
  | .op o k, w => P o ∧ RunOps P (k (w.exec o).2) (w.exec o).1

theorem Prog.AllOps.runOps {α : Type} {P : Op → Prop} {p : Prog α} (hp : AllOps P p) (w : World) :
    RunOps P p w := by
  induction hp generalizing w with
  | ret a => trivial
  | fail e => trivial
  | panic s => trivial
  | emit ev _ ih => exact ih _
  | op ho _ ih => exact ⟨ho, ih _ _⟩

namespace Prog.RunOps
variable {α β : Type} {P Q : Op → Prop}

theorem fail (e : Err) (w : World) : RunOps P (.fail e : Prog α) w := trivial

theorem op {o : Op} {k : Resp → Prog α} {w : World} (ho : P o)
    (hk : RunOps P (k (w.exec o).2) (w.exec o).1) : RunOps P (.op o k) w := ⟨ho, hk⟩

theorem mono (h : ∀ o, P o → Q o) {p : Prog α} {w : World} (hp : RunOps P p w) : RunOps Q p w := by
  induction p generalizing w with
  | ret a => trivial
  | fail e => trivial
  | panic s => trivial
  | emit ev k ih => exact ih hp
  | op o k ih => exact ⟨h o hp.1, ih _ hp.2⟩

theorem bind {p : Prog α} {f : α → Prog β} {w : World} (hp : RunOps P p w)
    (hf : ∀ a w1, p.run w = (.ok a, w1) → RunOps P (f a) w1) : RunOps P (p.bind f) w := by
  induction p generalizing w with
  | ret a => exact hf a w rfl
  | fail e => trivial
  | panic s => trivial
  | emit ev k ih => exact ih hp hf
  | op o k ih => exact ⟨hp.1, ih _ hp.2 hf⟩

theorem attemptAll {p : Prog α} {w : World} (hp : RunOps P p w) : RunOps P p.attemptAll w := by
  induction p generalizing w with
  | ret a => trivial
  | fail e => trivial
  | panic s => trivial
  | emit ev k ih => exact ih hp
  | op o k ih => exact ⟨hp.1, ih _ hp.2⟩

/-- `Prog.run_world_inv` for one run. -/
theorem world_inv {I : World → Prop}
    (hev : ∀ (w : World) (ev : Event), I w → I { w with events := ev :: w.events })
    (hstep : ∀ (w : World) (o : Op), P o → I w → I (w.exec o).1)
    {p : Prog α} {w : World} (hp : RunOps P p w) (hw : I w) : I (p.run w).2 := by
  induction p generalizing w with
  | ret a => exact hw
  | fail e => exact hw
  | panic s => exact hw
  | emit ev k ih => exact ih hp (hev w ev hw)
  | op o k ih => exact ih _ hp.2 (hstep w o hp.1 hw)

theorem trace {p : Prog α} {w : World} (hp : RunOps P p w) :
    ∃ new, (p.run w).2.trace = new ++ w.trace ∧ ∀ ev ∈ new, P ev.op :=
  world_inv (I := fun w' => ∃ new, w'.trace = new ++ w.trace ∧ ∀ ev ∈ new, P ev.op) (fun _ _ h => h)
    (fun w' o ho ⟨new, hn, hP⟩ => by
      rcases World.exec_trace w' o with h | ⟨r, h⟩
      · exact ⟨new, by rw [h, hn], hP⟩
      · exact ⟨⟨o, r⟩ :: new, by rw [h, hn]; rfl, fun ev hev =>
          (List.mem_cons.mp hev).elim (fun e => e ▸ ho) (hP ev)⟩)
    hp ⟨[], rfl, fun _ h => nomatch h⟩

/-- A key that none of the executed operations affects keeps its value — any faults, any crash
point, also between the two micro-steps of a write. -/
theorem get?_eq {p : Prog α} {w : World} {k : Key} (hp : RunOps (fun o => o.affects k = false) p w) :
    (p.run w).2.store.get? k = w.store.get? k :=
  world_inv (I := fun w' => w'.store.get? k = w.store.get? k) (fun _ _ h => h)
    (fun w' o ho h => (World.exec_get?_of_not_affects w' o k ho).trans h) hp rfl

end Prog.RunOps

theorem Prog.run_trace_ops {α : Type} {P : Op → Prop} {p : Prog α} (hp : Prog.AllOps P p) (w : World) :
    ∃ new, (p.run w).2.trace = new ++ w.trace ∧ ∀ ev ∈ new, P ev.op := (hp.runOps w).trace

theorem Prog.run_get?_of_not_affects {α : Type} {p : Prog α} {k : Key}
    (hp : Prog.AllOps (fun o => Op.affects o k = false) p) (w : World) :
    (p.run w).2.store.get? k = w.store.get? k := (hp.runOps w).get?_eq

end Conserve
