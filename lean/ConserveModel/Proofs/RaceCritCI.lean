import ConserveModel.Proofs.RaceCritOps
import ConserveModel.Proofs.ProducedBackup
/-
C06 on the full model — `backup` after its second look at the gc lock keeps the store invariant
`CI`, run alone from a store satisfying it, in the two situations it can find its new band in:
(A) open with no hunks (`crit_ci_open`, from the C13 development), and
(B) removed altogether by a `delete` that named its id (`crit_ci_gone`: every write into the
band fails, block writes are harmless).  No property statements here.
-/
namespace Conserve
open Prog Conserve.Conf Conserve.Inv

variable {H : Str → Str}

section
variable (o : BackupOpts) {src : List SrcEntry}

theorem crit_csat (hinj : Function.Injective H) (hlen : HashLen H) (hsrc : SrcOK src)
    (basis : Option Nat) (n : Nat) (w : World) (hw : CWOK H w) (hband : BandOpen w.store n []) :
    CSat H (crit H o src basis n) w (fun _ _ => True) := by
  unfold crit
  refine CSat.bind ((CSat.of_roSpec hw (listBlocks_spec hw.ci.nodup hw.ci.blocksGood)).mono ?_)
  intro blocks w4 hf4 ⟨hst4, hex⟩
  rw [← hst4] at hband hex
  cases basis with
  | none => exact backupMain_csat hinj hlen o hsrc (n, blocks, []) w4 hf4.wok hex (fun _ h => nomatch h) hband
  | some b =>
    refine CSat.bind ((CSat.of_roSpec hf4.wok (listEntries_spec w4.store b _ _)).mono ?_)
    intro be w5 hf5 ⟨hst5, hfh⟩
    rw [← hst5] at hband hex hfh
    exact backupMain_csat hinj hlen o hsrc (n, blocks, be) w5 hf5.wok hex (BasisAddr.of_fromHunks hf5.ci hfh) hband

theorem crit_ci_open (hinj : Function.Injective H) (hlen : HashLen H) (hsrc : SrcOK src)
    (basis : Option Nat) (n : Nat) {s : Store} (hci : CI H s) (hband : BandOpen s n []) :
    CI H ((crit H o src basis n).solo s).2 :=
  ((crit H o src basis n).run_clean_eq_solo s).2 ▸
    (crit_csat o hinj hlen hsrc basis n (World.clean s) ⟨rfl, hci⟩ hband).1.ci

end

structure GoneW (H : Str → Str) (n : Nat) (w : World) : Prop where
  clean : w.Clean
  ci : CI H w.store
  gone : w.store.get? (.bandDir n) ≠ some .dir

/-- `Prog.InvSat (GoneW H n) p Q`, read at one world. -/
def GSat (H : Str → Str) (n : Nat) {α : Type} (p : Prog α) (w : World) (Q : α → Prop) : Prop :=
  GoneW H n (p.run w).2 ∧ ∀ a, (p.run w).1 = .ok a → Q a

namespace GSat
variable {n : Nat}

theorem panic {α : Type} {m : String} {w : World} {Q : α → Prop} (hw : GoneW H n w) :
    GSat H n (.panic m) w Q := InvSat.panic w hw

theorem report {w : World} (ev : Event) (hw : GoneW H n w) : GSat H n (Prog.report ev) w (fun _ => True) :=
  ⟨⟨hw.clean, hw.ci, hw.gone⟩, fun _ _ => trivial⟩

theorem mono {α : Type} {p : Prog α} {w : World} {Q Q' : α → Prop} (hp : GSat H n p w Q)
    (h : ∀ a, Q a → Q' a) : GSat H n p w Q' := ⟨hp.1, fun a ha => h a (hp.2 a ha)⟩

end GSat

/-! Nothing is, or can be created, below what is not a directory. -/

theorem parentOk_of_not_dir {s : Store} {k p : Key} (hp : k.parent = some p) (hg : s.get? p ≠ some .dir) :
    s.parentOk k = false := by
  simp only [Store.parentOk, hp]
  simpa using hg

theorem DirsOk.absent_below {s : Store} (hd : DirsOk s) {k p : Key} (hp : k.parent = some p)
    (hg : s.get? p ≠ some .dir) : s.get? k = none := by
  cases hv : s.get? k with
  | none => rfl
  | some v => exact absurd (hd.parent_of_get? hv) (by rw [parentOk_of_not_dir hp hg]; simp)

theorem applyOp_createDir_noParent {s : Store} {k : Key} (h1 : s.get? k = none) (h2 : s.parentOk k = false) :
    applyOp true s (.createDir k) = (s, .err .notFound) := by
  simp [applyOp, Store.has, h1, h2]

theorem applyOp_write_noParent {s : Store} {k : Key} (h : s.parentOk k = false) (v : FileVal) (m : WriteMode) :
    applyOp true s (.write k v m) = (s, .err .notFound) := by
  simp [applyOp, h]

section
variable {s : Store} (hd : DirsOk s) {n : Nat} (hg : s.get? (.bandDir n) ≠ some .dir)
include hd hg

theorem gone_indexDir : s.get? (.indexDir n) = none := hd.absent_below rfl hg

theorem gone_hunkDir (d : Nat) : s.get? (.hunkDir n d) = none :=
  hd.absent_below rfl (by rw [gone_indexDir hd hg]; nofun)

theorem gone_createDir_indexDir : applyOp true s (.createDir (.indexDir n)) = (s, .err .notFound) :=
  applyOp_createDir_noParent (gone_indexDir hd hg) (parentOk_of_not_dir rfl hg)

theorem gone_createDir_hunkDir (d : Nat) : applyOp true s (.createDir (.hunkDir n d)) = (s, .err .notFound) :=
  applyOp_createDir_noParent (gone_hunkDir hd hg d) (parentOk_of_not_dir rfl (by rw [gone_indexDir hd hg]; nofun))

theorem gone_write_hunk (i : Nat) (v : FileVal) (m : WriteMode) :
    applyOp true s (.write (.hunk n i) v m) = (s, .err .notFound) :=
  applyOp_write_noParent (parentOk_of_not_dir rfl (by rw [gone_hunkDir hd hg]; nofun)) v m

omit hd in
theorem gone_write_tail (v : FileVal) (m : WriteMode) :
    applyOp true s (.write (.bandTail n) v m) = (s, .err .notFound) :=
  applyOp_write_noParent (parentOk_of_not_dir rfl hg) v m

end

namespace Gone
variable {n : Nat}

theorem of_blk (hlen : HashLen H) {α : Type} {p : Prog α} (hp : AllOps (BlockOp H) p) {Q : α → Prop}
    (hq : RetSpec p Q) : InvSat (GoneW H n) p Q := by
  intro w hw
  obtain ⟨h1, h2, _⟩ := run_blockOps hlen hp w hw.clean.1 hw.ci
  refine ⟨⟨Prog.run_clean p hw.clean, h1, ?_⟩, fun a ha => hq w a ha⟩
  rw [h2 _ (fun _ => by simp) (fun _ => by simp)]
  exact hw.gone

theorem of_ro (hlen : HashLen H) {α : Type} {p : Prog α} (hp : AllOps ReadOnly p) :
    InvSat (GoneW H n) p (fun _ => True) :=
  of_blk hlen (hp.mono fun _ ho => Or.inl ho.not_mutating) fun _ _ _ => trivial

theorem notFound {o : Op} (h : ∀ w, GoneW H n w → applyOp true w.store o = (w.store, .err .notFound))
    {Q : Unit → Prop} : InvSat (GoneW H n) (performUnit o) Q := by
  intro w hw
  have hr : (w.exec o).2 = .err .notFound := by rw [World.exec_clean_resp hw.clean, h w hw]
  have hs : (w.exec o).1.store = w.store := by rw [World.exec_clean_store hw.clean, h w hw]
  have hw1 : GoneW H n (w.exec o).1 := ⟨World.exec_clean_Clean hw.clean o, hs ▸ hw.ci, hs ▸ hw.gone⟩
  unfold performUnit perform Framed
  simp only [Prog.bind_def, Prog.op_bind, Prog.ret_bind, Prog.run_op]
  rw [hr]
  exact InvSat.fail _ hw1

theorem finishHunk (wr : Writer) (hb : wr.band = n) :
    InvSat (GoneW H n) (finishHunk wr) (fun wr' => wr'.band = n) := by
  subst hb
  unfold Conserve.finishHunk
  simp only [Prog.bind_def, Prog.pure_def]
  split
  · exact InvSat.ret rfl
  · split
    · exact InvSat.bind (Q1 := fun _ => False)
        (notFound fun w hw => gone_createDir_hunkDir hw.ci.dirs hw.gone _) (fun _ h => h.elim)
    · exact InvSat.bind (Q1 := fun _ => False)
        (notFound fun w hw => gone_write_hunk hw.ci.dirs hw.gone _ _ _) (fun _ h => h.elim)

/-- With the band gone the writer invariant is its band id alone: block writes are harmless, every write
into the band fails. -/
theorem loopInv (hlen : HashLen H) (n : Nat) (o : BackupOpts) :
    LoopInvW H o (fun _ w' => GoneW H n w') (fun _ _ wr => wr.band = n) (fun _ _ _ => True) where
  frame := ⟨fun _ _ _ _ h => h, fun h => h, fun _ hw => ⟨hw.clean, hw.ci, hw.gone⟩⟩
  carry _ h := h
  events _ h := h
  setStats _ h := h
  copyEntry wr basis sf hw hb _ :=
    of_blk hlen (copyEntry_blk H o wr basis sf)
      ((copyEntry_ret H o wr basis sf).mono fun _ ⟨_, _, hstep⟩ => hstep.band.trans hb) _ hw
  flushGroup wr hw hb := by
    refine (?_ : InvSat (GoneW H n) (flushGroup H wr) (fun wr' => wr'.band = n)) _ hw
    unfold flushGroup
    simp only [Prog.bind_def]
    refine InvSat.bind (of_blk hlen (combinerFlush_blk H wr) (combinerFlush_ret H wr)) ?_
    rintro ⟨w1, r⟩ ⟨hstep, _⟩
    cases r with
    | error e => exact InvSat.fail
    | ok u => exact finishHunk _ (hstep.band.trans hb)
  close wr hw hb := by
    subst hb
    exact notFound (fun w hw => gone_write_tail hw.gone _ _) _ hw

end Gone

theorem basisListing_ro (basis : Option Nat) : AllOps ReadOnly (basisListing basis) := by
  cases basis with
  | none => exact .ret _
  | some b => exact listEntries_ro b _ _

theorem crit_ci_gone (hlen : HashLen H) (o : BackupOpts) (src : List SrcEntry) (basis : Option Nat) (n : Nat)
    {s : Store} (hci : CI H s) (hg : s.get? (.bandDir n) ≠ some .dir) :
    CI H ((crit H o src basis n).solo s).2 := by
  have h : InvSat (GoneW H n) (crit H o src basis n) (fun _ => True) :=
    InvSat.bind (Gone.of_ro hlen listBlocks_ro) fun blocks _ =>
      InvSat.bind (Gone.of_ro hlen (basisListing_ro basis)) fun be _ =>
        fun w hw => backupMain_framed (Gone.loopInv hlen n o) (n, blocks, be) w hw rfl fun _ _ _ _ => trivial
  exact ((crit H o src basis n).run_clean_eq_solo s).2 ▸ (h (World.clean s) ⟨World.clean_Clean s, hci, hg⟩).1.ci

end Conserve
