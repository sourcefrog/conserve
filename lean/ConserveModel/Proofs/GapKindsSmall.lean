import ConserveModel.Proofs.ProducedBackup
/-
C14p residuals: `BlocksSmall` — every block shorter than 2^64 bytes — ALONE is kept by
`backup` in EVERY world, provided the contents of the source's regular files add up to less than
2^64 bytes (`srcBytes src < u64`), and by `delete_bands` in every world unconditionally.

`Rng.backup_irs` proves this together with `entriesInRange` and needs `entriesInRange` of the store
and representable source times; neither matters for the length of a block: a block is either a
chunk of one file (`chunks_le`) or the combiner's buffer, which holds a concatenation of (prefixes
of) distinct source files — also after a failed flush, when the buffer is put back and keeps growing,
which is why the bound is on the SUM of the file sizes and not on `maxBlockSize + smallFileCap`.
The walk over the main part is that of Proofs/BackupLoop.lean, as for `Rng.backup_spec`, with store
invariant `BlocksSmall` (`Rng.smallInv`) and the writer invariant cut down to `Rng.WB`: buffer length +
bytes still to be read < 2^64.  No property statements here.
-/
namespace Conserve.Gaps.Kinds
open Conserve Conserve.Inv Conserve.Conf Conserve.Rng Prog

theorem AllOps.ro_small {α : Type} {p : Prog α} (h : Prog.AllOps ReadOnly p) : Prog.AllOps SmallOp p :=
  h.mono fun _ ho => (ReadOnly.noDataWrite ho).goodOp.2

/-- **`delete_bands` (either mode) keeps `BlocksSmall` in every world**: it writes no block. -/
theorem delete_small (strict : Bool) (D : List Nat) (o : DeleteOpts) (w : World)
    (h : Exact.BlocksSmall w.store) : Exact.BlocksSmall ((deleteBands strict D o).run w).2.store :=
  smallInv.run ((deleteBands_nhw strict D o).mono fun _ ho => ho.goodOp.2) w h

section
variable (H : Str → Str)

/-- `IndexWriter::finish_hunk` in every world: it writes an index hunk, no block, and leaves the
combiner's buffer alone. -/
theorem finishHunk_smallInv {rem : Nat} (wr : Writer) (hwr : WB rem wr) :
    HSat smallInv (finishHunk wr) (fun wr' => WB rem wr') := by
  refine HSat.of_ops ((finishHunk_tree wr).allOps.mono fun _ ho => ?_) fun w wr' h => ?_
  · cases ho with
    | dir => exact smallInv.dir _
    | hunk => exact fun _ _ _ ho => (nomatch ho)
  · cases (finishHunk_tree wr).run h <;> exact hwr

theorem flushGroup_smallInv {rem : Nat} (wr : Writer) (hwr : WB rem wr) :
    HSat smallInv (flushGroup H wr) (fun wr' => WB rem wr') := by
  unfold flushGroup
  simp only [Prog.bind_def]
  refine HSat.bind (HSat.of_ops (combinerFlush_ops H smallInv wr hwr)
    fun w x hx => ((Blk.combinerFlush_carries H wr).returns w x hx).bufBound hwr) ?_
  rintro ⟨wr1, r⟩ hwr1
  cases r with
  | error e => exact HSat.fail
  | ok u => exact finishHunk_smallInv _ hwr1

theorem wbInv (o : BackupOpts) :
    LoopInvW H o (fun _ w' => Exact.BlocksSmall w'.store) (fun todo _ wr => WB (srcBytes todo) wr)
      (fun _ _ _ => True) where
  frame := ⟨fun _ _ _ _ h => h, fun h => h, fun _ h => h⟩
  carry _ h := h
  events _ h := h
  setStats _ h := h
  copyEntry wr basis sf hw hwr _ :=
    have hwr' : WB (fileBytes sf + srcBytes _) wr := by simpa [srcBytes] using hwr
    HSat.of_ops (copyEntry_ops H smallInv o wr basis sf hwr')
      (fun w x hx => ((Blk.copyEntry_carries H o wr basis sf).returns w x hx).bufBound hwr') _ hw
  flushGroup wr hw hwr := flushGroup_smallInv H wr hwr _ hw
  close wr hw _ :=
    have h : HSat smallInv (bandClose wr.band wr.hunksWritten) (fun _ => True) :=
      performUnit_hsat smallInv fun _ _ _ h => (nomatch h)
    h _ hw

end

/-- **`backup` keeps `BlocksSmall` in every world**: any faults, any crash point, dead or alive, any
options, any hash function, any store (no format invariant, no `entriesInRange`), sorted source or
not, whatever its modification times — provided the contents of its regular files add up to less
than 2^64 bytes. -/
theorem backup_small (H : Str → Str) (o : BackupOpts) {src : List SrcEntry} (hsrc : srcBytes src < u64)
    (w : World) (h : Exact.BlocksSmall w.store) : Exact.BlocksSmall ((backup H o src).run w).2.store := by
  rw [backup_eq]
  have hnd : ∀ o, NoDataWrite o → SmallOp o := fun _ ho => ho.goodOp.2
  have hpre := backupPrelude_hsat smallInv hnd (B := fun _ => True) fun _ _ _ _ _ _ => trivial
  exact ((HSat.bind hpre fun x _ w1 hw1 => backupMain_framed (wbInv H o) x w1 hw1
    (by unfold WB; simpa using hsrc) fun _ _ _ _ => trivial) w h).1

end Conserve.Gaps.Kinds
