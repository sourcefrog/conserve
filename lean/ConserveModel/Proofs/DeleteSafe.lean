import ConserveModel.Proofs.DeleteClean
import ConserveModel.Proofs.ReadOnlyProg
import ConserveModel.Proofs.Footprint
/-
`deleteBands` in ANY world (arbitrary faults, any crash point, dead or alive):
which keys it can touch (read off its footprint, Proofs/Footprint.lean; a dry run only reads and
handles `GC_LOCK`); what the readers it starts with return when they return at all (`*_sound`); and,
for the strict scan, the footprint of the run (`deleteBands_runOps`): the only blocks it removes are
ones no hunk of a band outside `D` names.  Helper lemmas for Props/C05.lean and Props/C07d.lean.
-/
set_option linter.unusedSimpArgs false
namespace Conserve
open Prog

def FrameOff (Touch : Key → Prop) (s s' : Store) : Prop := ∀ k, ¬ Touch k → s'.get? k = s.get? k

theorem FrameOff.refl (Touch : Key → Prop) (s : Store) : FrameOff Touch s s := fun _ _ => rfl

theorem FrameOff.trans {Touch : Key → Prop} {a b c : Store} (h1 : FrameOff Touch a b)
    (h2 : FrameOff Touch b c) : FrameOff Touch a c := fun k hk => (h2 k hk).trans (h1 k hk)

def TouchesOnly {α : Type} (Touch : Key → Prop) (p : Prog α) : Prop :=
  Prog.AllOps (fun o => ∀ k, Op.affects o k = true → Touch k) p

theorem TouchesOnly.frame {α : Type} {Touch : Key → Prop} {p : Prog α} (hp : TouchesOnly Touch p)
    (w : World) : FrameOff Touch w.store (p.run w).2.store := fun k hk =>
  ((hp.runOps w).mono fun o ho => by
    cases h : Op.affects o k with
    | false => rfl
    | true => exact absurd (ho k h) hk).get?_eq

theorem affects_of_ro {o : Op} (h : o.isMutating = false) (k : Key) : Op.affects o k = false := by
  cases o <;> simp [Op.isMutating] at h <;> rfl

/-- Keys `delete_bands D` may change: the lock file, anything at or under a band directory of `D`,
and block files whose hash satisfies `Q`. -/
def DelTouch (D : List Nat) (Q : Str → Prop) (k : Key) : Prop :=
  k = .gcLock ∨ underAny D k = true ∨ ∃ h, k = .block h ∧ Q h

theorem GcOp.touches {D : List Nat} {Q : Str → Prop} {o : Op} (h : GcOp D Q o) :
    ∀ k, Op.affects o k = true → DelTouch D Q k := by
  intro k hk
  cases h with
  | rd hr => rw [affects_of_ro hr.not_mutating] at hk; cases hk
  | lock => exact .inl (by simpa [Op.affects] using hk)
  | unlock => exact .inl (by simpa [Op.affects] using hk)
  | band hb => exact .inr (.inl (underAny_eq_true.2 ⟨_, hb, isUnder_bandDir_iff.1 hk⟩))
  | block hq => exact .inr (.inr ⟨_, by simpa [Op.affects] using hk, hq⟩)

theorem touches_deleteBands (strict : Bool) (D : List Nat) (o : DeleteOpts) :
    TouchesOnly (DelTouch D fun _ => True) (deleteBands strict D o) :=
  (deleteBands_fp strict D o).mono fun _ h => h.touches

theorem GcOp.lock_touches {o : Op} (h : GcOp [] (fun _ => False) o) :
    ∀ k, Op.affects o k = true → k = .gcLock := by
  intro k hk
  rcases h.touches k hk with rfl | hu | ⟨_, _, hf⟩
  · rfl
  · simp [underAny] at hu
  · exact hf.elim

/-- A program whose footprint is the lock-only one changes no key but `GC_LOCK`. -/
theorem touchesLock_of_fp {α : Type} {p : Prog α} (h : AllOps (GcOp [] fun _ => False) p) :
    TouchesOnly (fun k => k = .gcLock) p := h.mono fun _ => GcOp.lock_touches

/-- **Program text, hence every world:** with `dry_run` set, `delete_bands` only reads, and writes and
removes `GC_LOCK` — for both versions of the reference scan, any `D`, with or without `--break-lock`. -/
theorem deleteBands_dry_fp (strict : Bool) (D : List Nat) (o : DeleteOpts) (hdry : o.dryRun = true) :
    AllOps (GcOp [] fun _ => False) (deleteBands strict D o) := by
  have rd : ∀ {α : Type} {K : Key → Prop} {p : Prog α}, AllOps (Rd K) p → AllOps (GcOp [] fun _ => False) p :=
    fun hp => hp.of_rd fun _ => .rd
  rw [deleteBands_eq]
  refine .bind (acquire_fp o) fun held => .bind (.attemptAll ?_) withLock_tail_fp
  rw [deleteBody_eq]
  refine .bind (rd (listBandIds_fp (K := (· = .root)) rfl)) fun all =>
    .bind (rd (referencedBlocks_fp strict _)) fun _ => ?_
  simp only [bodyRest, hdry, if_true]
  exact .bind (rd listBlocks_fp) fun _ => .bind (rd (deleteBody_measure_fp _)) fun _ =>
    .bind (.ret _) fun _ => .bind (performUnit_allOps .unlock) fun _ => .ret _

theorem GcOp.lockOnly {o : Op} (h : GcOp [] (fun _ => False) o) :
    o.isMutating = false ∨ (o.key = .gcLock ∧ ∀ k, o ≠ .removeDirAll k) := by
  cases h with
  | rd hr => exact .inl hr.not_mutating
  | lock => exact .inr ⟨rfl, fun _ e => nomatch e⟩
  | unlock => exact .inr ⟨rfl, fun _ e => nomatch e⟩
  | band hb => cases hb
  | block hq => exact hq.elim

/-- **Frame, all worlds, both versions of the code.**  Whatever faults are injected and wherever the
run is killed, `delete_bands D` leaves every key alone that is not the lock file, not at or
under a band directory of `D`, and not a block file. -/
theorem deleteBands_frame (strict : Bool) (D : List Nat) (o : DeleteOpts) (w : World) (k : Key)
    (h1 : k ≠ .gcLock) (h2 : underAny D k = false) (h3 : ∀ h, k ≠ .block h) :
    ((deleteBands strict D o).run w).2.store.get? k = w.store.get? k := by
  apply (touches_deleteBands strict D o).frame w k
  rintro (h | h | ⟨h, hk, _⟩)
  · exact h1 h
  · rw [h2] at h; cases h
  · exact h3 h hk

theorem run_op_ro_inv {α : Type} {o : Op} (k : Resp → Prog α) (w : World) (ho : o.isMutating = false) :
    ∃ w' r, (Prog.op o k).run w = (k r).run w' ∧ w'.store = w.store ∧
      (r = roResp w.store o ∨ ∃ e, r = .err e) := by
  obtain ⟨hs, hr⟩ := World.exec_ro_cases w ho
  exact ⟨_, _, Prog.run_op o k w, hs, hr⟩

theorem run_bind_ok_readOnly {α β : Type} {p : Prog α} {f : α → Prog β} {w : World} {c : β}
    (hp : AllOps ReadOnly p) (h : ((p.bind f).run w).1 = .ok c) :
    ∃ a w', p.run w = (.ok a, w') ∧ w'.store = w.store ∧ ((f a).run w').1 = .ok c := by
  obtain ⟨a, ha, hrun⟩ := Prog.run_bind_ok_split h
  refine ⟨a, (p.run w).2, ?_, Prog.run_readOnly_store hp w, ?_⟩
  · rw [← ha]
  · rw [← hrun]; exact h

theorem run_listDir_inv {α : Type} (K : Key) (k : Resp → Prog α) (w : World) :
    ∃ w' r, (Prog.op (.listDir K) k).run w = (k r).run w' ∧ w'.store = w.store ∧
      (r = .listing (w.store.children K) ∨ ∃ e, r = .err e) := by
  obtain ⟨w', r, hrun, hst, hr⟩ := run_op_ro_inv (o := .listDir K) k w rfl
  refine ⟨w', r, hrun, hst, ?_⟩
  rcases hr with rfl | he
  · simp only [roResp, listResp]
    split <;> simp
  · exact .inr he

theorem listBandIds_sound {w : World} {all : List Nat} (h : (listBandIds.run w).1 = .ok all) :
    all = bandIdsOf w.store := by
  simp only [listBandIds, perform, bind_def, op_bind, ret_bind, pure_def] at h
  obtain ⟨w', r, hrun, _, rfl | ⟨e, rfl⟩⟩ := run_listDir_inv .root _ w <;> rw [hrun] at h
  · simp only [run_ret, Outcome.ok.injEq] at h
    rw [← h]
    exact bandIds_listing w.store
  · simp at h

theorem hunksAvailable_go_sound (b : Nat) (ds : List Nat) :
    ∀ (acc : List Nat) (w : World) (hs : List Nat), ((hunksAvailable.go b ds acc).run w).1 = .ok hs →
      (∀ n ∈ acc, n ∈ hs) ∧ ∀ d ∈ ds, ∀ n ∈ hunksInDir w.store b d, n ∈ hs := by
  induction ds with
  | nil =>
    intro acc w hs h
    simp only [hunksAvailable.go, pure_def, run_ret, Outcome.ok.injEq] at h
    subst h
    exact ⟨fun _ h => h, by simp⟩
  | cons d ds ih =>
    intro acc w hs h
    simp only [hunksAvailable.go, perform, bind_def, op_bind, ret_bind] at h
    obtain ⟨w', r, hrun, hst, rfl | ⟨e, rfl⟩⟩ := run_listDir_inv (.hunkDir b d) _ w <;> rw [hrun] at h
    · obtain ⟨h1, h2⟩ := ih _ w' hs h
      rw [hst] at h2
      refine ⟨fun n hn => h1 n (List.mem_append_left _ hn), ?_⟩
      intro d' hd' n hn
      rcases List.mem_cons.1 hd' with rfl | hd'
      · have hn' := (hunksInDir_listing w.store b d').symm ▸ hn
        exact h1 n (List.mem_append_right _ hn')
      · exact h2 d' hd' n hn
    · simp at h

theorem hunksAvailable_sound {b : Nat} {w : World} {hs : List Nat}
    (h : ((hunksAvailable b).run w).1 = .ok hs) {n : Nat}
    (hd : (Key.hunkDir b (n / hunksPerSubdir), FileVal.dir) ∈ w.store)
    (hn : ∃ v, (Key.hunk b n, v) ∈ w.store ∧ v.isDir = false) : n ∈ hs := by
  simp only [hunksAvailable, perform, bind_def, op_bind, ret_bind] at h
  obtain ⟨w', r, hrun, hst, rfl | ⟨e, rfl⟩⟩ := run_listDir_inv (.indexDir b) _ w <;> rw [hrun] at h
  · obtain ⟨_, h2⟩ := hunksAvailable_go_sound b _ _ w' hs h
    rw [hst] at h2
    refine h2 (n / hunksPerSubdir) ?_ n (mem_hunksInDir.2 ⟨rfl, hn⟩)
    exact (hunkDirs_listing w.store b).symm ▸ mem_hunkDirsOf.2 hd
  · simp at h

theorem readHunk_sound {b n : Nat} {w : World} {es' : List IndexEntry}
    (h : ((readHunk b n).run w).1 = .ok (some es')) :
    ∀ es, hunkAt w.store b n = some es → es' = es := by
  intro es hes
  simp only [readHunk, perform, bind_def, op_bind, ret_bind, pure_def] at h
  obtain ⟨w', r, hrun, _, hr⟩ := run_op_ro_inv (o := .read (.hunk b n)) _ w rfl
  rw [hrun] at h
  rcases hr with rfl | ⟨e, rfl⟩
  · simp only [roResp, readResp, hunkAt_eq_some_iff.1 hes] at h
    split at h
    · simp at h; exact h.symm
    · simp at h
  · cases e <;> simp at h

/-- Whatever `read_hunk` returns has passed `IndexEntry::check`. -/
theorem readHunk_usable {b n : Nat} {w : World} {es : List IndexEntry}
    (h : ((readHunk b n).run w).1 = .ok (some es)) : es.all entryUsable = true := by
  simp only [readHunk, perform, bind_def, op_bind, ret_bind, pure_def] at h
  obtain ⟨w', r, hrun, _, hr⟩ := run_op_ro_inv (o := .read (.hunk b n)) _ w rfl
  rw [hrun] at h
  rcases hr with rfl | ⟨e, rfl⟩
  · simp only [roResp, readResp] at h
    cases hg : w.store.get? (.hunk b n) with
    | none => simp [hg] at h
    | some v =>
      cases v with
      | hunk es0 =>
        simp only [hg] at h
        split at h
        · rename_i hu
          simp at h; subst h; simpa using hu
        · simp at h
      | empty => simp [hg] at h; subst h; rfl
      | _ => simp [hg] at h
  · cases e <;> simp at h

theorem bandHunkEntries_sound (b : Nat) (ns : List Nat) :
    ∀ (w : World) (all : List IndexEntry), ((bandHunkEntries true b ns).run w).1 = .ok all →
      ∀ n ∈ ns, ∀ es, hunkAt w.store b n = some es → ∀ e ∈ es, e ∈ all := by
  induction ns with
  | nil => intro w all _ n hn; cases hn
  | cons m ns ih =>
    intro w all h n hn es hes e he
    simp only [bandHunkEntries, bind_def, pure_def] at h
    obtain ⟨r, w1, hr, hst, h⟩ := run_bind_ok_readOnly (readHunk_fp b m).rd_ro.attempt h
    rw [Prog.run_attempt] at hr
    rcases hrun : (readHunk b m).run w with ⟨o, w1'⟩
    rw [hrun] at hr
    cases o with
    | ok x =>
      simp only [Prod.mk.injEq, Outcome.ok.injEq] at hr
      obtain ⟨rfl, rfl⟩ := hr
      cases x with
      | none => simp at h
      | some es' =>
        simp only at h
        obtain ⟨more, w2, hmore, _, h⟩ := run_bind_ok_readOnly (bandHunkEntries_fp true b ns).rd_ro h
        simp only [run_ret, Outcome.ok.injEq] at h
        subst h
        have hes' : ∀ es, hunkAt w.store b m = some es → es' = es := readHunk_sound (by rw [hrun])
        rcases List.mem_cons.1 hn with rfl | hn
        · rw [hes' es hes]
          exact List.mem_append_left _ he
        · refine List.mem_append_right _ ?_
          have hm1 : ((bandHunkEntries true b ns).run w1').1 = .ok more := by rw [hmore]
          exact ih w1' more hm1 n hn es (by rw [hst]; exact hes) e he
    | err e' =>
      simp only [Prod.mk.injEq, Outcome.ok.injEq] at hr
      obtain ⟨rfl, rfl⟩ := hr
      simp at h
    | panic s => simp at hr

def HunkFilesOk (s : Store) (b : Nat) : Prop :=
  ∀ n v, s.get? (.hunk b n) = some v → s.get? (.hunkDir b (n / hunksPerSubdir)) = some .dir

/-- **The crux of D6.**  Strict mode, any world (any faults, crash point): if `referenced_blocks`
returns at all, its result contains every hash named by any decodable hunk of the given bands.
A failing read can only make it fail, never shrink the set. -/
theorem referencedBlocks_sound (bs : List Nat) :
    ∀ (w : World) (refs : List Str), ((referencedBlocks true bs).run w).1 = .ok refs →
      ∀ b ∈ bs, HunkFilesOk w.store b → ∀ n es, hunkAt w.store b n = some es →
        ∀ e ∈ es, ∀ a ∈ e.addrs, a.hash ∈ refs := by
  induction bs with
  | nil => intro w refs _ b hb; cases hb
  | cons b' bs ih =>
    intro w refs h b hb hok n es hes e he a ha
    simp only [referencedBlocks, bind_def, pure_def, if_true] at h
    obtain ⟨_, w1, _, hst1, h⟩ := run_bind_ok_readOnly (bandOpen_fp (K := Key.inBand) trivial).rd_ro h
    obtain ⟨hunks, w2, hh, hst2, h⟩ := run_bind_ok_readOnly (hunksAvailable_fp b').rd_ro h
    obtain ⟨all, w3, hall, hst3, h⟩ := run_bind_ok_readOnly (bandHunkEntries_fp true b' hunks).rd_ro h
    obtain ⟨more, w4, hmore, _, h⟩ := run_bind_ok_readOnly (referencedBlocks_fp true bs).rd_ro h
    simp only [run_ret, Outcome.ok.injEq] at h
    subst h
    rw [mem_dedupStr, List.mem_append]
    have e1 : w1.store = w.store := hst1
    have e2 : w2.store = w.store := hst2.trans e1
    have e3 : w3.store = w.store := hst3.trans e2
    rcases List.mem_cons.1 hb with rfl | hb
    · left
      have hg := hunkAt_eq_some_iff.1 hes
      have hn : n ∈ hunks := by
        refine hunksAvailable_sound (w := w1) (by rw [hh]) ?_ ?_
        · rw [e1]; exact Store.mem_of_get? (hok n _ hg)
        · rw [e1]; exact ⟨_, Store.mem_of_get? hg, rfl⟩
      have := bandHunkEntries_sound b hunks w2 all (by rw [hall]) n hn es (by rw [e2]; exact hes) e he
      exact List.mem_flatMap.2 ⟨e, this, List.mem_map.2 ⟨a, ha, rfl⟩⟩
    · right
      exact ih w3 more (by rw [hmore]) b hb (by rw [e3]; exact hok) n es (by rw [e3]; exact hes) e he a ha

theorem listBlocks_go_sound (ps : List Str) :
    ∀ (acc : List Str) (w : World) (hs : List Str), ((listBlocks.go ps acc).run w).1 = .ok hs →
      hs = blockNamesFrom w.store ps acc := by
  induction ps with
  | nil =>
    intro acc w hs h
    simp only [listBlocks.go, pure_def, run_ret, Outcome.ok.injEq] at h
    subst h; rfl
  | cons p ps ih =>
    intro acc w hs h
    simp only [listBlocks.go, perform, bind_def, op_bind, ret_bind] at h
    obtain ⟨w', r, hrun, hst, rfl | ⟨e, rfl⟩⟩ := run_listDir_inv (.blockDir p) _ w <;> rw [hrun] at h
    · have := ih _ w' hs h
      rw [hst] at this
      rw [this, blockNamesFrom]
      exact congrArg (fun x => blockNamesFrom w.store ps (acc ++ x.filter fun h => !acc.contains h))
        (blocksInDir_listing w.store p)
    · simp at h

/-- In ANY world: if `list_blocks` returns at all, it returns exactly what the store holds
(`blockNamesOf`).  A fault on the listing of `d/` or of any single subdirectory `d/xxx` makes the
whole call fail; it can never return a shorter list. -/
theorem listBlocks_sound {w : World} {hs : List Str} (h : (listBlocks.run w).1 = .ok hs) :
    hs = blockNamesOf w.store := by
  simp only [listBlocks, perform, bind_def, op_bind, ret_bind] at h
  obtain ⟨w', r, hrun, hst, rfl | ⟨e, rfl⟩⟩ := run_listDir_inv .blockRoot _ w <;> rw [hrun] at h
  · have := listBlocks_go_sound _ _ w' hs h
    rw [hst] at this
    rw [this, blockNamesOf]
    exact congrArg (fun x => blockNamesFrom w.store x []) (blockSubdirs_listing w.store)
  · simp at h

/-- Hash `h` is named by an entry of a decodable hunk of some band that is not in `D`. -/
def referencedOutside (s : Store) (D : List Nat) (h : Str) : Prop :=
  ∃ b, b ∉ D ∧ ∃ n es, hunkAt s b n = some es ∧ ∃ e ∈ es, ∃ a ∈ e.addrs, a.hash = h

/-- Every hunk file sits in a subdirectory that is a directory, inside a band whose directory is a
directory (a consequence of `DirsOk`). -/
def HunkTreeOk (s : Store) : Prop :=
  ∀ b n v, s.get? (.hunk b n) = some v →
    s.get? (.hunkDir b (n / hunksPerSubdir)) = some .dir ∧ s.get? (.bandDir b) = some .dir

theorem DirsOk.hunkTreeOk {s : Store} (hd : DirsOk s) : HunkTreeOk s := by
  intro b n v hv
  have h1 := hd.parent_of_get? hv
  simp only [Store.parentOk, Key.parent, beq_iff_eq] at h1
  have h2 := hd.parent_of_get? h1
  simp only [Store.parentOk, Key.parent, beq_iff_eq] at h2
  have h3 := hd.parent_of_get? h2
  simp only [Store.parentOk, Key.parent, beq_iff_eq] at h3
  exact ⟨h1, h3⟩

theorem HunkTreeOk.of_frame {s s' : Store} (hok : HunkTreeOk s) (hf : FrameOff (fun k => k = .gcLock) s s') :
    HunkTreeOk s' := by
  intro b n v hv
  rw [hf _ (by simp)] at hv
  rw [hf _ (by simp), hf _ (by simp)]
  exact hok b n v hv

theorem referencedOutside.of_frame {s s' : Store} {D : List Nat} {h : Str} (href : referencedOutside s D h)
    (hf : FrameOff (fun k => k = .gcLock) s s') : referencedOutside s' D h := by
  obtain ⟨b, hbD, n, es, hes, rest⟩ := href
  exact ⟨b, hbD, n, es, (hunkAt_congr (hf _ (by simp))).trans hes, rest⟩

theorem referencedBlocks_covers {D : List Nat} {w : World} {refs : List Str} (hok : HunkTreeOk w.store)
    (hrefs : ((referencedBlocks true ((bandIdsOf w.store).filter fun b => !D.contains b)).run w).1 = .ok refs)
    {h : Str} (href : referencedOutside w.store D h) : h ∈ refs := by
  obtain ⟨b, hbD, n, es, hes, e, he, a, ha, rfl⟩ := href
  have hv := hok b n _ (hunkAt_eq_some_iff.1 hes)
  refine referencedBlocks_sound _ w refs hrefs b ?_ (fun n' v' hv' => (hok b n' v' hv').1) n es hes e he a ha
  rw [List.mem_filter]
  exact ⟨mem_bandIdsOf'.2 (Store.mem_of_get? hv.2), by simpa using hbD⟩

theorem not_delTouch_block {D : List Nat} {Q : Str → Prop} {h : Str} (hq : ¬ Q h) : ¬ DelTouch D Q (.block h) := by
  rintro (e | e | ⟨h', e, hn⟩)
  · cases e
  · simp at e
  · cases e; exact hq hn

/-- **`delete_bands`, strict scan, EVERY world**: whatever faults are injected and wherever the run is
killed, the operations it executes on a store whose hunk files sit in real directories are reads,
the write and the removal of the lock file, `removeDirAll` of directories of `D`, and `removeFile`
of blocks that no decodable hunk of a band outside `D` names.  Everything before the removals is
read-only or handles only the lock, `referencedBlocks_covers` says what the collected list
contains, and `deleteBody_tail_fp` that the tail removes only blocks outside it. -/
theorem deleteBody_runOps (D : List Nat) (o : DeleteOpts) (held : Option Nat) (w : World)
    (hok : HunkTreeOk w.store) :
    RunOps (GcOp D fun h => ¬ referencedOutside w.store D h) (deleteBody true D o held) w := by
  obtain ⟨tail, heq, hops⟩ := deleteBody_tail_fp true D o held
  rw [heq]
  have rd : ∀ {β : Type} {K : Key → Prop} {p : Prog β} (w' : World), AllOps (Rd K) p →
      RunOps (GcOp D fun h => ¬ referencedOutside w.store D h) p w' :=
    fun w' hp => (hp.of_rd fun _ => GcOp.rd).runOps w'
  have hro := (listBandIds_fp (K := (· = .root)) rfl).rd_ro
  refine .bind (rd w (listBandIds_fp (K := (· = .root)) rfl)) fun all w1 h1 => ?_
  have e1 : w1.store = w.store := by have := Prog.run_readOnly_store hro w; rwa [h1] at this
  have hall : all = bandIdsOf w1.store := e1 ▸ listBandIds_sound (w := w) (by rw [h1])
  refine .bind (rd w1 (referencedBlocks_fp true _)) fun refs w2 h2 => ?_
  refine .bind (rd w2 listBlocks_fp) fun present w3 _ => ?_
  refine ((hops refs present).runOps w3).mono fun _ h => h.mono fun x hx href => hx.2 ?_
  exact referencedBlocks_covers (w := w1) (e1 ▸ hok) (by rw [← hall, h2]) (e1 ▸ href)

theorem deleteBands_runOps (D : List Nat) (o : DeleteOpts) (w : World) (hok : HunkTreeOk w.store) :
    RunOps (GcOp D fun h => ¬ referencedOutside w.store D h) (deleteBands true D o) w := by
  rw [deleteBands_eq]
  refine .bind (((acquire_fp o).runOps w).mono fun _ => GcOp.of_lockOnly) fun held w1 h1 => ?_
  have hacq : FrameOff (fun k => k = .gcLock) w.store w1.store := by
    have := (touchesLock_of_fp (acquire_fp o)).frame w; rwa [h1] at this
  refine .bind (.attemptAll ((deleteBody_runOps D o held w1 (hok.of_frame hacq)).mono fun _ h =>
    h.mono fun x hx hr => hx (hr.of_frame hacq))) fun r w2 _ =>
      ((withLock_tail_fp r).runOps w2).mono fun _ => GcOp.of_lockOnly

/-- **Safety in every world** (strict mode): with arbitrary injected faults (on any operation, of any
kind), killed at any micro-step or not at all, `delete_bands D` does not change any block
that is named by a decodable hunk of a band outside `D`. -/
theorem deleteBands_safe (D : List Nat) (o : DeleteOpts) (w : World)
    (hok : HunkTreeOk w.store) {h : Str} (href : referencedOutside w.store D h) :
    ((deleteBands true D o).run w).2.store.get? (.block h) = w.store.get? (.block h) := by
  refine ((deleteBands_runOps D o w hok).mono fun o ho => ?_).get?_eq
  cases ha : o.affects (.block h) with
  | false => rfl
  | true => exact absurd (ho.touches _ ha) (not_delTouch_block fun hq => hq href)

end Conserve
