import ConserveModel.Proofs.CrashBand
import ConserveModel.Proofs.ExclSymlink
/-
Restoring a version of a good archive when nothing listed lies below a listed symlink: one node per
listed entry (`nodeOf`), nothing reported (`restore_nodes_of_good`); and the same for a version whose
listing is its own entries followed by entries of an earlier archive — the version a killed backup left —
whose nodes are the NEW content for what it recorded and the OLD nodes for what it takes from the
previous version (`restore_new_then_old`).  No property statements here.
-/
set_option linter.unusedSimpArgs false
namespace Conserve.Crash
open Conserve Conserve.Exact Conserve.Inv Conserve.Conf Conserve.Fault Conserve.Hist Conserve.Rng Prog

variable {H : Str → Str} {o : BackupOpts}

theorem readBack_some_of_addrs {s : Store} : ∀ {as : List Addr},
    (∀ a ∈ as, (readAddrPure H s a).isSome = true) → ∃ x, readBack H s as = some x := by
  intro as
  induction as with
  | nil => intro _; exact ⟨[], rfl⟩
  | cons a as ih =>
    intro h
    obtain ⟨y, hy⟩ := Option.isSome_iff_exists.mp (h a (List.mem_cons_self ..))
    obtain ⟨z, hz⟩ := ih (fun a' ha' => h a' (List.mem_cons_of_mem _ ha'))
    exact ⟨y ++ z, by simp [readBack, hy, hz]⟩

theorem listed_readable {s : Store} (hd : NoDangling H s) {n : Nat} {e : IndexEntry} (he : e ∈ listSpec s n) :
    (readContentP H s e.addrs []).2 = none := by
  obtain ⟨b, k, es, hg, _, hee⟩ := C08.listed_is_stored he
  obtain ⟨x, hx⟩ := readBack_some_of_addrs (hd b k es (by simp [hunkAt, hg]) e hee)
  rw [readContentP_of_readBack hx []]

theorem headOutcome_of_bandReadable {s : Store} {b : Nat} (h : bandReadable s b = true) : headOutcome s b = .ok () := by
  unfold bandReadable at h
  unfold headOutcome
  cases hg : s.get? (.bandHead b) with
  | none => simp [hg] at h
  | some v =>
    cases v with
    | head ver flags =>
      simp only [hg, Bool.and_eq_true, Bool.or_eq_true, beq_iff_eq] at h
      rcases h.1.1 with rfl | rfl <;> simp [h.1.2]
    | _ => simp [hg] at h

theorem mem_bandIds_of_readable {s : Store} (hd : DirsOk s) {b : Nat} (h : bandReadable s b = true) :
    b ∈ bandIdsOf s := by
  unfold bandReadable at h
  simp only [Bool.and_eq_true, beq_iff_eq] at h
  have := hd.parent_of_get? h.2
  exact mem_bandIdsOf_of_get? (by simpa [Store.parentOk, Key.parent] using this)

theorem restore_nodes_of_good {src : List SrcEntry} {s : Store} (hg : ArchiveGood H src s) {b : Nat}
    (hread : bandReadable s b = true) (hnb : NoneBelowSymlink (listSpec s b)) :
    ((restore H (.specified b) [slash] (fun _ => false)).run (World.clean s)).1
        = .ok ((listSpec s b).map (nodeOf H s)) ∧
      ((restore H (.specified b) [slash] (fun _ => false)).run (World.clean s)).2.events = [] := by
  have hmem := mem_bandIds_of_readable hg.st.dirsOk hread
  have hsilent : listErrors s b = [] :=
    C08.stitch_silent b (fun c hc => hg.bands c (mem_chain_bandIds hg.st.dirsOk hmem hc))
      (fun c _ => hg.headLost_false c)
  have hP : restoreP H s [] (listSpec s b) = (.ok ((listSpec s b).map (nodeOf H s)), []) :=
    restoreP_nodes hnb (fun e he => C08.listed_usable he) (fun e he _ => listed_readable hg.noDangling he)
  have hrun := (restore_specified_runs (H := H) hg.wf hg.st b).clean
  simp only [restoreSpecP, headOutcome_of_bandReadable hread, hsilent, hP, List.map_nil, List.reverse_nil,
    List.append_nil] at hrun
  exact ⟨hrun.1, hrun.2.2⟩

theorem map_nodeOf_records {s : Store} {pre : List SrcEntry} {own : List IndexEntry}
    (h : Paired (Records H o s) pre own) : own.map (nodeOf H s) = pre.map (expectedNode o) :=
  (h.map_eq _ _ fun _ _ hr => (nodeOf_records hr).symm).symm

theorem nodeOf_old {s s' : Store} (hd : NoDangling H s) (hx : Extends s s') {n : Nat} {e : IndexEntry}
    (he : e ∈ listSpec s n) : nodeOf H s' e = nodeOf H s e := by
  obtain ⟨h1, h2⟩ := readContentP_content (listed_blockContent hd hx he) []
  unfold nodeOf
  rw [h1, ← Option.isNone_map, h2, Option.isNone_map]

theorem restore_new_then_old {src pre : List SrcEntry} {s s' : Store} {n m : Nat} {old : List IndexEntry}
    (hg' : ArchiveGood H src s') (hread : bandReadable s' n = true) (hnb : NoneBelowSymlink (listSpec s' n))
    (hx : Extends s s') (hd : NoDangling H s) (hrec : Paired (Records H o s') pre (bandEntries s' n))
    (hl : listSpec s' n = bandEntries s' n ++ old) (hold : ∀ e ∈ old, e ∈ listSpec s m) :
    ((restore H (.specified n) [slash] (fun _ => false)).run (World.clean s')).1
        = .ok (pre.map (expectedNode o) ++ old.map (nodeOf H s)) ∧
      ((restore H (.specified n) [slash] (fun _ => false)).run (World.clean s')).2.events = [] := by
  obtain ⟨h1, h2⟩ := restore_nodes_of_good hg' hread hnb
  rw [hl, List.map_append, map_nodeOf_records hrec,
    List.map_congr_left fun e he => nodeOf_old hd hx (hold e he)] at h1
  exact ⟨h1, h2⟩

end Conserve.Crash
