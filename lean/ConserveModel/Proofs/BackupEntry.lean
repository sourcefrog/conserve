import ConserveModel.Proofs.BackupCombiner
import ConserveModel.Props.C01
/-
Recording one source entry: the writer invariant of C04 through `copy_entry` in all worlds, from what
`copy_entry` returns (`Blk.Copied`, Proofs/BlockSpec.lean).  No property statements here.
-/
namespace Conserve.Inv
open Conserve Prog

/-- Source well-formedness: for files, `st_size` is the length of what reading returns. -/
def SrcWF (src : List SrcEntry) : Prop :=
  ∀ sf ∈ src, sf.kind = .file → sf.size = sf.content.length

section
variable {H : Str → Str} {src : List SrcEntry} {s0 : Store}

/-- What `copy_entry` has recorded is right in the store it leaves: a stored file reads back chunk
by chunk to what was read; reused basis addresses read back by the assumption `hbasis`, which is the
one the tool itself makes when it reuses them. -/
theorem _root_.Conserve.Blk.Copied.writerOK (hinj : Function.Injective H) {o : BackupOpts}
    (hmax : 0 < o.maxBlockSize) (hwf : SrcWF src) {sf : SrcEntry} {basis : Option IndexEntry} {wr : Writer}
    {s s' : Store} {x : Writer × Except Err (Option ChangeKind)} (h : Blk.Copied H o sf basis wr x)
    (hwr : WriterOK H src s wr) (hx : Extends s s') (hex : ExistsOK H s' x.1.exists_)
    (hsrc : sf.kind = .file → sf ∈ src)
    (hbasis : ∀ b, basis = some b → sf.kind = .file → heuristicallyUnchanged sf b = some true →
      (∀ a ∈ b.addrs, ∃ c, blockContent H s a.hash = some c) →
      readBack H s b.addrs = some (sf.content.take sf.size)) :
    WriterOK H src s' x.1 := by
  have hwr' := hwr.mono hx
  cases h with
  | skipped st => exact hwr'.setStats st
  | plain st r _ hz =>
    refine hwr'.pushPending ?_ st
    by_cases hk : sf.kind = .file
    · exact EntryOK.of_file (hsrc hk) rfl hk hk (by simp [metaOf, readBack, hz hk])
    · exact ⟨fun h => absurd h hk, fun _ => rfl⟩
  | reused b st ck hk hb hh hall =>
    refine hwr'.pushPending (EntryOK.of_file (hsrc hk) rfl hk hk ?_) st
    refine readBack_mono H (hbasis b hb hk hh fun a ha => hwr.exists_ a.hash ?_) hx
    simpa using (List.all_eq_true.mp hall) a ha
  | small st x r hk hp => exact hp.writerOK hinj (hwr.setStats st) hx hex (hsrc hk) hk
  | failed ex st e _ => exact hwr.setExists hx hex st
  | large ex st ck hk _ hall =>
    refine (hwr.setExists hx hex st).pushPending (EntryOK.of_file (hsrc hk) rfl hk hk ?_) st
    show readBack H s' ((chunks o.maxBlockSize sf.content).map (Blk.chunkAddr H)) = _
    rw [Blk.readBack_chunks hinj hex _ hall, C01.chunks_flatten _ hmax, hwf sf (hsrc hk) hk, List.take_length]

/-- `BackupWriter::copy_entry` in every world. -/
theorem copyEntry_spec (hinj : Function.Injective H) (o : BackupOpts) (hmax : 0 < o.maxBlockSize)
    (hwf : SrcWF src) (wr : Writer) (basis : Option IndexEntry) (sf : SrcEntry) (w : World)
    (hw : WOK H src s0 w) (hwr : WriterOK H src w.store wr) (hsrc : sf.kind = .file → sf ∈ src)
    (hbasis : ∀ b, basis = some b → sf.kind = .file → heuristicallyUnchanged sf b = some true →
      (∀ a ∈ b.addrs, ∃ c, blockContent H w.store a.hash = some c) →
      readBack H w.store b.addrs = some (sf.content.take sf.size)) :
    Sat H src s0 (copyEntry H o wr basis sf) w (fun x w' => WriterOK H src w'.store x.1) :=
  Sat.of_block (copyEntry_fp H o wr basis sf) (Blk.copyEntry_carries H o wr basis sf) hw hwr.exists_
    fun _ _ hf hr hex => hr.writerOK hinj hmax hwf hwr hf.ext hex hsrc hbasis

end

end Conserve.Inv
