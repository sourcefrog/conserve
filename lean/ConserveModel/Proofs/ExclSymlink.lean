import ConserveModel.Proofs.ExclRestore
/-
The per-entry loop of `restore()` on a filtered listing versus the filtered result of the loop on the
whole listing (`restoreP_filter`), for ANY listing whose entries pass `IndexEntry::check` — in
particular the stitched listing of an interrupted version.  The two agree provided no symlink
that the filter drops lies above an entry that the filter keeps (the symlink guard `belowSymlink`
sees only the entries the iterator yields).  Proved on the loop without panic leaves, one entry at a
time (`Contain.restoreP_cons`).  No property statements here.
-/
set_option linter.unusedSimpArgs false
namespace Conserve.Exact
open Conserve

variable {H : Str → Str}

/-- No symlink entry outside the selection lies strictly above (as `is_prefix_of` sees it) an entry
inside the selection. -/
def NoSymlinkAbove (inS : Str → Bool) (es : List IndexEntry) : Prop :=
  ∀ l ∈ es, l.kind = .symlink → inS l.apath = false → ∀ e ∈ es, inS e.apath = true →
    (l.apath != [slash] && l.apath != e.apath && isPrefixOfImpl l.apath e.apath) = false

theorem NoSymlinkAbove.subset {inS : Str → Bool} {es es' : List IndexEntry}
    (h : NoSymlinkAbove inS es) (hsub : ∀ e ∈ es', e ∈ es) : NoSymlinkAbove inS es' :=
  fun l hl hk hn e' he' => h l (hsub l hl) hk hn e' (hsub e' he')

theorem Outcome.map_ok {α β : Type} (f : α → β) (a : α) : Outcome.map f (.ok a) = .ok (f a) := rfl

theorem belowSymlink_nextSyms (syms : List Str) (e : IndexEntry) (a : Str) :
    belowSymlink (Contain.nextSyms syms e) a =
      ((decide (e.kind = .symlink ∧ e.target.isSome) && NP.strictlyBelow e.apath a) || belowSymlink syms a) := by
  unfold Contain.nextSyms
  split <;> rename_i h <;> simp [h, belowSymlink, NP.strictlyBelow]

/-- The loop without the panic leaves, on a filtered listing versus the filtered result of the loop on
the whole listing. -/
theorem restoreP_filter_pure (s : Store) (inS : Str → Bool) (es : List IndexEntry)
    (hns : NoSymlinkAbove inS es) :
    ∀ symsA symsS,
      (∀ e ∈ es, inS e.apath = true → belowSymlink symsS e.apath = belowSymlink symsA e.apath) →
      (NP.restoreP H s symsS (es.filter fun e => inS e.apath)).1
          = (NP.restoreP H s symsA es).1.filter (fun nd => inS nd.apath) ∧
        ((NP.restoreP H s symsS (es.filter fun e => inS e.apath)).2).Sublist (NP.restoreP H s symsA es).2 := by
  induction es with
  | nil => intro _ _ _; exact ⟨rfl, List.Sublist.refl _⟩
  | cons e es ih =>
    intro symsA symsS hag
    have ih := ih (hns.subset fun _ h => List.mem_cons_of_mem _ h)
    have hag' : ∀ e' ∈ es, inS e'.apath = true → belowSymlink symsS e'.apath = belowSymlink symsA e'.apath :=
      fun e' he' => hag e' (List.mem_cons_of_mem _ he')
    -- the node of `e`, if any, is selected iff `e` is
    have hnode : (Contain.nodeP H s e).toList.filter (fun nd => inS nd.apath) =
        if inS e.apath then (Contain.nodeP H s e).toList else [] := by
      cases hn : Contain.nodeP H s e with
      | none => simp
      | some n =>
        simp only [Option.toList, List.filter_cons, Contain.nodeP_apath hn, List.filter_nil]
    rw [List.filter_cons, Contain.restoreP_cons s symsA]
    cases hin : inS e.apath with
    | false =>
      simp only [Bool.false_eq_true, if_false]
      split
      · obtain ⟨h2, h3⟩ := ih symsA symsS hag'
        exact ⟨h2, h3.cons _⟩
      · -- a dropped symlink joins the full loop's `syms`; by hypothesis it is above nothing selected
        obtain ⟨h2, h3⟩ := ih (Contain.nextSyms symsA e) symsS (by
          intro e' he' hin'
          rw [belowSymlink_nextSyms, hag' e' he' hin']
          by_cases hp : e.kind = .symlink ∧ e.target.isSome
          · have := hns e List.mem_cons_self hp.1 hin e' (List.mem_cons_of_mem _ he') hin'
            simp [NP.strictlyBelow, this]
          · simp [hp])
        refine ⟨?_, List.sublist_append_of_sublist_right h3⟩
        rw [List.filter_append, hnode, hin, h2]
        rfl
    | true =>
      have hbs := hag e List.mem_cons_self hin
      rw [if_pos rfl, Contain.restoreP_cons s symsS, hbs]
      split
      · obtain ⟨h2, h3⟩ := ih symsA symsS hag'
        exact ⟨h2, h3.cons_cons _⟩
      · obtain ⟨h2, h3⟩ := ih (Contain.nextSyms symsA e) (Contain.nextSyms symsS e) (by
          intro e' he' hin'
          rw [belowSymlink_nextSyms, belowSymlink_nextSyms, hag' e' he' hin'])
        refine ⟨?_, List.Sublist.append (List.Sublist.refl _) h3⟩
        rw [List.filter_append, hnode, hin, h2]
        rfl

/-- … and the loop of `restore()` itself, on entries that pass `IndexEntry::check`. -/
theorem restoreP_filter (s : Store) (inS : Str → Bool) (es : List IndexEntry) (hus : NP.AllUsable es)
    (hns : NoSymlinkAbove inS es) (symsA symsS : List Str)
    (hag : ∀ e ∈ es, inS e.apath = true → belowSymlink symsS e.apath = belowSymlink symsA e.apath) :
    ∃ nodes, (restoreP H s symsA es).1 = .ok nodes ∧
      (restoreP H s symsS (es.filter fun e => inS e.apath)).1 = .ok (nodes.filter fun nd => inS nd.apath) ∧
      ((restoreP H s symsS (es.filter fun e => inS e.apath)).2).Sublist (restoreP H s symsA es).2 := by
  obtain ⟨h1, h2⟩ := restoreP_filter_pure (H := H) s inS es hns symsA symsS hag
  rw [NP.restoreP_agree s es symsA hus,
    NP.restoreP_agree s _ symsS (hus.sub fun e he => (List.mem_filter.mp he).1)]
  exact ⟨_, rfl, by rw [h1], (h2.map _).reverse⟩

end Conserve.Exact
