import ConserveModel.Proofs.StoreLemmas
import ConserveModel.Proofs.ProgLemmas
import ConserveModel.Proofs.Eval
/-
What the building blocks of Archive.lean / IndexRead.lean do in a world without faults and without a
crash point (`World.clean s` and every world reached from it): one equation `eval_X` per program
(Eval.lean), and the store-level facts about what the listings find.  Shared by the property files.

`w.Quiet`            no faults, no crash point, not dead (kept by every operation executed in such a world).
`Runs p w out s' ev` running `p` in `w` gives outcome `out`, ends in a quiet world whose store is
                     `s'`, having emitted the events `ev` (newest first); `enforceCreateNew` is kept.
                     In a quiet world this is `p.eval … = (out, s', ev)` (`World.Quiet.runs_iff`).
-/
set_option linter.unusedSimpArgs false
namespace Conserve
open Prog

structure World.Quiet (w : World) : Prop where
  noFaults : w.faults = []
  noCrash : w.crashAt = none
  alive : w.dead = false

theorem World.clean_quiet (s : Store) : (World.clean s).Quiet := ⟨rfl, rfl, rfl⟩

theorem World.Quiet.faultFor {w : World} (hq : w.Quiet) (o : Op) : w.faultFor o = none := by
  simp [World.faultFor, hq.noFaults]

theorem World.Quiet.exec_eq_applied {w : World} (hq : w.Quiet) (o : Op) : w.exec o = w.applied o :=
  World.exec_of_noCrash hq.alive hq.noCrash (hq.faultFor o)

/-- `w'` is a later state of the quiet world `w`: store `s'`, additional events `ev`. -/
structure World.Next (w : World) (s' : Store) (ev : List Event) (w' : World) : Prop where
  store : w'.store = s'
  events : w'.events = ev ++ w.events
  quiet : w'.Quiet
  ecn : w'.enforceCreateNew = w.enforceCreateNew

def Runs {α : Type} (p : Prog α) (w : World) (out : Outcome α) (s' : Store) (ev : List Event) : Prop :=
  (p.run w).1 = out ∧ w.Next s' ev (p.run w).2

theorem World.Quiet.calm {α : Type} {w : World} (hq : w.Quiet) (p : Prog α) : Calm p w :=
  calm_of_noCrash p hq.noFaults hq.noCrash hq.alive

theorem World.Quiet.runs_iff {α : Type} {w : World} (hq : w.Quiet) {p : Prog α} {out : Outcome α} {s' : Store}
    {ev : List Event} : Runs p w out s' ev ↔ p.eval w.enforceCreateNew w.store = (out, s', ev) := by
  unfold Runs
  rw [Prog.run_eq_eval p (hq.calm p)]
  constructor
  · rintro ⟨h1, h2, h3, _, _⟩
    exact Prod.ext h1 (Prod.ext h2 (List.append_cancel_right h3))
  · intro h
    rw [h]
    exact ⟨rfl, rfl, rfl, ⟨hq.noFaults, hq.noCrash, hq.alive⟩, rfl⟩

theorem World.Quiet.runs {α : Type} {w : World} (hq : w.Quiet) {p : Prog α} {out : Outcome α} {s' : Store}
    {ev : List Event} (h : p.eval w.enforceCreateNew w.store = (out, s', ev)) : Runs p w out s' ev :=
  hq.runs_iff.2 h

/-- What the statements about `p.run (World.clean s)` read off. -/
theorem Prog.run_clean_eval {α : Type} {p : Prog α} {s s' : Store} {out : Outcome α} {ev : List Event}
    (h : p.eval true s = (out, s', ev)) :
    (p.run (World.clean s)).1 = out ∧ (p.run (World.clean s)).2.store = s' ∧
      (p.run (World.clean s)).2.events = ev := by
  rw [Prog.run_eq_eval p ((World.clean_quiet s).calm p)]
  exact ⟨congrArg (·.1) h, congrArg (·.2.1) h, (List.append_nil _).trans (congrArg (·.2.2) h)⟩

theorem Runs.pure {α : Type} {w : World} (hq : w.Quiet) (a : α) :
    Runs (Pure.pure a : Prog α) w (.ok a) w.store [] := hq.runs rfl

def readResp (s : Store) (k : Key) : Resp :=
  match s.get? k with
  | none => .err .notFound
  | some .dir => .err .other
  | some v => .val v

def listResp (s : Store) (k : Key) : Resp :=
  match s.get? k with
  | none => .err .notFound
  | some .dir => .listing (s.children k)
  | some _ => .err .other

def statResp (s : Store) (k : Key) : Resp :=
  match s.get? k with
  | none => .err .notFound
  | some v => .stat (!v.isDir) (!v.isDir && !v.isEmptyFile)

theorem applyOp_read (ecn : Bool) (s : Store) (k : Key) : applyOp ecn s (.read k) = (s, readResp s k) := by
  simp only [applyOp, readResp]
  cases s.get? k with
  | none => rfl
  | some v => cases v <;> rfl

theorem applyOp_listDir (ecn : Bool) (s : Store) (k : Key) :
    applyOp ecn s (.listDir k) = (s, listResp s k) := by
  simp only [applyOp, listResp]
  cases s.get? k with
  | none => rfl
  | some v => cases v <;> rfl

theorem applyOp_metadata (ecn : Bool) (s : Store) (k : Key) :
    applyOp ecn s (.metadata k) = (s, statResp s k) := by
  simp only [applyOp, statResp]
  cases s.get? k with
  | none => rfl
  | some v => cases v <;> rfl

def roResp (s : Store) : Op → Resp
  | .read k => readResp s k
  | .listDir k => listResp s k
  | .metadata k => statResp s k
  | _ => .unit

theorem applyOp_ro (ecn : Bool) (s : Store) (o : Op) (h : o.isMutating = false) :
    applyOp ecn s o = (s, roResp s o) := by
  cases o with
  | read k => exact applyOp_read ecn s k
  | listDir k => exact applyOp_listDir ecn s k
  | metadata k => exact applyOp_metadata ecn s k
  | write k v m => simp [Op.isMutating] at h
  | createDir k => simp [Op.isMutating] at h
  | removeFile k => simp [Op.isMutating] at h
  | removeDirAll k => simp [Op.isMutating] at h

theorem Runs.panic' {α : Type} {w w1 : World} {s : Store} (hn : w.Next s [] w1) (site : String) :
    Runs (.panic site : Prog α) w1 (.panic site) s [] := hn.quiet.runs (by rw [hn.store]; rfl)

theorem filterMap_congr' {α β : Type} {f g : α → Option β} {l : List α} (h : ∀ x ∈ l, f x = g x) :
    l.filterMap f = l.filterMap g := by
  induction l with
  | nil => rfl
  | cons x l ih =>
    simp only [List.filterMap_cons, h x (List.mem_cons_self ..)]
    rw [ih fun y hy => h y (List.mem_cons_of_mem _ hy)]

theorem filterMap_children {β : Type} (s : Store) (k : Key) (f : DirEnt → Option β)
    (g : Key × FileVal → Option β)
    (h : ∀ k' v, (if k'.parent == some k then
        f { key := k', isDir := v.isDir, nonEmpty := !v.isDir && !v.isEmptyFile } else none) = g (k', v)) :
    (s.children k).filterMap f = s.filterMap g := by
  induction s with
  | nil => rfl
  | cons kv s ih =>
    simp only [Store.children] at ih
    have hkv := h kv.1 kv.2
    by_cases hp : kv.1.parent == some k
    · simp only [hp, if_true] at hkv
      simp only [Store.children, List.filter_cons, hp, if_true, List.map_cons, List.filterMap_cons, ih, hkv]
    · have hp' : (kv.1.parent == some k) = false := by simpa using hp
      simp only [hp', Bool.false_eq_true, if_false] at hkv
      simp only [Store.children, List.filter_cons, hp', Bool.false_eq_true, if_false, List.filterMap_cons, ih,
        ← hkv]

/-- Is there a file (anything but a directory) at `k`?  What `Transport::is_file` answers. -/
def fileAt (s : Store) (k : Key) : Bool :=
  match s.get? k with
  | some v => !v.isDir
  | none => false

theorem isComplete_eq_fileAt (s : Store) (b : Nat) : isComplete s b = fileAt s (.bandTail b) := rfl

/-- `Transport::is_file` on a store. -/
def isFileP (s : Store) (k : Key) : Bool :=
  match s.get? k with
  | some v => !v.isDir
  | none => false

theorem fileAt_eq_isFileP : fileAt = isFileP := rfl

theorem eval_isFile (e : Bool) (s : Store) (k : Key) : (isFile k).eval e s = (.ok (isFileP s k), s, []) := by
  simp only [isFile, perform, bind_def, op_bind, ret_bind, eval_op, applyOp_metadata, statResp, isFileP]
  cases s.get? k <;> rfl

theorem eval_unwrapOr_isFile (e : Bool) (s : Store) (k : Key) (d : Bool) :
    (unwrapOr (isFile k) d).eval e s = (.ok (isFileP s k), s, []) := by
  have h : (isFile k).eval e s = (toOutcome (.ok (isFileP s k)), s, []) := eval_isFile e s k
  simp only [unwrapOr, bind_def, eval_bind, eval_attempt_toOutcome e s h]
  rfl

theorem bandExists_runs {w : World} (hq : w.Quiet) (b : Nat) :
    Runs (bandExists b) w (.ok (fileAt w.store (.bandHead b))) w.store [] := hq.runs (eval_isFile _ _ _)

theorem bandIds_listing (s : Store) :
    (sortNat <| (s.children .root).filterMap fun e =>
      match e.key with
      | .bandDir b => if e.isDir then some b else none
      | _ => none) = bandIdsOf s :=
  congrArg sortNat <| filterMap_children s .root _ _ fun k v => by
    cases k with
    | bandDir b => cases v <;> rfl
    | _ => rfl

theorem listResp_not_dir {s : Store} {k : Key} (h : s.get? k ≠ some .dir) :
    listResp s k = .err (if s.get? k = none then .notFound else .other) := by
  unfold listResp
  cases hk : s.get? k with
  | none => rfl
  | some v => cases v <;> first | exact absurd hk h | rfl

theorem eval_listBandIds (e : Bool) (s : Store) :
    listBandIds.eval e s =
      (if s.get? .root = some .dir then .ok (bandIdsOf s)
        else .err (.transport (if s.get? .root = none then .notFound else .other)), s, []) := by
  simp only [listBandIds, perform, bind_def, op_bind, ret_bind, eval_op, applyOp_listDir]
  by_cases h : s.get? .root = some .dir
  · simp only [listResp, h, pure_def, eval_ret, if_true]
    exact congrArg (fun x => (Outcome.ok x, s, [])) (bandIds_listing s)
  · rw [listResp_not_dir h, if_neg h]; rfl

/-- What `gcLockListed` answers on a store: does the listing of the archive directory show a
FILE named GC_LOCK? -/
def lockListedOf (s : Store) : Bool :=
  (s.children .root).any fun e => e.key == .gcLock && !e.isDir

theorem lockListedOf_of_get?_none {s : Store} (h : s.get? .gcLock = none) : lockListedOf s = false := by
  simp only [lockListedOf, Store.children, List.any_map, List.any_filter, List.any_eq_false]
  rintro ⟨k, v⟩ hm
  by_cases hk : k = .gcLock
  · subst hk
    induction s with
    | nil => cases hm
    | cons kv s ih =>
      obtain ⟨k', v'⟩ := kv
      by_cases hk' : Key.gcLock = k'
      · subst hk'; simp [Store.get?, List.lookup] at h
      · have hne : (Key.gcLock == k') = false := by simpa using hk'
        simp only [Store.get?, List.lookup, hne] at h
        rcases List.mem_cons.mp hm with he | hm
        · cases he; exact absurd rfl hk'
        · exact ih h hm
  · simp [hk]

/-- With unique keys, the listing shows a file GC_LOCK iff there is one (`fileAt`), i.e. both looks
at the lock agree on the same store. -/
theorem lockListedOf_eq_fileAt {s : Store} (hn : UniqueKeys s) : lockListedOf s = fileAt s .gcLock := by
  cases hg : s.get? .gcLock with
  | none => rw [lockListedOf_of_get?_none hg]; simp [fileAt, hg]
  | some v =>
    simp only [fileAt, hg]
    have hm := Store.mem_of_get? hg
    cases hv : v.isDir with
    | false =>
      simp only [lockListedOf, Store.children, List.any_map, List.any_filter, Bool.not_false, List.any_eq_true]
      exact ⟨(.gcLock, v), hm, by simp [Key.parent, hv]⟩
    | true =>
      simp only [lockListedOf, Store.children, List.any_map, List.any_filter, Bool.not_true, List.any_eq_false]
      rintro ⟨k, v'⟩ hm'
      by_cases hk : k = .gcLock
      · subst hk
        have := Store.get?_of_mem_nodup ((uniqueKeys_iff_nodup _).1 hn) hm'
        rw [hg] at this
        cases this
        simp [hv]
      · simp [hk]

theorem eval_gcLockListed (e : Bool) (s : Store) :
    gcLockListed.eval e s =
      (if s.get? .root = some .dir then .ok (lockListedOf s)
        else .err (.transport (if s.get? .root = none then .notFound else .other)), s, []) := by
  simp only [gcLockListed, perform, bind_def, op_bind, ret_bind, eval_op, applyOp_listDir]
  by_cases h : s.get? .root = some .dir
  · simp only [listResp, h, pure_def, eval_ret, lockListedOf, if_true]
  · rw [listResp_not_dir h, if_neg h]; rfl

theorem gcLockListed_runs_err {w : World} (hq : w.Quiet) (hroot : w.store.get? .root ≠ some .dir) :
    Runs gcLockListed w
      (.err (.transport (if w.store.get? .root = none then .notFound else .other))) w.store [] :=
  hq.runs (by rw [eval_gcLockListed, if_neg hroot])

theorem eval_lastBandId (e : Bool) {s : Store} (hroot : s.get? .root = some .dir) :
    lastBandId.eval e s = (.ok (maxNat? (bandIdsOf s)), s, []) := by
  simp only [lastBandId, bind_def, eval_bind, eval_listBandIds, if_pos hroot, andThen_ok, pure_def, eval_ret]

/-- What `Band::open` decides from the head file. -/
def headOutcome (s : Store) (b : Nat) : Outcome Unit :=
  match s.get? (.bandHead b) with
  | none => .err (.bandHeadMissing b)
  | some .dir => .err (.transport .other)
  | some (.head .invalid _) => .err (.unsupportedBandVersion b)
  | some (.head .tooNew _) => .err (.unsupportedBandVersion b)
  | some (.head _ flags) => if flags.isEmpty then .ok () else .err (.unsupportedBandFlags b)
  | some _ => .err .json

/-- `Band::open` on a store. -/
def bandOpenP (s : Store) (b : Nat) : Except Err Unit :=
  match s.get? (.bandHead b) with
  | none => .error (.bandHeadMissing b)
  | some .dir => .error (.transport .other)
  | some (.head .invalid _) => .error (.unsupportedBandVersion b)
  | some (.head .tooNew _) => .error (.unsupportedBandVersion b)
  | some (.head _ flags) => if flags.isEmpty then .ok () else .error (.unsupportedBandFlags b)
  | some _ => .error .json

theorem eval_bandOpen (e : Bool) (s : Store) (b : Nat) :
    (bandOpen b).eval e s = (toOutcome (bandOpenP s b), s, []) := by
  simp only [bandOpen, perform, bind_def, op_bind, ret_bind, eval_op, applyOp_read, readResp, bandOpenP]
  cases s.get? (.bandHead b) with
  | none => rfl
  | some v =>
    cases v with
    | head ver flags =>
      cases ver with
      | invalid => rfl
      | tooNew => rfl
      | _ =>
        simp only [toOutcome]
        split <;> rfl
    | _ => rfl

theorem headOutcome_eq (s : Store) (b : Nat) : headOutcome s b = toOutcome (bandOpenP s b) := by
  unfold headOutcome bandOpenP
  cases s.get? (.bandHead b) with
  | none => rfl
  | some v =>
    cases v with
    | head ver flags => cases ver <;> first | rfl | (simp only [toOutcome]; split <;> rfl)
    | _ => rfl

/-- A head the current program accepts. -/
def headReadable (s : Store) (b : Nat) : Bool :=
  s.get? (.bandHead b) == some (.head .ok []) || s.get? (.bandHead b) == some (.head .absent [])

theorem headOutcome_of_readable {s : Store} {b : Nat} (h : headReadable s b = true) :
    headOutcome s b = .ok () := by
  simp only [headReadable, Bool.or_eq_true, beq_iff_eq] at h
  rcases h with h | h <;> simp [headOutcome, h]

theorem bandOpenP_of_readable {s : Store} {b : Nat} (h : headReadable s b = true) : bandOpenP s b = .ok () := by
  simp only [headReadable, Bool.or_eq_true, beq_iff_eq] at h
  rcases h with h | h <;> simp [bandOpenP, h]

/-- `IndexRead::read_hunk` on a store. -/
def readHunkP (s : Store) (b n : Nat) : Except Err (Option (List IndexEntry)) :=
  match s.get? (.hunk b n) with
  | none => .ok none
  | some .dir => .error (.transport .other)
  | some (.hunk es) => if es.all entryUsable then .ok (some es) else .error .invalidMetadata
  | some .empty => .ok (some [])
  | some _ => .error .json

theorem eval_readHunk (e : Bool) (s : Store) (b n : Nat) :
    (readHunk b n).eval e s = (toOutcome (readHunkP s b n), s, []) := by
  simp only [readHunk, perform, bind_def, op_bind, ret_bind, eval_op, applyOp_read, readResp, readHunkP]
  cases s.get? (.hunk b n) with
  | none => rfl
  | some v =>
    cases v with
    | hunk es => by_cases hu : es.all entryUsable = true <;> simp [toOutcome, hu]
    | _ => rfl

/-- Hunk file `n` of band `b` can be read by `read_hunk`: it decodes and every entry passes
`IndexEntry::check`, or it is zero-length (then it reads as no entries). -/
def hunkUsable (s : Store) (b n : Nat) : Bool :=
  match s.get? (.hunk b n) with
  | some (.hunk es) => es.all entryUsable
  | some .empty => true
  | _ => false

theorem readHunkP_of_usable {s : Store} {b n : Nat} (h : hunkUsable s b n = true) :
    readHunkP s b n = .ok (some ((hunkAt s b n).getD [])) := by
  simp only [hunkUsable] at h
  simp only [readHunkP, hunkAt]
  cases hk : s.get? (.hunk b n) with
  | none => simp [hk] at h
  | some v => cases v <;> simp_all

theorem hunkUsable_of_hunkAt {s : Store} {b n : Nat} {es : List IndexEntry}
    (h : hunkAt s b n = some es) (hu : es.all entryUsable = true) : hunkUsable s b n = true := by
  simp [hunkUsable, hunkAt_eq_some_iff.1 h, hu]

/-- Subdirectories (numbers) of the index of band `b`, ascending. -/
def hunkDirsOf (s : Store) (b : Nat) : List Nat :=
  sortNat <| s.filterMap fun kv =>
    match kv.1 with
    | .hunkDir b' d => if b' = b && kv.2.isDir then some d else none
    | _ => none

/-- Hunk files of band `b` inside index subdirectory `d`, ascending. -/
def hunksInDir (s : Store) (b d : Nat) : List Nat :=
  sortNat <| s.filterMap fun kv =>
    match kv.1 with
    | .hunk b' n => if b' = b && n / hunksPerSubdir = d && !kv.2.isDir then some n else none
    | _ => none

/-- What `hunks_available` returns: directory by directory. -/
def hunksListed (s : Store) (b : Nat) : List Nat := (hunkDirsOf s b).flatMap (hunksInDir s b)

def hunkDirSel (b : Nat) (kv : Key × FileVal) : Option Nat :=
  match kv.1 with
  | .hunkDir b' d => if b' = b && kv.2.isDir then some d else none
  | _ => none

def hunkInDirSel (b d : Nat) (kv : Key × FileVal) : Option Nat :=
  match kv.1 with
  | .hunk b' n => if b' = b && n / hunksPerSubdir = d && !kv.2.isDir then some n else none
  | _ => none

theorem hunkDirsOf_eq (s : Store) (b : Nat) : hunkDirsOf s b = sortNat (s.filterMap (hunkDirSel b)) := rfl

theorem hunksInDir_eq (s : Store) (b d : Nat) :
    hunksInDir s b d = sortNat (s.filterMap (hunkInDirSel b d)) := rfl

theorem hunkDirSel_picks (b : Nat) : Picks (hunkDirSel b) (.hunkDir b) fun _ v => v = .dir := by
  intro k v d
  cases k with
  | hunkDir b' d' => cases v <;> simp [hunkDirSel, FileVal.isDir, and_comm]
  | _ => simp [hunkDirSel]

theorem hunkInDirSel_picks (b d : Nat) :
    Picks (hunkInDirSel b d) (.hunk b) fun n v => n / hunksPerSubdir = d ∧ v.isDir = false := by
  intro k v n
  cases k with
  | hunk b' n' =>
    simp only [hunkInDirSel, Option.ite_none_right_eq_some, Bool.and_eq_true, decide_eq_true_eq,
      Bool.not_eq_true', Option.some.injEq, Key.hunk.injEq]
    constructor
    · rintro ⟨⟨⟨rfl, hd⟩, hv⟩, rfl⟩; exact ⟨⟨rfl, rfl⟩, hd, hv⟩
    · rintro ⟨⟨rfl, rfl⟩, hd, hv⟩; exact ⟨⟨⟨rfl, hd⟩, hv⟩, rfl⟩
  | _ => simp [hunkInDirSel]

theorem hunkDirs_listing (s : Store) (b : Nat) :
    (sortNat <| (s.children (.indexDir b)).filterMap fun e =>
      match e.key with
      | .hunkDir _ d => if e.isDir then some d else none
      | _ => none) = hunkDirsOf s b :=
  congrArg sortNat <| filterMap_children s (.indexDir b) _ _ fun k v => by
    cases k with
    | hunkDir b' d => by_cases hb : b' = b <;> simp [Key.parent, hb]
    | _ => rfl

theorem hunksInDir_listing (s : Store) (b d : Nat) :
    (sortNat <| (s.children (.hunkDir b d)).filterMap fun e =>
      match e.key with
      | .hunk _ n => if !e.isDir then some n else none
      | _ => none) = hunksInDir s b d :=
  congrArg sortNat <| filterMap_children s (.hunkDir b d) _ _ fun k v => by
    cases k with
    | hunk b' n => by_cases hb : b' = b <;> by_cases hd : n / hunksPerSubdir = d <;> simp [Key.parent, hb, hd]
    | _ => rfl

def hunkSubdirsP (s : Store) (b : Nat) : List Nat :=
  sortNat <| (s.children (.indexDir b)).filterMap fun e =>
    match e.key with
    | .hunkDir _ d => if e.isDir then some d else none
    | _ => none

def hunksInSubdirP (s : Store) (b d : Nat) : Except Err (List Nat) :=
  match s.get? (.hunkDir b d) with
  | none => .error (.transport .notFound)
  | some .dir => .ok (sortNat <| (s.children (.hunkDir b d)).filterMap fun e =>
      match e.key with
      | .hunk _ n => if !e.isDir then some n else none
      | _ => none)
  | some _ => .error (.transport .other)

def hunksGoP (s : Store) (b : Nat) : List Nat → List Nat → Except Err (List Nat)
  | [], acc => .ok acc
  | d :: ds, acc =>
    match hunksInSubdirP s b d with
    | .ok hs => hunksGoP s b ds (acc ++ hs)
    | .error e => .error e

/-- `IndexRead::hunks_available` on a store. -/
def hunksAvailableP (s : Store) (b : Nat) : Except Err (List Nat) :=
  match s.get? (.indexDir b) with
  | none => .error (.transport .notFound)
  | some .dir => hunksGoP s b (hunkSubdirsP s b) []
  | some _ => .error (.transport .other)

theorem eval_hunksAvailable_go (e : Bool) (s : Store) (b : Nat) (ds acc : List Nat) :
    (hunksAvailable.go b ds acc).eval e s = (toOutcome (hunksGoP s b ds acc), s, []) := by
  induction ds generalizing acc with
  | nil => rfl
  | cons d ds ih =>
    simp only [hunksAvailable.go, perform, bind_def, op_bind, ret_bind, eval_op, applyOp_listDir, listResp,
      hunksGoP, hunksInSubdirP]
    cases s.get? (.hunkDir b d) with
    | none => rfl
    | some v => cases v <;> first | exact ih _ | rfl

theorem eval_hunksAvailable (e : Bool) (s : Store) (b : Nat) :
    (hunksAvailable b).eval e s = (toOutcome (hunksAvailableP s b), s, []) := by
  simp only [hunksAvailable, perform, bind_def, op_bind, ret_bind, eval_op, applyOp_listDir, listResp,
    hunksAvailableP]
  cases s.get? (.indexDir b) with
  | none => rfl
  | some v => cases v <;> first | exact eval_hunksAvailable_go e s b _ [] | rfl

theorem hunkSubdirsP_eq (s : Store) (b : Nat) : hunkSubdirsP s b = hunkDirsOf s b :=
  hunkDirs_listing s b

theorem hunksInSubdirP_eq {s : Store} {b d : Nat} (h : s.get? (.hunkDir b d) = some .dir) :
    hunksInSubdirP s b d = .ok (hunksInDir s b d) := by
  unfold hunksInSubdirP
  rw [h]
  exact congrArg Except.ok (hunksInDir_listing s b d)

theorem hunksGoP_eq {s : Store} {b : Nat} (ds : List Nat)
    (h : ∀ d ∈ ds, s.get? (.hunkDir b d) = some .dir) (acc : List Nat) :
    hunksGoP s b ds acc = .ok (acc ++ ds.flatMap (hunksInDir s b)) := by
  induction ds generalizing acc with
  | nil => simp [hunksGoP]
  | cons d ds ih =>
    unfold hunksGoP
    rw [hunksInSubdirP_eq (h d (List.mem_cons_self ..))]
    simp only
    rw [ih (fun d' hd' => h d' (List.mem_cons_of_mem _ hd'))]
    simp [List.flatMap_cons]

/-- `hunks_available` when the index directory exists and the listed subdirectories are directories
(automatic when keys are not duplicated). -/
theorem hunksAvailableP_listed {s : Store} {b : Nat} (hi : s.get? (.indexDir b) = some .dir)
    (hd : ∀ d ∈ hunkDirsOf s b, s.get? (.hunkDir b d) = some .dir) :
    hunksAvailableP s b = .ok (hunksListed s b) := by
  unfold hunksAvailableP
  rw [hi, hunkSubdirsP_eq, hunksGoP_eq _ hd]
  rfl

theorem hunksAvailable_runs_err {w : World} (hq : w.Quiet) (b : Nat)
    (hi : w.store.get? (.indexDir b) ≠ some .dir) :
    Runs (hunksAvailable b) w
      (.err (.transport (if w.store.get? (.indexDir b) = none then .notFound else .other))) w.store [] :=
  hq.runs (by
    rw [eval_hunksAvailable]
    unfold hunksAvailableP
    cases hg : w.store.get? (.indexDir b) with
    | none => rfl
    | some v => cases v <;> first | exact absurd hg hi | rfl)

theorem mem_hunkDirsOf {s : Store} {b d : Nat} : d ∈ hunkDirsOf s b ↔ (Key.hunkDir b d, FileVal.dir) ∈ s := by
  rw [hunkDirsOf_eq, mem_sortNat, (hunkDirSel_picks b).mem]
  exact ⟨fun ⟨_, hm, hv⟩ => hv ▸ hm, fun hm => ⟨_, hm, rfl⟩⟩

theorem mem_hunksInDir {s : Store} {b d n : Nat} :
    n ∈ hunksInDir s b d ↔ n / hunksPerSubdir = d ∧ ∃ v, (Key.hunk b n, v) ∈ s ∧ v.isDir = false := by
  rw [hunksInDir_eq, mem_sortNat, (hunkInDirSel_picks b d).mem]
  exact ⟨fun ⟨v, hm, hd, hv⟩ => ⟨hd, v, hm, hv⟩, fun ⟨hd, v, hm, hv⟩ => ⟨v, hm, hd, hv⟩⟩

/-- Every hunk file's subdirectory is a directory of the store (part of `DirsOk`). -/
def HunkDirsOk (s : Store) (b : Nat) : Prop :=
  ∀ n v, (Key.hunk b n, v) ∈ s → (Key.hunkDir b (n / hunksPerSubdir), FileVal.dir) ∈ s

theorem mem_hunksListed {s : Store} {b n : Nat} (hd : HunkDirsOk s b) :
    n ∈ hunksListed s b ↔ n ∈ hunkNumsOf s b := by
  simp only [hunksListed, List.mem_flatMap, mem_hunkDirsOf, mem_hunksInDir, mem_hunkNumsOf]
  constructor
  · rintro ⟨d, _, _, h⟩; exact h
  · rintro ⟨v, hm, hv⟩
    exact ⟨_, hd n v hm, rfl, v, hm, hv⟩

/-- Three-character subdirectories of `d/`, in name order. -/
def blockSubdirsOf (s : Store) : List Str :=
  (s.filterMap fun kv =>
    match kv.1 with
    | .blockDir p => if kv.2.isDir && p.length == subdirNameChars then some p else none
    | _ => none).mergeSort (fun a b => compare a b != .gt)

/-- Names of the non-empty block files in subdirectory `p`, in store order. -/
def blocksInDir (s : Store) (p : Str) : List Str :=
  s.filterMap fun kv =>
    match kv.1 with
    | .block h => if h.take subdirNameChars = p && !kv.2.isDir && !kv.2.isEmptyFile then some h else none
    | _ => none

def blockNamesFrom (s : Store) : List Str → List Str → List Str
  | [], acc => acc
  | p :: ps, acc => blockNamesFrom s ps (acc ++ (blocksInDir s p).filter fun h => !acc.contains h)

/-- What `list_blocks` returns: subdirectory by subdirectory, first occurrences only. -/
def blockNamesOf (s : Store) : List Str := blockNamesFrom s (blockSubdirsOf s) []

def blockDirSel (kv : Key × FileVal) : Option Str :=
  match kv.1 with
  | .blockDir p => if kv.2.isDir && p.length == subdirNameChars then some p else none
  | _ => none

def blockInDirSel (p : Str) (kv : Key × FileVal) : Option Str :=
  match kv.1 with
  | .block h => if h.take subdirNameChars = p && !kv.2.isDir && !kv.2.isEmptyFile then some h else none
  | _ => none

theorem blockSubdirsOf_eq (s : Store) :
    blockSubdirsOf s = (s.filterMap blockDirSel).mergeSort (fun a b => compare a b != .gt) := rfl

theorem blocksInDir_eq (s : Store) (p : Str) : blocksInDir s p = s.filterMap (blockInDirSel p) := rfl

theorem blockDirSel_picks : Picks blockDirSel .blockDir fun p v => v = .dir ∧ p.length = subdirNameChars := by
  intro k v p
  cases k with
  | blockDir p' =>
    cases v <;> simp [blockDirSel, FileVal.isDir, and_comm]
    rintro rfl; rfl
  | _ => simp [blockDirSel]

theorem blockInDirSel_picks (p : Str) : Picks (blockInDirSel p) .block fun h v =>
    h.take subdirNameChars = p ∧ v.isDir = false ∧ v.isEmptyFile = false := by
  intro k v h
  cases k with
  | block h' =>
    simp only [blockInDirSel, Option.ite_none_right_eq_some, Bool.and_eq_true, decide_eq_true_eq,
      Bool.not_eq_true', Option.some.injEq, Key.block.injEq]
    constructor
    · rintro ⟨⟨⟨hp, h1⟩, h2⟩, rfl⟩; exact ⟨rfl, hp, h1, h2⟩
    · rintro ⟨rfl, hp, h1, h2⟩; exact ⟨⟨⟨hp, h1⟩, h2⟩, rfl⟩
  | _ => simp [blockInDirSel]

theorem blockSubdirs_listing (s : Store) :
    ((s.children .blockRoot).filterMap fun e =>
      match e.key with
      | .blockDir p => if e.isDir && p.length == subdirNameChars then some p else none
      | _ => none).mergeSort (fun a b => compare a b != .gt) = blockSubdirsOf s :=
  congrArg (List.mergeSort · _) <| filterMap_children s .blockRoot _ _ fun k v => by
    cases k with
    | blockDir p => simp [Key.parent]
    | _ => rfl

theorem blocksInDir_listing (s : Store) (p : Str) :
    ((s.children (.blockDir p)).filterMap fun e =>
      match e.key with
      | .block h => if !e.isDir && e.nonEmpty then some h else none
      | _ => none) = blocksInDir s p :=
  filterMap_children s (.blockDir p) _ _ fun k v => by
    cases k with
    | block h => by_cases hp : h.take subdirNameChars = p <;> simp [Key.parent, hp]
    | _ => rfl

theorem eval_listBlocks_go (e : Bool) (s : Store) (ps : List Str)
    (hd : ∀ p ∈ ps, s.get? (.blockDir p) = some .dir) (acc : List Str) :
    (listBlocks.go ps acc).eval e s = (.ok (blockNamesFrom s ps acc), s, []) := by
  induction ps generalizing acc with
  | nil => rfl
  | cons p ps ih =>
    simp only [listBlocks.go, perform, bind_def, op_bind, ret_bind, eval_op, applyOp_listDir, listResp,
      hd p (List.mem_cons_self ..), blockNamesFrom, ← blocksInDir_listing]
    exact ih (fun q hq => hd q (List.mem_cons_of_mem _ hq)) _

/-- `listBlocks` when `d/` is a directory and the listed subdirectories are directories
(automatic when keys are not duplicated). -/
theorem eval_listBlocks (e : Bool) {s : Store} (hr : s.get? .blockRoot = some .dir)
    (hd : ∀ p ∈ blockSubdirsOf s, s.get? (.blockDir p) = some .dir) :
    listBlocks.eval e s = (.ok (blockNamesOf s), s, []) := by
  simp only [listBlocks, perform, bind_def, op_bind, ret_bind, eval_op, applyOp_listDir, listResp, hr,
    blockNamesOf, ← blockSubdirs_listing] at hd ⊢
  exact eval_listBlocks_go e s _ hd []

theorem mem_blockSubdirsOf {s : Store} {p : Str} :
    p ∈ blockSubdirsOf s ↔ (Key.blockDir p, FileVal.dir) ∈ s ∧ p.length = subdirNameChars := by
  rw [blockSubdirsOf_eq, List.mem_mergeSort, blockDirSel_picks.mem]
  exact ⟨fun ⟨_, hm, hv, hl⟩ => ⟨hv ▸ hm, hl⟩, fun ⟨hm, hl⟩ => ⟨_, hm, rfl, hl⟩⟩

theorem mem_blocksInDir {s : Store} {p h : Str} :
    h ∈ blocksInDir s p ↔
      h.take subdirNameChars = p ∧ ∃ v, (Key.block h, v) ∈ s ∧ v.isDir = false ∧ v.isEmptyFile = false := by
  rw [blocksInDir_eq, (blockInDirSel_picks p).mem]
  exact ⟨fun ⟨v, hm, hp, h12⟩ => ⟨hp, v, hm, h12⟩, fun ⟨hp, v, hm, h12⟩ => ⟨v, hm, hp, h12⟩⟩

theorem mem_blockNamesFrom {s : Store} {h : Str} (ps : List Str) :
    ∀ acc, h ∈ blockNamesFrom s ps acc ↔ h ∈ acc ∨ ∃ p ∈ ps, h ∈ blocksInDir s p := by
  induction ps with
  | nil => intro acc; simp [blockNamesFrom]
  | cons p ps ih =>
    intro acc
    simp only [blockNamesFrom, ih, List.mem_append, List.mem_filter, Bool.not_eq_true',
      List.mem_cons, exists_eq_or_imp]
    constructor
    · rintro ((h1 | ⟨h1, _⟩) | h1)
      · exact Or.inl h1
      · exact Or.inr (Or.inl h1)
      · exact Or.inr (Or.inr h1)
    · rintro (h1 | h1 | h1)
      · exact Or.inl (Or.inl h1)
      · by_cases hc : h ∈ acc
        · exact Or.inl (Or.inl hc)
        · refine Or.inl (Or.inr ⟨h1, ?_⟩)
          simpa using hc
      · exact Or.inr h1

theorem nodup_blockNamesFrom {s : Store} (hb : ∀ p, (blocksInDir s p).Nodup) (ps : List Str) :
    ∀ acc, acc.Nodup → (blockNamesFrom s ps acc).Nodup := by
  induction ps with
  | nil => intro acc h; simpa [blockNamesFrom] using h
  | cons p ps ih =>
    intro acc h
    simp only [blockNamesFrom]
    apply ih
    rw [List.nodup_append]
    refine ⟨h, List.Nodup.sublist List.filter_sublist (hb p), ?_⟩
    intro a ha b hb' hab
    subst hab
    simp only [List.mem_filter, Bool.not_eq_true'] at hb'
    have := hb'.2
    simp [ha] at this

/-- A non-empty block file named `h` is present (what `list_blocks` can see). -/
def blockListed (s : Store) (h : Str) : Prop :=
  ∃ v, s.get? (.block h) = some v ∧ v.isDir = false ∧ v.isEmptyFile = false

/-- Every stored key's parent is a directory. -/
def DirsOk (s : Store) : Prop := ∀ kv ∈ s, s.parentOk kv.1 = true

instance (s : Store) : Decidable (DirsOk s) := by unfold DirsOk; infer_instance

theorem DirsOk.parent_of_get? {s : Store} (hd : DirsOk s) {k : Key} {v : FileVal} (h : s.get? k = some v) :
    s.parentOk k = true := hd _ (Store.mem_of_get? h)

theorem DirsOk.hunkDirsOk {s : Store} (hd : DirsOk s) (b : Nat) : HunkDirsOk s b := by
  intro n v hm
  have := hd _ hm
  simp only [Store.parentOk, Key.parent, beq_iff_eq] at this
  exact Store.mem_of_get? this

theorem hunkDirs_are_dirs {s : Store} (hn : UniqueKeys s) (b : Nat) :
    ∀ d ∈ hunkDirsOf s b, s.get? (.hunkDir b d) = some .dir :=
  fun _ hd => Store.get?_of_mem_nodup ((uniqueKeys_iff_nodup _).1 hn) (mem_hunkDirsOf.1 hd)

theorem blockSubdirs_are_dirs {s : Store} (hn : UniqueKeys s) :
    ∀ p ∈ blockSubdirsOf s, s.get? (.blockDir p) = some .dir :=
  fun _ hp => Store.get?_of_mem_nodup ((uniqueKeys_iff_nodup _).1 hn) (mem_blockSubdirsOf.1 hp).1

theorem nodup_blocksInDir {s : Store} (hn : UniqueKeys s) (p : Str) : (blocksInDir s p).Nodup :=
  (blockInDirSel_picks p).nodup ((uniqueKeys_iff_nodup s).1 hn)

theorem nodup_blockNamesOf {s : Store} (hn : UniqueKeys s) : (blockNamesOf s).Nodup :=
  nodup_blockNamesFrom (nodup_blocksInDir hn) _ _ List.nodup_nil

/-- In a store with unique keys and directories in place, `list_blocks` sees exactly the non-empty
block files whose name has at least three characters. -/
theorem mem_blockNamesOf {s : Store} (hn : UniqueKeys s) (hd : DirsOk s) {h : Str} :
    h ∈ blockNamesOf s ↔ blockListed s h ∧ subdirNameChars ≤ h.length := by
  simp only [blockNamesOf, mem_blockNamesFrom, List.not_mem_nil, false_or, mem_blocksInDir,
    mem_blockSubdirsOf, blockListed]
  constructor
  · rintro ⟨p, ⟨_, hl⟩, hp, v, hm, h1, h2⟩
    refine ⟨⟨v, Store.get?_of_mem_nodup ((uniqueKeys_iff_nodup _).1 hn) hm, h1, h2⟩, ?_⟩
    subst hp
    simp only [List.length_take] at hl
    omega
  · rintro ⟨⟨v, hg, h1, h2⟩, hl⟩
    have hm := Store.mem_of_get? hg
    have hp := hd _ hm
    simp only [Store.parentOk, Key.parent, beq_iff_eq] at hp
    refine ⟨_, ⟨Store.mem_of_get? hp, ?_⟩, rfl, v, hm, h1, h2⟩
    simp only [List.length_take]
    omega

theorem hunkNumsOf_of_get? {s : Store} {b n : Nat} {v : FileVal} (h : s.get? (.hunk b n) = some v)
    (hv : v.isDir = false) : n ∈ hunkNumsOf s b := mem_hunkNumsOf.2 ⟨v, Store.mem_of_get? h, hv⟩

theorem hunkNumsOf_of_hunkAt {s : Store} {b n : Nat} {es : List IndexEntry} (h : hunkAt s b n = some es) :
    n ∈ hunkNumsOf s b := hunkNumsOf_of_get? (hunkAt_eq_some_iff.1 h) rfl

theorem hunkDirsOf_sorted_lt {s : Store} (hn : UniqueKeys s) (b : Nat) : (hunkDirsOf s b).Pairwise (· < ·) :=
  sortNat_sorted_lt ((hunkDirSel_picks b).nodup ((uniqueKeys_iff_nodup s).1 hn))

theorem hunksInDir_sorted_lt {s : Store} (hn : UniqueKeys s) (b d : Nat) :
    (hunksInDir s b d).Pairwise (· < ·) :=
  sortNat_sorted_lt ((hunkInDirSel_picks b d).nodup ((uniqueKeys_iff_nodup s).1 hn))

theorem hunksListed_sorted_lt {s : Store} (hn : UniqueKeys s) (b : Nat) :
    (hunksListed s b).Pairwise (· < ·) := by
  rw [hunksListed, List.pairwise_flatMap]
  refine ⟨fun d _ => hunksInDir_sorted_lt hn b d, ?_⟩
  refine (hunkDirsOf_sorted_lt hn b).imp ?_
  intro d1 d2 hd x hx y hy
  have h1 := (mem_hunksInDir.1 hx).1
  have h2 := (mem_hunksInDir.1 hy).1
  simp only [hunksPerSubdir] at h1 h2
  omega

/-- With unique keys and every hunk file inside a real subdirectory, what `hunks_available` lists
is exactly `hunkNumsOf s b` (the same list). -/
theorem hunksListed_eq_hunkNumsOf {s : Store} (hn : UniqueKeys s) {b : Nat} (hd : HunkDirsOk s b) :
    hunksListed s b = hunkNumsOf s b :=
  eq_of_sorted_lt (hunksListed_sorted_lt hn b) (hunkNumsOf_sorted_lt ((uniqueKeys_iff_nodup s).1 hn) b)
    fun _ => mem_hunksListed hd

theorem hunksAvailable_runs_nums {w : World} (hq : w.Quiet) (b : Nat) (hn : UniqueKeys w.store)
    (hd : DirsOk w.store) (hi : w.store.get? (.indexDir b) = some .dir) :
    Runs (hunksAvailable b) w (.ok (hunkNumsOf w.store b)) w.store [] :=
  hq.runs (by
    rw [eval_hunksAvailable, hunksAvailableP_listed hi (hunkDirs_are_dirs hn b),
      hunksListed_eq_hunkNumsOf hn (hd.hunkDirsOk b)]
    rfl)

/-- Along the fault-free run of `p` on store `s`, every operation is read-only and store `s'`
gives the same answer to it. -/
def ReadsAgree {α : Type} (s s' : Store) : Prog α → Prop
  | .ret _ => True
  | .fail _ => True
  | .panic _ => True
  | .emit _ k => ReadsAgree s s' k
  | .op o k => o.isMutating = false ∧ roResp s' o = roResp s o ∧ ReadsAgree s s' (k (roResp s o))

theorem ReadsAgree.eval_eq {α : Type} {s s' : Store} (e e' : Bool) {p : Prog α} (h : ReadsAgree s s' p) :
    (p.eval e' s').1 = (p.eval e s).1 ∧ (p.eval e' s').2.2 = (p.eval e s).2.2 := by
  induction p with
  | ret _ | fail _ | panic _ => exact ⟨rfl, rfl⟩
  | emit ev k ih => exact ⟨(ih h).1, congrArg (· ++ [ev]) (ih h).2⟩
  | op o k ih =>
    rw [eval_op, eval_op, applyOp_ro _ _ _ h.1, applyOp_ro _ _ _ h.1, h.2.1]
    exact ih _ h.2.2

theorem run_agree {α : Type} {s s' : Store} (p : Prog α) :
    ∀ (w w' : World), ReadsAgree s s' p → w.Quiet → w'.Quiet → w.store = s → w'.store = s' →
      (p.run w').1 = (p.run w).1 ∧
        ∃ ev, (p.run w).2.events = ev ++ w.events ∧ (p.run w').2.events = ev ++ w'.events := by
  intro w w' h hq hq' hs hs'
  rw [Prog.run_eq_eval p (hq.calm p), Prog.run_eq_eval p (hq'.calm p), hs, hs']
  exact ⟨(h.eval_eq _ _).1, _, rfl, congrArg (· ++ w'.events) (h.eval_eq _ _).2⟩

end Conserve
