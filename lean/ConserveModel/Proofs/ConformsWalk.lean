import ConserveModel.Props.C11Walk
/-
Every entry the source walk yields is `entry_from_fs_metadata` of some node, hence has a target
exactly if it is a symlink and is never of unknown kind.  No property statements here.
-/
namespace Conserve.Conf
open Conserve

theorem walk_isEntry (T : Node) (excl : Str → Bool) :
    ∀ e ∈ C11.walk T excl, ∃ (n : Node) (ap : Str), e = n.entry ap := by
  intro e he
  rw [C11.walk_eq] at he
  rcases List.mem_cons.mp he with rfl | he
  · exact ⟨_, _, rfl⟩
  · obtain ⟨n, ap, _, h⟩ := Forest.mem_walkBelow.1 he
    exact ⟨n, ap, h⟩

theorem Node.entry_shape (n : Node) (ap : Str) :
    ((n.entry ap).kind = .symlink ↔ (n.entry ap).target.isSome = true) ∧ (n.entry ap).kind ≠ .unknown := by
  cases n <;> simp [Node.entry]

theorem walk_entries_shape (T : Node) (excl : Str → Bool) :
    ∀ e ∈ C11.walk T excl, (e.kind = .symlink ↔ e.target.isSome = true) ∧ e.kind ≠ .unknown := by
  intro e he
  obtain ⟨n, ap, rfl⟩ := walk_isEntry T excl e he
  exact Node.entry_shape _ _

end Conserve.Conf
