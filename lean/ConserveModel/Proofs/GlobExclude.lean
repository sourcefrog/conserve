import ConserveModel.Proofs.GlobMatch
import ConserveModel.Proofs.GlobParse
/-
Helper lemmas for C15, `Exclude` side: what `parseAll`, `excluded`, `expandPattern` and
`Exclude.fromStrings` do, and pruning = filtering on lists.
-/
namespace Conserve

theorem globMatch_of_parse {p : Str} {ts : List Tok} (h : parseGlob p = some ts) (x : Str) :
    globMatch p x = matchToks ts x := by
  simp [globMatch, h]

theorem parseAll_isSome_iff (gs : List Str) :
    (∃ tss, parseAll gs = some tss) ↔ ∀ g ∈ gs, ∃ ts, parseGlob g = some ts := by
  induction gs with
  | nil => simp [parseAll]
  | cons g gs ih =>
    rw [List.forall_mem_cons, ← ih, parseAll]
    cases parseGlob g <;> cases parseAll gs <;> simp

theorem excluded_parseAll {gs : List Str} {tss : List (List Tok)} (h : parseAll gs = some tss) (x : Str) :
    excluded tss x = true ↔ ∃ g ∈ gs, globMatch g x = true := by
  induction gs generalizing tss with
  | nil => cases h; simp [excluded]
  | cons g gs ih =>
    rw [parseAll] at h
    split at h
    · rename_i t ts hg hgs
      cases h
      have := ih hgs
      simp only [excluded] at this
      simp [excluded, globMatch_of_parse hg, this]
    · cases h

theorem expandPattern_eq (p : Str) :
    expandPattern p = [anchorPattern p, anchorPattern p ++ slashStarStar] := rfl

theorem mem_expandPattern {g P : Str} :
    g ∈ expandPattern P ↔ g = anchorPattern P ∨ g = anchorPattern P ++ slashStarStar := by
  simp [expandPattern_eq]

theorem fromStrings_eq_some {pats : List Str} {E : Exclude} :
    Exclude.fromStrings pats = some E ↔ parseAll (pats.flatMap expandPattern) = some E.globs := by
  cases E; simp [Exclude.fromStrings]

theorem splitLastSlash_eq {x q n : Str} (h : splitLastSlash x = some (q, n)) : x = q ++ slash :: n := by
  induction x generalizing q n with
  | nil => simp [splitLastSlash] at h
  | cons c s ih =>
    simp only [splitLastSlash] at h
    cases hs : splitLastSlash s with
    | some qn =>
      obtain ⟨q', n'⟩ := qn
      simp [hs] at h
      obtain ⟨rfl, rfl⟩ := h
      rw [ih hs]; simp
    | none =>
      simp [hs] at h
      obtain ⟨rfl, rfl, rfl⟩ := h
      simp

theorem parentOf_eq {x q : Str} (h : parentOf x = some q) : ∃ n, x = q ++ slash :: n := by
  unfold parentOf at h
  split at h
  · rename_i q' n hs
    split at h
    · cases h
    · cases h; exact ⟨n, splitLastSlash_eq hs⟩
  · cases h

/-- Pruning = filtering, for any exclusion test that is inherited from parent to child and any list
in which parents come before their children.  The paths kept so far are the paths seen so far that
are not excluded. -/
theorem pruneWalk_eq_filter (excl : Str → Bool) (parent : Str → Option Str)
    (hdesc : ∀ x q, parent x = some q → excl q = true → excl x = true)
    (done xs : List Str) (hclosed : ParentClosed parent done xs) :
    pruneWalk excl parent (done.filter fun q => !excl q) xs = xs.filter fun x => !excl x := by
  induction xs generalizing done with
  | nil => rfl
  | cons x xs ih =>
    obtain ⟨hpar, hrest⟩ := hclosed
    have ih := ih (x :: done) hrest
    rw [List.filter_cons] at ih
    rw [pruneWalk, List.filter_cons]
    cases hex : excl x with
    | true => simpa [hex] using ih
    | false =>
      have hvisit : visited parent (done.filter fun q => !excl q) x = true := by
        unfold visited
        cases hp : parent x with
        | none => rfl
        | some q =>
          have hq : excl q = false := by
            cases hq : excl q with
            | false => rfl
            | true => rw [hdesc x q hp hq] at hex; cases hex
          simp [List.mem_filter, hpar q hp, hq]
      simpa [hex, hvisit] using ih

end Conserve
