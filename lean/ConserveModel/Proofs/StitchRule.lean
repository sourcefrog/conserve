import ConserveModel.Proofs.StitchStore
/-
From the store-level mirrors of the programs (`bandTake`, `stitchDownP`, `stitchAllP`) to the
rule of StitchSpec.lean (`contSpec`, `listSpec`, `chain`), and the order / provenance facts
about the rule itself.

The walk down is reasoned about as a list: `reach s n` are the ids it looks at (`WalkReaches` is
membership), `chainBelow` its present part; mirror and rule both take `stitchList` over `chainBelow`
(`bandTake` / `ruleTake`) and report `walkErrs`, a `flatMap` over `reach` (`bandErrs` / `bandErrors`).
-/
namespace Conserve

theorem bandPresent_eq (s : Store) (b : Nat) : isFileP s (.bandHead b) = bandPresent s b := by
  unfold isFileP bandPresent; cases s.get? (.bandHead b) <;> rfl

theorem isComplete_eq (s : Store) (b : Nat) : isFileP s (.bandTail b) = isComplete s b := by
  unfold isFileP isComplete; cases s.get? (.bandTail b) <;> rfl

theorem bandOpenP_ok_iff (s : Store) (b : Nat) :
    bandOpenP s b = .ok () ↔
      (match s.get? (.bandHead b) with
       | some (.head ver flags) => (ver == .ok || ver == .absent) && flags.isEmpty
       | _ => false) = true := by
  unfold bandOpenP
  cases s.get? (.bandHead b) with
  | none => simp
  | some v =>
    cases v with
    | head ver flags => cases ver <;> cases flags <;> simp
    | _ => simp

theorem hunksAvailableP_error {s : Store} {b : Nat} (h : s.get? (.indexDir b) ≠ some .dir) :
    hunksAvailableP s b = .error
      (match s.get? (.indexDir b) with
       | none => .transport .notFound
       | some _ => .transport .other) := by
  unfold hunksAvailableP
  cases hg : s.get? (.indexDir b) with
  | none => rfl
  | some v =>
    cases v with
    | dir => exact absurd hg h
    | _ => rfl

theorem bandReadable_iff (s : Store) (b : Nat) :
    bandReadable s b = true ↔ bandOpenP s b = .ok () ∧ s.get? (.indexDir b) = some .dir := by
  unfold bandReadable
  rw [Bool.and_eq_true, beq_iff_eq, bandOpenP_ok_iff]
  exact Iff.rfl

theorem bandTake_eq {s : Store} (wf : ArchWF s) (b : Nat) (last : Option Str) :
    bandTake s b last =
      ((bandEntries s b).filter (sortsAfter last),
        lastOr ((bandEntries s b).filter (sortsAfter last)) last) := by
  by_cases hr : bandReadable s b = true
  · obtain ⟨ho, hi⟩ := (bandReadable_iff s b).mp hr
    have ha := hunksAvailableP_eq wf hi
    unfold bandTake
    rw [ho, ha]
    simp only [bandEntries, hr, if_true]
    exact readHunksP_eq s b (hunkNumsOf s b) (fun n hn => hunk_listed_get? wf hn) (wf.sortedOwn b) last last
  · have he : bandEntries s b = [] := by simp [bandEntries, hr]
    rw [he]
    simp only [List.filter_nil, lastOr_nil]
    unfold bandTake
    by_cases ho : bandOpenP s b = .ok ()
    · have hi : s.get? (.indexDir b) ≠ some .dir := fun hi => hr ((bandReadable_iff s b).mpr ⟨ho, hi⟩)
      rw [ho, hunksAvailableP_error hi]
    · cases hb : bandOpenP s b with
      | ok u => exact absurd hb ho
      | error e => rfl

theorem readHunksErrs_eq {s : Store} {b : Nat} (ns : List Nat)
    (h : ∀ n ∈ ns, ∃ v, s.get? (.hunk b n) = some v ∧ v.isDir = false) :
    readHunksErrs s b ns = ns.filterMap (hunkError s b) := by
  induction ns with
  | nil => rfl
  | cons n rest ih =>
    obtain ⟨v, hg, hv⟩ := h n (List.mem_cons_self ..)
    have ih' := ih (fun m hm => h m (List.mem_cons_of_mem _ hm))
    unfold readHunksErrs
    rw [List.filterMap_cons]
    rcases readHunkP_file hg hv with ⟨es, h1, -, h2⟩ | ⟨e, h1, -, h2⟩
    · rw [h1, h2]; exact ih'
    · rw [h1, h2]; simp [ih']

theorem unreadableError_eq (s : Store) (b : Nat) :
    unreadableError s b =
      match bandOpenP s b with
      | .error e => e
      | .ok () =>
        match s.get? (.indexDir b) with
        | none => .transport .notFound
        | some _ => .transport .other := by
  unfold unreadableError bandOpenP
  cases s.get? (.bandHead b) with
  | none => rfl
  | some v =>
    cases v with
    | head ver flags =>
      cases ver with
      | invalid => rfl
      | tooNew => rfl
      | _ =>
        dsimp only
        cases flags.isEmpty <;> rfl
    | _ => rfl

theorem bandErrs_eq {s : Store} (wf : ArchWF s) (b : Nat) : bandErrs s b = bandErrors s b := by
  unfold bandErrs bandErrors
  by_cases hr : bandReadable s b = true
  · obtain ⟨ho, hi⟩ := (bandReadable_iff s b).mp hr
    have ha := hunksAvailableP_eq wf hi
    simp only [hr, if_true, ho, ha]
    rw [readHunksErrs_eq _ (fun n hn => hunk_listed_get? wf hn)]
    congr 1
    unfold checkIndexHunksP indexCheckError
    rw [hunkLengthsP_eq wf hi]
    have hmap : ((hunkNumsOf s b).map fun n => (n, hunkNonEmpty s b n)).map (·.1) = hunkNumsOf s b := by
      rw [List.map_map]; exact List.map_id _
    simp only [hmap, List.length_map]
    by_cases hrange : (hunkNumsOf s b != List.range (hunkNumsOf s b).length) = true
    · simp [hrange]
    · simp only [hrange, Bool.false_eq_true, if_false]
      by_cases h1 : countMismatch (tailInfo s b).2 (hunkNumsOf s b).length = true
      · simp only [h1, if_true]; rfl
      · by_cases h2 : badEmptyHunk (tailInfo s b).1
            ((hunkNumsOf s b).map fun n => (n, hunkNonEmpty s b n)) = true
        · simp only [h1, h2, if_true, Bool.false_eq_true, if_false]; rfl
        · simp only [h1, h2, Bool.false_eq_true, if_false]; rfl
  · simp only [hr, Bool.false_eq_true, if_false]
    rw [unreadableError_eq]
    cases ho : bandOpenP s b with
    | error e => rfl
    | ok u =>
      have hi : s.get? (.indexDir b) ≠ some .dir := fun hi => hr ((bandReadable_iff s b).mpr ⟨ho, hi⟩)
      rw [hunksAvailableP_error hi]

theorem headLost_eq (s : Store) (b : Nat) (hp : bandPresent s b = false) :
    isFileP s (.hunk b 0) = headLost s b := by
  unfold isFileP headLost; rw [hp]; cases s.get? (.hunk b 0) <;> rfl

/-! ### The walk down as a list -/

/-- The walk down from `n` gets as far as `b`: no version strictly between is complete. -/
def WalkReaches (s : Store) (n b : Nat) : Prop :=
  b < n ∧ ∀ c, b < c → c < n → ¬ (bandPresent s c = true ∧ isComplete s c = true)

theorem WalkReaches.pred {s : Store} {n b : Nat} (h : WalkReaches s (n + 1) b) (hne : b ≠ n) :
    WalkReaches s n b ∧ ¬ (bandPresent s n = true ∧ isComplete s n = true) :=
  ⟨⟨by have := h.1; omega, fun c h1 h2 => h.2 c h1 (by omega)⟩, h.2 n (by have := h.1; omega) (by omega)⟩

/-- The ids the walk down from `n` looks at, newest first: every id below `n`, down to and including
the first version that has head and tail.  `chainBelow` is its present part, and what the walk takes and
reports is a `stitchList` / `flatMap` over it: facts about the walk are facts about this list. -/
def reach (s : Store) : Nat → List Nat
  | 0 => []
  | b + 1 => b :: (if bandPresent s b && isComplete s b then [] else reach s b)

theorem mem_reach {s : Store} {n c : Nat} : c ∈ reach s n ↔ WalkReaches s n c := by
  induction n with
  | zero => exact ⟨fun h => (by cases h), fun h => absurd h.1 (Nat.not_lt_zero _)⟩
  | succ n ih =>
    rw [reach, List.mem_cons]
    constructor
    · rintro (rfl | h)
      · exact ⟨Nat.lt_succ_self _, fun d h1 h2 => by omega⟩
      · split at h
        · cases h
        · rename_i hstop
          obtain ⟨h1, h2⟩ := ih.mp h
          refine ⟨Nat.lt_succ_of_lt h1, fun d hd1 hd2 => ?_⟩
          by_cases hdn : d = n
          · subst hdn; simpa using hstop
          · exact h2 d hd1 (by omega)
    · intro h
      by_cases hcn : c = n
      · exact Or.inl hcn
      · obtain ⟨hr, hnc⟩ := h.pred hcn
        right
        rw [if_neg (by simpa using hnc)]
        exact ih.mpr hr

theorem reach_lt {s : Store} {n c : Nat} (h : c ∈ reach s n) : c < n := (mem_reach.mp h).1

theorem reach_decreasing (s : Store) (n : Nat) : (reach s n).Pairwise (· > ·) := by
  induction n with
  | zero => exact List.Pairwise.nil
  | succ n ih =>
    rw [reach]
    refine List.pairwise_cons.mpr ⟨fun c hc => ?_, ?_⟩
    · split at hc
      · cases hc
      · exact reach_lt hc
    · split
      · exact List.Pairwise.nil
      · exact ih

/-- The walk on `s'` looks at the same ids if the two stores agree, at every id the walk on `s` looks
at, on whether there is a head and, where there is one, on whether there is a tail. -/
theorem reach_congr {s s' : Store} (n : Nat)
    (h : ∀ c ∈ reach s n, bandPresent s' c = bandPresent s c ∧
      (bandPresent s c = true → isComplete s' c = isComplete s c)) : reach s' n = reach s n := by
  induction n with
  | zero => rfl
  | succ n ih =>
    obtain ⟨h1, h2⟩ := h n (by simp [reach])
    rw [reach, reach, h1]
    by_cases hp : bandPresent s n = true
    · rw [h2 hp]
      split
      · rfl
      · rename_i hstop
        rw [ih fun c hc => h c (by rw [reach, if_neg hstop]; exact List.mem_cons_of_mem _ hc)]
    · have hstop : ¬ (bandPresent s n && isComplete s n) = true := by simp [hp]
      have hstop' : ¬ (bandPresent s n && isComplete s' n) = true := by simp [hp]
      rw [if_neg hstop, if_neg hstop',
        ih fun c hc => h c (by rw [reach, if_neg hstop]; exact List.mem_cons_of_mem _ hc)]

theorem chainBelow_eq (s : Store) (n : Nat) : chainBelow s n = (reach s n).filter (bandPresent s) := by
  induction n with
  | zero => rfl
  | succ n ih =>
    rw [chainBelow, reach, List.filter_cons]
    by_cases hp : bandPresent s n = true
    · by_cases hc : isComplete s n = true
      · simp [hp, hc]
      · simp [hp, hc, ih]
    · simp [hp, ih]

theorem mem_chainBelow {s : Store} {n c : Nat} :
    c ∈ chainBelow s n ↔ WalkReaches s n c ∧ bandPresent s c = true := by
  rw [chainBelow_eq, List.mem_filter, mem_reach]

theorem chainBelow_lt (s : Store) (b : Nat) : ∀ x ∈ chainBelow s b, x < b :=
  fun _ hx => (mem_chainBelow.mp hx).1.1

theorem chainBelow_present {s : Store} {b c : Nat} (h : c ∈ chainBelow s b) : bandPresent s c = true :=
  (mem_chainBelow.mp h).2

theorem chainBelow_decreasing (s : Store) (b : Nat) : (chainBelow s b).Pairwise (· > ·) := by
  rw [chainBelow_eq]; exact (reach_decreasing s b).filter _

theorem chain_decreasing (s : Store) (n : Nat) : (chain s n).Pairwise (· > ·) := by
  unfold chain
  by_cases hc : isComplete s n = true
  · simp [hc]
  · simp only [hc]
    exact List.pairwise_cons.mpr ⟨fun x hx => chainBelow_lt s n x hx, chainBelow_decreasing s n⟩

theorem chainBelow_congr {s s' : Store} (n : Nat)
    (h : ∀ c ∈ reach s n, bandPresent s' c = bandPresent s c ∧
      (bandPresent s c = true → isComplete s' c = isComplete s c)) : chainBelow s' n = chainBelow s n := by
  rw [chainBelow_eq, chainBelow_eq, reach_congr n h]
  exact List.filter_congr fun c hc => (h c hc).1

/-! ### The entries the walk takes -/

/-- Take from each version of `bs` in turn, handing the last path taken on; what a version gives is left
open (the code's `bandTake s`, the rule's `ruleTake s`). -/
def stitchList (take : Nat → Option Str → List IndexEntry × Option Str) : List Nat → Option Str → List IndexEntry
  | [], _ => []
  | b :: bs, last => (take b last).1 ++ stitchList take bs (take b last).2

/-- What the rule takes from version `b`: what sorts after the last path taken so far. -/
def ruleTake (s : Store) (b : Nat) (last : Option Str) : List IndexEntry × Option Str :=
  ((bandEntries s b).filter (sortsAfter last), lastOr ((bandEntries s b).filter (sortsAfter last)) last)

theorem stitchList_congr {take take' : Nat → Option Str → List IndexEntry × Option Str} {bs : List Nat}
    (h : ∀ b ∈ bs, take' b = take b) (last : Option Str) : stitchList take' bs last = stitchList take bs last := by
  induction bs generalizing last with
  | nil => rfl
  | cons b bs ih =>
    rw [stitchList, stitchList, h b (List.mem_cons_self ..), ih fun c hc => h c (List.mem_cons_of_mem _ hc)]

theorem mem_stitchList_take {take : Nat → Option Str → List IndexEntry × Option Str} {bs : List Nat}
    {last : Option Str} {e : IndexEntry} (h : e ∈ stitchList take bs last) : ∃ b ∈ bs, ∃ l, e ∈ (take b l).1 := by
  induction bs generalizing last with
  | nil => cases h
  | cons b bs ih =>
    rcases List.mem_append.mp h with h | h
    · exact ⟨b, List.mem_cons_self .., last, h⟩
    · obtain ⟨c, hc, r⟩ := ih h
      exact ⟨c, List.mem_cons_of_mem _ hc, r⟩

/-- A recursion of the shape of `contSpec` is `stitchList` over `chainBelow`. -/
theorem walk_eq_stitchList {s : Store} {take : Nat → Option Str → List IndexEntry × Option Str}
    (g : Nat → Option Str → List IndexEntry) (h0 : ∀ last, g 0 last = [])
    (hs : ∀ b last, g (b + 1) last =
      if bandPresent s b then (take b last).1 ++ (if isComplete s b then [] else g b (take b last).2)
      else g b last) (b : Nat) (last : Option Str) :
    g b last = stitchList take (chainBelow s b) last := by
  induction b generalizing last with
  | zero => rw [h0]; rfl
  | succ b ih =>
    rw [hs, chainBelow]
    by_cases hp : bandPresent s b = true
    · by_cases hc : isComplete s b = true
      · simp [hp, hc, stitchList]
      · simp [hp, hc, stitchList, ih]
    · simp [hp, ih]

theorem contSpec_eq_stitchList (s : Store) (b : Nat) (last : Option Str) :
    contSpec s b last = stitchList (ruleTake s) (chainBelow s b) last :=
  walk_eq_stitchList (contSpec s) (fun _ => rfl) (fun _ _ => rfl) b last

theorem listSpec_eq_stitchList (s : Store) (n : Nat) :
    listSpec s n = stitchList (ruleTake s) (chain s n) none := by
  unfold listSpec chain
  by_cases hc : isComplete s n = true
  · simp [hc, stitchList, ruleTake, filter_sortsAfter_none]
  · simp [hc, stitchList, ruleTake, filter_sortsAfter_none, contSpec_eq_stitchList]

theorem stitchDownP_fst_eq (s : Store) (b : Nat) (last : Option Str) :
    (stitchDownP s b last).1 = stitchList (bandTake s) (chainBelow s b) last :=
  walk_eq_stitchList (s := s) (take := bandTake s) (fun b last => (stitchDownP s b last).1) (fun _ => rfl)
    (fun b last => by
      simp only [stitchDownP, bandPresent_eq, isComplete_eq]
      by_cases hp : bandPresent s b = true
      · by_cases hc : isComplete s b = true <;> simp [hp, hc]
      · simp [hp]) b last

theorem stitchDownP_fst {s : Store} (wf : ArchWF s) (b : Nat) (last : Option Str) :
    (stitchDownP s b last).1 = contSpec s b last := by
  rw [stitchDownP_fst_eq, contSpec_eq_stitchList]
  exact stitchList_congr (fun c _ => funext fun l => bandTake_eq wf c l) last

theorem stitchAllP_fst {s : Store} (wf : ArchWF s) (n : Nat) : (stitchAllP s n).1 = listSpec s n := by
  unfold stitchAllP listSpec
  rw [isComplete_eq, bandTake_eq wf, filter_sortsAfter_none]
  by_cases hc : isComplete s n = true
  · simp [hc]
  · simp [hc, stitchDownP_fst wf]

/-! ### The errors the walk reports -/

/-- What the walk reports at one id it looks at, when a version consulted reports `f`. -/
def stepErrs (s : Store) (f : Nat → List Err) (c : Nat) : List Err :=
  if bandPresent s c then f c else if headLost s c then [.bandHeadMissing c] else []

/-- The errors of the walk down below `b` when a version consulted reports `f`: `errorsBelow` with
the errors of one version left open (the code reports `bandErrs`, the specification `bandErrors`). -/
def walkErrs (s : Store) (f : Nat → List Err) (b : Nat) : List Err := (reach s b).flatMap (stepErrs s f)

theorem walkErrs_succ (s : Store) (f : Nat → List Err) (b : Nat) :
    walkErrs s f (b + 1) =
      if bandPresent s b then f b ++ (if isComplete s b then [] else walkErrs s f b)
      else (if headLost s b then [.bandHeadMissing b] else []) ++ walkErrs s f b := by
  rw [walkErrs, reach, List.flatMap_cons, stepErrs]
  by_cases hp : bandPresent s b = true
  · by_cases hc : isComplete s b = true <;> simp [hp, hc, walkErrs]
  · simp [hp, walkErrs]

theorem errorsBelow_eq_walk (s : Store) (b : Nat) : errorsBelow s b = walkErrs s (bandErrors s) b := by
  induction b with
  | zero => rfl
  | succ b ih => simp only [errorsBelow, walkErrs_succ, ih]

theorem stitchDownP_snd_walk (s : Store) (b : Nat) (last : Option Str) :
    (stitchDownP s b last).2 = walkErrs s (bandErrs s) b := by
  induction b generalizing last with
  | zero => rfl
  | succ b ih =>
    rw [stitchDownP, walkErrs_succ, bandPresent_eq, isComplete_eq]
    by_cases hp : bandPresent s b = true
    · by_cases hc : isComplete s b = true
      · simp [hp, hc]
      · simp [hp, hc, ih]
    · have hp' : bandPresent s b = false := by simpa using hp
      simp [hp', ih, headLost_eq s b hp']

theorem stitchDownP_snd {s : Store} (wf : ArchWF s) (b : Nat) (last : Option Str) :
    (stitchDownP s b last).2 = errorsBelow s b := by
  rw [stitchDownP_snd_walk, errorsBelow_eq_walk, funext (bandErrs_eq wf)]

theorem stitchAllP_snd {s : Store} (wf : ArchWF s) (n : Nat) : (stitchAllP s n).2 = listErrors s n := by
  have hb : bandErrs s = bandErrors s := funext (bandErrs_eq wf)
  unfold stitchAllP listErrors
  rw [isComplete_eq]
  by_cases hc : isComplete s n = true
  · simp [hc, hb]
  · simp [hc, stitchDownP_snd wf, hb]

theorem flatMap_filter_sublist {α β : Type} {p : α → Bool} {f g : α → List β} (l : List α)
    (h : ∀ a ∈ l, p a = true → f a = g a) : ((l.filter p).flatMap f).Sublist (l.flatMap g) := by
  induction l with
  | nil => exact List.Sublist.refl _
  | cons a l ih =>
    have ih := ih fun x hx => h x (List.mem_cons_of_mem _ hx)
    rw [List.filter_cons, List.flatMap_cons]
    split
    · rename_i hp
      rw [List.flatMap_cons, h a (List.mem_cons_self ..) hp]
      exact List.Sublist.append (List.Sublist.refl _) ih
    · exact ih.trans (List.sublist_append_right _ _)

theorem flatMap_filter_eq {α β : Type} {p : α → Bool} {f g : α → List β} (l : List α)
    (h : ∀ a ∈ l, g a = if p a then f a else []) : (l.filter p).flatMap f = l.flatMap g := by
  induction l with
  | nil => rfl
  | cons a l ih =>
    have ih := ih fun x hx => h x (List.mem_cons_of_mem _ hx)
    rw [List.filter_cons, List.flatMap_cons, h a (List.mem_cons_self ..)]
    split
    · rw [List.flatMap_cons, ih]
    · rw [ih, List.nil_append]

theorem chain_sublist_walk (s : Store) (f : Nat → List Err) (b : Nat) :
    ((chainBelow s b).flatMap f).Sublist (walkErrs s f b) := by
  rw [chainBelow_eq]
  exact flatMap_filter_sublist _ fun c _ hp => by rw [stepErrs, if_pos hp]

theorem walkErrs_eq_chain {s : Store} (f : Nat → List Err) (b : Nat)
    (h : ∀ c, c < b → headLost s c = false) : walkErrs s f b = (chainBelow s b).flatMap f := by
  rw [chainBelow_eq]
  exact (flatMap_filter_eq _ fun c hc => by simp [stepErrs, h c (reach_lt hc)]).symm

theorem mem_walkErrs {s : Store} {f : Nat → List Err} {b : Nat} {e : Err} (he : e ∈ walkErrs s f b) :
    (∃ c ∈ chainBelow s b, e ∈ f c) ∨
    (∃ c, c < b ∧ headLost s c = true ∧ e = .bandHeadMissing c) := by
  obtain ⟨c, hc, hec⟩ := List.mem_flatMap.mp he
  unfold stepErrs at hec
  split at hec
  · rename_i hp
    exact Or.inl ⟨c, mem_chainBelow.mpr ⟨mem_reach.mp hc, hp⟩, hec⟩
  · split at hec
    · rename_i hl
      exact Or.inr ⟨c, reach_lt hc, hl, List.mem_singleton.mp hec⟩
    · cases hec

theorem chainErrors_sublist (s : Store) (n : Nat) : (chainErrors s n).Sublist (listErrors s n) := by
  unfold chainErrors listErrors chain
  by_cases hc : isComplete s n = true
  · simp [hc]
  · simp only [hc, Bool.false_eq_true, if_false, List.flatMap_cons, errorsBelow_eq_walk]
    exact List.Sublist.append (List.Sublist.refl _) (chain_sublist_walk s _ n)

theorem mem_listErrors_of_chain {s : Store} {n b : Nat} {e : Err} (hb : b ∈ chain s n)
    (he : e ∈ bandErrors s b) : e ∈ listErrors s n :=
  (chainErrors_sublist s n).subset (List.mem_flatMap.mpr ⟨b, hb, he⟩)

theorem listErrors_eq_chainErrors {s : Store} (n : Nat) (h : ∀ c, c < n → headLost s c = false) :
    listErrors s n = chainErrors s n := by
  unfold chainErrors listErrors chain
  by_cases hc : isComplete s n = true
  · simp [hc]
  · simp [hc, errorsBelow_eq_walk, walkErrs_eq_chain _ n h]

theorem mem_listErrors {s : Store} {n : Nat} {e : Err} (he : e ∈ listErrors s n) :
    (∃ c ∈ chain s n, e ∈ bandErrors s c) ∨
    (∃ c, c < n ∧ headLost s c = true ∧ e = .bandHeadMissing c) := by
  unfold listErrors at he
  unfold chain
  rcases List.mem_append.mp he with he | he
  · exact Or.inl ⟨n, by simp, he⟩
  · by_cases hc : isComplete s n = true
    · simp [hc] at he
    · simp only [hc, Bool.false_eq_true, if_false, errorsBelow_eq_walk] at he
      rcases mem_walkErrs he with ⟨c, hcm, hce⟩ | r
      · exact Or.inl ⟨c, by simp [hc, hcm], hce⟩
      · exact Or.inr r

theorem ArchWF.sortedBand {s : Store} (wf : ArchWF s) (b : Nat) : SortedE (bandEntries s b) := by
  unfold bandEntries
  split
  · exact wf.sortedOwn b
  · exact List.Pairwise.nil

/-- After the sorted `t`, all of it after `l`, was taken: to sort after the new last path is to sort
after `l` and after all of `t`. -/
theorem sortsAfter_lastOr {t : List IndexEntry} {l : Option Str} (hs : SortedE t)
    (ht : ∀ x ∈ t, sortsAfter l x = true) (e : IndexEntry) :
    sortsAfter (lastOr t l) e = true ↔ sortsAfter l e = true ∧ ∀ x ∈ t, eLt x e := by
  cases hg : t.getLast? with
  | none =>
    obtain rfl := List.getLast?_eq_none_iff.mp hg
    simp [lastOr]
  | some m =>
    have hlo : lastOr t l = some m.apath := by simp [lastOr, hg]
    have hm : m ∈ t := List.mem_of_getLast? hg
    rw [hlo, sortsAfter_some]
    constructor
    · intro hme
      refine ⟨sortsAfter_of_eLt (ht m hm) hme, fun x hx => ?_⟩
      rcases getLast?_mem_or_lt hs hg x hx with rfl | hxm
      · exact hme
      · exact C11.cmp_trans hxm hme
    · intro h
      exact h.2 m hm

theorem stitchList_sorted {s : Store} (wf : ArchWF s) (bs : List Nat) (last : Option Str) :
    SortedE (stitchList (ruleTake s) bs last) ∧
      ∀ e ∈ stitchList (ruleTake s) bs last, sortsAfter last e = true := by
  induction bs generalizing last with
  | nil => simp [stitchList, SortedE]
  | cons b bs ih =>
    simp only [stitchList, ruleTake]
    have hsb : SortedE ((bandEntries s b).filter (sortsAfter last)) := (wf.sortedBand b).filter _
    have hall : ∀ e ∈ (bandEntries s b).filter (sortsAfter last), sortsAfter last e = true :=
      fun e he => (List.mem_filter.mp he).2
    obtain ⟨ih1, ih2⟩ := ih (lastOr ((bandEntries s b).filter (sortsAfter last)) last)
    have hrest := fun e he => (sortsAfter_lastOr hsb hall e).mp (ih2 e he)
    refine ⟨List.pairwise_append.mpr ⟨hsb, ih1, fun x hx y hy => (hrest y hy).2 x hx⟩, fun e he => ?_⟩
    rcases List.mem_append.mp he with he | he
    · exact hall e he
    · exact (hrest e he).1

/-- A usable hunk with an entry in it is a stored hunk file all of whose entries pass `IndexEntry::check`. -/
theorem usableHunk_mem {s : Store} {b n : Nat} {es : List IndexEntry} {e : IndexEntry}
    (h : usableHunk s b n = some es) (he : e ∈ es) :
    hunkAt s b n = some es ∧ es.all entryUsable = true := by
  unfold usableHunk at h
  split at h
  · rename_i es' hg
    split at h
    · rename_i hu; cases h; exact ⟨hunkAt_eq_some_iff.mpr hg, hu⟩
    · cases h
  · cases h; cases he
  · cases h

theorem mem_ownEntries {s : Store} {b : Nat} {e : IndexEntry} (h : e ∈ ownEntries s b) :
    ∃ k ∈ hunkNumsOf s b, ∃ es, usableHunk s b k = some es ∧ e ∈ es :=
  let ⟨es, hes, hee⟩ := List.mem_flatten.mp h
  let ⟨k, hk, hu⟩ := List.mem_filterMap.mp hes
  ⟨k, hk, es, hu, hee⟩

theorem mem_bandEntries {s : Store} {b : Nat} {e : IndexEntry} (h : e ∈ bandEntries s b) :
    ∃ k ∈ hunkNumsOf s b, ∃ es, usableHunk s b k = some es ∧ e ∈ es := by
  unfold bandEntries at h
  split at h
  · exact mem_ownEntries h
  · cases h

theorem mem_stitchList {s : Store} {bs : List Nat} {last : Option Str} {e : IndexEntry}
    (h : e ∈ stitchList (ruleTake s) bs last) : ∃ b ∈ bs, e ∈ bandEntries s b :=
  let ⟨b, hb, _, he⟩ := mem_stitchList_take h
  ⟨b, hb, (List.mem_filter.mp he).1⟩

def allBefore (s : Store) (pre : List Nat) (e : IndexEntry) : Bool :=
  pre.all fun b' => (bandEntries s b').all fun e' => apathCmp e'.apath e.apath == .lt

/-- `last` summarises the versions `pre`: sorting after `last` is sorting after all they hold. -/
def Summ (s : Store) (last : Option Str) (pre : List Nat) : Prop :=
  ∀ e, sortsAfter last e = true ↔ allBefore s pre e = true

theorem allBefore_iff {s : Store} {pre : List Nat} {e : IndexEntry} :
    allBefore s pre e = true ↔ ∀ b' ∈ pre, ∀ e' ∈ bandEntries s b', eLt e' e := by
  simp [allBefore, eLt]

theorem not_sortsAfter_lt {last : Option Str} {x y : IndexEntry} (hx : sortsAfter last x = false)
    (hy : sortsAfter last y = true) : eLt x y := by
  cases last with
  | none => simp [sortsAfter] at hx
  | some a =>
    have hy' := (sortsAfter_some a y).mp hy
    by_cases heq : a = x.apath
    · unfold eLt; rw [← heq]; exact hy'
    · rcases C11.cmp_total a x.apath heq with h | h
      · have := (sortsAfter_some a x).mpr h; rw [this] at hx; cases hx
      · exact C11.cmp_trans h hy'

theorem Summ.step {s : Store} (wf : ArchWF s) {last : Option Str} {pre : List Nat} (h : Summ s last pre)
    (b : Nat) : Summ s (lastOr ((bandEntries s b).filter (sortsAfter last)) last) (pre ++ [b]) := by
  intro e
  rw [sortsAfter_lastOr ((wf.sortedBand b).filter _) (fun x hx => (List.mem_filter.mp hx).2), h e,
    allBefore_iff, allBefore_iff]
  constructor
  · rintro ⟨hpre, htaken⟩ b' hb' e' he'
    rcases List.mem_append.mp hb' with hb' | hb'
    · exact hpre b' hb' e' he'
    · obtain rfl := List.mem_singleton.mp hb'
      cases hx : sortsAfter last e' with
      | true => exact htaken e' (List.mem_filter.mpr ⟨he', hx⟩)
      | false => exact not_sortsAfter_lt hx ((h e).mpr (allBefore_iff.mpr hpre))
  · intro hall
    exact ⟨fun b' hb' => hall b' (List.mem_append_left _ hb'),
      fun x hx => hall b (by simp) x (List.mem_filter.mp hx).1⟩

theorem Summ.nil (s : Store) : Summ s none [] := by
  intro e; simp [sortsAfter, allBefore]

/-- The entries a listing over the decreasing chain `c` takes from version `b`: those that no
newer version of the chain reaches. -/
def takenFromChain (s : Store) (c : List Nat) (b : Nat) : List IndexEntry :=
  (bandEntries s b).filter fun e =>
    c.all fun b' => decide (b' ≤ b) ||
      (bandEntries s b').all fun e' => apathCmp e'.apath e.apath == .lt

/-- Along a decreasing chain `c = pre ++ bs`, resumed where `pre` left off, the rule takes from each
version what no newer version of the chain reaches. -/
theorem stitchList_eq_taken {s : Store} (wf : ArchWF s) {c : List Nat} (hc : c.Pairwise (· > ·))
    (bs : List Nat) (last : Option Str) (pre : List Nat) (h : Summ s last pre) (hpre : pre ++ bs = c) :
    stitchList (ruleTake s) bs last = (bs.map (takenFromChain s c)).flatten := by
  induction bs generalizing last pre with
  | nil => rfl
  | cons b bs ih =>
    simp only [stitchList, ruleTake, List.map_cons, List.flatten_cons]
    rw [ih _ _ (h.step wf b) (by simpa using hpre)]
    congr 1
    unfold takenFromChain
    apply List.filter_congr
    intro e _
    subst hpre
    obtain ⟨_, hc2, hc3⟩ := List.pairwise_append.mp hc
    obtain ⟨hc4, _⟩ := List.pairwise_cons.mp hc2
    rw [Bool.eq_iff_iff, h e]
    simp only [allBefore, List.all_eq_true, List.mem_append, List.mem_cons, Bool.or_eq_true,
      decide_eq_true_eq]
    constructor
    · intro hall b' hb'
      rcases hb' with hb' | rfl | hb'
      · exact Or.inr (hall b' hb')
      · exact Or.inl (Nat.le_refl _)
      · exact Or.inl (Nat.le_of_lt (hc4 b' hb'))
    · intro hall b' hb'
      rcases hall b' (Or.inl hb') with hle | h
      · have := hc3 b' hb' b (by simp); omega
      · exact h

end Conserve
