import ConserveModel.Proofs.ExactTop
/-
Totality of the main part of `backup()` on a fault-free world, for an ARBITRARY source listing and
arbitrary options (gap "C10f": `C10.BackupCompletes` quantifies over every `src` and every `o`).

`Exact.backupMain_runs` (Proofs/ExactMain.lean) describes the run exactly and therefore assumes a good
source (`EntryGood`, sorted, 2^64 bound) and `0 < maxBlockSize`.  For mere SUCCESS none of this is
needed: the only things that can make the main part fail or panic are
  * a storage error of `createDir` / `write CreateNew` (in `storeOrDedup`, `finishHunk`, `bandClose`),
  * `IndexEntry::mtime()` of a BASIS entry (`heuristicallyUnchanged = none`).
`TInv` is the (weak) loop invariant under which every write of the main part targets a fresh key below
an existing directory.  It says nothing about entries, order, sizes, content or the hash.
No property statements here.
-/
set_option linter.unusedSimpArgs false
namespace Conserve.GapTotal
open Conserve Conserve.Exact Prog

variable {H : Str → Str} {o : BackupOpts}

/-- What the store and the writer must satisfy for every storage operation of the main part of
`backup()` to succeed on a fault-free world:
* `d/` is a directory and every `d/xxx` that exists is a directory (so `createDir` + the block write
  find their parent);
* every block file the in-memory set `exists_` does NOT know is absent or zero-length (so the
  `CreateNew` write of a block that is not deduplicated is accepted);
* the version being written has its directory and `i/`, no tail yet, no hunk file numbered
  `sequence` or higher, only directories as `i/DDDDD`, and — in the middle of a sub-directory — the
  current `i/DDDDD` in place. -/
structure TInv (s : Store) (wr : Writer) : Prop where
  blockRoot : s.get? .blockRoot = some .dir
  blockDirs : ∀ p v, s.get? (.blockDir p) = some v → v = .dir
  blocks : ∀ h, h ∉ wr.exists_ → s.get? (.block h) = none ∨ s.get? (.block h) = some .empty
  bandDir : s.get? (.bandDir wr.band) = some .dir
  indexDir : s.get? (.indexDir wr.band) = some .dir
  tail : s.get? (.bandTail wr.band) = none
  hunks : ∀ n, wr.sequence ≤ n → s.get? (.hunk wr.band n) = none
  hunkDirs : ∀ d v, s.get? (.hunkDir wr.band d) = some v → v = .dir
  hunkDirCur : wr.sequence % hunksPerSubdir ≠ 0 →
    s.get? (.hunkDir wr.band (wr.sequence / hunksPerSubdir)) = some .dir

theorem TInv.congr {s : Store} {wr wr' : Writer} (h : TInv s wr) (hb : wr'.band = wr.band)
    (hs : wr'.sequence = wr.sequence) (he : ∀ x, x ∈ wr.exists_ → x ∈ wr'.exists_) : TInv s wr' := by
  refine ⟨h.blockRoot, h.blockDirs, fun x hx => h.blocks x (fun hin => hx (he x hin)), ?_, ?_, ?_, ?_, ?_, ?_⟩
  · rw [hb]; exact h.bandDir
  · rw [hb]; exact h.indexDir
  · rw [hb]; exact h.tail
  · rw [hb, hs]; exact h.hunks
  · rw [hb]; exact h.hunkDirs
  · rw [hb, hs]; exact h.hunkDirCur

/-! Writes are by `put`; the invariant fixes directory keys to hold directories and file keys
(blocks the writer does not know, the tail, hunks from `sequence` on) to be free. -/

theorem get?_put_dir {s : Store} {k k' : Key} (h : s.get? k' = some .dir) :
    (s.put k .dir).get? k' = some .dir := by
  rw [Store.get?_put]
  split
  · rfl
  · exact h

theorem dir_of_get?_put_dir {s : Store} {k k' : Key} {v : FileVal} (h : ∀ v, s.get? k' = some v → v = .dir)
    (hg : (s.put k .dir).get? k' = some v) : v = .dir := by
  rw [Store.get?_put] at hg
  split at hg
  · exact (Option.some.inj hg).symm
  · exact h v hg

theorem TInv.put_dir {s : Store} {wr : Writer} (h : TInv s wr) {k : Key} (hk : isDirKey k = true) :
    TInv (s.put k .dir) wr := by
  have file : ∀ {k'}, isDirKey k' = false → (s.put k .dir).get? k' = s.get? k' := fun hf =>
    Store.get?_put_ne _ _ fun e => by rw [e, hk] at hf; cases hf
  refine ⟨get?_put_dir h.blockRoot, fun p v => dir_of_get?_put_dir (h.blockDirs p), fun x hx => ?_,
    get?_put_dir h.bandDir, get?_put_dir h.indexDir, (file rfl).trans h.tail, fun n hn => (file rfl).trans (h.hunks n hn),
    fun d v => dir_of_get?_put_dir (h.hunkDirs d), fun hm => get?_put_dir (h.hunkDirCur hm)⟩
  rw [file rfl]
  exact h.blocks x hx

theorem TInv.put_file {s : Store} {wr wr' : Writer} (h : TInv s wr) {k : Key} (v : FileVal)
    (hk : isDirKey k = false) (hb : wr'.band = wr.band)
    (he : ∀ x, x ∈ wr.exists_ → x ∈ wr'.exists_) (hblk : ∀ y, k = .block y → y ∈ wr'.exists_)
    (htail : k ≠ .bandTail wr.band) (hhunk : ∀ n, wr'.sequence ≤ n → wr.sequence ≤ n ∧ k ≠ .hunk wr.band n)
    (hcur : wr'.sequence % hunksPerSubdir ≠ 0 →
      s.get? (.hunkDir wr.band (wr'.sequence / hunksPerSubdir)) = some .dir) :
    TInv (s.put k v) wr' := by
  have dir : ∀ {k'}, isDirKey k' = true → (s.put k v).get? k' = s.get? k' := fun hd =>
    Store.get?_put_ne _ v fun e => by rw [e, hk] at hd; cases hd
  have ne : ∀ {k'}, k ≠ k' → (s.put k v).get? k' = s.get? k' := fun hne => Store.get?_put_ne _ v (Ne.symm hne)
  refine ⟨(dir rfl).trans h.blockRoot, fun p v' hg => h.blockDirs p v' ((dir rfl).symm.trans hg), fun y hy => ?_,
    hb ▸ (dir rfl).trans h.bandDir, hb ▸ (dir rfl).trans h.indexDir, hb ▸ (ne htail).trans h.tail,
    fun n hn => hb ▸ (ne (hhunk n hn).2).trans (h.hunks n (hhunk n hn).1),
    fun d v' hg => h.hunkDirs d v' ((dir rfl).symm.trans (hb ▸ hg)), fun hm => hb ▸ (dir rfl).trans (hcur hm)⟩
  rw [ne (fun e => hy (hblk y e))]
  exact h.blocks y (fun hin => hy (he y hin))

theorem TInv.put_block {s : Store} {wr wr' : Writer} (h : TInv s wr) (x : Str) (v : FileVal)
    (hb : wr'.band = wr.band) (hs : wr'.sequence = wr.sequence)
    (he : ∀ y, y = x ∨ y ∈ wr.exists_ → y ∈ wr'.exists_) : TInv (s.put (.block x) v) wr' :=
  h.put_file v rfl hb (fun y hy => he y (.inr hy)) (fun y e => he y (.inl (Key.block.inj e).symm))
    (fun e => nomatch e) (fun _ hn => ⟨hs ▸ hn, fun e => nomatch e⟩) (hs ▸ h.hunkDirCur)

theorem TInv.put_hunk {s : Store} {wr wr' : Writer} (h : TInv s wr)
    (hdir : s.get? (.hunkDir wr.band (wr.sequence / hunksPerSubdir)) = some .dir) (v : FileVal)
    (hb : wr'.band = wr.band) (hs : wr'.sequence = wr.sequence + 1)
    (he : ∀ x, x ∈ wr.exists_ → x ∈ wr'.exists_) : TInv (s.put (.hunk wr.band wr.sequence) v) wr' := by
  refine h.put_file v rfl hb he (fun y e => nomatch e) (fun e => nomatch e)
    (fun n hn => ⟨by omega, fun e => by cases e; omega⟩) (fun hm => ?_)
  -- within a sub-directory the next hunk goes where this one went
  rw [hs] at hm ⊢
  rw [Nat.succ_div, if_neg (fun hd => hm (Nat.mod_eq_zero_of_dvd hd))]
  exact hdir

theorem performUnit_createDir_exists {s : Store} {k : Key} {v : FileVal} (hex : s.get? k = some v) :
    RunsAt (performUnit (.createDir k)) s (.ok ()) s [] := by
  simp only [performUnit, perform, Prog.bind_def, Prog.op_bind, Prog.ret_bind]
  exact RunsAt.op_createDir_exists hex (RunsAt.ret _ _)

theorem storeOrDedup_total {s : Store} {wr : Writer} (data : Str) (hi : TInv s wr) :
    ∃ s' wr' h, RunsAt (storeOrDedup H wr data) s (.ok (wr', .ok h)) s' [] ∧ TInv s' wr' := by
  unfold storeOrDedup
  by_cases hc : wr.exists_.contains (H data) = true
  · rw [if_pos hc]
    exact ⟨s, _, _, RunsAt.ret _ _, hi.congr rfl rfl (fun _ h => h)⟩
  · rw [if_neg hc]
    have hnotin : H data ∉ wr.exists_ := by simpa using hc
    cases hg : s.get? (.blockDir ((H data).take subdirNameChars)) with
    | none =>
      have hpar : s.parentOk (.blockDir ((H data).take subdirNameChars)) = true :=
        parentOk_of_dir rfl hi.blockRoot
      have hi1 := hi.put_dir (k := .blockDir ((H data).take subdirNameChars)) rfl
      have hpar2 : (s.put (.blockDir ((H data).take subdirNameChars)) .dir).parentOk (.block (H data)) = true :=
        parentOk_of_dir rfl (by rw [Store.get?_put, if_pos rfl])
      refine ⟨_, _, _, RunsAt.op_createDir hg hpar
        (RunsAt.op_write hpar2 (hi1.blocks _ hnotin) (RunsAt.ret _ _)), ?_⟩
      exact hi1.put_block (H data) _ rfl rfl (fun y hy => by simpa using hy)
    | some v =>
      have hv := hi.blockDirs _ _ hg
      subst hv
      have hpar2 : s.parentOk (.block (H data)) = true := parentOk_of_dir rfl hg
      refine ⟨_, _, _, RunsAt.op_createDir_exists hg
        (RunsAt.op_write hpar2 (hi.blocks _ hnotin) (RunsAt.ret _ _)), ?_⟩
      exact hi.put_block (H data) _ rfl rfl (fun y hy => by simpa using hy)

theorem combinerFlush_total {s : Store} {wr : Writer} (hi : TInv s wr) :
    ∃ s' wr', RunsAt (combinerFlush H wr) s (.ok (wr', .ok ())) s' [] ∧ TInv s' wr' := by
  unfold combinerFlush
  by_cases hq : wr.queue.isEmpty = true
  · rw [if_pos hq]
    exact ⟨s, wr, RunsAt.ret _ _, hi⟩
  · rw [if_neg hq]
    obtain ⟨s', wr', h, hr, hi'⟩ := storeOrDedup_total (H := H) (wr := { wr with buf := [] }) wr.buf
      (hi.congr rfl rfl (fun _ h => h))
    exact ⟨s', _, RunsAt.bind0 hr (RunsAt.ret _ _), hi'.congr rfl rfl (fun _ h => h)⟩

theorem combinerPush_total {s : Store} {wr : Writer} (sf : SrcEntry) (hi : TInv s wr) :
    ∃ s' wr', RunsAt (combinerPush H o wr sf) s (.ok (wr', .ok ())) s' [] ∧ TInv s' wr' := by
  unfold combinerPush
  rw [Inv.metadataFrom_eq]
  dsimp only
  by_cases hd : (sf.content.take sf.size).isEmpty = true
  · rw [if_pos hd]
    exact ⟨s, _, RunsAt.ret _ _, hi.congr rfl rfl (fun _ h => h)⟩
  · rw [if_neg hd]
    split
    · exact combinerFlush_total (hi.congr rfl rfl (fun _ h => h))
    · exact ⟨s, _, RunsAt.ret _ _, hi.congr rfl rfl (fun _ h => h)⟩

theorem storeChunks_total (cs : List Str) : ∀ {s : Store} {wr : Writer} (acc : List Addr), TInv s wr →
    ∃ s' wr' addrs, RunsAt (storeChunks H wr cs acc) s (.ok (wr', .ok addrs)) s' [] ∧ TInv s' wr' := by
  induction cs with
  | nil =>
    intro s wr acc hi
    exact ⟨s, wr, acc, RunsAt.ret _ _, hi⟩
  | cons c cs ih =>
    intro s wr acc hi
    obtain ⟨s1, wr1, h, hr1, hi1⟩ := storeOrDedup_total (H := H) c hi
    obtain ⟨s2, wr2, addrs, hr2, hi2⟩ := ih (acc ++ [{ hash := h, start := 0, len := c.length }]) hi1
    refine ⟨s2, wr2, addrs, ?_, hi2⟩
    unfold storeChunks
    exact RunsAt.bind0 hr1 hr2

theorem storeFileContent_total {s : Store} {wr : Writer} (sf : SrcEntry) (hi : TInv s wr) :
    ∃ s' wr' addrs, RunsAt (storeFileContent H o wr sf) s (.ok (wr', .ok addrs)) s' [] ∧ TInv s' wr' := by
  obtain ⟨s', wr', addrs, hr, hi'⟩ := storeChunks_total (H := H) (chunks o.maxBlockSize sf.content) [] hi
  unfold storeFileContent
  exact ⟨s', _, addrs, RunsAt.bind0 hr (RunsAt.ret _ _), hi'.congr rfl rfl (fun _ h => h)⟩

theorem copyFileStore_total {s : Store} {wr : Writer} (ck : ChangeKind) (sf : SrcEntry) (hi : TInv s wr) :
    ∃ s' wr', RunsAt (Inv.copyFileStore H o wr ck sf) s (.ok (wr', .ok (some ck))) s' [] ∧ TInv s' wr' := by
  unfold Inv.copyFileStore
  rw [Inv.metadataFrom_eq]
  by_cases h0 : sf.size = 0
  · rw [if_pos h0]
    exact ⟨s, _, RunsAt.ret _ _, hi.congr rfl rfl (fun _ h => h)⟩
  · rw [if_neg h0]
    by_cases h1 : sf.size ≤ o.smallFileCap
    · rw [if_pos h1]
      obtain ⟨s', wr', hr, hi'⟩ := combinerPush_total (H := H) (o := o) sf hi
      exact ⟨s', wr', RunsAt.bind0 hr (RunsAt.ret _ _), hi'⟩
    · rw [if_neg h1]
      obtain ⟨s', wr', addrs, hr, hi'⟩ := storeFileContent_total (H := H) (o := o) sf hi
      exact ⟨s', _, RunsAt.bind0 hr (RunsAt.ret _ _), hi'.congr rfl rfl (fun _ h => h)⟩

/-- `copy_file`: the only way it could go wrong on a fault-free world is the panic of
`IndexEntry::mtime()` on a BASIS entry with an out-of-range time; `hbasis` excludes it. -/
theorem copyFile_total {s : Store} {wr : Writer} (basis : Option IndexEntry) (sf : SrcEntry) (hi : TInv s wr)
    (hbasis : ∀ b, basis = some b → (entryTimeNs b.mtime b.mtimeNanos).isSome = true) :
    ∃ s' wr' ck, RunsAt (copyFile H o wr basis sf) s (.ok (wr', .ok (some ck))) s' [] ∧ TInv s' wr' := by
  rcases Inv.copyFile_cases (H := H) o wr basis sf with ⟨st, ck, _, h⟩ | ⟨b, m, hb, hh, _⟩ | ⟨b, st, ck, _, _, _, _, h⟩
  · rw [h]
    obtain ⟨s', wr', hr, hi'⟩ := copyFileStore_total (H := H) (o := o) (wr := { wr with stats := st }) ck sf
      (hi.congr rfl rfl (fun _ h => h))
    exact ⟨s', wr', ck, hr, hi'⟩
  · exact absurd hh (heuristicallyUnchanged_ne_none (hbasis b hb))
  · rw [h]
    exact ⟨s, _, ck, RunsAt.ret _ _, hi.congr rfl rfl (fun _ h => h)⟩

theorem copyEntry_total {s : Store} {wr : Writer} (basis : Option IndexEntry) (sf : SrcEntry) (hi : TInv s wr)
    (hbasis : ∀ b, basis = some b → (entryTimeNs b.mtime b.mtimeNanos).isSome = true) :
    ∃ s' wr' ch, RunsAt (copyEntry H o wr basis sf) s (.ok (wr', .ok ch)) s' [] ∧ TInv s' wr' := by
  unfold copyEntry
  simp only [Inv.metadataFrom_eq, Prog.pure_def]
  cases hk : sf.kind with
  | file =>
    obtain ⟨s', wr', ck, hr, hi'⟩ := copyFile_total (H := H) (o := o) basis sf hi hbasis
    exact ⟨s', wr', some ck, hr, hi'⟩
  | dir => exact ⟨s, _, none, RunsAt.ret _ _, hi.congr rfl rfl (fun _ h => h)⟩
  | symlink => exact ⟨s, _, none, RunsAt.ret _ _, hi.congr rfl rfl (fun _ h => h)⟩
  | unknown => exact ⟨s, _, none, RunsAt.ret _ _, hi.congr rfl rfl (fun _ h => h)⟩

theorem finishHunk_total {s : Store} {wr : Writer} (hi : TInv s wr) :
    ∃ s' wr', RunsAt (finishHunk wr) s (.ok wr') s' [] ∧ TInv s' wr' := by
  unfold finishHunk
  by_cases hp : wr.pending.isEmpty = true
  · rw [if_pos hp]
    exact ⟨s, wr, RunsAt.ret _ _, hi⟩
  · rw [if_neg hp]
    -- the hunk write, in a store where the sub-directory is in place
    have write : ∀ s1, TInv s1 wr → s1.get? (.hunkDir wr.band (wr.sequence / hunksPerSubdir)) = some .dir →
        ∀ v, ∃ s' wr', RunsAt ((performUnit (.write (.hunk wr.band wr.sequence) v .createNew)).bind fun _ =>
            Prog.ret { wr with pending := [], sequence := wr.sequence + 1, hunksWritten := wr.hunksWritten + 1 })
          s1 (.ok wr') s' [] ∧ TInv s' wr' := by
      intro s1 hi1 hdir v
      have hpar : s1.parentOk (.hunk wr.band wr.sequence) = true := parentOk_of_dir rfl hdir
      exact ⟨_, _, RunsAt.bind0 (a := ()) (RunsAt.performUnit_write hpar (Or.inl (hi1.hunks _ (Nat.le_refl _))))
        (RunsAt.ret _ _), hi1.put_hunk hdir v rfl rfl (fun _ h => h)⟩
    by_cases hm : wr.sequence % hunksPerSubdir = 0
    · rw [if_pos hm]
      cases hg : s.get? (.hunkDir wr.band (wr.sequence / hunksPerSubdir)) with
      | none =>
        have hpar : s.parentOk (.hunkDir wr.band (wr.sequence / hunksPerSubdir)) = true :=
          parentOk_of_dir rfl hi.indexDir
        obtain ⟨s', wr', hr, hi'⟩ := write _ (hi.put_dir (k := .hunkDir wr.band (wr.sequence / hunksPerSubdir)) rfl)
          (by simp [Store.get?_put]) (.hunk (wr.pending.mergeSort fun a b => apathLe a.apath b.apath))
        exact ⟨s', wr', RunsAt.bind0 (a := ()) (RunsAt.performUnit_createDir hg hpar) hr, hi'⟩
      | some v =>
        have hv := hi.hunkDirs _ _ hg
        subst hv
        obtain ⟨s', wr', hr, hi'⟩ := write s hi hg (.hunk (wr.pending.mergeSort fun a b => apathLe a.apath b.apath))
        exact ⟨s', wr', RunsAt.bind0 (a := ()) (performUnit_createDir_exists hg) hr, hi'⟩
    · rw [if_neg hm]
      exact write s hi (hi.hunkDirCur hm) _

theorem flushGroup_total {s : Store} {wr : Writer} (hi : TInv s wr) :
    ∃ s' wr', RunsAt (flushGroup H wr) s (.ok wr') s' [] ∧ TInv s' wr' := by
  obtain ⟨s1, wr1, hr1, hi1⟩ := combinerFlush_total (H := H) hi
  obtain ⟨s2, wr2, hr2, hi2⟩ := finishHunk_total
    (wr := { wr1 with pending := wr1.pending ++ wr1.finished, finished := [] }) (hi1.congr rfl rfl (fun _ h => h))
  refine ⟨s2, wr2, ?_, hi2⟩
  unfold flushGroup
  exact RunsAt.bind0 hr1 hr2

/-- No hypothesis on the source entries at all: only the basis entries need a representable time. -/
theorem backupLoop_total (ms : List Matched) (s : Store) (wr : Writer) (hi : TInv s wr)
    (hms : ∀ m ∈ ms, m.All BasisTimed) :
    ∃ s' wr' evs, RunsAt (backupLoop H o wr ms) s (.ok wr') s' evs ∧ TInv s' wr' := by
  obtain ⟨s', wr', evs, hr, hi', _⟩ := backupLoop_rule (H := H) (o := o) (P := fun _ => True)
    (W := fun _ s wr => TInv s wr)
    (fun {_ _ _ basis sf} hi hm =>
      let ⟨s1, wr1, ch, hr, hi1⟩ := copyEntry_total (H := H) (o := o) basis sf hi hm
      ⟨s1, wr1, ch, hr.toT, hi1⟩)
    (fun hi => let ⟨s1, wr1, hr, hi1⟩ := flushGroup_total (H := H) hi; ⟨s1, wr1, hr.toT, hi1⟩)
    ms s wr hi hms
  exact ⟨s', wr', evs, hr.runsAt, hi'⟩

/-- The loop, the final flush and `Band::close` return statistics — no `.err`, no panic — also with
`maxBlockSize = 0` or `maxEntriesPerHunk = 0`.  `hbasis`: the basis entries have a representable
time (they passed `IndexEntry::check` when the basis was listed). -/
theorem backupMain_total {s : Store} (src : List SrcEntry) (x : Nat × List Str × List IndexEntry)
    (hi : TInv s { band := x.1, exists_ := x.2.1 })
    (hbasis : ∀ b ∈ x.2.2, (entryTimeNs b.mtime b.mtimeNanos).isSome = true) :
    ∃ stats s' evs, RunsAt (Inv.backupMain H o src x) s (.ok stats) s' evs := by
  obtain ⟨s1, wr1, evs, hr1, hi1⟩ := backupLoop_total (H := H) (o := o) (mergeTrees x.2.2 src) s _ hi
    (Inv.mergeTrees_all _ _ fun _ _ _ hb b hbb => hbasis b (hb b hbb).1)
  obtain ⟨s2, wr2, hr2, hi2⟩ := flushGroup_total (H := H) hi1
  obtain ⟨s3, wr3, hr3, hi3⟩ := finishHunk_total hi2
  have hpar : s3.parentOk (.bandTail wr3.band) = true := parentOk_of_dir rfl hi3.bandDir
  have hclose : RunsAt (bandClose wr3.band wr3.hunksWritten) s3 (.ok ())
      (s3.put (.bandTail wr3.band) (.tail (some wr3.hunksWritten))) [] :=
    RunsAt.performUnit_write hpar (Or.inl hi3.tail)
  refine ⟨wr3.stats, s3.put (.bandTail wr3.band) (.tail (some wr3.hunksWritten)), evs, ?_⟩
  unfold Inv.backupMain
  refine RunsAt.bind_r0 hr1 ?_
  refine RunsAt.bind0 hr2 ?_
  refine RunsAt.bind0 hr3 ?_
  exact RunsAt.bind0 (a := ()) hclose (RunsAt.ret wr3.stats _)

end Conserve.GapTotal
