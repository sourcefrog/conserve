import ConserveModel.Proofs.ConformsSat
/-
C13: the writer invariant `W2` (every recorded address resolves; only files have addresses; the
combiner's queue describes its buffer) through the block level of `backup` in all worlds
(`combinerFlush_csat`, `copyEntry_csat`), from what the functions return (`Blk.Flushed`, `Blk.Pushed`,
`Blk.Copied`, Proofs/BlockSpec.lean).
Unlike C04's `WriterOK` nothing is said about WHICH bytes an address denotes, so nothing has to be
assumed about the basis listing beyond its addresses resolving.  No property statements here.
-/
namespace Conserve.Conf
open Conserve Conserve.Inv Prog

section
variable {H : Str → Str}

/-- An entry's addresses lie inside present, well-named blocks, and only files have any. -/
def AddrOK (H : Str → Str) (s : Store) (e : IndexEntry) : Prop :=
  (∀ a ∈ e.addrs, (readAddrPure H s a).isSome = true) ∧ (e.kind ≠ .file → e.addrs = [])

theorem AddrOK.mono {s s' : Store} {e : IndexEntry} (h : AddrOK H s e) (hx : Extends s s') : AddrOK H s' e :=
  ⟨fun a ha => readAddrPure_isSome_mono H hx (h.1 a ha), h.2⟩

theorem AddrOK.nil {s : Store} {e : IndexEntry} (h : e.addrs = []) : AddrOK H s e :=
  ⟨fun a ha => (by rw [h] at ha; cases ha), fun _ => h⟩

/-- The writer part of the C13 invariant. -/
structure W2 (H : Str → Str) (s : Store) (wr : Writer) : Prop where
  exists_ : ExistsOK H s wr.exists_
  queue : ∀ q ∈ wr.queue, q.2.2.kind = .file ∧ q.1 + q.2.1 ≤ wr.buf.length
  pending : ∀ e ∈ wr.pending, AddrOK H s e
  finished : ∀ e ∈ wr.finished, AddrOK H s e

theorem W2.mono {s s' : Store} {wr : Writer} (h : W2 H s wr) (hx : Extends s s') : W2 H s' wr :=
  ⟨h.exists_.mono hx, h.queue, fun e he => (h.pending e he).mono hx, fun e he => (h.finished e he).mono hx⟩

theorem W2.setStats {s : Store} {wr : Writer} (h : W2 H s wr) (st : Stats) : W2 H s { wr with stats := st } :=
  ⟨h.exists_, h.queue, h.pending, h.finished⟩

theorem W2.setExists {s s' : Store} {wr : Writer} (h : W2 H s wr) (hx : Extends s s') {ex : List Str}
    (hex : ExistsOK H s' ex) (st : Stats) : W2 H s' { wr with exists_ := ex, stats := st } :=
  ⟨hex, h.queue, fun e he => (h.pending e he).mono hx, fun e he => (h.finished e he).mono hx⟩

theorem W2.pushPending {s : Store} {wr : Writer} (h : W2 H s wr) {e : IndexEntry} (he : AddrOK H s e)
    (st : Stats) : W2 H s { wr with pending := wr.pending ++ [e], stats := st } :=
  ⟨h.exists_, h.queue, List.forall_mem_append.2 ⟨h.pending, List.forall_mem_singleton.2 he⟩, h.finished⟩

theorem W2.pushQueue {s : Store} {wr : Writer} (hwr : W2 H s wr) (o : BackupOpts) {sf : SrcEntry}
    (hkind : sf.kind = .file) : W2 H s (Blk.queued o sf wr) := by
  refine ⟨hwr.exists_, List.forall_mem_append.2 ⟨fun q hq => ?_, ?_⟩, hwr.pending, hwr.finished⟩
  · obtain ⟨h1, h2⟩ := hwr.queue q hq
    exact ⟨h1, by simp only [Blk.queued, List.length_append]; omega⟩
  · exact List.forall_mem_singleton.2 ⟨hkind, by simp [Blk.queued]⟩

/-- A block-level function in C13's logic: the frame (nothing but blocks has changed) from its
footprint, the postcondition from `Blk.Carries`. -/
theorem CSat.of_block (hlen : HashLen H) {β : Type} {p : Prog (Writer × β)} (hfp : AllOps (BlockWr H) p)
    {wr : Writer} {R : Writer × β → Prop} (hp : Blk.Carries H wr p R) {w : World} (hw : CWOK H w)
    (hex : ExistsOK H w.store wr.exists_) {Q : Writer × β → World → Prop}
    (hq : ∀ x w', CFrame H w w' → NonBlockSame w.store w'.store → R x → ExistsOK H w'.store x.1.exists_ → Q x w') :
    CSat H p w Q :=
  have hs := CSat.of_blk hlen (hfp.mono fun _ => BlockWr.blockOp) hw
  ⟨hs.1, fun x hx => hq x _ hs.1 (hs.2 x hx) (hp w x hx).1 ((hp w x hx).2 hw.enforce hex)⟩

theorem _root_.Conserve.Blk.Flushed.w2 (hinj : Function.Injective H) {s s' : Store} {wr : Writer}
    {x : Writer × Except Err Unit} (h : Blk.Flushed H wr x) (hwr : W2 H s wr) (hx : Extends s s')
    (hex : ExistsOK H s' x.1.exists_) : W2 H s' x.1 ∧ (x.2 = .ok () → x.1.queue = []) := by
  have hwr' := hwr.mono hx
  cases h with
  | idle hq => exact ⟨hwr', fun _ => hq⟩
  | failed e => exact ⟨hwr', fun h => nomatch h⟩
  | done ex st hmem =>
    have hb := Blk.blockContent_of_exists hinj hex hmem
    refine ⟨⟨hex, (by intro q hq; cases hq), hwr'.pending, ?_⟩, fun _ => rfl⟩
    intro e he
    simp only [List.mem_append, List.mem_map] at he
    rcases he with he | ⟨⟨start, len, e0⟩, hq', rfl⟩
    · exact hwr'.finished e he
    · obtain ⟨hk, hle⟩ := hwr.queue _ hq'
      exact ⟨readBack_addr_isSome H (Blk.readBack_single hb hle), fun hne => absurd hk hne⟩

theorem _root_.Conserve.Blk.Pushed.w2 (hinj : Function.Injective H) {s s' : Store} {o : BackupOpts}
    {sf : SrcEntry} {wr : Writer} {x : Writer × Except Err Unit} (h : Blk.Pushed H o sf wr x) (hwr : W2 H s wr)
    (hx : Extends s s') (hex : ExistsOK H s' x.1.exists_) (hkind : sf.kind = .file) : W2 H s' x.1 := by
  cases h with
  | empty st hd =>
    have hwr' := hwr.mono hx
    exact ⟨hwr'.exists_, hwr'.queue, hwr'.pending,
      List.forall_mem_append.2 ⟨hwr'.finished, List.forall_mem_singleton.2 (AddrOK.nil rfl)⟩⟩
  | queued => exact (hwr.pushQueue o hkind).mono hx
  | flushed h => exact (h.w2 hinj (hwr.pushQueue o hkind) hx hex).1

/-- `hbasis` (a basis file entry's addresses resolve) is true of every entry of a conforming archive. -/
theorem _root_.Conserve.Blk.Copied.w2 (hinj : Function.Injective H) {o : BackupOpts} {sf : SrcEntry}
    {basis : Option IndexEntry} {wr : Writer} {s s' : Store} {x : Writer × Except Err (Option ChangeKind)}
    (h : Blk.Copied H o sf basis wr x) (hwr : W2 H s wr) (hx : Extends s s') (hex : ExistsOK H s' x.1.exists_)
    (hbasis : ∀ b, basis = some b → b.kind = .file → ∀ a ∈ b.addrs, (readAddrPure H s a).isSome = true) :
    W2 H s' x.1 := by
  have hwr' := hwr.mono hx
  cases h with
  | skipped st => exact hwr'.setStats st
  | plain st r _ _ => exact hwr'.pushPending (AddrOK.nil rfl) st
  | reused b st ck hk hb hh _ =>
    refine hwr'.pushPending ⟨fun a ha => ?_, fun hne => absurd hk hne⟩ st
    exact readAddrPure_isSome_mono H hx (hbasis b hb ((heuristicallyUnchanged_kind hh).trans hk) a ha)
  | small st x r hk hp => exact hp.w2 hinj (hwr.setStats st) hx hex hk
  | failed ex st e _ => exact hwr.setExists hx hex st
  | large ex st ck hk _ hall =>
    refine (hwr.setExists hx hex st).pushPending ⟨?_, fun hne => absurd hk hne⟩ st
    exact readBack_addr_isSome H (Blk.readBack_chunks hinj hex _ hall)

/-- `FileCombiner::flush` in every world. -/
theorem combinerFlush_csat (hinj : Function.Injective H) (hlen : HashLen H) (wr : Writer) (w : World)
    (hw : CWOK H w) (hwr : W2 H w.store wr) :
    CSat H (combinerFlush H wr) w (fun x w' =>
      (W2 H w'.store x.1 ∧ (x.2 = .ok () → x.1.queue = [])) ∧ NonBlockSame w.store w'.store ∧ BufStep wr x.1 []) :=
  CSat.of_block hlen (combinerFlush_fp H wr) (Blk.combinerFlush_carries H wr) hw hwr.exists_
    fun _ _ hf hsame hr hex => ⟨hr.w2 hinj hwr hf.ext hex, hsame, hr.bufStep.1⟩

/-- `BackupWriter::copy_entry` in every world. -/
theorem copyEntry_csat (hinj : Function.Injective H) (hlen : HashLen H) (o : BackupOpts) (wr : Writer)
    (basis : Option IndexEntry) (sf : SrcEntry) (w : World) (hw : CWOK H w) (hwr : W2 H w.store wr)
    (hbasis : ∀ b, basis = some b → b.kind = .file → ∀ a ∈ b.addrs, (readAddrPure H w.store a).isSome = true) :
    CSat H (copyEntry H o wr basis sf) w (fun x w' =>
      W2 H w'.store x.1 ∧ NonBlockSame w.store w'.store ∧ StepOf o sf wr x.1) :=
  CSat.of_block hlen (copyEntry_fp H o wr basis sf) (Blk.copyEntry_carries H o wr basis sf) hw hwr.exists_
    fun _ _ hf hsame hr hex => ⟨hr.w2 hinj hwr hf.ext hex hbasis, hsame, hr.stepOf⟩

end

end Conserve.Conf
