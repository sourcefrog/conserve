import ConserveModel.Proofs.FsWalk
/-
Path resolution off the clean paths: it never says EEXIST; following or not following the final
component makes no difference if the result is not a symlink; a resolution that meets a non-directory
before its last component fails.
-/
namespace Conserve

theorem walk_ne_eexist (fs : Fs) (follow : Bool) (fuel links : Nat) (cur : Path) (path : List Str) :
    walk fs follow fuel links cur path ≠ .error .EEXIST := by
  fun_induction walk fs follow fuel links cur path
  all_goals first
    | assumption
    | (intro h; cases h)

theorem resolve_ne_eexist (fs : Fs) (follow : Bool) (path : List Str) :
    fs.resolve follow path ≠ .error .EEXIST :=
  walk_ne_eexist fs follow _ _ _ _

/-- The two walks differ only at a final symlink, which the no-follow walk returns. -/
theorem walk_true_of_false (fs : Fs) (fuel links : Nat) (cur : Path) (path : List Str) (p : Path) :
    walk fs false fuel links cur path = .ok p → NotLink (fs.node p) →
      walk fs true fuel links cur path = .ok p := by
  -- the cases of `walk` that can succeed, in the order of its definition; in each but the last
  -- both walks take the same branch
  fun_induction walk fs false fuel links cur path with
  | case2 =>
    intro h _
    simpa [walk] using h
  | case5 fuel links cur c rest x hx hk hc ih => -- "" or "."
    intro h hp
    simp only [walk, hx, hk, hc, if_false, if_true]
    exact ih h hp
  | case6 fuel links cur rest x hx hk hc ih => -- ".."
    intro h hp
    simp only [walk, hx, hk, hc, if_false, if_true]
    exact ih h hp
  | case7 fuel links cur c rest x hx hk hc1 hc2 hy he => -- the last component, absent
    intro h _
    simp only [walk, hx, hk, hc1, hc2, hy, he, if_false, if_true]
    exact h
  | case11 fuel cur c rest x hx hk hc1 hc2 y hy hs ht l hh ih => -- a symlink followed, absolute target
    intro h hp
    have hs' : y.kind = .symlink ∧ ¬ (rest.isEmpty = true ∧ true = false) := ⟨hs.1, by simp⟩
    simp only [walk, hx, hk, hc1, hc2, hy, hs', ht, hh, if_false, if_true]
    exact ih h hp
  | case12 fuel cur c rest x hx hk hc1 hc2 y hy hs ht l hh ih => -- … relative target
    intro h hp
    have hs' : y.kind = .symlink ∧ ¬ (rest.isEmpty = true ∧ true = false) := ⟨hs.1, by simp⟩
    simp only [walk, hx, hk, hc1, hc2, hy, hs', ht, hh, if_false]
    exact ih h hp
  | case13 fuel links cur c rest x hx hk hc1 hc2 y hy hnot ih => -- a step into `cur ++ [c]`
    intro h hp
    -- a final symlink the no-follow walk does not follow is what that walk returns: excluded
    have hs : y.kind ≠ .symlink := by
      intro hs
      have hrest : rest = [] := Classical.byContradiction fun hne => hnot ⟨hs, by simp [hne]⟩
      subst hrest
      cases fuel with
      | zero => simp [walk] at h
      | succ f =>
        simp only [walk, Except.ok.injEq] at h
        exact hp y (h ▸ hy) hs
    simp only [walk, hx, hk, hc1, hc2, hy, hs, false_and, if_false]
    exact ih h hp
  | _ =>
    intro h
    simp at h

/-- All the components before the non-directory exist and are no symlinks, so the walk gets there,
and stops (ENOTDIR, or an earlier error). -/
theorem walk_blocked (fs : Fs) (follow : Bool) :
    ∀ (fuel links : Nat) (cur : Path) (pre0 : List Str) (c : Str) (rest : List Str),
      (∀ c ∈ pre0, goodName c = true) →
      (∀ pre, pre <+: pre0 → pre ≠ [] → ∃ x, fs.node (cur ++ pre) = some x ∧ x.kind ≠ .symlink) →
      (∀ x, fs.node (cur ++ pre0) = some x → x.kind ≠ .dir) →
      ∀ p, walk fs follow fuel links cur (pre0 ++ c :: rest) ≠ .ok p := by
  intro fuel
  induction fuel with
  | zero => intro links cur pre0 c rest _ _ _ p h; simp [walk] at h
  | succ fuel ih =>
    intro links cur pre0 c rest hg hsolid hblock p h
    cases pre0 with
    | nil =>
      obtain ⟨x, hn, hk⟩ := walk_ok_dir h
      exact hblock x (by rw [List.append_nil]; exact hn) hk
    | cons a pre0' =>
      obtain ⟨x, hn, hk⟩ := walk_ok_dir h
      obtain ⟨y, hy, hyk⟩ := hsolid [a] (by simp) (by simp)
      rw [List.cons_append, walk_good_step (hg a List.mem_cons_self) hn hk hy (fun hs => absurd hs hyk)] at h
      exact ih links (cur ++ [a]) pre0' c rest (fun d hd => hg d (List.mem_cons_of_mem _ hd))
        (fun q hq hqne => by simpa using hsolid (a :: q) (List.cons_prefix_cons.2 ⟨rfl, hq⟩) (List.cons_ne_nil _ _))
        (fun x hx => hblock x (by simpa using hx)) p h

end Conserve
