import ConserveModel.Proofs.GapTotal
/-
`backup()` as a whole is total on a fault-free world holding a "fair" archive, for every source
listing, all options and every hash: the prelude (`Exact.backupPrelude_runs_fair`, which does not
depend on the hash) followed by the main part (`GapTotal.backupMain_total`).  The loop invariant after
the prelude needs the in-memory block set to know every non-empty block file, which holds as soon as
each has a name of three characters or more (`LongNames`: what `list_blocks` needs to SEE the file).
-/
namespace Conserve.GapTotal
open Conserve Conserve.Exact Prog

variable {H : Str → Str} {o : BackupOpts}

/-- Every block file that is not a zero-length leftover has a name of at least
`SUBDIR_NAME_CHARS` = 3 characters: its directory `d/xxx` has a three-character name, which is what
`blockdir::list_blocks` looks at (it skips every other sub-directory of `d/`). -/
def LongNames (s : Store) : Prop :=
  ∀ h v, s.get? (.block h) = some v → v ≠ .empty → subdirNameChars ≤ h.length

theorem longNames_of_hlen {s : Store} (hlen : ∀ d, subdirNameChars ≤ (H d).length) (hb : Inv.BlocksGood H s) :
    LongNames s :=
  names_of_hlen hlen hb

theorem longNames_of_dirNames {s : Store} (hst : StoreOK H s)
    (hn : ∀ p v, s.get? (.blockDir p) = some v → p.length = subdirNameChars) : LongNames s := by
  intro h v hg _
  have := hn _ _ (hst.parent_dir hg rfl)
  simp only [List.length_take, subdirNameChars] at this ⊢
  omega

theorem tinv_of_linv {H' : Str → Str} {nb : Nat} {s0 s : Store} {ex : List Str} {pre grp : List SrcEntry}
    {bytes : Nat} (hl : LInv H' o nb s0 s { band := nb, exists_ := ex } [] pre grp bytes) :
    TInv s { band := nb, exists_ := ex } := by
  refine ⟨hl.b.st.blockRoot, fun p v hg => hl.b.st.blockDir_dir hg, ?_, hl.bi.bandDir, hl.bi.indexDir,
    hl.bi.tail, ?_, ?_, ?_⟩
  · intro h hn
    cases hg : s.get? (.block h) with
    | none => exact Or.inl rfl
    | some v =>
      rcases hl.b.st.blocks h v hg with rfl | ⟨c, rfl, _⟩
      · exact Or.inr rfl
      · exact absurd (hl.b.exAll h ⟨_, hg, rfl, rfl⟩) hn
  · intro n _
    have := hl.bi.hunk n
    simpa using this
  · intro d v hg
    have := hl.bi.hunkDir d
    rw [hg] at this
    simp at this
  · intro hm
    exact absurd rfl hm

/-- The archive may be damaged in any way the hypotheses allow: versions that do not list, missing
hunks, heads or tails, entries that refer to missing blocks. -/
theorem backup_runs_total {s : Store} (hst : StoreOK H s) (hwf : ArchWF s) (noLock : s.get? .gcLock = none)
    (hn : LongNames s) (o : BackupOpts) (src : List SrcEntry) :
    ∃ stats s' evs, RunsAt (backup H o src) s (.ok stats) s' evs := by
  have hr1 := backupPrelude_runs_fair hst hwf noLock
  obtain ⟨stats, s', evs, hr2⟩ := backupMain_total (H := H) (o := o) src
    (newBandOf s, blockNamesOf (withNewBand s), basisListing s)
    (tinv_of_linv (prelude_linv_of_names (o := o) hst hn)) (basisListing_times s)
  refine ⟨stats, s', evs ++ evsOf (basisErrors s), ?_⟩
  rw [Inv.backup_eq]
  exact RunsAt.bind hr1 hr2

end Conserve.GapTotal
