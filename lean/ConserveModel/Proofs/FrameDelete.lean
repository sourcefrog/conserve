import ConserveModel.Proofs.FrameOps
/-
Which operations `delete_bands` can issue: everything `CreateOnly`, plus exactly three kinds of
removal — the directory of a requested version, a block file, and the gc lock file.
-/
namespace Conserve
open Prog

/-- Operations `deleteBands _ D _` may issue, with a side condition `Q` on the blocks removed:
anything `CreateOnly`, `removeDirAll` of the directory of a version in `D`, `removeFile` of the gc
lock, `removeFile` of a block `h` with `Q h`. -/
def DeleteOpQ (D : List Nat) (Q : Str → Prop) : Op → Prop
  | .removeDirAll k => ∃ b, b ∈ D ∧ k = .bandDir b
  | .removeFile k => k = .gcLock ∨ ∃ h, k = .block h ∧ Q h
  | o => CreateOnly o

def DeleteOp (D : List Nat) : Op → Prop := DeleteOpQ D (fun _ => True)

theorem CreateOnly.deleteOpQ {D : List Nat} {Q : Str → Prop} {o : Op} (h : CreateOnly o) : DeleteOpQ D Q o := by
  cases o <;> simp_all [CreateOnly, DeleteOpQ]

theorem DeleteOpQ.removeFile_iff {D : List Nat} {Q : Str → Prop} {k : Key} :
    DeleteOpQ D Q (.removeFile k) ↔ (k = .gcLock ∨ ∃ h, k = .block h ∧ Q h) := Iff.rfl

theorem DeleteOpQ.removeDirAll_iff {D : List Nat} {Q : Str → Prop} {k : Key} :
    DeleteOpQ D Q (.removeDirAll k) ↔ ∃ b, b ∈ D ∧ k = .bandDir b := Iff.rfl

theorem DeleteOpQ.overwrite_false {D : List Nat} {Q : Str → Prop} {k : Key} {v : FileVal} :
    ¬ DeleteOpQ D Q (.write k v .overwrite) := by
  simp [DeleteOpQ, CreateOnly]

theorem GcOp.deleteOpQ {D : List Nat} {Q : Str → Prop} {o : Op} (h : GcOp D Q o) : DeleteOpQ D Q o := by
  cases h with
  | rd h => exact h.createOnly.deleteOpQ
  | lock => exact rfl
  | unlock => exact .inl rfl
  | band h => exact ⟨_, h, rfl⟩
  | block h => exact .inr ⟨_, rfl, h⟩

theorem referencedBlocks_ro (strict : Bool) (bs : List Nat) : AllOps ReadOnly (referencedBlocks strict bs) :=
  (referencedBlocks_fp strict bs).rd_ro

theorem gcLockCheck_ro (held : Option Nat) : AllOps ReadOnly (gcLockCheck held) :=
  (gcLockCheck_fp (K := (· = .root)) rfl held).rd_ro

theorem deleteBody_measure_ro (hs : List Str) : AllOps ReadOnly (deleteBody.measure hs) :=
  (deleteBody_measure_fp hs).rd_ro

section
variable {D : List Nat} {Q : Str → Prop}

/-- `deleteBody_tail_fp` (Proofs/Footprint.lean) with the tail's footprint `GcOp` weakened to
`DeleteOpQ`, the class the statements of Props/C07.lean use. -/
theorem deleteBody_decomp (strict : Bool) (D : List Nat) (o : DeleteOpts) (held : Option Nat) :
    ∃ tail : List Str → List Str → Prog DeleteStats,
      deleteBody strict D o held = (listBandIds.bind fun all =>
        (referencedBlocks strict (all.filter fun b => !D.contains b)).bind fun referenced =>
          listBlocks.bind fun present => tail referenced present) ∧
      ∀ referenced present,
        AllOps (DeleteOpQ D (fun h => h ∈ present ∧ h ∉ referenced)) (tail referenced present) := by
  obtain ⟨tail, heq, hops⟩ := deleteBody_tail_fp strict D o held
  exact ⟨tail, heq, fun referenced present => (hops referenced present).mono fun _ => GcOp.deleteOpQ⟩

theorem deleteBands_del (strict : Bool) (o : DeleteOpts) :
    AllOps (DeleteOp D) (deleteBands strict D o) :=
  (deleteBands_fp strict D o).mono fun _ => GcOp.deleteOpQ

end

end Conserve
