import ConserveModel.Proofs.RaceStable
/-
C06 on the full model — every single storage operation of `delete_bands` preserves the joint
invariant `J`.  No property statements here.
-/
namespace Conserve.Race
open Conserve Prog Conserve.Conf Conserve.Inv

variable {H : Str → Str}

theorem applyOp_removeFile_cases (s : Store) (k : Key) :
    ((applyOp true s (.removeFile k)).1 = s ∧ (applyOp true s (.removeFile k)).2 ≠ .unit) ∨
    (∃ v, s.get? k = some v ∧ v ≠ .dir ∧ (applyOp true s (.removeFile k)).1 = s.erase k ∧
      (applyOp true s (.removeFile k)).2 = .unit) := by
  simp only [applyOp]
  split
  · exact Or.inl ⟨rfl, nofun⟩
  · exact Or.inl ⟨rfl, nofun⟩
  · rename_i v hnd hv
    exact Or.inr ⟨v, hv, hnd, rfl, rfl⟩

theorem applyOp_removeDirAll_cases (s : Store) (k : Key) :
    ((applyOp true s (.removeDirAll k)).1 = s ∧ (applyOp true s (.removeDirAll k)).2 = .err .notFound) ∨
    ((applyOp true s (.removeDirAll k)).1 = s.eraseTree k ∧ (applyOp true s (.removeDirAll k)).2 = .unit) := by
  simp only [applyOp]
  split
  · exact Or.inl ⟨rfl, rfl⟩
  · exact Or.inr ⟨rfl, rfl⟩

theorem applyOp_removeFile_lock (s : Store) : LockEq s (applyOp true s (.removeFile .gcLock)).1 := by
  rcases applyOp_removeFile_cases s .gcLock with ⟨h, _⟩ | ⟨_, _, _, h, _⟩
  · rw [h]; exact LockEq.refl s
  · rw [h]; exact LockEq.erase_lock s

theorem strip_ne_emit {α : Type} (p : Prog α) (ev : Event) (k : Prog α) : p.strip ≠ .emit ev k := by
  induction p with
  | emit ev' k' ih => exact ih
  | _ => intro h; cases h

section
variable {o : BackupOpts} {src : List SrcEntry} {D : List Nat} {opts : DeleteOpts}

theorem J.toUnl {s' : Store} {pA : Prog Stats} {β : BSt} {p' : Prog DeleteStats}
    (hpA : β.prog H o src pA) (hbf : BFacts H β s' pA) (hn : NoDupKeys s') (hp : AllOps Unl p') :
    J H o src D opts s' pA p' :=
  ⟨β, .unl, hpA, hp, hbf, trivial, Cross.past s' rfl rfl (fun h => (by cases h)), hn⟩

/-- Where the sweep goes on after the blocks removed so far. -/
theorem sweepBlocks_next (D : List Nat) (opts : DeleteOpts) {s : Store} (U hs : List Str) (errs nb : Nat) (hl : Locked s) (hu : SafeU [] hs s) :
    ∃ γ' : GSt, γ'.prog D opts (wl (sweepBlocks U hs errs nb)).strip ∧ GFacts D γ' s ∧ γ'.chk = none ∧
      γ'.preSweep = false := by
  cases hs with
  | nil =>
    refine ⟨.unl, ?_, trivial, rfl, rfl⟩
    rw [wl_sweepBlocks_nil]
    exact (wl_gcFin_unl _).strip
  | cons h hs =>
    refine ⟨.sweepU U h hs errs nb, ?_, ⟨hl, hu⟩, rfl, rfl⟩
    rw [wl_sweepBlocks_cons]
    rfl

theorem sweepBands_next (D : List Nat) (opts : DeleteOpts) {s : Store} (U : List Str) (bs : List Nat) (n : Nat) (hl : Locked s) (hu : SafeU bs U s) :
    ∃ γ' : GSt, γ'.prog D opts (wl (sweepBands U bs n)).strip ∧ GFacts D γ' s ∧ γ'.chk = none ∧
      γ'.preSweep = false := by
  cases bs with
  | nil =>
    rw [wl_sweepBands_nil]
    exact sweepBlocks_next D opts U U 0 n hl hu
  | cons b bs =>
    refine ⟨.sweepB U b bs n, ?_, ⟨hl, hu⟩, rfl, rfl⟩
    rw [wl_sweepBands_cons]
    rfl

theorem J.stepB {s : Store} {pA : Prog Stats} {o' : Op} {k : Resp → Prog DeleteStats}
    (h : J H o src D opts s pA (.op o' k)) :
    J H o src D opts (applyOp true s o').1 pA (k (applyOp true s o').2).strip := by
  obtain ⟨β, γ, hpA, hpB, hbf, hgf, hx, hn⟩ := h
  have hn' : NoDupKeys (applyOp true s o').1 := applyOp_noDupKeys true hn o'
  cases γ with
  | b1 =>
    cases (hpB : Prog.op o' k = .op _ _)
    rw [applyOp_metadata_store, onFile_metadata]
    cases fileAt s .gcLock
    · exact ⟨β, .atN, hpA, rfl, hbf, trivial, hx, hn⟩
    · exact ⟨β, .b2, hpA, rfl, hbf, trivial, hx, hn⟩
  | b2 =>
    cases (hpB : Prog.op o' k = .op _ _)
    have hl := applyOp_removeFile_lock s
    have hbf' := hbf.lock o src hpA hl hn'
    refine onUnit_elim (P := (J H o src D opts _ pA ·.strip)) ?_ (fun e => J.toUnl hpA hbf' hn' (.fail _)) _
    exact ⟨β, .atN, hpA, rfl, hbf', trivial, hx.store (LockEq.isBand hl), hn'⟩
  | atN =>
    cases (hpB : Prog.op o' k = .op _ _)
    rw [applyOp_listDir_store]
    refine onIds_root_elim (P := (J H o src D opts s pA ·.strip)) s ?_ (fun e => J.toUnl hpA hbf hn (.fail _))
    cases hm : maxNat? (bandIdsOf s) with
    | none =>
      refine ⟨β, .lc none, hpA, rfl, hbf, fun _ h => (by cases h), ⟨?_, fun n hn' _ => hx.there n hn' rfl, hx.excl⟩, hn⟩
      intro m hm' hd
      cases hm'
      cases ha : β.act with
      | none => rfl
      | some n => exact absurd ⟨n, hx.there n ha rfl, trivial⟩ hd
    | some b => exact ⟨β, .tc b, hpA, rfl, hbf, (hm ▸ atLeast_max hn : AtLeast (some b) s), hx, hn⟩
  | tc b =>
    cases (hpB : Prog.op o' k = .op _ _)
    rw [applyOp_metadata_store, onFile_metadata]
    cases hc : fileAt s (.bandTail b) with
    | false => exact J.toUnl hpA hbf hn (.fail _)
    | true =>
      refine ⟨β, .lc (some b), hpA, rfl, hbf, hgf, ⟨?_, fun n hn' _ => hx.there n hn' rfl, hx.excl⟩, hn⟩
      intro m hm hd
      cases hm
      cases ha : β.act with
      | none => rfl
      | some n =>
        -- `b` is at most the newest band, which is `n`; `n` is not newer than `b`: so `b = n`, whose tail is absent
        exfalso
        have hbn : isBand s n := hx.there n ha rfl
        have h1 : ¬ b < n := fun hlt => hd ⟨n, hbn, hlt⟩
        obtain ⟨b', hb', hle⟩ := hgf b rfl
        have h2 : b' ≤ n := top_of_act hbf ha b' hb'
        have hbe : b = n := by omega
        simp [fileAt, hbe, tail_none_of_act hbf ha hbn] at hc
  | lc m =>
    cases (hpB : Prog.op o' k = .op _ _)
    rw [applyOp_metadata_store, onFileOr_metadata]
    cases fileAt s .gcLock
    · exact ⟨β, .w m, hpA, rfl, hbf, hgf, hx, hn⟩
    · exact J.toUnl hpA hbf hn (.fail _)
  | w m =>
    cases (hpB : Prog.op o' k = .op _ _)
    rcases applyOp_write_store true s .gcLock .lock .createNew with ⟨hr, hs⟩ | ⟨⟨e, hr⟩, hs⟩
    · rw [hr, hs]
      rw [hs] at hn'
      have hl : LockEq s (s.put .gcLock .lock) := LockEq.put_lock s _
      have hbf' := hbf.lock o src hpA hl hn'
      have hx' := hx.store (LockEq.isBand hl)
      obtain ⟨o1, k1, hq1⟩ : ∃ o1 k1, readAll D = .op o1 k1 := by
        unfold readAll; rw [listBandIds_bind]; exact ⟨_, _, rfl⟩
      have hstrip : (gcRead D opts m (readAll D)).strip = gcRead D opts m (readAll D) := by
        unfold gcRead; rw [hq1]; rfl
      simp only [onUnit]
      rw [hstrip]
      refine ⟨β, .read m (readAll D), hpA, ⟨rfl, ⟨o1, k1, hq1⟩, readAll_ro D⟩, hbf', ?_, hx', hn'⟩
      refine ⟨hgf.mono fun b hb => (LockEq.isBand hl b).2 hb, Store.get?_put_self _ _ _, fun hd U hU => ?_⟩
      exact readAll_safe D (ci_of_not_crit hbf' (not_crit_of_act_none (hx'.quiet m rfl hd))) hU
    · rw [hr, hs]
      exact J.toUnl hpA hbf hn (.fail _)
  | read m q =>
    obtain ⟨hp, ⟨o1, k1, hq⟩, hro⟩ := hpB
    subst hq
    simp only [gcRead, Prog.op_bind, wl_op] at hp
    injection hp with ho hk
    subst ho hk
    cases hro with
    | op ho1 hk1 =>
    rw [applyOp_readOnly_store ho1]
    obtain ⟨hal, hlk, hsafe⟩ := hgf
    have hsolo : ((Prog.op o' k1).solo s) = ((k1 (applyOp true s o').2).strip.solo s) := by
      rw [Prog.solo_op, applyOp_readOnly_store ho1, Prog.solo_strip]
    rw [wl_bind_strip]
    cases hq' : (k1 (applyOp true s o').2).strip with
    | ret U =>
      simp only
      rw [wl_tailK]
      split
      · exact J.toUnl hpA hbf hn (wl_gcFin_unl _).strip
      · refine ⟨β, .atK m U, hpA, rfl, hbf, ⟨hal, hlk, fun hd => hsafe hd U ?_⟩, hx, hn⟩
        rw [hsolo, hq']; rfl
    | fail e => exact J.toUnl hpA hbf hn (wl_fail_unl e).strip
    | panic msg => exact J.toUnl hpA hbf hn (wl_panic_unl msg).strip
    | emit ev k' => exact absurd hq' (strip_ne_emit _ _ _)
    | op o2 k2 =>
      simp only
      refine ⟨β, .read m (.op o2 k2), hpA, ⟨rfl, ⟨o2, k2, rfl⟩, hq' ▸ (hk1 _).strip⟩, hbf,
        ⟨hal, hlk, fun hd U hU => hsafe hd U ?_⟩, hx, hn⟩
      rw [hsolo, hq']; exact hU
  | atK m U =>
    cases (hpB : Prog.op o' k = .op _ _)
    rw [applyOp_listDir_store]
    obtain ⟨hal, hlk, hsafe⟩ := hgf
    refine onIds_root_elim (P := fun p => J H o src D opts s pA (wl p).strip) s ?_
      (fun e => J.toUnl hpA hbf hn (wl_fail_unl _).strip)
    split
    · rename_i heq
      have hm : maxNat? (bandIdsOf s) = m := by simpa using heq
      have hnd : ¬ Doomed s m := hm ▸ not_doomed_of_max hn
      have hc : β.isCrit = false := not_crit_of_act_none (hx.quiet m rfl hnd)
      obtain ⟨γ', hp', hg', h1, h2⟩ := sweepBands_next D opts U D 0 hlk (hsafe hnd)
      exact ⟨β, γ', hpA, hp', hbf, hg', Cross.past s h1 h2 fun _ => hc, hn⟩
    · exact J.toUnl hpA hbf hn (wl_fail_unl _).strip
  | sweepB U b bs n =>
    cases (hpB : Prog.op o' k = .op _ _)
    simp only [GFacts] at hgf
    have hc : β.isCrit = false := hx.excl rfl
    rcases applyOp_removeDirAll_cases s (.bandDir b) with ⟨hs, hr⟩ | ⟨hs, hr⟩
    · rw [hs, hr]
      exact J.toUnl hpA hbf hn (wl_fail_unl _).strip
    · rw [hs, hr]
      rw [hs] at hn'
      have hlk : Locked (s.eraseTree (.bandDir b)) := by
        unfold Locked
        rw [eraseTree_get?_other (isUnder_bandDir_of_bandOf_none rfl)]
        exact hgf.1
      obtain ⟨γ', hp', hg', h1, h2⟩ := sweepBands_next D opts U bs (n + 1) hlk hgf.2.eraseTree
      exact ⟨β, γ', hpA, hp', hbf.eraseTree hc b, hg', Cross.past _ h1 h2 fun _ => hc, hn'⟩
  | sweepU U x xs errs nb =>
    cases (hpB : Prog.op o' k = .op _ _)
    simp only [GFacts] at hgf
    have hc : β.isCrit = false := hx.excl rfl
    have hfin : ∀ (e' : Nat) (s' : Store), NoDupKeys s' → BFacts H β s' pA → Locked s' → SafeU [] xs s' →
        J H o src D opts s' pA (wl (sweepBlocks U xs e' nb)).strip := by
      intro e' s' hn1 hb1 hl1 hu1
      obtain ⟨γ', hp', hg', h1, h2⟩ := sweepBlocks_next D opts U xs e' nb hl1 hu1
      exact ⟨β, γ', hpA, hp', hb1, hg', Cross.past _ h1 h2 fun _ => hc, hn1⟩
    have hu0 : SafeU [] xs s := hgf.2.mono fun y hy => List.mem_cons_of_mem _ hy
    rcases applyOp_removeFile_cases s (.block x) with ⟨hs, hr⟩ | ⟨v, hv, hnd, hs, hr⟩
    · rw [hs]
      generalize (applyOp true s (.removeFile (.block x))).2 = r at hr
      cases r <;> first | exact absurd rfl hr | exact hfin _ s hn hbf hgf.1 hu0
    · rw [hs, hr]
      rw [hs] at hn'
      have hci : CI H (s.erase (.block x)) := by
        refine (ci_of_not_crit hbf hc).erase_block ?_
        intro b hb n es hes e he a ha heq
        exact hgf.2 b hb (by simp) n es hes e he a ha (heq ▸ List.mem_cons_self ..)
      refine hfin _ _ hn' (hbf.eraseBlock hc hci) ?_ ?_
      · unfold Locked; rw [Store.get?_erase_ne _ (by simp)]; exact hgf.1
      · exact hu0.of_same (fun b hb => by rwa [Store.get?_erase_ne _ (by simp)] at hb)
          (fun b n _ => Store.get?_erase_ne _ (by simp))
  | unl =>
    cases hpB with
    | op ho hk =>
    have ho' : o' = .removeFile .gcLock := ho
    subst ho'
    have hl := applyOp_removeFile_lock s
    exact J.toUnl hpA (hbf.lock o src hpA hl hn') hn' (hk _).strip

end

end Conserve.Race
