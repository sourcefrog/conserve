import ConserveModel.Proofs.ProtocolBasic
/-
The invariant of the protocol skeleton, relative to the configuration the run started from: 41
clauses in six groups (`Inv1` … `Inv6`).  Their preservation is proved in Proofs/ProtocolInv1.lean …
ProtocolInv6.lean, one lemma per clause and actor (`X.presB`, `X.presG`), from the effect lemmas of
Proofs/ProtocolEffect.lean; no proof about a clause goes through the twenty transitions in search of
the ones that matter.

* What a step does to each component is said once per actor (ProtocolEffect.lean).  For the backup
  the bands fall into the bands of others, which it leaves alone (`StepB.old_band`), and its own band,
  which it creates, keeps, gives its references or marks complete (`OwnStep`, `StepB.own_band`); gc only
  removes bands (`StepG.bands_sub`), and a block disappears only by `G.rmBlock` (`StepG.present_kept`).
  A clause about the bands and the backup alone is preserved by gc with no case split, a clause about gc
  alone by the backup with none.
* `Seen`: gc remembered the backup's own band as the newest one.  It is the guard of `SawDone`,
  `NewListed`, `NewRead`, `NewUnref`; the backup cannot make it true while gc is pending, and once gc is
  past `G.tailCheck` a backup that is `Seen` has finished (`StepB.eq_of_seen`), so these four are
  untouched by the backup.
* `Snapshot`/`SnapshotR` and `NewSafe`/`NewSafeR` say the same (`SnapshotBody`, `NewSafeBody`) under two
  guards, `SafeLog c p.log` and `p.b.recheck = true`, and both guards hold of the old state when they hold
  of the new one.  The bodies are preserved by the backup; by gc they are preserved provided the block
  it removes is `Spared`.  That it is, is the content of the property: `RmBlock.spares` under each of the
  safe orders (`c06_partial`), `RmBlock.sparesR` for the repaired backup by mutual exclusion
  (`c06_holds`) (Proofs/ProtocolInv5.lean).
* A clause guarded by one value of a program counter, or by a flag set at one transition, matters at
  the transitions that lead there and at those that stay there: these are named in its lemma
  (`cases hs with | readRefs … => …`), and `frame_pc` closes the others.
-/
namespace Conserve.Proto

/-! Group 1: local facts (parameters never change, gc's work lists, the lock, log ↔ program counters). -/

/-- `B.mkdir` has been performed (`refused2`: the backup refused at its second lock check, its
band stays behind). -/
def BPc.mkdirDone : BPc → Bool
  | .head | .lockCheck2 | .listBlocks | .blocks | .tail | .done | .refused2 | .failed => true
  | _ => false

def BPc.listIdDone : BPc → Bool
  | .mkdir => true
  | pc => pc.mkdirDone

/-- gc holds the lock file. -/
def GPc.locked : GPc → Bool
  | .listKeep | .readRefs | .listBlocks | .measure | .sweep | .abort => true
  | _ => false

/-- `G.last` done, `G.check` not yet. -/
def GPc.pending : GPc → Bool
  | .tailCheck | .lockCheck | .lockWrite | .listKeep | .readRefs | .listBlocks | .measure => true
  | _ => false

/-- `G.tailCheck` passed, `G.check` not yet. -/
def GPc.pending2 : GPc → Bool
  | .lockCheck | .lockWrite | .listKeep | .readRefs | .listBlocks | .measure => true
  | _ => false

/-- The band is the one the running backup created. -/
def isNew (p : State) (b : Band) : Prop := p.b.pc.mkdirDone = true ∧ b.id = p.b.newId

@[simp] theorem mkdirBeforeCheck_cons (e : Ev) (l : List Ev) :
    mkdirBeforeCheck (e :: l) = (mkdirBeforeCheck l && (e != .gCheck || l.contains .bMkdir)) := rfl
@[simp] theorem lockWriteBeforeLockCheck_cons (e : Ev) (l : List Ev) :
    lockWriteBeforeLockCheck (e :: l) = (lockWriteBeforeLockCheck l && (e != .bLockCheck || l.contains .gLockWrite)) := rfl
@[simp] theorem rmBlocksBeforeListBlocks_cons (e : Ev) (l : List Ev) :
    rmBlocksBeforeListBlocks (e :: l) = (rmBlocksBeforeListBlocks l && (!e.isRmBlock || !l.contains .bListBlocks)) := rfl

/-- An event other than `G.check` leaves `mkdirBeforeCheck` as it was. -/
theorem mkdirBeforeCheck_cons_of_ne {e : Ev} (l : List Ev) (h : e ≠ .gCheck) :
    mkdirBeforeCheck (e :: l) = mkdirBeforeCheck l := by
  simp [bne_iff_ne.mpr h]

theorem lockWriteBeforeLockCheck_cons_of_ne {e : Ev} (l : List Ev) (h : e ≠ .bLockCheck) :
    lockWriteBeforeLockCheck (e :: l) = lockWriteBeforeLockCheck l := by
  simp [bne_iff_ne.mpr h]

theorem rmBlocksBeforeListBlocks_cons_of_not {e : Ev} (l : List Ev) (h : e.isRmBlock = false) :
    rmBlocksBeforeListBlocks (e :: l) = rmBlocksBeforeListBlocks l := by
  simp [h]

structure Inv1 (c : Config) (p : State) : Prop where
  needed : p.b.needed = c.needed
  del : p.g.del = c.del
  recheck : p.b.recheck = c.recheck
  todoBlocks : ∀ g ∈ p.g.todoBlocks, g ∈ p.g.unref
  todoBands : ∀ i ∈ p.g.todoBands, i ∈ c.del
  todoEmpty : p.g.passed = false → p.g.todoBlocks = [] ∧ p.g.todoBands = []
  passed : p.g.passed = true → p.g.pc = .sweep ∨ p.g.pc = .abort ∨ p.g.pc = .done ∨ p.g.pc = .failed
  sweepPassed : p.g.pc = .sweep → p.g.passed = true
  lock : p.g.pc.locked = true → p.lock = true
  logMkdir : Ev.bMkdir ∈ p.log → p.b.pc.mkdirDone = true
  mkdirLogged : p.b.pc.mkdirDone = true → Ev.bMkdir ∈ p.log
  logCheck : mkdirBeforeCheck p.log = false →
    p.g.pc = .sweep ∨ p.g.pc = .abort ∨ p.g.pc = .done ∨ p.g.pc = .failed
  logListBlocks : p.b.pc = .blocks ∨ p.b.pc = .tail ∨ p.b.pc = .done → Ev.bListBlocks ∈ p.log
  logLockWrite : Ev.gLockWrite ∈ p.log → p.g.pc.locked = true ∨ p.g.pc.fin = true

/-! Group 2: which bands there are. -/

/-- A band that is not the backup's own is one of the initial bands, unchanged. -/
def OldBands (c : Config) (p : State) : Prop := ∀ b ∈ p.bands, ¬isNew p b → b ∈ c.bands
/-- Once the new id is chosen every other band has a smaller id. -/
def Below (p : State) : Prop := p.b.pc.listIdDone = true → ∀ b ∈ p.bands, ¬isNew p b → b.id < p.b.newId
/-- The backup's own band: references appear with `B.hunk`, all of them needed; complete only at the end. -/
def NewBand (p : State) : Prop := ∀ b ∈ p.bands, isNew p b →
    (b.refs = [] ∨ p.b.pc = .tail ∨ p.b.pc = .done) ∧ (∀ g ∈ b.refs, g ∈ p.b.needed) ∧
    (b.complete = true → p.b.pc = .done)
/-- Until gc's `check()` has passed nothing removes the new band. -/
def NewPresent (p : State) : Prop :=
  p.b.pc.mkdirDone = true → p.g.passed = false → ∃ b ∈ p.bands, b.id = p.b.newId
def FailedGone (p : State) : Prop := p.b.pc = .failed → ∀ b ∈ p.bands, b.id ≠ p.b.newId
/-- Until `check()` the remembered newest id is the id of a band that is there. -/
def NewestWitness (p : State) : Prop :=
  p.g.pc.pending = true → ∀ m, p.g.newest = some m → ∃ b ∈ p.bands, b.id = m

structure Inv2 (c : Config) (p : State) : Prop where
  old : OldBands c p
  below : Below p
  newBand : NewBand p
  newPresent : NewPresent p
  failedGone : FailedGone p
  newestWitness : NewestWitness p


/-! Group 3: what gc may remove, seen from the bands that
existed at the start (no hypothesis on the schedule).  These give `c06_old_versions_safe`. -/

/-- Before `B.mkdir` nothing has been written: blocks (and gc's `unref`) are initial blocks. -/
def NoWriteYet (c : Config) (p : State) : Prop :=
  p.b.pc.mkdirDone = false → (∀ g ∈ p.present, g ∈ c.present) ∧ (∀ g ∈ p.g.unref, g ∈ c.present)
/-- An initial block that is gone was in gc's `unref`, removed after `check()` passed and after
every requested band was removed. -/
def Removed (c : Config) (p : State) : Prop :=
  ∀ g ∈ c.present, g ∈ p.present ∨ (g ∈ p.g.unref ∧ p.g.passed = true ∧ p.g.todoBands = [])
/-- After `check()`: a band whose id is to be deleted is still on gc's list, or is the backup's. -/
def DelBands (c : Config) (p : State) : Prop :=
  p.g.passed = true → ∀ b ∈ p.bands, b.id ∈ c.del → b.id ∈ p.g.todoBands ∨ isNew p b
/-- Initial bands that are not to be deleted stay, unchanged, and below the new id. -/
def Kept (c : Config) (p : State) : Prop :=
  ∀ b ∈ c.bands, b.id ∉ c.del → b ∈ p.bands ∧ (p.b.pc.listIdDone = true → b.id < p.b.newId)
def KeptListed (c : Config) (p : State) : Prop :=
  p.g.pc = .readRefs → ∀ b ∈ c.bands, b.id ∉ c.del → b.id ∈ p.g.keep
def KeptRead (c : Config) (p : State) : Prop :=
  p.g.pc = .listBlocks → ∀ b ∈ c.bands, b.id ∉ c.del → ∀ g ∈ b.refs, g ∈ p.g.referenced
/-- gc's `unref` never contains a block referenced by an initial band that is kept. -/
def UnrefOld (c : Config) (p : State) : Prop :=
  ∀ g ∈ p.g.unref, ∀ b ∈ c.bands, b.id ∉ c.del → g ∉ b.refs

structure Inv3 (c : Config) (p : State) : Prop where
  noWriteYet : NoWriteYet c p
  removed : Removed c p
  delBands : DelBands c p
  kept : Kept c p
  keptListed : KeptListed c p
  keptRead : KeptRead c p
  unrefOld : UnrefOld c p


/-! Group 4: the backup's own band as gc sees it.
`CheckLemma` is the heart of the interlock: when `check()` passes, either no band directory had
been created by the backup yet (the window of defect D7), or the backup had already finished
before gc looked at the newest band — and then gc treats the new band like any other. -/

/-- While blocks are being handled, every needed block is still to do or known to `exists`. -/
def Handled (p : State) : Prop :=
  p.b.pc = .blocks → ∀ g ∈ p.b.needed, g ∈ p.b.todo ∨ g ∈ p.b.exists_
/-- If the newest band gc remembered is the backup's, and gc got past `G.tailCheck`, the backup
had finished. -/
def SawDone (p : State) : Prop :=
  p.g.pc.pending2 = true → p.b.pc.mkdirDone = true → p.g.newest = some p.b.newId → p.b.pc = .done
def NewListed (c : Config) (p : State) : Prop :=
  p.g.pc = .readRefs → p.b.pc.mkdirDone = true → p.g.newest = some p.b.newId →
    p.b.newId ∈ c.del ∨ p.b.newId ∈ p.g.keep
def NewRead (c : Config) (p : State) : Prop :=
  p.g.pc = .listBlocks → p.b.pc.mkdirDone = true → p.g.newest = some p.b.newId →
    p.b.newId ∈ c.del ∨ ∀ b ∈ p.bands, b.id = p.b.newId → ∀ g ∈ b.refs, g ∈ p.g.referenced
def NewUnref (c : Config) (p : State) : Prop :=
  p.g.pc = .measure → p.b.pc.mkdirDone = true → p.g.newest = some p.b.newId →
    p.b.newId ∈ c.del ∨ ∀ b ∈ p.bands, b.id = p.b.newId → ∀ g ∈ b.refs, g ∉ p.g.unref
/-- After `check()` passed: it ran before `B.mkdir`, or the backup is done and its band is either
about to be deleted or shares no block with `unref`. -/
def CheckLemma (p : State) : Prop :=
  p.g.passed = true → mkdirBeforeCheck p.log = false ∨
    (p.b.pc = .done ∧ ∀ b ∈ p.bands, isNew p b → b.id ∈ p.g.todoBands ∨ ∀ g ∈ b.refs, g ∉ p.g.unref)
/-- gc has taken the backup's band into account: it is about to delete it, or `unref` spares what
it refers to (the second alternative of `CheckLemma`; `DoneSeen`). -/
def NewAccounted (p : State) : Prop :=
  ∀ b ∈ p.bands, isNew p b → b.id ∈ p.g.todoBands ∨ ∀ g ∈ b.refs, g ∉ p.g.unref
/-- If `check()` ran before `B.mkdir`, `unref` consists of initial blocks. -/
def WindowUnref (c : Config) (p : State) : Prop :=
  mkdirBeforeCheck p.log = false → ∀ g ∈ p.g.unref, g ∈ c.present

structure Inv4 (c : Config) (p : State) : Prop where
  handled : Handled p
  sawDone : SawDone p
  newListed : NewListed c p
  newRead : NewRead c p
  newUnref : NewUnref c p
  checkLemma : CheckLemma p
  windowUnref : WindowUnref c p


section
variable {c : Config} {p : State}

theorem newestId_eq_of {bs : List Band} {m : Nat} (hw : ∃ b ∈ bs, b.id = m) (hle : ∀ b ∈ bs, b.id ≤ m) :
    newestId bs = some m := by
  cases h : newestId bs with
  | none => rw [newestId_none.mp h] at hw; simp at hw
  | some k =>
    obtain ⟨h1, b, hb, h2⟩ := newestId_some h
    obtain ⟨b', hb', h3⟩ := hw
    have := hle b hb
    have := h1 b' hb'
    congr 1; omega

theorem mkdirDone_listIdDone {pc : BPc} (h : pc.mkdirDone = true) : pc.listIdDone = true := by
  cases pc <;> simp_all [BPc.mkdirDone, BPc.listIdDone]

theorem Inv1.notPassed (h1 : Inv1 c p) (hpc : p.g.pc = .measure ∨ p.g.pc = .listBlocks) : p.g.passed = false := by
  cases hp : p.g.passed with
  | false => rfl
  | true => have := h1.passed hp; rcases hpc with e | e <;> simp [e] at this

/-- The moment `check()` passes: the backup has not created its band yet, or it is done and gc has
taken its band into account (`NewAccounted` of the state after `G.check`, where `todoBands = del`). -/
theorem check_pass_case (h1 : Inv1 c p) (h2 : Inv2 c p) (h : Inv4 c p)
    (hpc : p.g.pc = .measure) (heq : newestId p.bands = p.g.newest) :
    p.b.pc.mkdirDone = false ∨
      (p.b.pc = .done ∧ ∀ b ∈ p.bands, isNew p b → b.id ∈ p.g.del ∨ ∀ g ∈ b.refs, g ∉ p.g.unref) := by
  cases hm : p.b.pc.mkdirDone with
  | false => exact Or.inl rfl
  | true =>
    right
    obtain ⟨b0, hb0, hid⟩ := h2.newPresent hm (h1.notPassed (.inl hpc))
    have hle : ∀ b ∈ p.bands, b.id ≤ p.b.newId := by
      intro b hb
      by_cases hbn : b.id = p.b.newId
      · omega
      · have := h2.below (mkdirDone_listIdDone hm) b hb (fun hn => hbn hn.2)
        omega
    have hnew : p.g.newest = some p.b.newId := by
      rw [← heq]; exact newestId_eq_of ⟨b0, hb0, hid⟩ hle
    refine ⟨h.sawDone (by simp [hpc, GPc.pending2]) hm hnew, fun b hb hn => ?_⟩
    exact (h.newUnref hpc hm hnew).imp (fun hd => by rw [h1.del, hn.2]; exact hd) (fun h' => h' b hb hn.2)

/-- The moment `check()` passes, seen from the repaired backup: it has not created its band, or it
is done. -/
theorem check_pass_pc (h1 : Inv1 c p) (h2 : Inv2 c p) (h4 : Inv4 c p)
    (hpc : p.g.pc = .measure) (heq : newestId p.bands = p.g.newest) :
    p.b.pc ≠ .listBlocks ∧ p.b.pc ≠ .blocks ∧ p.b.pc ≠ .tail := by
  rcases check_pass_case h1 h2 h4 hpc heq with h | ⟨h, _⟩
  · cases hb : p.b.pc <;> simp_all [BPc.mkdirDone]
  · simp [h]

theorem mem_rest_of_filter {bs : List Band} {i : Nat} {rest : List Nat} {b : Band}
    (hb : b ∈ bs.filter fun x => x.id ≠ i) (hin : b.id ∈ i :: rest) : b.id ∈ rest :=
  (List.mem_cons.mp hin).resolve_left (by simpa using (List.mem_filter.mp hb).2)

/-- `G.rmBand i` removes the band it takes off its list. -/
theorem NewAccounted.rmBand {i : Nat} {rest : List Nat} (h : NewAccounted p) (htb : p.g.todoBands = i :: rest) :
    ∀ b ∈ p.bands.filter (fun x => x.id ≠ i), isNew p b → b.id ∈ rest ∨ ∀ g ∈ b.refs, g ∉ p.g.unref :=
  fun b hb hn => (h b (List.mem_filter.mp hb).1 hn).imp_left fun hin => mem_rest_of_filter hb (htb ▸ hin)

end

/-! Group 5: the backup's own band under the hypothesis of
`c06_partial` (stated on the log so far; every disjunct is closed under taking older logs). -/

/-- One of the four safe orders holds of a log (newest event first). -/
def SafeLog (c : Config) (log : List Ev) : Prop :=
  mkdirBeforeCheck log = true ∨ lockWriteBeforeLockCheck log = true ∨
    (∀ g ∈ c.needed, ¬ garbage c g) ∨ rmBlocksBeforeListBlocks log = true

/-- While the backup handles blocks, what it believes to exist (and needs) does exist. -/
def Snapshot (c : Config) (p : State) : Prop :=
  SafeLog c p.log → p.b.pc = .blocks → ∀ g ∈ p.b.needed, g ∈ p.b.exists_ → g ∈ p.present
/-- Every block the backup's band refers to is present. -/
def NewSafe (c : Config) (p : State) : Prop :=
  SafeLog c p.log → ∀ b ∈ p.bands, isNew p b → ∀ g ∈ b.refs, g ∈ p.present
/-- What `Snapshot` and `SnapshotR` say under their guards. -/
def SnapshotBody (p : State) : Prop :=
  p.b.pc = .blocks → ∀ g ∈ p.b.needed, g ∈ p.b.exists_ → g ∈ p.present
/-- What `NewSafe` and `NewSafeR` say under their guards. -/
def NewSafeBody (p : State) : Prop := ∀ b ∈ p.bands, isNew p b → ∀ g ∈ b.refs, g ∈ p.present
/-- If gc wrote its lock before the backup looked, the backup refused or gc had finished. -/
def LockedOut (p : State) : Prop :=
  lockWriteBeforeLockCheck p.log = true → p.b.pc ≠ .lockCheck → p.b.pc ≠ .refused → p.g.pc.fin = true

structure Inv5 (c : Config) (p : State) : Prop where
  snapshot : Snapshot c p
  newSafe : NewSafe c p
  lockedOut : LockedOut p


/-! Group 6: the REPAIRED backup (`recheck = true`: after creating
its band the backup looks for the gc lock again, and only then lists the blocks).  No hypothesis
on the schedule.

Why it is safe now.  gc remembers the newest band id (N) before it writes the lock (W) and compares
again in `check()` (K) before any removal (D); the backup creates its band (C), looks for the lock
again (L2) and only then lists the blocks (B).
* C before N: gc sees an open newest band and refuses — or the backup had finished (`SawDone`).
* C between N and K: `check()` sees a new newest band and refuses.
  (These two are `check_pass_case`: when `check()` passes, the backup has not created its band
  yet, or it is done and gc has taken the new band's references into account.)
* C after K, hence after W: at L2 the lock is still there (gc holds it as long as it sweeps:
  `Inv1.lock`) and the backup refuses, leaving a band without a tail — or gc has unlocked, and
  every removal is over before B.
Hence `Exclusive`: gc in its sweep phase and the backup between L2 and its tail never coexist. -/

/-- While gc sweeps (between a `check()` that passed and the unlock), the repaired backup is not
between its second lock check and its tail: it has not listed the blocks and will not list them
while the lock is there, or it has finished. -/
def Exclusive (p : State) : Prop :=
  p.g.pc = .sweep → p.b.recheck = true →
    p.b.pc ≠ .listBlocks ∧ p.b.pc ≠ .blocks ∧ p.b.pc ≠ .tail
/-- While gc sweeps, a backup that is done was done when gc looked at the newest band. -/
def DoneSeen (p : State) : Prop :=
  p.g.pc = .sweep → p.b.recheck = true → p.b.pc = .done → NewAccounted p
/-- `Snapshot` without a condition on the schedule. -/
def SnapshotR (p : State) : Prop := p.b.recheck = true → SnapshotBody p
/-- `NewSafe` without a condition on the schedule. -/
def NewSafeR (p : State) : Prop := p.b.recheck = true → NewSafeBody p

structure Inv6 (c : Config) (p : State) : Prop where
  exclusive : Exclusive p
  doneSeen : DoneSeen p
  snapshotR : SnapshotR p
  newSafeR : NewSafeR p


/-! ### Tools for the preservation proofs -/

@[simp] theorem setRefs_id (i : Nat) (r : List Nat) (b : Band) : (setRefs i r b).id = b.id := by
  unfold setRefs; split <;> rfl
@[simp] theorem setRefs_complete (i : Nat) (r : List Nat) (b : Band) : (setRefs i r b).complete = b.complete := by
  unfold setRefs; split <;> rfl
@[simp] theorem setHead_id (i : Nat) (b : Band) : (setHead i b).id = b.id := by
  unfold setHead; split <;> rfl
@[simp] theorem setHead_complete (i : Nat) (b : Band) : (setHead i b).complete = b.complete := by
  unfold setHead; split <;> rfl
@[simp] theorem setHead_refs (i : Nat) (b : Band) : (setHead i b).refs = b.refs := by
  unfold setHead; split <;> rfl
@[simp] theorem setComplete_id (i : Nat) (b : Band) : (setComplete i b).id = b.id := by
  unfold setComplete; split <;> rfl
@[simp] theorem setComplete_refs (i : Nat) (b : Band) : (setComplete i b).refs = b.refs := by
  unfold setComplete; split <;> rfl
theorem setRefs_of_ne {i : Nat} {r : List Nat} {b : Band} (h : b.id ≠ i) : setRefs i r b = b := by
  unfold setRefs; simp [h]
theorem setRefs_of_eq {i : Nat} {r : List Nat} {b : Band} (h : b.id = i) : (setRefs i r b).refs = r := by
  unfold setRefs; simp [h]
theorem setHead_of_ne {i : Nat} {b : Band} (h : b.id ≠ i) : setHead i b = b := by
  unfold setHead; simp [h]
theorem setComplete_of_ne {i : Nat} {b : Band} (h : b.id ≠ i) : setComplete i b = b := by
  unfold setComplete; simp [h]

/-- A case of a step that does not matter for a clause `h` (stated of the old state) whose first
hypothesis is an equation on a program counter: the step leaves alone what the clause speaks of, or
that equation is false in the new state, or it is true in both and the old program counter has to be
put into `h`. -/
macro "frame_pc " h:ident : tactic => `(tactic| first
  | exact $h
  | (intro hg; cases hg; done)
  | (have hpc := ‹GSt.pc _ = _›; intro hg; rw [hpc] at hg; cases hg; done)
  | (have hpc := ‹BSt.pc _ = _›; intro hg; rw [hpc] at hg; cases hg; done)
  | (rw [‹GSt.pc _ = _›] at $h:ident; exact $h))

theorem SafeLog.tail {c : Config} {e : Ev} {l : List Ev} (h : SafeLog c (e :: l)) : SafeLog c l := by
  simp only [SafeLog, mkdirBeforeCheck_cons, lockWriteBeforeLockCheck_cons, rmBlocksBeforeListBlocks_cons,
    Bool.and_eq_true] at h
  exact h.imp (·.1) (Or.imp (·.1) (Or.imp id (·.1)))

end Conserve.Proto
