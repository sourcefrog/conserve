import ConserveModel.Proofs.HistCongr
/-
C02 (history): where the entries of a stitched listing come from, and the frame lemma `restoreRaw_same`:
`restoreRaw` (Proofs/HistRaw.lean) gives the same value on two stores that agree on what it reads.
-/
set_option linter.unusedSimpArgs false
namespace Conserve.Hist
open Conserve Conserve.Exact Prog

variable {H : Str → Str}

theorem mem_trimAfter {a : Str} {es : List IndexEntry} {e : IndexEntry} (h : e ∈ trimAfter a es) : e ∈ es :=
  (List.dropWhile_sublist _).mem h

theorem hunkAt_of_readHunkP {s : Store} {b n : Nat} {es : List IndexEntry} {e : IndexEntry}
    (h : readHunkP s b n = .ok (some es)) (he : e ∈ es) : hunkAt s b n = some es := by
  unfold readHunkP at h
  unfold hunkAt
  cases hg : s.get? (.hunk b n) with
  | none => rw [hg] at h; cases h
  | some v =>
    rw [hg] at h
    cases v with
    | hunk es' =>
      simp only at h
      split at h
      · cases h; rfl
      · cases h
    | empty => simp only [Except.ok.injEq, Option.some.injEq] at h; subst h; cases he
    | _ => cases h

theorem mem_readHunksP {s : Store} {b : Nat} {e : IndexEntry} (ns : List Nat) (after last : Option Str) :
    e ∈ (readHunksP s b ns after last).1 → ∃ n es, hunkAt s b n = some es ∧ e ∈ es := by
  fun_induction readHunksP s b ns after last
  case case1 | case2 => intro h; cases h
  case case3 ih | case4 ih | case7 ih => exact ih
  case case5 n _ _ es hr _ _ _ _ ih | case8 n _ _ es hr _ _ ih =>
    intro h
    rcases List.mem_append.mp h with h | h
    · exact ⟨n, es, hunkAt_of_readHunkP hr h, h⟩
    · exact ih h
  case case6 n _ _ es hr _ _ _ ih =>
    intro h
    rcases List.mem_append.mp h with h | h
    · exact ⟨n, es, hunkAt_of_readHunkP hr (mem_trimAfter h), mem_trimAfter h⟩
    · exact ih h

theorem mem_bandTake {s : Store} {b : Nat} {last : Option Str} {e : IndexEntry}
    (h : e ∈ (bandTake s b last).1) : ∃ n es, hunkAt s b n = some es ∧ e ∈ es := by
  unfold bandTake at h
  split at h
  · exact mem_readHunksP _ _ _ h
  · cases h

theorem mem_stitchAllP_complete {s : Store} {b : Nat} {e : IndexEntry} (hc : isComplete s b = true)
    (h : e ∈ (stitchAllP s b).1) : ∃ n es, hunkAt s b n = some es ∧ e ∈ es := by
  unfold stitchAllP at h
  rw [isComplete_eq, hc] at h
  exact mem_bandTake h

theorem mem_stitchDownP_chain {s : Store} {e : IndexEntry} (b : Nat) (last : Option Str)
    (h : e ∈ (stitchDownP s b last).1) : ∃ c ∈ chainBelow s b, ∃ n es, hunkAt s c n = some es ∧ e ∈ es := by
  rw [stitchDownP_fst_eq] at h
  obtain ⟨c, hc, _, he⟩ := mem_stitchList_take h
  exact ⟨c, hc, mem_bandTake he⟩

theorem mem_stitchDownP {s : Store} {e : IndexEntry} (b : Nat) :
    ∀ last, e ∈ (stitchDownP s b last).1 → ∃ b', b' < b ∧ ∃ n es, hunkAt s b' n = some es ∧ e ∈ es := by
  intro last h
  obtain ⟨c, hc, r⟩ := mem_stitchDownP_chain b last h
  exact ⟨c, chainBelow_lt s b c hc, r⟩

theorem mem_stitchAllP {s : Store} {b : Nat} {e : IndexEntry}
    (h : e ∈ (stitchAllP s b).1) : ∃ c ∈ chain s b, ∃ n es, hunkAt s c n = some es ∧ e ∈ es := by
  simp only [stitchAllP, isComplete_eq] at h
  simp only [chain]
  cases hc : isComplete s b with
  | true =>
    simp only [hc, if_true] at h ⊢
    exact ⟨b, List.mem_cons_self .., mem_bandTake h⟩
  | false =>
    simp only [hc, Bool.false_eq_true, if_false] at h ⊢
    rcases List.mem_append.mp h with h | h
    · exact ⟨b, List.mem_cons_self .., mem_bandTake h⟩
    · obtain ⟨c, hc', r⟩ := mem_stitchDownP_chain _ _ h
      exact ⟨c, List.mem_cons_of_mem _ hc', r⟩

theorem chainSame_of_chainBelow {s s' : Store} (b : Nat)
    (hsame : ∀ c ∈ chainBelow s b, BandSame s s' c)
    (hnone : ∀ b', b' < b → bandPresent s b' = false → bandPresent s' b' = false)
    (hlost : ∀ b', b' < b → bandPresent s b' = false → headLost s' b' = headLost s b') :
    ChainSame s s' b := by
  intro c hc
  split
  · rename_i hp
    exact hsame c (mem_chainBelow.mpr ⟨mem_reach.mp hc, hp⟩)
  · rename_i hp
    have hp' : bandPresent s c = false := by simpa using hp
    exact ⟨hnone c (reach_lt hc) hp', hlost c (reach_lt hc) hp'⟩

theorem skipped_same {s s' : Store} {b : Nat} (h : BandSame s s' b) : Skipped s' b ↔ Skipped s b := by
  simp only [Skipped, headOutcome_same h, isComplete_same h]

/-- **`restore` of a version reads only**: the keys at or under the version's directory (and, for a
version without tail, those of the earlier versions its listing continues into), whether `d/` is a
directory, and the content of the blocks its listed entries name. -/
theorem restoreRaw_same {s s' : Store} (hs : s.NoDupKeys) (hs' : s'.NoDupKeys) {b : Nat}
    (hb : BandSame s s' b) (hc : isComplete s b = false → ChainSame s s' b)
    (hroot : s'.get? .blockRoot = s.get? .blockRoot)
    (hblocks : ∀ e ∈ (stitchAllP s b).1, ∀ a ∈ e.addrs,
      blockContent H s' a.hash = blockContent H s a.hash) {subtree : Str} {excl : Str → Bool} :
    restoreRaw H s' b subtree excl = restoreRaw H s b subtree excl := by
  have hst := stitchAllP_same hs hs' hb hc
  have hbe : blockRootErr s' = blockRootErr s := by simp only [blockRootErr, hroot]
  unfold restoreRaw
  rw [headOutcome_same hb, hst, hroot, hbe]
  cases headOutcome s b with
  | ok u =>
    simp only
    split
    · cases hf : filterP subtree excl (stitchAllP s b).1 with
      | ok es =>
        simp only
        rw [restoreP_content (fun e he => hblocks e (mem_of_filterP hf e he)) []]
      | err e => rfl
      | panic m => rfl
    · rfl
  | err e => rfl
  | panic m => rfl

end Conserve.Hist
