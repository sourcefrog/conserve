import ConserveModel.Proofs.ProtocolEffect
/-
The invariants of the protocol skeleton, group 4 (the backup's own band as gc sees it): they hold at the
start and are preserved by both step functions.  The clauses are defined in Proofs/ProtocolInv.lean; how
preservation is proved is said there.
-/
namespace Conserve.Proto

theorem Inv4.start (c : Config) : Inv4 c c.start := by
  constructor <;>
    simp [Config.start, isNew, BPc.mkdirDone, GPc.pending2, Handled, SawDone, NewListed, NewRead,
      NewUnref, CheckLemma, WindowUnref, mkdirBeforeCheck]

section
variable {c : Config} {p q : State}

theorem Handled.presB (hs : StepB p q) (h : Inv4 c p) : Handled q := by
  have f := h.handled
  -- the head of `todo` moves into `exists`
  have step {g0 : Nat} {rest ex' : List Nat} (hpc : p.b.pc = .blocks) (ht : p.b.todo = g0 :: rest)
      (hex : ∀ g ∈ p.b.exists_, g ∈ ex') (h0 : g0 ∈ ex') : ∀ g ∈ p.b.needed, g ∈ rest ∨ g ∈ ex' := by
    intro g hg
    rcases f hpc g hg with h | h
    · rw [ht] at h
      rcases List.mem_cons.mp h with rfl | h
      · exact .inr h0
      · exact .inl h
    · exact .inr (hex g h)
  unfold Handled at *
  cases hs with
  | listBlocks => exact fun _ g hg => .inl hg
  | block_dedup hpc g0 rest ht he => exact fun _ => step hpc ht (fun _ => id) he
  | block_rewrite hpc g0 rest ht _ _ => exact fun _ => step hpc ht (fun _ => List.mem_cons_of_mem _) List.mem_cons_self
  | block_write hpc g0 rest ht _ _ => exact fun _ => step hpc ht (fun _ => List.mem_cons_of_mem _) List.mem_cons_self
  | _ => frame_pc f

theorem Handled.presG (hs : StepG p q) (h : Inv4 c p) : Handled q := by
  unfold Handled; rw [hs.b_eq]; exact h.handled

theorem SawDone.presB (hs : StepB p q) (h2 : Inv2 c p) (h : Inv4 c p) : SawDone q := fun hpend hm hn => by
  obtain rfl := hs.eq_of_seen h2 h.sawDone (hs.g_eq ▸ hpend) ⟨hm, hn⟩
  exact h.sawDone hpend hm hn

/-- gc gets past `G.tailCheck` only if the newest band is complete, and the backup's is complete only when
the backup is done. -/
theorem SawDone.presG (hs : StepG p q) (h2 : Inv2 c p) (h : Inv4 c p) : SawDone q := by
  have f := h.sawDone
  unfold SawDone at *
  cases hs with
  | tailCheck hpc hcl =>
    intro _ hm hn
    rw [hn] at hcl
    obtain ⟨b, hb, hc⟩ := List.any_eq_true.mp hcl
    simp only [Bool.and_eq_true, beq_iff_eq] at hc
    exact (h2.newBand b hb ⟨hm, hc.1⟩).2.2 hc.2
  | _ => frame_pc f

theorem NewListed.presB (hs : StepB p q) (h2 : Inv2 c p) (h : Inv4 c p) : NewListed c q := fun hpc hm hn => by
  obtain rfl := hs.eq_of_seen h2 h.sawDone (by rw [← hs.g_eq, hpc]; rfl) ⟨hm, hn⟩
  exact h.newListed hpc hm hn

theorem NewListed.presG (hs : StepG p q) (h1 : Inv1 c p) (h2 : Inv2 c p) (h : Inv4 c p) : NewListed c q := by
  have e := h.newListed
  unfold NewListed at *
  cases hs with
  | listKeep hpc =>
    intro _ hm _
    have hp : p.g.passed = false := by
      cases hp : p.g.passed with
      | false => rfl
      | true => have := h1.passed hp; simp [hpc] at this
    obtain ⟨b, hb, hid⟩ := h2.newPresent hm hp
    by_cases hd : p.b.newId ∈ c.del
    · exact .inl hd
    · exact .inr (hid ▸ mem_keep hb (by rw [hid, h1.del]; exact hd))
  | _ => frame_pc e

theorem NewRead.presB (hs : StepB p q) (h2 : Inv2 c p) (h : Inv4 c p) : NewRead c q := fun hpc hm hn => by
  obtain rfl := hs.eq_of_seen h2 h.sawDone (by rw [← hs.g_eq, hpc]; rfl) ⟨hm, hn⟩
  exact h.newRead hpc hm hn

theorem NewRead.presG (hs : StepG p q) (h : Inv4 c p) : NewRead c q := by
  have e := h.newRead
  unfold NewRead at *
  cases hs with
  | readRefs hpc _ =>
    exact fun _ hm hn => (h.newListed hpc hm hn).imp_right fun hk b hb hid g hg =>
      mem_referenced hb (hid ▸ hk) hg
  | _ => frame_pc e

theorem NewUnref.presB (hs : StepB p q) (h2 : Inv2 c p) (h : Inv4 c p) : NewUnref c q := fun hpc hm hn => by
  obtain rfl := hs.eq_of_seen h2 h.sawDone (by rw [← hs.g_eq, hpc]; rfl) ⟨hm, hn⟩
  exact h.newUnref hpc hm hn

theorem NewUnref.presG (hs : StepG p q) (h : Inv4 c p) : NewUnref c q := by
  have e := h.newUnref
  unfold NewUnref at *
  cases hs with
  | listBlocks hpc =>
    exact fun _ hm hn => (h.newRead hpc hm hn).imp_right fun hr b hb hid g hg => not_mem_unref (hr b hb hid g hg)
  | _ => frame_pc e

theorem CheckLemma.presB (hs : StepB p q) (h : Inv4 c p) : CheckLemma q := by
  intro hp
  rw [hs.g_eq] at hp
  rcases h.checkLemma hp with hw | ⟨hd, hcl⟩
  · exact .inl (hs.mkdirBeforeCheck_eq.trans hw)
  · obtain rfl := hs.eq_of_fin (by rw [hd]; rfl)
    exact .inr ⟨hd, hcl⟩

theorem CheckLemma.presG (hs : StepG p q) (h1 : Inv1 c p) (h2 : Inv2 c p) (h : Inv4 c p) : CheckLemma q := by
  have f := h.checkLemma
  unfold CheckLemma at *
  cases hs with
  | listBlocks hpc => exact fun hp => by rw [h1.notPassed (.inr hpc)] at hp; cases hp
  | check_abort hpc _ _ => exact fun hp => by rw [h1.notPassed (.inl hpc)] at hp; cases hp
  | check hpc _ heq =>
    intro _
    rcases check_pass_case h1 h2 h hpc heq with hm | hacc
    · -- the window: `B.mkdir` is not in the log
      have : Ev.bMkdir ∉ p.log := fun hin => by have := h1.logMkdir hin; rw [hm] at this; cases this
      exact .inl (by simp [this])
    · exact .inr hacc
  | rmBand hpc i rest htb _ =>
    intro hp
    refine (f hp).imp (fun hw => ?_) fun ⟨hd, hacc⟩ => ⟨hd, NewAccounted.rmBand hacc htb⟩
    rw [← hw]; exact mkdirBeforeCheck_cons_of_ne _ (by simp)
  | _ => first | exact f | exact fun hp => (f hp).imp_left fun hw => (mkdirBeforeCheck_cons_of_ne _ (by nofun)).trans hw

theorem WindowUnref.presB (hs : StepB p q) (h : Inv4 c p) : WindowUnref c q := by
  unfold WindowUnref; rw [hs.g_eq, hs.mkdirBeforeCheck_eq]; exact h.windowUnref

/-- `check()` in the window before `B.mkdir` sees only initial blocks. -/
theorem WindowUnref.presG (hs : StepG p q) (h1 : Inv1 c p) (h3 : Inv3 c p) (h : Inv4 c p) : WindowUnref c q := by
  have f := h.windowUnref
  have early (hw : mkdirBeforeCheck p.log = false) (hpc : p.g.pc = .measure ∨ p.g.pc = .listBlocks) : False := by
    have := h1.logCheck hw; rcases hpc with e | e <;> simp [e] at this
  have atCheck (hpc : p.g.pc = .measure) (hw : mkdirBeforeCheck (.gCheck :: p.log) = false) :
      ∀ g ∈ p.g.unref, g ∈ c.present := by
    have hm : p.b.pc.mkdirDone = false := by
      cases hm : p.b.pc.mkdirDone with
      | false => rfl
      | true =>
        have := h1.mkdirLogged hm
        cases hw' : mkdirBeforeCheck p.log with
        | false => exact (early hw' (.inl hpc)).elim
        | true => simp [hw', this] at hw
    exact (h3.noWriteYet hm).2
  unfold WindowUnref at *
  cases hs with
  | listBlocks hpc => exact fun hw => (early ((mkdirBeforeCheck_cons_of_ne _ (by nofun)).symm.trans hw) (.inr hpc)).elim
  | check hpc _ _ => exact atCheck hpc
  | check_abort hpc _ _ => exact atCheck hpc
  | _ => first | exact f | exact fun hw => f ((mkdirBeforeCheck_cons_of_ne _ (by nofun)).symm.trans hw)

theorem Inv4.presB (hs : StepB p q) (h2 : Inv2 c p) (h : Inv4 c p) : Inv4 c q :=
  ⟨Handled.presB hs h, SawDone.presB hs h2 h, NewListed.presB hs h2 h, NewRead.presB hs h2 h,
   NewUnref.presB hs h2 h, CheckLemma.presB hs h, WindowUnref.presB hs h⟩

theorem Inv4.presG (hs : StepG p q) (h1 : Inv1 c p) (h2 : Inv2 c p) (h3 : Inv3 c p) (h : Inv4 c p) : Inv4 c q :=
  ⟨Handled.presG hs h, SawDone.presG hs h2 h, NewListed.presG hs h1 h2 h, NewRead.presG hs h,
   NewUnref.presG hs h, CheckLemma.presG hs h1 h2 h, WindowUnref.presG hs h1 h3 h⟩

end

end Conserve.Proto
