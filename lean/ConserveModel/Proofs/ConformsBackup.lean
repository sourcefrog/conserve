import ConserveModel.Proofs.ConformsMain
import ConserveModel.Proofs.CleanWorld
/-
C13: `Band::create`, the prelude (with: the basis listing's addresses resolve, because every entry
of a conforming archive does), the main part and `backup()` as a whole in all worlds
(`backup_csat`).  No property statements here.
-/
namespace Conserve.Conf
open Conserve Conserve.Inv Prog

theorem lastBandId_result (w : World) (r : Option Nat) (h : (lastBandId.run w).1 = .ok r) :
    r = maxNat? (bandIdsOf w.store) := by
  unfold lastBandId at h
  simp only [Prog.bind_def, Prog.pure_def] at h
  rw [Prog.run_bind] at h
  cases hrun : listBandIds.run w with
  | mk out w1 =>
    rw [hrun] at h
    cases out with
    | ok ids =>
      simp only [Prog.run_ret, Outcome.ok.injEq] at h
      have := listBandIds_sound (w := w) (all := ids) (by rw [hrun])
      rw [← h, this]
    | err e => cases h
    | panic s => cases h

/-- The id `Band::create` picks. -/
def nextId (r : Option Nat) : Nat :=
  match r with
  | none => 0
  | some l => l + 1

/-- `Band::create` after the listing: two directories and the head. -/
def bandCreateTail (b : Nat) : Prog Nat :=
  (performUnit (.createDir (.bandDir b))).bind fun _ =>
  (performUnit (.createDir (.indexDir b))).bind fun _ =>
  (performUnit (.write (.bandHead b) (.head .ok []) .createNew)).bind fun _ => Prog.ret b

theorem bandCreate_eq : bandCreate = lastBandId.bind fun r => bandCreateTail (nextId r) := by
  unfold bandCreate
  simp only [Prog.bind_def, Prog.pure_def]
  congr 1

theorem next_band_fresh {s : Store} (hn : NoDupKeys s) :
    s.get? (.bandDir (nextId (maxNat? (bandIdsOf s)))) ≠ some .dir := by
  intro h
  have hmem := (mem_bandIdsOf_iff_get? hn).2 h
  cases hm : maxNat? (bandIdsOf s) with
  | none =>
    rw [maxNat?_none hm] at hmem
    cases hmem
  | some l =>
    rw [hm] at hmem
    have := maxNat?_ge hm _ hmem
    simp only [nextId] at this
    omega

section
variable {H : Str → Str}

theorem bandCreateTail_csat (b : Nat) (w1 : World) (hw1 : CWOK H w1) (hfresh : EmptyBand w1.store b) :
    CSat H (bandCreateTail b) w1 (fun b w' => BandOpen w'.store b []) := by
  unfold bandCreateTail
  apply CSat.bind
  refine (CSat.performUnit hw1 (createOnly_createDir _) (exec_createDir_band hw1.ci hfresh)).mono ?_
  intro _ w2 hf2 ⟨hw2, _⟩
  subst hw2
  have he2 : EmptyBand (w1.exec (.createDir (.bandDir b))).1.store b :=
    hfresh.same (exec_createDir_bandKeys w1 b (fun _ => by simp) (by simp) (by simp))
  apply CSat.bind
  refine (CSat.performUnit hf2.wok (createOnly_createDir _)
    (exec_createDir_plain hf2.ci rfl (fun b' => touchesBand_indexDir _ b'))).mono ?_
  intro _ w3 hf3 ⟨hw3, _⟩
  subst hw3
  have he3 := he2.same (exec_createDir_bandKeys (w1.exec (.createDir (.bandDir b))).1 b (k := .indexDir b)
    (fun _ => by simp) (by simp) (by simp))
  have hx := exec_write_head hf3.ci hf3.wok.enforce he3 .ok []
  apply CSat.bind
  refine (CSat.performUnit hf3.wok (createOnly_write _ _) hx.1).mono ?_
  intro _ w4 hf4 ⟨hw4, hunit⟩
  subst hw4
  exact CSat.ret hf4.wok (hx.2 hunit)

/-- `Band::create` in every world: conforming after each of its steps (the new band directory, the
index directory, the zero-length head, the head); if it returns `b`, band `b` is open with no hunks. -/
theorem bandCreate_csat (w : World) (hw : CWOK H w) :
    CSat H bandCreate w (fun b w' => BandOpen w'.store b []) := by
  rw [bandCreate_eq]
  apply CSat.bind
  refine ((CSat.of_ro lastBandId_ro hw).and_run (Q' := fun r _ => r = maxNat? (bandIdsOf w.store))
    (fun r hr => lastBandId_result w r hr)).mono ?_
  intro r w1 hf1 ⟨hst1, hr⟩
  subst hr
  refine bandCreateTail_csat _ w1 hf1.wok ?_
  rw [hst1]
  exact EmptyBand.of_fresh hw.ci.dirs (next_band_fresh hw.ci.nodup)

/-- Every entry of every decodable hunk of a store satisfying `CI` conforms (the hunk's band has
a directory, because parents are directories, so `Conforms` looks at it). -/
theorem entry_of_hunk_conforms {s : Store} (hci : CI H s) {b n : Nat} {es : List IndexEntry}
    (h : hunkAt s b n = some es) {e : IndexEntry} (he : e ∈ es) : entryConforms H s e = true := by
  have hget : s.get? (.hunk b n) = some (.hunk es) := hunkAt_eq_some_iff.1 h
  have hband := hci.band (hci.dirs.hunkTreeOk b n _ hget).2
  unfold bandConforms at hband
  simp only [Bool.and_eq_true, List.all_eq_true] at hband
  apply hband.1.1.1.2
  simp only [List.mem_flatten, List.mem_filterMap, List.mem_map]
  refine ⟨es, ⟨some (.hunk es), ⟨n, ?_, hget⟩, rfl⟩, he⟩
  exact (mem_hunkNumsOf_get? hci.nodup).2 ⟨_, hget, rfl⟩

def BasisAddr (H : Str → Str) (s : Store) (basis : List IndexEntry) : Prop :=
  ∀ b ∈ basis, b.kind = .file → ∀ a ∈ b.addrs, (readAddrPure H s a).isSome = true

theorem BasisAddr.of_fromHunks {s : Store} (hci : CI H s) {basis : List IndexEntry} (h : FromHunks s basis) :
    BasisAddr H s basis := by
  intro b hb hk a ha
  obtain ⟨b', n, es, hes, hmem⟩ := h b hb
  have := entry_of_hunk_conforms hci hes hmem
  unfold entryConforms at this
  simp only [hk, Bool.and_eq_true, List.all_eq_true] at this
  exact this.2.2 a ha

theorem backupPrelude_csat (w : World) (hw : CWOK H w) :
    CSat H backupPrelude w (fun x w1 =>
      BandOpen w1.store x.1 [] ∧ ExistsOK H w1.store x.2.1 ∧ BasisAddr H w1.store x.2.2) := by
  rw [backupPrelude_eq]
  refine CSat.bind ((CSat.of_ro preludeHead_ro hw).mono fun basisBand w1 hf1 _ => ?_)
  refine CSat.bind ((bandCreate_csat w1 hf1.wok).mono fun band w2 hf2 hband => ?_)
  refine (CSat.of_roSpec hf2.wok (preludeTail_spec H _ basisBand band)).mono ?_
  rintro x w3 hf3 ⟨hst3, rfl, hex, hfh, -⟩
  rw [hst3]
  exact ⟨hband, hex hf2.ci.nodup hf2.ci.blocksGood, BasisAddr.of_fromHunks hf2.ci hfh⟩

theorem backupMain_csat (hinj : Function.Injective H) (hlen : HashLen H) (o : BackupOpts)
    {src : List SrcEntry} (hsrc : SrcOK src)
    (x : Nat × List Str × List IndexEntry) (w : World) (hw : CWOK H w)
    (hex : ExistsOK H w.store x.2.1) (hb : BasisAddr H w.store x.2.2)
    (hband : BandOpen w.store x.1 []) :
    CSat H (backupMain H o src x) w (fun _ _ => True) :=
  backupMain_framed (ciLoop hinj hlen o) x w (CFrame.refl hw)
    ⟨hsrc, [], ⟨hex, fun _ h => (nomatch h), fun _ h => (nomatch h), fun _ h => (nomatch h)⟩, hband, HsOK.nil _, rfl, rfl, BufOK.init _⟩
    fun _ _ _ h b hbs => hb b (h b hbs).1

/-- **`backup` in every world keeps the invariant `CI`**: the archive conforms to the format,
parents are directories, keys are distinct — of the store the run ends in, for every fault list and
every crash point, dead or alive, all options, and every strictly increasing well-formed source
listing.  Nothing is assumed about file contents, sizes or the basis version. -/
theorem backup_csat (hinj : Function.Injective H) (hlen : HashLen H) (o : BackupOpts)
    {src : List SrcEntry} (hsrc : SrcOK src) (w : World) (hw : CWOK H w) :
    CSat H (backup H o src) w (fun _ _ => True) := by
  rw [backup_eq]
  apply CSat.bind
  refine (backupPrelude_csat w hw).mono ?_
  intro x w1 hf1 ⟨hband, hex, hbasis⟩
  exact backupMain_csat hinj hlen o hsrc x w1 hf1.wok hex hbasis hband

end

end Conserve.Conf
