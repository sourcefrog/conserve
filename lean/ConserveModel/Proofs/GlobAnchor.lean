import ConserveModel.Proofs.GlobMatch
import ConserveModel.Proofs.GlobParse
/-
Helper lemmas for C15: what the "**/" that `add_pattern` puts in front of an unanchored pattern
does.  For a pattern that does not itself start with '*', the tokens are those of the pattern with
a `RecursivePrefix` in front (the parser run after "**/" simulates the run from the start).
-/
namespace Conserve

/-- The same parser state with a `RecursivePrefix` in front of the tokens. -/
def PSt.pre (s : PSt) : PSt := { s with toks := .recPrefix :: s.toks }

/-- In the modes whose next step looks at the tokens read so far, there is a token: true from the
second character on, if the first one is not a '*'.  (Only `parse_star` looks at the tokens: whether
there are any, and which is the last.) -/
def Busy (s : PSt) : Prop :=
  s.mode = .normal ∨ s.mode = .star1 ∨ s.mode = .star2 → s.toks ≠ []

theorem stepNormal_pre (toks : List Tok) (last : Option Nat) (c : Nat) :
    stepNormal (.recPrefix :: toks) last c = (stepNormal toks last c).pre := by
  rw [stepNormal_eq, stepNormal_eq]
  rfl

theorem normTok_ne_nil {c : Nat} (h : normMode c = .normal) : normTok c ≠ [] := by
  unfold normTok
  split
  · simp
  · split
    · rename_i hc
      rcases hc with rfl | rfl | rfl | rfl | rfl <;> simp [normMode] at h
    · simp

theorem stepNormal_busy (toks : List Tok) (last : Option Nat) (c : Nat) (h : toks ≠ [] ∨ c ≠ 42) :
    Busy (stepNormal toks last c) := by
  rw [stepNormal_eq]
  intro hm h0
  obtain ⟨rfl, hn⟩ := List.append_eq_nil_iff.mp h0
  rcases hm with hm | hm | hm
  · exact normTok_ne_nil hm hn
  · exact h.resolve_left (fun h => h rfl) ((normMode_star c).1 hm)
  · exact (normMode_star c).2 hm

theorem popPush_ne_nil {toks : List Tok} (h : toks ≠ []) (s : Bool) : popPush toks s ≠ [] := by
  obtain ⟨init, t, rfl⟩ := exists_snoc_of_ne_nil h
  simp [popPush_snoc]

theorem popPush_pre {toks : List Tok} (h : toks ≠ []) (s : Bool) :
    popPush (.recPrefix :: toks) s = .recPrefix :: popPush toks s := by
  obtain ⟨init, t, rfl⟩ := exists_snoc_of_ne_nil h
  rw [← List.cons_append, popPush_snoc, popPush_snoc]
  rfl

theorem step_pre {s : PSt} (hb : Busy s) (c : Nat) :
    step s.pre c = (step s c).pre ∧ Busy (step s c) := by
  obtain ⟨toks, last, mode⟩ := s
  cases mode with
  | normal => exact ⟨stepNormal_pre toks last c, stepNormal_busy _ _ _ (.inl (hb (.inl rfl)))⟩
  | esc => exact ⟨rfl, fun _ => by simp [step]⟩
  | star1 =>
    have hne : toks ≠ [] := hb (.inr (.inl rfl))
    by_cases hc : c = 42
    · subst hc
      exact ⟨rfl, fun _ => hne⟩
    · simp only [step, PSt.pre, hc, if_false]
      exact ⟨stepNormal_pre (toks ++ [Tok.star]) (some 42) c, stepNormal_busy _ _ _ (.inl (by simp))⟩
  | star2 =>
    have hne : toks ≠ [] := hb (.inr (.inr rfl))
    simp only [step, PSt.pre, stepStar2_eq, hne, reduceCtorEq, false_or, if_false]
    split
    · exact ⟨by rw [popPush_pre hne], fun _ => popPush_ne_nil hne _⟩
    · exact ⟨stepNormal_pre (toks ++ [Tok.star, Tok.star]) (some 42) c, stepNormal_busy _ _ _ (.inl (by simp))⟩
  | cls cs =>
    simp only [step, PSt.pre]
    split
    · exact ⟨rfl, fun hm => by simp at hm⟩
    · exact ⟨rfl, fun _ => by simp⟩
    · exact ⟨rfl, fun hm => by simp at hm⟩
  | failed e => exact ⟨rfl, hb⟩

theorem run_pre {s : PSt} (hb : Busy s) (p : Str) :
    runParser s.pre p = (runParser s p).pre ∧ Busy (runParser s p) := by
  induction p generalizing s with
  | nil => exact ⟨rfl, hb⟩
  | cons c p ih =>
    obtain ⟨h1, h2⟩ := step_pre hb c
    have := ih h2
    simp only [runParser, List.foldl_cons] at this ⊢
    rw [h1]; exact this

theorem finish_pre {s : PSt} (hb : Busy s) :
    finish s.pre = (finish s).map (Tok.recPrefix :: ·) := by
  obtain ⟨toks, last, mode⟩ := s
  cases mode with
  | star2 =>
    have hne : toks ≠ [] := hb (.inr (.inr rfl))
    by_cases hl : last = some 47 <;>
      simp [finish, PSt.pre, List.isEmpty_eq_false_iff.mpr hne, hl, Except.map, popPush_pre hne]
  | _ => rfl

theorem finish_ne_nil {s : PSt} (hb : Busy s) {ts : List Tok} (h : finish s = .ok ts) : ts ≠ [] := by
  obtain ⟨toks, last, mode⟩ := s
  cases mode with
  | normal => cases h; exact hb (.inl rfl)
  | star1 => cases h; simp
  | star2 =>
    have hne : toks ≠ [] := hb (.inr (.inr rfl))
    simp only [finish, List.isEmpty_eq_false_iff.mpr hne, Bool.false_eq_true, if_false] at h
    split at h
    · cases h; simp
    · cases h; exact popPush_ne_nil hne _
  | esc => cases h
  | cls cs => cases h
  | failed e => cases h

/-- "**/" as bytes. -/
def starStarSlash : Str := [42, 42, 47]

theorem run_starStarSlash : runParser PSt.init starStarSlash = ⟨[.recPrefix], some 47, .normal⟩ := by
  simp [runParser, starStarSlash, PSt.init, step, stepNormal, stepStar2]

theorem run_cons_pre {c : Nat} (hc : c ≠ 42) (rest : Str) :
    runParser ⟨[.recPrefix], some 47, .normal⟩ (c :: rest) = (runParser PSt.init (c :: rest)).pre ∧
      Busy (runParser PSt.init (c :: rest)) := by
  have h1 : step ⟨[.recPrefix], some 47, .normal⟩ c = (step PSt.init c).pre := by
    simp only [step, PSt.init]
    rw [stepNormal_eq, stepNormal_eq, if_neg hc, if_neg hc]
    rfl
  have hb : Busy (step PSt.init c) := stepNormal_busy [] none c (.inr hc)
  have := run_pre hb rest
  simp only [runParser, List.foldl_cons] at this ⊢
  rwa [h1]

/-- Parsing "**/" ++ p for a `p` that does not start with '*': the tokens of `p` with a
`RecursivePrefix` in front. -/
theorem parseGlobE_starStarSlash (p : Str) (h : p.head? ≠ some 42) :
    parseGlobE (starStarSlash ++ p) = (parseGlobE p).map (Tok.recPrefix :: ·) := by
  unfold parseGlobE
  rw [runParser_append, run_starStarSlash]
  cases p with
  | nil => rfl
  | cons c rest =>
    obtain ⟨h1, h2⟩ := run_cons_pre (by simpa using h) rest
    rw [h1]
    exact finish_pre h2

theorem parseGlob_toks_ne_nil {P : Str} {ts : List Tok} (h0 : P ≠ []) (hstar : P.head? ≠ some 42)
    (hp : parseGlob P = some ts) : ts ≠ [] := by
  rw [parseGlob_eq_some] at hp
  cases P with
  | nil => exact absurd rfl h0
  | cons c rest => exact finish_ne_nil (run_cons_pre (by simpa using hstar) rest).2 hp

theorem parseGlob_starStarSlash {p : Str} (h : p.head? ≠ some 42) {ts : List Tok}
    (hp : parseGlob p = some ts) : parseGlob (starStarSlash ++ p) = some (.recPrefix :: ts) := by
  rw [parseGlob_eq_some] at hp ⊢
  rw [parseGlobE_starStarSlash p h, hp]; rfl

theorem parseGlob_starStarSlash_none {p : Str} (h : p.head? ≠ some 42)
    (hp : parseGlob p = none) : parseGlob (starStarSlash ++ p) = none := by
  unfold parseGlob at hp ⊢
  rw [parseGlobE_starStarSlash p h]
  cases hE : parseGlobE p with
  | ok ts => simp [hE] at hp
  | error e => simp [Except.map]

end Conserve
