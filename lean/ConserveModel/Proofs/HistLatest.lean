import ConserveModel.Proofs.HistRaw
/-
C02 (history): `Archive::last_complete_band` and `restore(LatestClosed)` as pure functions of any
store that is a map (`lastCompleteP`, `latestP`, `restoreLatestRaw`), and which version is selected:
the first one, from the newest id downwards, whose head opens and which has a tail; ids whose head
file is missing or does not decode are skipped, as are versions without tail; a head that opens but
is refused (unsupported version or flags, or not a file) makes the selection FAIL.
-/
set_option linter.unusedSimpArgs false
namespace Conserve.Hist
open Conserve Conserve.Exact Prog

variable {H : Str → Str}

/-- The loop of `last_complete_band` over the ids (newest first). -/
def lastCompleteP (s : Store) : List Nat → Outcome (Option Nat)
  | [] => .ok none
  | b :: rest =>
    match headOutcome s b with
    | .err (.bandHeadMissing _) => lastCompleteP s rest
    | .err .json => lastCompleteP s rest
    | .err e => .err e
    | .panic m => .panic m
    | .ok () => if isComplete s b then .ok (some b) else lastCompleteP s rest

/-- The error `list_band_ids` ends with when the archive directory is not a directory. -/
def rootErr (s : Store) : Err := .transport (if s.get? .root = none then .notFound else .other)

/-- `Archive::last_complete_band` on a store. -/
def latestP (s : Store) : Outcome (Option Nat) :=
  if s.get? .root = some .dir then lastCompleteP s (bandIdsOf s).reverse else .err (rootErr s)

theorem eval_lastCompleteBand_go (e : Bool) (s : Store) (bs : List Nat) :
    (lastCompleteBand.go bs).eval e s = (lastCompleteP s bs, s, []) := by
  induction bs with
  | nil => rfl
  | cons b rest ih =>
    rw [lastCompleteBand.go]
    simp only [Prog.bind_def, eval_bind, eval_attempt_toOutcome e s (eval_bandOpen e s b), andThen_ok,
      lastCompleteP, headOutcome_eq]
    cases bandOpenP s b with
    | ok u =>
      simp only [toOutcome, bandIsClosed, eval_bind, eval_isFile, andThen_ok, isComplete_eq_fileAt,
        fileAt_eq_isFileP]
      by_cases hc : isFileP s (.bandTail b) = true
      · simp only [hc, if_true, pure_def, eval_ret]
      · simp only [hc, Bool.false_eq_true, if_false, ih]
    | error e' => cases e' <;> first | exact ih | rfl

theorem eval_lastCompleteBand (e : Bool) (s : Store) : lastCompleteBand.eval e s = (latestP s, s, []) := by
  simp only [lastCompleteBand, latestP, Prog.bind_def, eval_bind, eval_listBandIds]
  by_cases hr : s.get? .root = some .dir
  · simp only [hr, if_true, andThen_ok, eval_lastCompleteBand_go]
  · simp only [hr, if_false, andThen, rootErr]

theorem lastCompleteBand_runsAt (s : Store) : RunsAt lastCompleteBand s (latestP s) s [] :=
  runsAt_iff.2 (eval_lastCompleteBand true s)

/-- What `restore(LatestClosed, subtree, excl)` returns and reports on a store. -/
def restoreLatestRaw (H : Str → Str) (s : Store) (subtree : Str) (excl : Str → Bool) :
    Outcome (List RNode) × List Event :=
  match latestP s with
  | .ok (some b) => restoreRaw H s b subtree excl
  | .ok none => (.err .noCompleteBands, [])
  | .err e => (.err e, [])
  | .panic m => (.panic m, [])

theorem restore_latest_raw_runs {s : Store} (hn : UniqueKeys s) (subtree : Str) (excl : Str → Bool) :
    RunsAt (restore H .latestClosed subtree excl) s (restoreLatestRaw H s subtree excl).1 s
      (restoreLatestRaw H s subtree excl).2 := by
  have hl := lastCompleteBand_runsAt s
  unfold restore resolveBandId restoreLatestRaw
  simp only [Prog.bind_def, Prog.bind_assoc]
  cases hp : latestP s with
  | ok r =>
    rw [hp] at hl
    refine RunsAt.bind0 hl ?_
    cases r with
    | some b => simpa using restoreBody_raw_runs (H := H) hn b subtree excl
    | none => simp only [Prog.fail_bind]; exact RunsAt.fail _ _
  | err e => rw [hp] at hl; exact RunsAt.bind_err hl
  | panic m => rw [hp] at hl; exact RunsAt.bind_panic hl

/-- Version id `b` does not stop the search: its head file is missing, or does not decode (zero
length or junk), or it opens but the version has no tail. -/
def Skipped (s : Store) (b : Nat) : Prop :=
  headOutcome s b = .err (.bandHeadMissing b) ∨ headOutcome s b = .err .json ∨
    (headOutcome s b = .ok () ∧ isComplete s b = false)

theorem headOutcome_missing {s : Store} {b b' : Nat} (h : headOutcome s b = .err (.bandHeadMissing b')) :
    b' = b := by
  unfold headOutcome at h
  split at h <;> first | (cases h; rfl) | cases h | skip
  split at h <;> cases h

theorem lastCompleteP_skip {s : Store} {b : Nat} (h : Skipped s b) (rest : List Nat) :
    lastCompleteP s (b :: rest) = lastCompleteP s rest := by
  rcases h with h | h | ⟨h, hc⟩
  · simp only [lastCompleteP, h]
  · simp only [lastCompleteP, h]
  · simp only [lastCompleteP, h, hc, Bool.false_eq_true, if_false]

theorem lastCompleteP_hit {s : Store} {b : Nat} (hh : headOutcome s b = .ok ()) (hc : isComplete s b = true)
    (rest : List Nat) : lastCompleteP s (b :: rest) = .ok (some b) := by
  simp only [lastCompleteP, hh, hc, if_true]

theorem lastCompleteP_cons_some {s : Store} {b c : Nat} {rest : List Nat}
    (h : lastCompleteP s (b :: rest) = .ok (some c)) :
    (c = b ∧ headOutcome s b = .ok () ∧ isComplete s b = true) ∨
      (Skipped s b ∧ lastCompleteP s rest = .ok (some c)) := by
  simp only [lastCompleteP] at h
  cases hh : headOutcome s b with
  | ok u =>
    rw [hh] at h
    simp only at h
    by_cases hc : isComplete s b = true
    · simp only [hc, if_true, Outcome.ok.injEq, Option.some.injEq] at h
      exact Or.inl ⟨h.symm, rfl, hc⟩
    · have hc' : isComplete s b = false := by simpa using hc
      simp only [hc', Bool.false_eq_true, if_false] at h
      exact Or.inr ⟨Or.inr (Or.inr ⟨hh, hc'⟩), h⟩
  | err e =>
    rw [hh] at h
    cases e with
    | bandHeadMissing b' =>
      have := headOutcome_missing hh
      subst this
      exact Or.inr ⟨Or.inl hh, h⟩
    | json => exact Or.inr ⟨Or.inr (Or.inl hh), h⟩
    | _ => cases h
  | panic m => rw [hh] at h; cases h

theorem lastCompleteP_selects {s : Store} {b : Nat} :
    ∀ {l : List Nat}, l.Pairwise (· ≥ ·) → b ∈ l → headOutcome s b = .ok () → isComplete s b = true →
      (∀ x ∈ l, b < x → Skipped s x) → lastCompleteP s l = .ok (some b) := by
  intro l
  induction l with
  | nil => intro _ hb; cases hb
  | cons x l ih =>
    intro hs hb hh hc hsk
    rw [List.pairwise_cons] at hs
    by_cases hx : x = b
    · subst hx; exact lastCompleteP_hit hh hc l
    · have hbl : b ∈ l := by
        rcases List.mem_cons.mp hb with rfl | h
        · exact absurd rfl hx
        · exact h
      have hge := hs.1 b hbl
      have hlt : b < x := by omega
      rw [lastCompleteP_skip (hsk x (List.mem_cons_self ..) hlt)]
      exact ih hs.2 hbl hh hc (fun y hy => hsk y (List.mem_cons_of_mem _ hy))

theorem lastCompleteP_selected {s : Store} {b : Nat} :
    ∀ {l : List Nat}, l.Pairwise (· ≥ ·) → lastCompleteP s l = .ok (some b) →
      b ∈ l ∧ headOutcome s b = .ok () ∧ isComplete s b = true ∧ ∀ x ∈ l, b < x → Skipped s x := by
  intro l
  induction l with
  | nil => intro _ h; simp [lastCompleteP] at h
  | cons x l ih =>
    intro hs h
    rw [List.pairwise_cons] at hs
    rcases lastCompleteP_cons_some h with ⟨rfl, hh, hc⟩ | ⟨hsk, hrest⟩
    · refine ⟨List.mem_cons_self .., hh, hc, fun y hy hlt => ?_⟩
      rcases List.mem_cons.mp hy with rfl | hy
      · omega
      · have := hs.1 y hy; omega
    · obtain ⟨hm, hh, hc, hall⟩ := ih hs.2 hrest
      refine ⟨List.mem_cons_of_mem _ hm, hh, hc, fun y hy hlt => ?_⟩
      rcases List.mem_cons.mp hy with rfl | hy
      · exact hsk
      · exact hall y hy hlt

theorem bandIdsOf_reverse_sorted (s : Store) : (bandIdsOf s).reverse.Pairwise (· ≥ ·) := by
  rw [List.pairwise_reverse]
  exact (sortNat_sorted _).imp fun h => h

theorem latestP_eq_some_iff {s : Store} (hroot : s.get? .root = some .dir) (b : Nat) :
    latestP s = .ok (some b) ↔
      b ∈ bandIdsOf s ∧ headOutcome s b = .ok () ∧ isComplete s b = true ∧
        ∀ x ∈ bandIdsOf s, b < x → Skipped s x := by
  simp only [latestP, hroot, if_true]
  constructor
  · intro h
    obtain ⟨h1, h2, h3, h4⟩ := lastCompleteP_selected (bandIdsOf_reverse_sorted s) h
    exact ⟨List.mem_reverse.mp h1, h2, h3, fun x hx => h4 x (List.mem_reverse.mpr hx)⟩
  · rintro ⟨h1, h2, h3, h4⟩
    exact lastCompleteP_selects (bandIdsOf_reverse_sorted s) (List.mem_reverse.mpr h1) h2 h3
      (fun x hx => h4 x (List.mem_reverse.mp hx))

end Conserve.Hist
