import ConserveModel.Proofs.RaceBasic
import ConserveModel.Proofs.StoreLemmas
import ConserveModel.Proofs.StoreNoDup
/-
C06 on the full model — the operations `backup` issues after its second look at the gc lock
(`CritOp`), and the fact that a program made of them does not notice the lock file: two stores that
are the same list once the `GC_LOCK` entry is dropped (`LockEq`) give the same responses and stay
related.  No property statements here.
-/
namespace Conserve
open Prog

/-- What `backup` issues after its second look at the lock: reads that do not involve the lock
file or the archive directory's listing; creating hunk and block sub-directories; `CreateNew`
writes of hunks, blocks and a band tail. -/
def CritOp : Op → Prop
  | .read k | .metadata k => k ≠ .gcLock
  | .listDir k => k ≠ .root ∧ k ≠ .gcLock
  | .createDir k => (∃ b d, k = .hunkDir b d) ∨ (∃ p, k = .blockDir p)
  | .write k _ m => m = .createNew ∧ ((∃ b i, k = .hunk b i) ∨ (∃ h, k = .block h) ∨ (∃ b, k = .bandTail b))
  | _ => False

def LockEq (s s' : Store) : Prop :=
  s.filter (fun kv => kv.1 != Key.gcLock) = s'.filter (fun kv => kv.1 != Key.gcLock)

theorem LockEq.refl (s : Store) : LockEq s s := rfl
theorem LockEq.symm {s s' : Store} (h : LockEq s s') : LockEq s' s := Eq.symm h
theorem LockEq.trans {a b c : Store} (h1 : LockEq a b) (h2 : LockEq b c) : LockEq a c := Eq.trans h1 h2

theorem LockEq.get? {s s' : Store} (h : LockEq s s') {k : Key} (hk : k ≠ .gcLock) : s.get? k = s'.get? k := by
  have h1 := Store.get?_filter_key (fun k => k != Key.gcLock) s k
  have h2 := Store.get?_filter_key (fun k => k != Key.gcLock) s' k
  have hp : (k != Key.gcLock) = true := by simpa using hk
  simp only [hp, if_true] at h1 h2
  rw [← h1, ← h2]
  exact congrArg (fun l => Store.get? l k) h

theorem filter_lock_filter (s : Store) (p : Key × FileVal → Bool) (hp : ∀ v, p (Key.gcLock, v) = false) :
    (s.filter fun kv => kv.1 != Key.gcLock).filter p = s.filter p := by
  rw [List.filter_filter]
  apply List.filter_congr
  intro kv _
  obtain ⟨k, v⟩ := kv
  by_cases hk : k = Key.gcLock
  · subst hk; simp [hp v]
  · have : (k != Key.gcLock) = true := by simpa using hk
    simp [this]

theorem LockEq.filter {s s' : Store} (h : LockEq s s') (p : Key × FileVal → Bool)
    (hp : ∀ v, p (Key.gcLock, v) = false) : s.filter p = s'.filter p := by
  rw [← filter_lock_filter s p hp, ← filter_lock_filter s' p hp]
  exact congrArg (fun l => List.filter p l) h

theorem LockEq.children {s s' : Store} (h : LockEq s s') {k : Key} (hk : k ≠ .root) :
    s.children k = s'.children k := by
  unfold Store.children
  rw [h.filter (fun kv => kv.1.parent == some k) (fun v => by
    simp only [Key.parent, beq_eq_false_iff_ne, ne_eq, Option.some.injEq]
    exact fun e => hk e.symm)]

theorem LockEq.of_filter_comm {s s' : Store} (h : LockEq s s') (p : Key × FileVal → Bool) :
    LockEq (s.filter p) (s'.filter p) := by
  unfold LockEq at *
  rw [List.filter_filter, List.filter_filter]
  have e : ∀ l : Store, l.filter (fun a => (a.1 != Key.gcLock) && p a) =
      (l.filter fun kv => kv.1 != Key.gcLock).filter p := by
    intro l; rw [List.filter_filter]; apply List.filter_congr; intro a _; exact Bool.and_comm _ _
  rw [e s, e s', h]

theorem LockEq.erase {s s' : Store} (h : LockEq s s') (k : Key) : LockEq (s.erase k) (s'.erase k) :=
  h.of_filter_comm _

theorem LockEq.append {s s' t : Store} (h : LockEq s s') : LockEq (s ++ t) (s' ++ t) := by
  unfold LockEq at *
  rw [List.filter_append, List.filter_append, h]

theorem LockEq.put {s s' : Store} (h : LockEq s s') (k : Key) (v : FileVal) : LockEq (s.put k v) (s'.put k v) :=
  (h.erase k).append

theorem LockEq.put_lock (s : Store) (v : FileVal) : LockEq s (s.put .gcLock v) := by
  unfold LockEq Store.put Store.erase
  rw [List.filter_append, List.filter_filter]
  simp

theorem LockEq.erase_lock (s : Store) : LockEq s (s.erase .gcLock) := by
  unfold LockEq Store.erase
  rw [List.filter_filter]
  simp

theorem LockEq.has {s s' : Store} (h : LockEq s s') {k : Key} (hk : k ≠ .gcLock) : s.has k = s'.has k := by
  unfold Store.has; rw [h.get? hk]

theorem parent_ne_lock (k : Key) : k.parent ≠ some .gcLock := by
  cases k <;> simp [Key.parent]

theorem LockEq.parentOk {s s' : Store} (h : LockEq s s') (k : Key) : s.parentOk k = s'.parentOk k := by
  unfold Store.parentOk
  cases hp : k.parent with
  | none => rfl
  | some p =>
    have : p ≠ .gcLock := fun e => parent_ne_lock k (by rw [hp, e])
    simp only [h.get? this]

theorem LockEq.apply_op {s s' : Store} (h : LockEq s s') {o : Op} (ho : CritOp o) :
    (applyOp true s o).2 = (applyOp true s' o).2 ∧ LockEq (applyOp true s o).1 (applyOp true s' o).1 := by
  cases o with
  | read k =>
    have hk : k ≠ .gcLock := ho
    simp only [applyOp, ← h.get? hk]
    split <;> exact ⟨rfl, h⟩
  | metadata k =>
    have hk : k ≠ .gcLock := ho
    simp only [applyOp, ← h.get? hk]
    split <;> exact ⟨rfl, h⟩
  | listDir k =>
    obtain ⟨hr, hk⟩ : k ≠ .root ∧ k ≠ .gcLock := ho
    simp only [applyOp, ← h.get? hk, ← h.children hr]
    split <;> exact ⟨rfl, h⟩
  | createDir k =>
    have hk : k ≠ .gcLock := by
      rcases (ho : (∃ b d, k = .hunkDir b d) ∨ (∃ p, k = .blockDir p)) with ⟨b, d, rfl⟩ | ⟨p, rfl⟩ <;> simp
    simp only [applyOp, ← h.has hk, ← h.parentOk k]
    split
    · exact ⟨rfl, h⟩
    · split
      · exact ⟨rfl, h⟩
      · exact ⟨rfl, h.put _ _⟩
  | write k v m =>
    obtain ⟨_, hkk⟩ := (ho : m = .createNew ∧ ((∃ b i, k = .hunk b i) ∨ (∃ h, k = .block h) ∨ (∃ b, k = .bandTail b)))
    have hk : k ≠ .gcLock := by
      rcases hkk with ⟨b, i, rfl⟩ | ⟨p, rfl⟩ | ⟨b, rfl⟩ <;> simp
    simp only [applyOp, ← h.get? hk, ← h.parentOk k]
    split
    · exact ⟨rfl, h⟩
    · split
      · exact ⟨rfl, h⟩
      · split
        · exact ⟨rfl, h⟩
        · exact ⟨rfl, h.put _ _⟩
      · exact ⟨rfl, h.put _ _⟩
  | removeFile k => exact absurd ho (by simp [CritOp])
  | removeDirAll k => exact absurd ho (by simp [CritOp])

theorem LockEq.solo {α : Type} {p : Prog α} (hp : AllOps CritOp p) {s s' : Store} (h : LockEq s s') :
    (p.solo s).1 = (p.solo s').1 ∧ LockEq (p.solo s).2 (p.solo s').2 := by
  induction hp generalizing s s' with
  | ret a => exact ⟨rfl, h⟩
  | fail e => exact ⟨rfl, h⟩
  | panic m => exact ⟨rfl, h⟩
  | emit ev _ ih => exact ih h
  | @op o k ho _ ih =>
    rw [Prog.solo_op, Prog.solo_op]
    obtain ⟨hr, hs⟩ := h.apply_op ho
    rw [hr]
    exact ih _ hs

end Conserve
