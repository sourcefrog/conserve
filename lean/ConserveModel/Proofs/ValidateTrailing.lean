import ConserveModel.Proofs.ValidateDetect
/-
Losing the last hunk of a version without tail turns a healthy archive into a healthy archive
(the one an interruption one hunk earlier would have left).  For that: the converse of
`bandOK_of_conforms`.  No property statements.
-/
set_option linter.unusedSimpArgs false
namespace Conserve

theorem filterMap_length_of_all {α β : Type} {f : α → Option β} {l : List α}
    (h : ∀ x ∈ l, (f x).isSome = true) : (l.filterMap f).length = l.length := by
  induction l with
  | nil => rfl
  | cons a l ih =>
    have ha := h a (List.mem_cons_self ..)
    obtain ⟨y, hy⟩ := Option.isSome_iff_exists.mp ha
    simp [List.filterMap_cons, hy, ih (fun x hx => h x (List.mem_cons_of_mem _ hx))]

theorem bandConforms_of_bandOK {H : Str → Str} {s : Store} {b : Nat} (ok : BandOK H s b)
    (hhead : ∃ ver flags, s.get? (.bandHead b) = some (.head ver flags)) : bandConforms H s b = true := by
  obtain ⟨ver, flags, hh⟩ := hhead
  have hdec : ∀ v ∈ (hunkNumsOf s b).map (fun n => s.get? (.hunk b n)), ∀ es, selHunk v = some es →
      ∃ n ∈ hunkNumsOf s b, s.get? (.hunk b n) = some (.hunk es) := by
    intro v hv es hs
    obtain ⟨n, hn, rfl⟩ := List.mem_map.mp hv
    refine ⟨n, hn, ?_⟩
    unfold selHunk at hs
    split at hs
    · rename_i es' heq; cases hs; exact heq
    · cases hs
  have hallLen : (∀ n ∈ hunkNumsOf s b, ∃ es, s.get? (.hunk b n) = some (.hunk es)) →
      (((hunkNumsOf s b).map fun n => s.get? (.hunk b n)).filterMap selHunk).length =
        ((hunkNumsOf s b).map fun n => s.get? (.hunk b n)).length := by
    intro hall
    apply filterMap_length_of_all
    intro v hv
    obtain ⟨n, hn, rfl⟩ := List.mem_map.mp hv
    obtain ⟨es, he⟩ := hall n hn
    simp [he, selHunk]
  rw [bandConforms_unfold]
  simp only [Bool.and_eq_true, beq_iff_eq]
  refine ⟨⟨⟨⟨⟨⟨ok.range, ?_⟩, ?_⟩, ?_⟩, ?_⟩, ?_⟩, by rw [hh]⟩
  · -- how many hunks decode
    simp only [Bool.or_eq_true, beq_iff_eq, Bool.and_eq_true, Bool.not_eq_true']
    by_cases hall : ∀ n ∈ hunkNumsOf s b, ∃ es, s.get? (.hunk b n) = some (.hunk es)
    · exact Or.inl (hallLen hall)
    · right
      have hex : ∃ n ∈ hunkNumsOf s b, ¬ ∃ es, s.get? (.hunk b n) = some (.hunk es) := by
        apply Classical.byContradiction
        intro hno
        exact hall (fun n hn => Classical.byContradiction fun h => hno ⟨n, hn, h⟩)
      obtain ⟨n, hn, hnd⟩ := hex
      rcases ok.vals n hn with hd | ⟨hemp, htail, hlast⟩
      · exact absurd hd hnd
      · have hrange := ok.range
        rw [← hlast] at hrange
        have hvals : ((hunkNumsOf s b).map fun m => s.get? (.hunk b m)) =
            ((List.range n).map fun m => s.get? (.hunk b m)) ++ [some .empty] := by
          rw [hrange, List.range_succ, List.map_append, List.map_singleton, hemp]
        have hinit : ∀ v ∈ (List.range n).map (fun m => s.get? (.hunk b m)), (selHunk v).isSome = true := by
          intro v hv
          obtain ⟨m, hm, rfl⟩ := List.mem_map.mp hv
          have hm' := List.mem_range.mp hm
          have hmem : m ∈ hunkNumsOf s b := by rw [hrange]; exact List.mem_range.mpr (by omega)
          rcases ok.vals m hmem with ⟨es, he⟩ | ⟨_, _, hl⟩
          · simp [he, selHunk]
          · omega
        refine ⟨⟨by simp [isComplete, htail], ?_⟩, ?_⟩
        · rw [hvals]; simp
        · rw [hvals, List.filterMap_append, List.length_append, filterMap_length_of_all hinit]
          simp [selHunk]
  · -- no empty decoded hunk
    rw [List.all_eq_true]
    intro es hes
    obtain ⟨v, hv, hs⟩ := List.mem_filterMap.mp hes
    obtain ⟨n, hn, hg⟩ := hdec v hv es hs
    have := ok.nonempty n hn es hg
    cases es with
    | nil => exact absurd rfl this
    | cons _ _ => rfl
  · -- entries conform
    rw [List.all_eq_true]
    intro e he
    obtain ⟨es, hes, hee⟩ := List.mem_flatten.mp he
    obtain ⟨v, hv, hs⟩ := List.mem_filterMap.mp hes
    obtain ⟨n, hn, hg⟩ := hdec v hv es hs
    exact ok.entries n hn es hg e hee
  · rw [List.filterMap_map]; exact ok.sorted
  · rcases ok.tail with ht | ⟨ht | ht, hall⟩
    · rw [ht]
    · rw [ht]; simp only [Bool.and_eq_true, beq_iff_eq]; exact ⟨trivial, hallLen hall⟩
    · rw [ht]; simp only [beq_iff_eq]; exact hallLen hall

theorem BandOK.congr {H : Str → Str} {s s' : Store} {b : Nat} (ok : BandOK H s b)
    (hn : hunkNumsOf s' b = hunkNumsOf s b) (hh : ∀ m, s'.get? (.hunk b m) = s.get? (.hunk b m))
    (ht : s'.get? (.bandTail b) = s.get? (.bandTail b))
    (he : ∀ e, entryConforms H s' e = entryConforms H s e) : BandOK H s' b := by
  refine ⟨?_, ?_, ?_, ?_, ?_, ?_⟩ <;> simp only [hn, hh, ht, he]
  · exact ok.range
  · exact ok.vals
  · exact ok.entries
  · exact ok.nonempty
  · exact ok.sorted
  · exact ok.tail

/-- A version without tail that loses its last hunk file is what an interruption one hunk earlier leaves. -/
theorem BandOK.dropLast {H : Str → Str} {s s' : Store} {b n : Nat} (ok : BandOK H s b)
    (hlast : n + 1 = (hunkNumsOf s b).length) (hn : hunkNumsOf s' b = List.range n)
    (hh : ∀ m, m ≠ n → s'.get? (.hunk b m) = s.get? (.hunk b m)) (ht : s'.get? (.bandTail b) = none)
    (he : ∀ e, entryConforms H s' e = entryConforms H s e) : BandOK H s' b := by
  have hrange := ok.range
  rw [← hlast] at hrange
  have hmem : ∀ m, m ∈ List.range n → m ∈ hunkNumsOf s b ∧ m ≠ n := by
    intro m hm
    have := List.mem_range.mp hm
    exact ⟨by rw [hrange]; exact List.mem_range.mpr (by omega), by omega⟩
  refine ⟨?_, ?_, ?_, ?_, ?_, Or.inl ht⟩ <;> rw [hn]
  · rw [List.length_range]
  · intro m hm
    rw [hh m (hmem m hm).2]
    rcases ok.vals m (hmem m hm).1 with hd | ⟨_, _, hl⟩
    · exact Or.inl hd
    · have := (hmem m hm).2
      omega
  · intro m hm es hg e hee
    rw [hh m (hmem m hm).2] at hg
    rw [he]
    exact ok.entries m (hmem m hm).1 es hg e hee
  · intro m hm es hg
    rw [hh m (hmem m hm).2] at hg
    exact ok.nonempty m (hmem m hm).1 es hg
  · have hcongr : (List.range n).filterMap (fun m => selHunk (s'.get? (.hunk b m))) =
        (List.range n).filterMap (fun m => selHunk (s.get? (.hunk b m))) :=
      filterMap_congr' fun m hm => by rw [hh m (hmem m hm).2]
    rw [hcongr]
    have hs := ok.sorted
    rw [hrange, List.range_succ, List.filterMap_append, List.flatten_append, List.map_append,
      strictlySorted_iff] at hs
    rw [strictlySorted_iff]
    exact hs.sublist (List.sublist_append_left _ _)

/-- **Healthy stays healthy** when the last hunk of a version without tail disappears. -/
theorem good_of_trailing_hunk_loss {H : Str → Str} {s s' : Store} {b n : Nat} (g : Good H s)
    (dm : DamagedAt (.hunk b n) none s s') (hopen : s.get? (.bandTail b) = none)
    (hlast : n + 1 = (hunkNumsOf s b).length) : Good H s' := by
  have hn := g.uniqueKeys
  have hids := dm.bandIdsOf_eq hn
  have hentry : ∀ e, entryConforms H s' e = entryConforms H s e := by
    intro e
    have : ∀ a, readAddrPure H s' a = readAddrPure H s a := by
      intro a
      simp only [readAddrPure, blockContent, dm.same (.block a.hash) (by simp)]
    simp only [entryConforms, this]
  obtain ⟨hheader, hroot, hbroot, hblocks, _⟩ := (Conf.conforms_iff H).1 g.conforms
  have hhead : ∀ b', s'.get? (.bandHead b') = s.get? (.bandHead b') := fun b' => dm.same _ (by simp)
  have hidir : ∀ b', s'.get? (.indexDir b') = s.get? (.indexDir b') := fun b' => dm.same _ (by simp)
  have htail : ∀ b', s'.get? (.bandTail b') = s.get? (.bandTail b') := fun b' => dm.same _ (by simp)
  have hheads : AllHeadsReadable s' := by
    intro b' hb'
    rw [hids] at hb'
    have := g.heads b' hb'
    simpa only [bandReadable, hhead, hidir] using this
  refine ⟨(Conf.conforms_iff H).2 ⟨?_, ?_, ?_, ?_, ?_⟩, dm.nodup, ?_, hheads, ?_⟩
  · rw [dm.same _ (by simp)]; exact hheader
  · rw [dm.same _ (by simp)]; exact hroot
  · rw [dm.same _ (by simp)]; exact hbroot
  · simp only [blocksConform, List.all_eq_true] at hblocks ⊢
    exact fun kv hm => hblocks kv (dm.mem_of_mem kv hm)
  · intro b' hb'
    rw [hids] at hb'
    have ok := g.bandOK hb'
    apply bandConforms_of_bandOK
    · by_cases hbb : b' = b
      · subst hbb
        refine ok.dropLast hlast ?_ (fun m hm => dm.same _ (by simpa using hm))
          (by rw [htail]; exact hopen) hentry
        apply eq_of_sorted_lt (hunkNumsOf_sorted_lt (of_decide_eq_true dm.nodup) b') List.pairwise_lt_range
        intro m
        rw [dm.mem_hunkNumsOf_erased hn, ok.range, ← hlast, List.mem_range, List.mem_range]
        omega
      · exact ok.congr
          (dm.hunkNumsOf_eq hn b' fun m => by simp; intro h; exact absurd h.symm hbb)
          (fun m => dm.same _ (by simp; intro h; exact absurd h hbb)) (htail b') hentry
    · have := (bandOpenP_ok_iff s b').mp ((bandReadable_iff s b').mp (g.heads b' hb')).1
      rw [hhead]
      cases hg : s.get? (.bandHead b') with
      | none => simp [hg] at this
      | some v =>
        cases v with
        | head ver flags => exact ⟨ver, flags, rfl⟩
        | _ => simp [hg] at this
  · simp only [treeShaped, List.all_eq_true]
    exact dm.dirsOk' g.dirsOk
  · have hr := g.inRange
    simp only [entriesInRange, List.all_eq_true] at hr ⊢
    exact fun kv hm => hr kv (dm.mem_of_mem kv hm)

end Conserve
