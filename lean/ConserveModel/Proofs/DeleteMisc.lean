import ConserveModel.Proofs.DeleteSpec
/-
Refusals of `deleteBands` (incomplete newest band, lock present), a band of `D` that is missing,
and the order in which unreferenced blocks are removed.  Helper lemmas for Props/C05.lean.
-/
set_option linter.unusedSimpArgs false
namespace Conserve
open Prog

theorem bandIdsOf_erase_lock (s : Store) : bandIdsOf (s.erase .gcLock) = bandIdsOf s := by
  rw [Store.erase, bandIdsOf_filter (fun k => k != .gcLock)]
  exact List.filter_eq_self.2 fun _ _ => rfl

theorem isComplete_erase_lock (s : Store) (b : Nat) : isComplete (s.erase .gcLock) b = isComplete s b := by
  simp only [isComplete, Store.get?_erase_ne s (show Key.bandTail b ≠ .gcLock by simp)]

theorem newestComplete_erase_lock (s : Store) : newestComplete (s.erase .gcLock) ↔ newestComplete s := by
  simp only [newestComplete, bandIdsOf_erase_lock, isComplete_erase_lock]

theorem lockOutcome_incomplete {s : Store} {b : Nat} (hm : maxNat? (bandIdsOf s) = some b)
    (hc : isComplete s b = false) : lockOutcome s = (.err (.deleteWithIncompleteBackup b), s) := by
  simp [lockOutcome, hm, hc]

theorem exists_incomplete {s : Store} (h : ¬ newestComplete s) :
    ∃ b, maxNat? (bandIdsOf s) = some b ∧ isComplete s b = false := by
  cases hm : maxNat? (bandIdsOf s) with
  | none => exact absurd (fun b hb => by rw [hm] at hb; cases hb) h
  | some b =>
    refine ⟨b, rfl, ?_⟩
    cases hc : isComplete s b with
    | false => rfl
    | true => exact absurd (newestComplete_of_max hm hc) h

theorem lockOutcome_refuses {s : Store} (h : ¬ newestComplete s ∨ (s.get? .gcLock).isSome = true) :
    ∃ e, lockOutcome s = (.err e, s) := by
  by_cases hnew : newestComplete s
  · obtain ⟨v, hv⟩ := Option.isSome_iff_exists.1 (h.resolve_left (not_not_intro hnew))
    rw [lockOutcome_of_complete hnew]
    simp only [lockTailOutcome, fileAt, hv]
    cases v.isDir <;> simp
  · obtain ⟨b, hm, hc⟩ := exists_incomplete hnew
    exact ⟨_, lockOutcome_incomplete hm hc⟩

theorem lockOutcome_held {s : Store} (hnew : newestComplete s) (hl : fileAt s .gcLock = true) :
    lockOutcome s = (.err .gcLockHeld, s) := by
  rw [lockOutcome_of_complete hnew]
  simp [lockTailOutcome, hl]

/-- The store after a refusal: unchanged, except that `--break-lock` has already removed a stale
lock file. -/
def refusedStore (o : DeleteOpts) (s : Store) : Store :=
  if o.breakLock && fileAt s .gcLock then s.erase .gcLock else s

theorem acquireOutcome_refuses {s : Store} (o : DeleteOpts)
    (h : ¬ newestComplete s ∨ ((s.get? .gcLock).isSome = true ∧ o.breakLock = false)) :
    ∃ e, acquireOutcome o s = (.err e, refusedStore o s) := by
  simp only [acquireOutcome, breakOutcome, refusedStore]
  cases hb : o.breakLock with
  | false =>
    simp only [Bool.false_eq_true, if_false, Bool.false_and]
    exact lockOutcome_refuses (h.imp id (·.1))
  | true =>
    have hn : ¬ newestComplete s := by
      rcases h with h | ⟨_, h⟩
      · exact h
      · rw [hb] at h; cases h
    simp only [if_true, Bool.true_and]
    cases hf : fileAt s .gcLock with
    | false => simpa using lockOutcome_refuses (Or.inl hn)
    | true =>
      simpa using lockOutcome_refuses (s := s.erase .gcLock)
        (Or.inl (fun hc => hn ((newestComplete_erase_lock s).1 hc)))

theorem lockTaken_break {s : Store} (o : DeleteOpts) (hb : o.breakLock = true)
    (hl : fileAt s .gcLock = true) (hnew : newestComplete s) : LockTaken o s (s.erase .gcLock) := by
  simp only [LockTaken, acquireOutcome, hb, if_true, breakOutcome, hl]
  exact lockOutcome_ok (Store.get?_erase_self s _) ((newestComplete_erase_lock s).2 hnew)

/-- The loop on ANY list: either every band finds its directory, or there is a first one that does not. -/
theorem removable_or_first_missing : ∀ (D : List Nat) (s : Store),
    Removable s D ∨
      ∃ pre b post, D = pre ++ b :: post ∧ Removable s pre ∧ (eraseBands s pre).get? (.bandDir b) = none
  | [], _ => .inl trivial
  | b :: D, s => by
    cases hb : s.get? (.bandDir b) with
    | none => exact .inr ⟨[], b, D, rfl, trivial, hb⟩
    | some v =>
      have hb' : (s.get? (.bandDir b)).isSome = true := by rw [hb]; rfl
      rcases removable_or_first_missing D (s.eraseTree (.bandDir b)) with h | ⟨pre, c, post, hD, h, hc⟩
      · exact .inl ⟨hb', h⟩
      · exact .inr ⟨b :: pre, c, post, by rw [hD]; rfl, ⟨hb', h⟩, hc⟩

theorem get?_eraseBands_bandDir {s : Store} {pre : List Nat} {b : Nat} :
    (eraseBands s pre).get? (.bandDir b) = none ↔ s.get? (.bandDir b) = none ∨ b ∈ pre := by
  rw [get?_eraseBands, underAny_bandDir]
  by_cases hb : b ∈ pre <;> simp [hb]

theorem eval_bodyTail_missing (e : Bool) {s : Store} (hroot : s.get? .root = some .dir) {pre post : List Nat}
    {b : Nat} {o : DeleteOpts} (hdry : o.dryRun = false) (hnd : pre.Nodup)
    (hex : ∀ b' ∈ pre, (s.get? (.bandDir b')).isSome = true)
    (hb : s.get? (.bandDir b) = none ∨ b ∈ pre) (u : List Str) :
    (bodyTail (pre ++ b :: post) o (maxNat? (bandIdsOf s)) u).eval e s =
      (.err (.bandNotFound b), eraseBands s pre, []) := by
  simp only [bodyTail, hdry, Bool.false_eq_true, if_false, eval_bind, eval_gcLockCheck e hroot, andThen_ok,
    eval_delBands_append e pre s 0 (removable_iff.2 ⟨hnd, hex⟩), eval_delBands_cons, get?_eraseBands_bandDir.2 hb]
  rfl

theorem eval_deleteBands_missing (e : Bool) {s : Store} {pre post : List Nat} {b : Nat}
    (ok : DelArchOK s (pre ++ b :: post)) (hfree : s.get? .gcLock = none)
    (hnew : newestComplete s) (o : DeleteOpts) (hdry : o.dryRun = false) (hnd : pre.Nodup)
    (hex : ∀ b' ∈ pre, (s.get? (.bandDir b')).isSome = true)
    (hb : s.get? (.bandDir b) = none ∨ b ∈ pre) :
    (deleteBands true (pre ++ b :: post) o).eval e s = (.err (.bandNotFound b), eraseBands s pre, []) := by
  have bok := ok.bodyOK hfree
  have ht := eval_bodyTail_missing e (post := post) bok.root hdry hnd
    (fun b' hb' => by rw [get?_lock _ _ (by simp)]; exact hex b' hb')
    (hb.imp_left fun hb => by rw [get?_lock _ _ (by simp)]; exact hb) (unrefOf s (pre ++ b :: post))
  rw [bandIdsOf_lock] at ht
  have hl : fileAt (eraseBands (s ++ [(.gcLock, .lock)]) pre) .gcLock = true := by
    simp only [fileAt, get?_eraseBands, underAny_gcLock, Bool.false_eq_true, if_false]
    exact bok.lock
  rw [eval_deleteBands_of_lock e ok.root (lockTaken_free hfree hnew o),
    eval_withLock_err ((eval_deleteBody_locked e ok hfree o _).trans ht) hl]
  simp only [eraseBands_eq_filter]
  rw [filter_lock_erase hfree]

theorem eraseBlocks_perm (s : Store) {l₁ l₂ : List Str} (h : l₁.Perm l₂) :
    eraseBlocks s l₁ = eraseBlocks s l₂ := by
  rw [eraseBlocks_eq_filter, eraseBlocks_eq_filter]
  apply List.filter_congr
  intro kv _
  cases hk : kv.1 with
  | block x =>
    simp only [blockIn]
    congr 1
    rw [Bool.eq_iff_iff]
    simp [h.mem_iff]
  | _ => simp [blockIn]

end Conserve
