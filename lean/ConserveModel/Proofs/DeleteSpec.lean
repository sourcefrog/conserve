import ConserveModel.Proofs.DeleteSafe
/-
Properties of the store `deleted s D` that `deleteBands D` produces: which bands, band files and
blocks survive.  Helper lemmas for Props/C05.lean.
-/
set_option linter.unusedSimpArgs false
namespace Conserve
open Prog

theorem underAny_of_under_kept {D : List Nat} {k : Key} {b : Nat} (hb : b ∉ D)
    (hk : Key.isUnder (.bandDir b) k = true) : underAny D k = false := by
  cases h : underAny D k with
  | false => rfl
  | true =>
    obtain ⟨b', hb', hk'⟩ := underAny_eq_true.1 h
    rw [isUnder_bandDir_iff.1 hk, Option.some.injEq] at hk'
    exact absurd (hk' ▸ hb') hb

theorem blockIn_of_under_band {hs : List Str} {k : Key} {b : Nat} (hk : Key.isUnder (.bandDir b) k = true) :
    blockIn hs k = false := by
  cases k <;> first | rfl | cases isUnder_bandDir_iff.1 hk

theorem get?_deleted (s : Store) (D : List Nat) (k : Key) :
    (deleted s D).get? k = if survives s D k then s.get? k else none :=
  Store.get?_filter_key (survives s D) s k

theorem bandIdsOf_filter (p : Key → Bool) (s : Store) :
    bandIdsOf (s.filter fun kv => p kv.1) = (bandIdsOf s).filter fun b => p (.bandDir b) := by
  rw [bandIdsOf_eq, bandSel_picks.filter_comm, sortNat_filter]; rfl

theorem underAny_bandDir (D : List Nat) (b : Nat) : underAny D (.bandDir b) = D.contains b := by
  rw [Bool.eq_iff_iff, underAny_eq_true]
  simp [Key.bandOf]

theorem bandIdsOf_eraseBands (s : Store) (D : List Nat) :
    bandIdsOf (eraseBands s D) = (bandIdsOf s).filter fun b => !D.contains b := by
  simp only [eraseBands_eq_filter, bandIdsOf_filter (fun k => !underAny D k), underAny_bandDir]

theorem bandIdsOf_deleted (s : Store) (D : List Nat) : bandIdsOf (deleted s D) = keptOf s D := by
  rw [deleted, bandIdsOf_filter (survives s D), keptOf]
  simp only [survives, underAny_bandDir, blockIn, Bool.not_false, Bool.and_true]

theorem deleted_band_gone (s : Store) {D : List Nat} {b : Nat} (hb : b ∈ D) {k : Key}
    (hk : Key.isUnder (.bandDir b) k = true) : (deleted s D).get? k = none := by
  rw [get?_deleted]
  have : underAny D k = true := underAny_eq_true.2 ⟨b, hb, isUnder_bandDir_iff.1 hk⟩
  simp [survives, this]

theorem survives_of_under_kept (s : Store) {D : List Nat} {b : Nat} (hb : b ∉ D) {k : Key}
    (hk : Key.isUnder (.bandDir b) k = true) : survives s D k = true := by
  simp [survives, underAny_of_under_kept hb hk, blockIn_of_under_band hk]

theorem kept_band_unchanged (s : Store) {D : List Nat} {b : Nat} (hb : b ∉ D) {k : Key}
    (hk : Key.isUnder (.bandDir b) k = true) : (deleted s D).get? k = s.get? k := by
  rw [get?_deleted, survives_of_under_kept s hb hk, if_pos rfl]

theorem isUnder_of_parent {anc k k' : Key} (hp : k'.parent = some k) (hk : Key.isUnder anc k = true) :
    Key.isUnder anc k' = true := by
  cases k' <;> simp only [Key.parent, Option.some.injEq, reduceCtorEq] at hp <;> subst hp <;>
    simp only [Key.isUnder, Key.parent, Bool.or_eq_true, Bool.or_false] at hk ⊢ <;> exact Or.inr hk

/-- (a) The directory listing of a kept band directory (or of any directory under it) is the very
same list as before: `list_dir` answers the same, entry for entry, in the same order. -/
theorem kept_band_listing_unchanged (s : Store) {D : List Nat} {b : Nat} (hb : b ∉ D) {k : Key}
    (hk : Key.isUnder (.bandDir b) k = true) : (deleted s D).children k = s.children k := by
  simp only [Store.children, deleted, List.filter_filter]
  congr 1
  apply List.filter_congr
  intro kv _
  cases hp : (kv.1.parent == some k) with
  | false => simp
  | true =>
    have hp' : kv.1.parent = some k := by simpa using hp
    simp [survives_of_under_kept s hb (isUnder_bandDir_of_parent hp' (isUnder_bandDir_iff.1 hk))]

theorem other_unchanged (s : Store) {D : List Nat} {k : Key} (h1 : underAny D k = false)
    (h2 : ∀ h, k ≠ .block h) : (deleted s D).get? k = s.get? k := by
  rw [get?_deleted]
  have : blockIn (unrefOf s D) k = false := by
    cases k <;> first | rfl | exact absurd rfl (h2 _)
  simp [survives, h1, this]

theorem get?_deleted_block (s : Store) (D : List Nat) (h : Str) :
    (deleted s D).get? (.block h) = if h ∈ unrefOf s D then none else s.get? (.block h) := by
  rw [get?_deleted]
  by_cases hm : h ∈ unrefOf s D <;> simp [survives, blockIn, hm]

/-- Hash `h` is named by an entry of a decodable hunk of one of the bands `keep`. -/
def referencedBy (s : Store) (keep : List Nat) (h : Str) : Prop :=
  ∃ b ∈ keep, ∃ n es, hunkAt s b n = some es ∧ ∃ e ∈ es, ∃ a ∈ e.addrs, a.hash = h

theorem mem_bandRefs {s : Store} {b : Nat} {h : Str} (hd : HunkDirsOk s b) :
    h ∈ bandRefHashes s b ↔ ∃ n es, hunkAt s b n = some es ∧ ∃ e ∈ es, ∃ a ∈ e.addrs, a.hash = h := by
  simp only [bandRefHashes, hunkEntriesOf, List.mem_flatMap, List.mem_map]
  constructor
  · rintro ⟨e, ⟨n, _, he⟩, a, ha, rfl⟩
    cases hes : hunkAt s b n with
    | none => simp [hes] at he
    | some es => exact ⟨n, es, hes, e, by simpa [hes] using he, a, ha, rfl⟩
  · rintro ⟨n, es, hes, e, he, a, ha, rfl⟩
    refine ⟨e, ⟨n, (mem_hunksListed hd).2 (hunkNumsOf_of_hunkAt hes), ?_⟩, a, ha, rfl⟩
    simpa [hes] using he

theorem mem_refsOf_iff {s : Store} {keep : List Nat} {h : Str} (hd : ∀ b ∈ keep, HunkDirsOk s b) :
    h ∈ refsOf s keep ↔ referencedBy s keep h := by
  rw [mem_refsOf]
  constructor
  · rintro ⟨b, hb, hh⟩; exact ⟨b, hb, (mem_bandRefs (hd b hb)).1 hh⟩
  · rintro ⟨b, hb, hh⟩; exact ⟨b, hb, (mem_bandRefs (hd b hb)).2 hh⟩

/-- (b) In a well-formed store the blocks found unreferenced are exactly the listed non-empty block
files (names of three characters or more) that no kept band names. -/
theorem mem_unrefOf_iff {s : Store} {D : List Nat} (hn : UniqueKeys s) (hd : DirsOk s) {h : Str} :
    h ∈ unrefOf s D ↔
      blockListed s h ∧ subdirNameChars ≤ h.length ∧ ¬ referencedBy s (keptOf s D) h := by
  rw [mem_unrefOf, mem_blockNamesOf hn hd, mem_refsOf_iff (fun b _ => hd.hunkDirsOk b), and_assoc]

theorem not_mem_unrefOf_of_referenced {s : Store} {D : List Nat} (hn : UniqueKeys s) (hd : DirsOk s) {h : Str}
    (hr : referencedBy s (keptOf s D) h) : h ∉ unrefOf s D :=
  fun hm => ((mem_unrefOf_iff hn hd).1 hm).2.2 hr

theorem get?_deleted_block_referenced {s : Store} {D : List Nat} (hn : UniqueKeys s) (hd : DirsOk s) {h : Str}
    (hr : referencedBy s (keptOf s D) h) : (deleted s D).get? (.block h) = s.get? (.block h) := by
  rw [get?_deleted_block, if_neg (not_mem_unrefOf_of_referenced hn hd hr)]

theorem blockListed_deleted {s : Store} {D : List Nat} {h : Str} :
    blockListed (deleted s D) h ↔ blockListed s h ∧ h ∉ unrefOf s D := by
  simp only [blockListed, get?_deleted_block]
  by_cases hm : h ∈ unrefOf s D
  · simp [hm]
  · simp [hm]

theorem blockListed_deleted_iff {s : Store} {D : List Nat} (hn : UniqueKeys s) (hd : DirsOk s) {h : Str}
    (hlen : subdirNameChars ≤ h.length) :
    blockListed (deleted s D) h ↔ blockListed s h ∧ referencedBy s (keptOf s D) h := by
  rw [blockListed_deleted, mem_unrefOf_iff hn hd]
  constructor
  · rintro ⟨hl, hnot⟩
    exact ⟨hl, Classical.byContradiction fun hr => hnot ⟨hl, hlen, hr⟩⟩
  · rintro ⟨hl, hr⟩
    exact ⟨hl, fun hm => hm.2.2 hr⟩

theorem referencedBy_of_outside {s : Store} {D : List Nat} (hd : DirsOk s) {h : Str}
    (href : referencedOutside s D h) : referencedBy s (keptOf s D) h := by
  obtain ⟨b, hbD, n, es, hes, rest⟩ := href
  refine ⟨b, ?_, n, es, hes, rest⟩
  rw [keptOf, List.mem_filter]
  exact ⟨mem_bandIdsOf'.2 (Store.mem_of_get? (hd.hunkTreeOk b n _ (hunkAt_eq_some_iff.1 hes)).2),
    by simpa using hbD⟩

theorem referencedOutside_of_by {s : Store} {D : List Nat} {h : Str}
    (href : referencedBy s (keptOf s D) h) : referencedOutside s D h := by
  obtain ⟨b, hb, rest⟩ := href
  rw [keptOf, List.mem_filter] at hb
  exact ⟨b, by simpa using hb.2, rest⟩

/-- What "the kept versions are intact" means at the level of pure functions: for every band
outside `D`, every key at or under its directory is unchanged (so its head, tail, index listing
and hunks read as before), and every block named by an entry of one of its hunks is unchanged (so
every file's content reads back as before). -/
structure KeptIntact (H : Str → Str) (s : Store) (D : List Nat) (s' : Store) : Prop where
  keys : ∀ b, b ∉ D → ∀ k, Key.isUnder (.bandDir b) k = true → s'.get? k = s.get? k
  hunks : ∀ b, b ∉ D → ∀ n, hunkAt s' b n = hunkAt s b n
  complete : ∀ b, b ∉ D → isComplete s' b = isComplete s b
  blocks : ∀ h, referencedOutside s D h → s'.get? (.block h) = s.get? (.block h)
  content : ∀ b, b ∉ D → ∀ n es, hunkAt s b n = some es → ∀ e ∈ es,
    readBack H s' e.addrs = readBack H s e.addrs

theorem KeptIntact.of_frames (H : Str → Str) {s s' : Store} {D : List Nat}
    (hk : ∀ b, b ∉ D → ∀ k, Key.isUnder (.bandDir b) k = true → s'.get? k = s.get? k)
    (hb : ∀ h, referencedOutside s D h → s'.get? (.block h) = s.get? (.block h)) :
    KeptIntact H s D s' where
  keys := hk
  hunks := by
    intro b hbD n
    exact hunkAt_congr (hk b hbD _ (isUnder_bandDir_iff.2 rfl))
  complete := by
    intro b hbD
    simp only [isComplete, hk b hbD (.bandTail b) (isUnder_bandDir_iff.2 rfl)]
  blocks := hb
  content := by
    intro b hbD n es hes e he
    apply readBack_congr
    intro a ha
    exact hb _ ⟨b, hbD, n, es, hes, e, he, a, ha, rfl⟩

theorem deleteBands_keptIntact (H : Str → Str) (D : List Nat) (o : DeleteOpts) (w : World)
    (hd : HunkTreeOk w.store) : KeptIntact H w.store D ((deleteBands true D o).run w).2.store := by
  apply KeptIntact.of_frames
  · intro b hbD k hk
    apply deleteBands_frame
    · rintro rfl; cases isUnder_bandDir_iff.1 hk
    · exact underAny_of_under_kept hbD hk
    · rintro h rfl; cases isUnder_bandDir_iff.1 hk
  · intro h href
    exact deleteBands_safe D o w hd href

end Conserve
