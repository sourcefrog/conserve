import ConserveModel.Proofs.ConformsStep
import ConserveModel.Proofs.DeleteSpec
/-
C13 for `delete_bands`: removing whole band directories, unreferenced block files and the lock
file keeps the store invariant `CI` (`Conforms` + `DirsOk` + distinct keys), in every world.
The invariant is preserved by every single step; what makes block removal safe is carried as
pre/postconditions: the referenced set covers every kept band's addresses (C05's
`referencedBlocks_sound`), and blocks are only removed once all bands of `D` are gone.
No property statements here.
-/
namespace Conserve.Conf
open Conserve Conserve.Inv Prog

section
variable (H : Str → Str)

/-- Keys `blocksConform` constrains. -/
def isBlockish (k : Key) : Prop := (∃ h, k = .block h) ∨ (∃ p, k = .blockDir p)

theorem blockEntryOk_of_not_blockish {k : Key} {v : FileVal} (h : ¬ isBlockish k) :
    blockEntryOk H (k, v) = true := by
  cases k <;> first | rfl | exact absurd (Or.inl ⟨_, rfl⟩) h | exact absurd (Or.inr ⟨_, rfl⟩) h

theorem conforms_of_get {s s' : Store} (hn : NoDupKeys s) (hn' : NoDupKeys s') (hc : Conforms H s = true)
    (hhdr : s'.get? .header = s.get? .header) (hroot : s'.get? .root = s.get? .root)
    (hbr : s'.get? .blockRoot = s.get? .blockRoot)
    (hblk : ∀ k v, s'.get? k = some v → isBlockish k → s.get? k = some v)
    (hband : ∀ b, s'.get? (.bandDir b) = some .dir → s.get? (.bandDir b) = some .dir ∧ BandKeysSame b s s' ∧
      (∀ n es, s.get? (.hunk b n) = some (.hunk es) → ∀ e ∈ es, ∀ a ∈ e.addrs,
        s'.get? (.block a.hash) = s.get? (.block a.hash))) :
    Conforms H s' = true := by
  rw [conforms_iff] at hc ⊢
  obtain ⟨h1, h2, h3, h4, h5⟩ := hc
  refine ⟨hhdr.trans h1, hroot.trans h2, hbr.trans h3, ?_, ?_⟩
  · rw [blocksConform_eq, List.all_eq_true] at h4 ⊢
    rintro ⟨k, v⟩ hkv
    by_cases hb : isBlockish k
    · exact h4 _ (Store.mem_of_get? (hblk k v (Store.get?_of_mem_nodup hn' hkv) hb))
    · exact blockEntryOk_of_not_blockish H hb
  · intro b hb
    obtain ⟨hbd, hsame, hblocks⟩ := hband b ((mem_bandIdsOf_iff_get? hn').1 hb)
    refine bandConforms_congr H (hunkNumsOf_congr hn hn' hsame.1) hsame.1 hsame.2.1 hsame.2.2 ?_
      (h5 b ((mem_bandIdsOf_iff_get? hn).2 hbd))
    intro n es hes e he
    refine entryConforms_congr H fun a ha hr => ?_
    simpa only [readAddrPure, blockContent, hblocks n es hes e he a ha] using hr

variable {H}

theorem CI.of_lock_frame {s s' : Store} (h : CI H s) (hn' : NoDupKeys s')
    (hf : FrameOff (fun k => k = .gcLock) s s') : CI H s' := by
  have hroot : s.get? .root = some .dir := ((conforms_iff H).1 h.conf).2.1
  refine ⟨?_, ?_, hn'⟩
  · refine conforms_of_get H h.nodup hn' h.conf (hf _ (by simp)) (hf _ (by simp)) (hf _ (by simp)) ?_ ?_
    · rintro k v hv (⟨hh, rfl⟩ | ⟨p, rfl⟩)
      · rw [← hf _ (by simp)]; exact hv
      · rw [← hf _ (by simp)]; exact hv
    · intro b hb
      refine ⟨by rw [← hf _ (by simp)]; exact hb, ⟨fun n => hf _ (by simp), hf _ (by simp), hf _ (by simp)⟩,
        fun _ _ _ _ _ a _ => hf _ (by simp)⟩
  · refine DirsOk.of_get hn' fun k v hv => ?_
    have hold : s.parentOk k = true := by
      by_cases hk : k = .gcLock
      · simp [hk, Store.parentOk, Key.parent, hroot]
      · rw [hf _ hk] at hv
        exact h.dirs.parent_of_get? hv
    -- the lock file is nobody's parent
    refine parentOk_congr hold fun p hp => hf p ?_
    rintro rfl
    cases k <;> simp [Key.parent] at hp

theorem get?_eraseTree_some {s : Store} {r k : Key} {v : FileVal} (h : (s.eraseTree r).get? k = some v) :
    Key.isUnder r k = false ∧ s.get? k = some v := by
  rw [Store.get?_eraseTree] at h
  split at h
  · cases h
  · rename_i hnu
    exact ⟨by simpa using hnu, h⟩

theorem bandDir_of_eraseTree {s : Store} {b b' : Nat}
    (h : (s.eraseTree (.bandDir b)).get? (.bandDir b') = some .dir) :
    b' ≠ b ∧ s.get? (.bandDir b') = some .dir := by
  obtain ⟨hnu, hv⟩ := get?_eraseTree_some h
  exact ⟨by rintro rfl; simp [Key.isUnder] at hnu, hv⟩

theorem get?_eraseTree_other_band {s : Store} {b b' : Nat} (hne : b' ≠ b) {k : Key}
    (hk : Key.isUnder (.bandDir b') k = true) : (s.eraseTree (.bandDir b)).get? k = s.get? k := by
  rw [Store.get?_eraseTree, isUnder_bandDir_other hk hne]
  rfl

theorem CI.eraseTree_band {s : Store} (h : CI H s) (b : Nat) : CI H (s.eraseTree (.bandDir b)) := by
  have hn' : NoDupKeys (s.eraseTree (.bandDir b)) := Store.NoDupKeys.eraseTree h.nodup _
  have hkeep : ∀ k, Key.isUnder (.bandDir b) k = false → (s.eraseTree (.bandDir b)).get? k = s.get? k := by
    intro k hk; rw [Store.get?_eraseTree, hk]; simp
  refine ⟨?_, ?_, hn'⟩
  · refine conforms_of_get H h.nodup hn' h.conf (hkeep _ (isUnder_bandDir_of_bandOf_none rfl))
      (hkeep _ (isUnder_bandDir_of_bandOf_none rfl)) (hkeep _ (isUnder_bandDir_of_bandOf_none rfl))
      (fun k v hv _ => (get?_eraseTree_some hv).2) ?_
    intro b' hb'
    obtain ⟨hne, hb⟩ := bandDir_of_eraseTree hb'
    have hsame : ∀ k, Key.isUnder (.bandDir b') k = true → (s.eraseTree (.bandDir b)).get? k = s.get? k :=
      fun k => get?_eraseTree_other_band hne
    exact ⟨hb, ⟨fun n => hsame _ (isUnder_bandDir_iff.2 rfl), hsame _ (isUnder_bandDir_iff.2 rfl),
      hsame _ (isUnder_bandDir_iff.2 rfl)⟩, fun _ _ _ _ _ a _ => hkeep _ (isUnder_bandDir_of_bandOf_none rfl)⟩
  · refine DirsOk.of_get hn' fun k v hv => ?_
    obtain ⟨hnu, hv⟩ := get?_eraseTree_some hv
    refine parentOk_congr (h.dirs.parent_of_get? hv) fun p hp => hkeep p ?_
    cases hu : Key.isUnder (.bandDir b) p with
    | false => rfl
    | true => exact absurd (isUnder_of_parent hp hu) (by simp [hnu])

theorem CI.erase_block {s : Store} (h : CI H s) {hh : Str}
    (hunref : ∀ b, s.get? (.bandDir b) = some .dir → ∀ n es, s.get? (.hunk b n) = some (.hunk es) →
      ∀ e ∈ es, ∀ a ∈ e.addrs, a.hash ≠ hh) : CI H (s.erase (.block hh)) := by
  have hn' : NoDupKeys (s.erase (.block hh)) := Store.NoDupKeys.erase h.nodup _
  have hkeep : ∀ k, k ≠ .block hh → (s.erase (.block hh)).get? k = s.get? k :=
    fun k hk => Store.get?_erase_ne s hk
  refine ⟨?_, ?_, hn'⟩
  · refine conforms_of_get H h.nodup hn' h.conf (hkeep _ (by simp)) (hkeep _ (by simp)) (hkeep _ (by simp)) ?_ ?_
    · rintro k v' hv' _
      rw [Store.get?_erase] at hv'
      split at hv'
      · cases hv'
      · exact hv'
    · intro b hb
      rw [hkeep _ (by simp)] at hb
      refine ⟨hb, ⟨fun n => hkeep _ (by simp), hkeep _ (by simp), hkeep _ (by simp)⟩, ?_⟩
      intro n es hes e he a ha
      exact hkeep _ (by simpa using hunref b hb n es hes e he a ha)
  · refine DirsOk.of_get hn' fun k v' hv' => ?_
    rw [Store.get?_erase] at hv'
    split at hv'
    · cases hv'
    · -- a block is nobody's parent
      refine parentOk_congr (h.dirs.parent_of_get? hv') fun p hp => hkeep p ?_
      rintro rfl
      cases k <;> simp [Key.parent] at hp

end

theorem exec_removeFile_cases (w : World) (k : Key) :
    (w.exec (.removeFile k)).1.store = w.store ∨ (w.exec (.removeFile k)).1.store = w.store.erase k := by
  rcases (World.exec_cases w (.removeFile k)).2 with ⟨hs, _, _⟩ | ⟨k', v, m, ho, _⟩ | ⟨e, hs, _, _⟩ | ⟨hs, _, _⟩
  · exact Or.inl hs
  · cases ho
  · exact Or.inl hs
  · rw [hs]
    simp only [applyOp]
    split
    · exact Or.inl rfl
    · exact Or.inl rfl
    · exact Or.inr rfl

theorem exec_removeDirAll_cases (w : World) (k : Key) :
    ((w.exec (.removeDirAll k)).1.store = w.store ∧ ∃ e, (w.exec (.removeDirAll k)).2 = .err e) ∨
    (w.exec (.removeDirAll k)).1.store = w.store.eraseTree k := by
  rcases (World.exec_cases w (.removeDirAll k)).2 with ⟨hs, _, hr⟩ | ⟨k', v, m, ho, _⟩ | ⟨e, hs, _, hr⟩ | ⟨hs, _, hr⟩
  · exact Or.inl ⟨hs, _, hr⟩
  · cases ho
  · exact Or.inl ⟨hs, _, hr⟩
  · rw [hs, hr]
    simp only [applyOp]
    split
    · exact Or.inl ⟨rfl, _, rfl⟩
    · exact Or.inr rfl

/-- `ISat I p w Q`: whatever the outcome, the final store satisfies `I`; if `p` returns `a`, `Q a`
holds of the final world. -/
def ISat (I : Store → Prop) {α : Type} (p : Prog α) (w : World) (Q : α → World → Prop) : Prop :=
  Framed (fun _ w' => I w'.store) p w Q

namespace ISat
variable {I : Store → Prop}

theorem ret {α : Type} {a : α} {w : World} {Q : α → World → Prop} (hI : I w.store) (hq : Q a w) :
    ISat I (.ret a) w Q := Framed.ret hI hq

theorem fail {α : Type} {e : Err} {w : World} {Q : α → World → Prop} (hI : I w.store) :
    ISat I (.fail e) w Q := Framed.fail hI

theorem panic {α : Type} {m : String} {w : World} {Q : α → World → Prop} (hI : I w.store) :
    ISat I (.panic m) w Q := Framed.panic hI

theorem bind {α β : Type} {p : Prog α} {f : α → Prog β} {w : World} {Q : β → World → Prop}
    (hp : ISat I p w (fun a w' => ISat I (f a) w' Q)) : ISat I (p.bind f) w Q :=
  Framed.bind hp fun _ _ _ _ h => h

theorem mono {α : Type} {p : Prog α} {w : World} {Q Q' : α → World → Prop} (hp : ISat I p w Q)
    (h : ∀ a w', I w'.store → Q a w' → Q' a w') : ISat I p w Q' := Framed.mono hp h

theorem op {α : Type} {o : Op} {k : Resp → Prog α} {w : World} {Q : α → World → Prop}
    (hk : ∀ r, r = (w.exec o).2 → ISat I (k r) (w.exec o).1 Q) : ISat I (.op o k) w Q :=
  hk _ rfl

theorem attemptAll {α : Type} {p : Prog α} {w : World} {Q : α → World → Prop} (hp : ISat I p w Q) :
    ISat I p.attemptAll w (fun _ w' => I w'.store) := (Framed.attemptAll hp).mono fun _ _ h _ => h

theorem of_ro {α : Type} {p : Prog α} (hp : Prog.AllOps ReadOnly p) {w : World} (hI : I w.store) :
    ISat I p w (fun _ w' => w'.store = w.store) :=
  ⟨show I _ from (Prog.run_readOnly_store hp w).symm ▸ hI, fun _ _ => Prog.run_readOnly_store hp w⟩

theorem and_run {α : Type} {p : Prog α} {w : World} {Q Q' : α → World → Prop} (hp : ISat I p w Q)
    (h : ∀ a, (p.run w).1 = .ok a → Q' a (p.run w).2) : ISat I p w (fun a w' => Q a w' ∧ Q' a w') :=
  Framed.and_run hp h

end ISat

section
variable {H : Str → Str}

theorem ISat.of_lock {α : Type} {p : Prog α} (hp : TouchesOnly (fun k => k = .gcLock) p) {w : World}
    (hI : CI H w.store) :
    ISat (CI H) p w (fun _ w' => FrameOff (fun k => k = .gcLock) w.store w'.store) :=
  ⟨hI.of_lock_frame (Prog.run_noDupKeys p w hI.nodup) (hp.frame w), fun _ _ => hp.frame w⟩

/-- The referenced set names every block of every band directory outside `D`. -/
def RefsCover (D : List Nat) (refs : List Str) (s : Store) : Prop :=
  ∀ b, s.get? (.bandDir b) = some .dir → b ∉ D → ∀ n es, s.get? (.hunk b n) = some (.hunk es) →
    ∀ e ∈ es, ∀ a ∈ e.addrs, a.hash ∈ refs

theorem RefsCover.of_same {D : List Nat} {refs : List Str} {s s' : Store} (h : RefsCover D refs s)
    (hd : ∀ b, s'.get? (.bandDir b) = some .dir → s.get? (.bandDir b) = some .dir)
    (hh : ∀ b n, s'.get? (.bandDir b) = some .dir → s'.get? (.hunk b n) = s.get? (.hunk b n)) :
    RefsCover D refs s' := by
  intro b hb hbD n es hes
  rw [hh b n hb] at hes
  exact h b (hd b hb) hbD n es hes

theorem RefsCover.of_lock_frame {D : List Nat} {refs : List Str} {s s' : Store} (h : RefsCover D refs s)
    (hf : FrameOff (fun k => k = .gcLock) s s') : RefsCover D refs s' :=
  h.of_same (fun b hb => by rw [← hf _ (by simp)]; exact hb) (fun b n _ => hf _ (by simp))

/-- Deleting the band directories one by one: `CI` after every step; if it completes, every
listed band directory is gone, and nothing that was gone came back. -/
theorem delBands_isat (D : List Nat) (refs : List Str) (D' : List Nat) :
    ∀ (n : Nat) (w : World), CI H w.store → RefsCover D refs w.store →
      ISat (CI H) (deleteBody.delBands D' n) w (fun _ w' =>
        RefsCover D refs w'.store ∧ (∀ b ∈ D', w'.store.get? (.bandDir b) = none) ∧
        (∀ b, w.store.get? (.bandDir b) = none → w'.store.get? (.bandDir b) = none)) := by
  induction D' with
  | nil =>
    intro n w hI hc
    simp only [deleteBody.delBands, Prog.pure_def]
    exact ISat.ret hI ⟨hc, (by intro b hb; cases hb), fun _ h => h⟩
  | cons b D' ih =>
    intro n w hI hc
    simp only [deleteBody.delBands, bandDelete, perform, Prog.bind_def, Prog.op_bind, Prog.ret_bind, Prog.pure_def]
    apply ISat.op
    intro r hr
    have hI1 : CI H (w.exec (.removeDirAll (.bandDir b))).1.store := by
      rcases exec_removeDirAll_cases w (.bandDir b) with ⟨hs, _⟩ | hs
      · rw [hs]; exact hI
      · rw [hs]; exact hI.eraseTree_band b
    cases r with
    | unit =>
      have hs : (w.exec (.removeDirAll (.bandDir b))).1.store = w.store.eraseTree (.bandDir b) := by
        rcases exec_removeDirAll_cases w (.bandDir b) with ⟨_, e, he⟩ | hs
        · rw [he] at hr; cases hr
        · exact hs
      have hc1 : RefsCover D refs (w.exec (.removeDirAll (.bandDir b))).1.store := by
        rw [hs]
        exact hc.of_same (fun b' hb' => (bandDir_of_eraseTree hb').2) fun b' n' hb' =>
          get?_eraseTree_other_band (bandDir_of_eraseTree hb').1 (isUnder_bandDir_iff.2 rfl)
      simp only [Prog.ret_bind]
      refine (ih (n + 1) _ hI1 hc1).mono ?_
      intro _ w' _ ⟨hc', hgone, hstay⟩
      have hb0 : (w.exec (.removeDirAll (.bandDir b))).1.store.get? (.bandDir b) = none := by
        rw [hs, Store.get?_eraseTree]; simp [Key.isUnder]
      refine ⟨hc', ?_, ?_⟩
      · intro b' hb'
        rcases List.mem_cons.mp hb' with rfl | hb'
        · exact hstay _ hb0
        · exact hgone b' hb'
      · intro b' hb'
        apply hstay
        rw [hs, Store.get?_eraseTree]
        split
        · rfl
        · exact hb'
    | err e =>
      cases e <;> exact ISat.fail hI1
    | val v => exact ISat.fail hI1
    | listing xs => exact ISat.fail hI1
    | stat a b => exact ISat.fail hI1

/-- Removing unreferenced blocks once every band of `D` is gone: `CI` after every step. -/
theorem delBlocks_isat (D : List Nat) (refs : List Str) (hs : List Str) :
    ∀ (n : Nat) (w : World), CI H w.store → RefsCover D refs w.store →
      (∀ b ∈ D, w.store.get? (.bandDir b) ≠ some .dir) → (∀ h ∈ hs, h ∉ refs) →
      ISat (CI H) (deleteBody.delBlocks hs n) w (fun _ _ => True) := by
  induction hs with
  | nil =>
    intro n w hI _ _ _
    simp only [deleteBody.delBlocks, Prog.pure_def]
    exact ISat.ret hI trivial
  | cons h hs ih =>
    intro n w hI hc hgone hun
    simp only [deleteBody.delBlocks, perform, Prog.bind_def, Prog.op_bind, Prog.ret_bind]
    apply ISat.op
    intro r _
    have hkeep : ∀ k, k ≠ .block h → (w.exec (.removeFile (.block h))).1.store.get? k = w.store.get? k := by
      intro k hk
      rcases exec_removeFile_cases w (.block h) with hs' | hs'
      · rw [hs']
      · rw [hs']; exact Store.get?_erase_ne _ hk
    have hI1 : CI H (w.exec (.removeFile (.block h))).1.store := by
      rcases exec_removeFile_cases w (.block h) with hs' | hs'
      · rw [hs']; exact hI
      · rw [hs']
        refine hI.erase_block ?_
        intro b hb n' es hes e he a ha heq
        have hbD : b ∉ D := fun hbD => hgone b hbD hb
        have := hc b hb hbD n' es hes e he a ha
        rw [heq] at this
        exact hun h (List.mem_cons_self ..) this
    have hc1 : RefsCover D refs (w.exec (.removeFile (.block h))).1.store :=
      hc.of_same (fun b hb => by rw [← hkeep _ (by simp)]; exact hb) (fun b n' _ => hkeep _ (by simp))
    have hgone1 : ∀ b ∈ D, (w.exec (.removeFile (.block h))).1.store.get? (.bandDir b) ≠ some .dir := by
      intro b hb; rw [hkeep _ (by simp)]; exact hgone b hb
    have hun1 : ∀ h' ∈ hs, h' ∉ refs := fun h' hh' => hun h' (List.mem_cons_of_mem _ hh')
    split
    · exact ih _ _ hI1 hc1 hgone1 hun1
    · exact ih _ _ hI1 hc1 hgone1 hun1

theorem bodyRest_isat (D : List Nat) (o : DeleteOpts) (held : Option Nat) (refs : List Str) (w : World)
    (hI : CI H w.store) (hc : RefsCover D refs w.store) :
    ISat (CI H) (bodyRest D o held refs) w (fun _ _ => True) := by
  simp only [bodyRest]
  apply ISat.bind
  refine (ISat.of_ro listBlocks_ro hI).mono ?_
  intro present w1 hI1 hst1
  apply ISat.bind
  refine (ISat.of_ro (deleteBody_measure_fp _).rd_ro hI1).mono ?_
  intro _ w2 hI2 hst2
  have hc2 : RefsCover D refs w2.store := by rw [hst2, hst1]; exact hc
  have hrelease : ∀ (st : DeleteStats) (w' : World), CI H w'.store →
      ISat (CI H) (gcLockRelease.bind fun _ => Prog.ret st) w' (fun _ _ => True) := by
    intro st w' hI'
    apply ISat.bind
    refine (ISat.of_lock (touchesLock_of_fp (performUnit_allOps .unlock)) hI').mono ?_
    intro _ w'' hI'' _
    exact ISat.ret hI'' trivial
  split
  · simp only [Prog.ret_bind]
    exact hrelease _ w2 hI2
  · apply ISat.bind
    refine (ISat.of_ro (gcLockCheck_fp (K := (· = .root)) rfl _).rd_ro hI2).mono ?_
    intro _ w3 hI3 hst3
    apply ISat.bind
    refine (delBands_isat D refs D 0 w3 hI3 (by rw [hst3]; exact hc2)).mono ?_
    intro nb w4 hI4 ⟨hc4, hgone, _⟩
    apply ISat.bind
    refine (delBlocks_isat D refs _ 0 w4 hI4 hc4 (fun b hb => by rw [hgone b hb]; simp) ?_).mono ?_
    · intro h hh
      simp only [List.mem_mergeSort, List.mem_filter, Bool.not_eq_true', List.contains_eq_mem,
        decide_eq_false_iff_not] at hh
      exact hh.2
    · intro errs w5 hI5 _
      simp only [Prog.ret_bind]
      exact hrelease _ w5 hI5

theorem deleteBody_isat (D : List Nat) (o : DeleteOpts) (held : Option Nat) (w : World)
    (hI : CI H w.store) : ISat (CI H) (deleteBody true D o held) w (fun _ _ => True) := by
  rw [deleteBody_eq]
  apply ISat.bind
  refine ((ISat.of_ro Conserve.listBandIds_ro hI).and_run (Q' := fun all _ => all = bandIdsOf w.store)
    (fun all hall => listBandIds_sound hall)).mono ?_
  intro all w1 hI1 ⟨hst1, hall⟩
  apply ISat.bind
  refine ((ISat.of_ro (referencedBlocks_fp true _).rd_ro hI1).and_run
    (Q' := fun refs _ => RefsCover D refs w1.store) ?_).mono ?_
  · intro refs hr b hbdir hbD n es hes e he a ha
    refine referencedBlocks_sound _ w1 refs hr b ?_ ?_ n es (hunkAt_eq_some_iff.2 hes) e he a ha
    · rw [List.mem_filter, hall, ← hst1]
      exact ⟨(mem_bandIdsOf_iff_get? hI1.nodup).2 hbdir, by simpa using hbD⟩
    · intro n' v hv
      exact (hI1.dirs.hunkTreeOk b n' v hv).1
  · intro refs w2 hI2 ⟨hst2, hcov⟩
    exact bodyRest_isat D o held refs w2 hI2 (by rw [hst2]; exact hcov)

/-- **`delete_bands` (strict mode) keeps `CI` in every world**: any faults, any crash point. -/
theorem deleteBands_isat (D : List Nat) (o : DeleteOpts) (w : World) (hI : CI H w.store) :
    ISat (CI H) (deleteBands true D o) w (fun _ _ => True) := by
  rw [deleteBands_eq]
  apply ISat.bind
  refine (ISat.of_lock (touchesLock_of_fp (acquire_fp o)) hI).mono ?_
  intro held w1 hI1 _
  simp only [withLock]
  apply ISat.bind
  refine (ISat.attemptAll (deleteBody_isat D o held w1 hI1)).mono ?_
  intro r w2 hI2 _
  cases r with
  | ok st => exact ISat.ret hI2 trivial
  | err e =>
    apply ISat.bind
    refine (ISat.of_lock (touchesLock_of_fp (gcLockReleaseOnError_fp .unlock)) hI2).mono ?_
    intro _ w3 hI3 _
    exact ISat.fail hI3
  | panic site =>
    apply ISat.bind
    refine (ISat.of_lock (touchesLock_of_fp (gcLockDrop_fp .unlock)) hI2).mono ?_
    intro _ w3 hI3 _
    exact ISat.panic hI3

end

end Conserve.Conf
