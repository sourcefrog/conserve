import ConserveModel.Proofs.ValidateDetect
/-
The index-reading path as it was BEFORE the repair of finding D8, for the refutation
`validate_hunk_damage_refuted_before_repair` (Props/C09.lean):

* `IndexHunkIter::next` swallowed read errors (`Err(_) => continue`, nothing reported), and
* nothing compared the hunk files present with the numbering / the count in the band tail
  (`Band::check_index_hunks` did not exist).

`readHunksSilent` is `readHunks` (IndexRead.lean) without `logError`; `readBandSilent` is `readBand`
without `checkIndexHunks`; the functions above them are copies that call the silent variants, with one
more difference: `stitchDownSilent` is the walk as it was before the repair of `previous_existing_band`
too (like `stitchDownOld`, Proofs/StitchHeadless.lean): an id without head file is passed over without
asking for hunk 0, so no `bandHeadMissing` is reported for a lost head.  Everything else (`bandOpen`,
`hunksAvailable`, `filterEntries`, the block checks) is the current model.
-/
set_option linter.unusedSimpArgs false
namespace Conserve
open Prog

def readHunksSilent (b : Nat) : List Nat → Option Str → Option Str → Prog (List IndexEntry × Option Str)
  | [], _, last => pure ([], last)
  | n :: rest, after, last => do
    match ← (readHunk b n).attempt with
    | .ok none => pure ([], last)
    | .error _ => readHunksSilent b rest after last        -- `Err(_) => continue`: nobody is told
    | .ok (some es) =>
      match after with
      | some a =>
        if (match es.getLast? with | some (l : IndexEntry) => apathLe l.apath a | none => false) then
          readHunksSilent b rest after last
        else if (match es.head? with | some (f : IndexEntry) => apathCmp f.apath a == Ordering.gt | none => false) then
          let (more, last') ← readHunksSilent b rest none (es.getLast?.map (fun (l : IndexEntry) => l.apath))
          pure (es ++ more, last')
        else
          let part := trimAfter a es
          let last1 := match part.getLast? with | some (l : IndexEntry) => some l.apath | none => last
          let (more, last') ← readHunksSilent b rest after last1
          pure (part ++ more, last')
      | none =>
        if es.isEmpty then readHunksSilent b rest none last
        else
          let (more, last') ← readHunksSilent b rest none (es.getLast?.map (fun (l : IndexEntry) => l.apath))
          pure (es ++ more, last')

def readBandSilent (b : Nat) (last : Option Str) : Prog (List IndexEntry × Option Str) := do
  match ← (bandOpen b).attempt with
  | .error e =>
    logError e
    pure ([], last)
  | .ok () =>
    match ← (hunksAvailable b).attempt with
    | .error e =>
      logError e
      pure ([], last)
    | .ok hunks => readHunksSilent b hunks last last        -- no `check_index_hunks`

def stitchDownSilent : Nat → Option Str → Prog (List IndexEntry)
  | 0, _ => pure []
  | b + 1, last => do
    if ← unwrapOr (bandExists b) false then
      let (es, last') ← readBandSilent b last
      if ← unwrapOr (bandIsClosed b) false then pure es
      else
        let more ← stitchDownSilent b last'
        pure (es ++ more)
    else stitchDownSilent b last

def stitchAllSilent (b : Nat) : Prog (List IndexEntry) := do
  let (es, last) ← readBandSilent b none
  if ← unwrapOr (bandIsClosed b) false then pure es
  else
    let more ← stitchDownSilent b last
    pure (es ++ more)

def listEntriesSilent (b : Nat) (subtree : Str) (excl : Str → Bool) : Prog (List IndexEntry) := do
  filterEntries subtree excl (← stitchAllSilent b)

def validateBandsSilent : List Nat → List (Str × Nat) → Prog (List (Str × Nat))
  | [], m => pure m
  | b :: bs, m => do
    match ← (bandOpen b).attempt with
    | .error e =>
      logError e
      validateBandsSilent bs m
    | .ok () =>
      match ← perform (.listDir (.bandDir b)) with
      | .err e =>
        logError (.transport e)
        validateBandsSilent bs m
      | .listing xs =>
        if !(xs.any fun e => e.key == .bandHead b) then logError (.bandHeadMissing b)
        match ← (bandOpen b).attempt with
        | .error e =>
          logError e
          validateBandsSilent bs m
        | .ok () =>
          let es ← listEntriesSilent b [slash] (fun _ => false)
          validateBandsSilent bs (entryLens m es)
      | _ =>
        logError (.transport .other)
        validateBandsSilent bs m

section
variable (H : Str → Str)

/-- `Archive::validate` over the pre-repair index reader. -/
def validateSilent (quick : Bool) : Prog Unit := do
  match ← perform (.listDir .root) with
  | .err e => .fail (.transport e)
  | _ => pure ()
  let bands ← listBandIds
  let referenced ← validateBandsSilent bands []
  let present ← listBlocks
  validateTail H quick referenced present

/-- The current `validate` has exactly this shape with the current readers (so `validateSilent`
differs from it only in the index reader, in the places named above). -/
theorem validate_shape (quick : Bool) :
    validate H quick = (do
      match ← perform (.listDir .root) with
      | .err e => .fail (.transport e)
      | _ => pure ()
      let bands ← listBandIds
      let referenced ← validateBands bands []
      let present ← listBlocks
      validateTail H quick referenced present) := rfl

end

theorem readHunksSilent_cons (b n : Nat) (rest : List Nat) (after last : Option Str) :
    readHunksSilent b (n :: rest) after last =
      ((readHunk b n).attempt.bind fun r =>
        match r with
        | .ok none => pure ([], last)
        | .error _ => readHunksSilent b rest after last
        | .ok (some es) =>
          match after with
          | some a =>
            if hunkAllBefore a es then readHunksSilent b rest after last
            else if hunkAllAfter a es then
              (readHunksSilent b rest none (lastApath? es)).bind fun r => pure (es ++ r.1, r.2)
            else
              (readHunksSilent b rest after (lastOr (trimAfter a es) last)).bind fun r =>
                pure (trimAfter a es ++ r.1, r.2)
          | none =>
            if es.isEmpty then readHunksSilent b rest none last
            else (readHunksSilent b rest none (lastApath? es)).bind fun r => pure (es ++ r.1, r.2)) := by
  rfl

/-- The silent reader returns what the current one returns and reports nothing. -/
theorem reads_readHunksSilent (s : Store) (b : Nat) (ns : List Nat) (after last : Option Str) :
    Reads (readHunksSilent b ns after last) s (.ok (readHunksP s b ns after last)) [] := by
  induction ns generalizing after last with
  | nil => exact Reads.pure _
  | cons n rest ih =>
    have hread : Reads (readHunk b n).attempt s (.ok (readHunkP s b n)) [] :=
      Reads.attempt (Reads.of_eval (readHunk_fp b n).rd_ro (eval_readHunk true s b n))
    rw [readHunksSilent_cons, readHunksP]
    refine hread.bind ?_
    cases readHunkP s b n with
    | error e => exact ih after last
    | ok o =>
      cases o with
      | none => exact Reads.pure _
      | some es =>
        cases after with
        | none =>
          by_cases hemp : es.isEmpty = true
          · simp only [hemp, if_true]
            exact ih none last
          · simp only [hemp, if_false]
            exact (ih none (lastApath? es)).map _
        | some a =>
          by_cases hc1 : hunkAllBefore a es = true
          · simp only [hc1, if_true]
            exact ih (some a) last
          · by_cases hc2 : hunkAllAfter a es = true
            · simp only [hc1, hc2, if_true, if_false]
              exact (ih none (lastApath? es)).map _
            · simp only [hc1, hc2, if_false]
              exact (ih (some a) (lastOr (trimAfter a es) last)).map _

theorem reads_listEntriesSilent_closed {s : Store} (b : Nat) {hs : List Nat} (ho : headError s b = none)
    (ha : hunksAvailableP s b = .ok hs) (hcl : isFileP s (.bandTail b) = true)
    (hv : ∀ e ∈ (readHunksP s b hs none none).1, isValid e.apath = true) :
    Reads (listEntriesSilent b [slash] (fun _ => false)) s (.ok (readHunksP s b hs none none).1) [] := by
  have hopen := reads_bandOpen s b
  rw [ho] at hopen
  have havail : Reads (hunksAvailable b).attempt s (.ok (.ok hs)) [] := by
    rw [← ha]
    exact Reads.attempt (Reads.of_eval (hunksAvailable_ro b) (eval_hunksAvailable true s b))
  have hclosed : Reads (unwrapOr (bandIsClosed b) false) s (.ok true) [] := by
    rw [← hcl]
    exact Reads.of_eval (unwrapOr_isFile_ro _ false) (eval_unwrapOr_isFile true s (.bandTail b) false)
  have hband : Reads (readBandSilent b none) s (.ok (readHunksP s b hs none none)) [] :=
    hopen.bind (havail.bind (reads_readHunksSilent s b hs none none))
  have hstitch : Reads (stitchAllSilent b) s (.ok (readHunksP s b hs none none).1) [] :=
    hband.bind (hclosed.bind (Reads.pure _))
  exact hstitch.bind (reads_filterEntries_all hv)

section
variable (H : Str → Str)

theorem run_validateSilent_one {s : Store} (quick : Bool) (b : Nat) {hs : List Nat}
    (hn : UniqueKeys s) (hroot : s.get? .root = some .dir) (hbr : s.get? .blockRoot = some .dir)
    (hids : bandIdsOf s = [b]) (ho : headError s b = none) (ha : hunksAvailableP s b = .ok hs)
    (hcl : isFileP s (.bandTail b) = true)
    (hv : ∀ e ∈ (readHunksP s b hs none none).1, isValid e.apath = true) :
    ((validateSilent H quick).run (World.clean s)).2.events =
      evsOf (tailErrors H quick s (entryLens [] (readHunksP s b hs none none).1)) := by
  have hd : s.get? (.bandDir b) = some .dir :=
    (Store.mem_iff_get? hn).mp (mem_bandIdsOf'.mp (by rw [hids]; exact List.mem_singleton.mpr rfl))
  have hbands : Reads (validateBandsSilent (bandIdsOf s) []) s
      (.ok (entryLens [] (readHunksP s b hs none none).1)) [] := by
    rw [hids, validateBandsSilent]
    exact reads_validateBands_step hd ho (reads_listEntriesSilent_closed b ho ha hcl hv) (Reads.pure _)
  exact (reads_validateWith H hn hroot hbr hbands quick).clean.2.2

end

end Conserve
