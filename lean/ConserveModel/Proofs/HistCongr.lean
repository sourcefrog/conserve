import ConserveModel.Proofs.ExactTop
import ConserveModel.Proofs.PermListing
import ConserveModel.Proofs.StitchRun
/-
C02 (history): what listing one version reads.  The pure mirrors of the index readers
(`hunksAvailableP`, `hunkLengthsP`, `checkIndexHunksP`, `readHunksP`, `bandTake`, `bandErrs`,
`stitchDownP`, `stitchAllP`, Proofs/StitchRun.lean) give the same values on two stores that are maps
(`Store.NoDupKeys`) and hold the same under the version's directory (`BandSame`) — whatever the
ORDER of the association lists, so directory listings may come in a different order.
No well-formedness (tree shape, sortedness, readable heads …) is assumed.
-/
set_option linter.unusedSimpArgs false
namespace Conserve.Hist
open Conserve Conserve.Exact

theorem children_perm {s s' : Store} (hs : s.NoDupKeys) (hs' : s'.NoDupKeys) (k : Key)
    (h : ∀ k', k'.parent = some k → s'.get? k' = s.get? k') : (s'.children k).Perm (s.children k) := by
  unfold Store.children
  refine List.Perm.map _ ?_
  rw [List.perm_ext_iff_of_nodup (hs'.nodup.sublist List.filter_sublist) (hs.nodup.sublist List.filter_sublist)]
  rintro ⟨k', v⟩
  simp only [List.mem_filter, beq_iff_eq]
  constructor
  · rintro ⟨hm, hp⟩
    refine ⟨?_, hp⟩
    rw [hs.mem_iff, ← h k' hp, ← hs'.mem_iff]; exact hm
  · rintro ⟨hm, hp⟩
    refine ⟨?_, hp⟩
    rw [hs'.mem_iff, h k' hp, ← hs.mem_iff]; exact hm

section band
variable {s s' : Store} {b : Nat}

theorem _root_.Conserve.Exact.BandSame.hunkDir (h : BandSame s s' b) (d : Nat) : s'.get? (.hunkDir b d) = s.get? (.hunkDir b d) :=
  h _ (isUnder_bandDir_iff.2 rfl)

theorem _root_.Conserve.Exact.BandSame.bandDir (h : BandSame s s' b) : s'.get? (.bandDir b) = s.get? (.bandDir b) :=
  h _ (by simp [Key.isUnder])

theorem _root_.Conserve.Exact.BandSame.symm (h : BandSame s s' b) : BandSame s' s b := fun k hk => (h k hk).symm

theorem _root_.Conserve.Exact.BandSame.trans {s'' : Store} (h1 : BandSame s s' b) (h2 : BandSame s' s'' b) : BandSame s s'' b :=
  fun k hk => (h2 k hk).trans (h1 k hk)

theorem _root_.Conserve.Exact.BandSame.refl (s : Store) (b : Nat) : BandSame s s b := fun _ _ => rfl

theorem hunkSubdirsP_same (hs : s.NoDupKeys) (hs' : s'.NoDupKeys) (h : BandSame s s' b) :
    hunkSubdirsP s' b = hunkSubdirsP s b := by
  unfold hunkSubdirsP
  exact sortNat_filterMap_eq_of_perm _
    (children_perm hs hs' _ fun k' hk' => h k' (isUnder_bandDir_of_parent hk' rfl))

theorem hunksInSubdirP_same (hs : s.NoDupKeys) (hs' : s'.NoDupKeys) (h : BandSame s s' b) (d : Nat) :
    hunksInSubdirP s' b d = hunksInSubdirP s b d := by
  unfold hunksInSubdirP
  rw [h.hunkDir d, sortNat_filterMap_eq_of_perm _
    (children_perm hs hs' (.hunkDir b d) fun k' hk' => h k' (isUnder_bandDir_of_parent hk' rfl))]

theorem hunksGoP_same (hs : s.NoDupKeys) (hs' : s'.NoDupKeys) (h : BandSame s s' b) (ds : List Nat) :
    ∀ acc, hunksGoP s' b ds acc = hunksGoP s b ds acc := by
  induction ds with
  | nil => intro acc; rfl
  | cons d ds ih =>
    intro acc
    simp only [hunksGoP, hunksInSubdirP_same hs hs' h d]
    cases hunksInSubdirP s b d with
    | ok hsx => exact ih _
    | error e => rfl

theorem hunksAvailableP_same (hs : s.NoDupKeys) (hs' : s'.NoDupKeys) (h : BandSame s s' b) :
    hunksAvailableP s' b = hunksAvailableP s b := by
  simp only [hunksAvailableP, h.indexDir, hunkSubdirsP_same hs hs' h, hunksGoP_same hs hs' h]

theorem hunkLensInSubdirP_same (hs : s.NoDupKeys) (hs' : s'.NoDupKeys) (h : BandSame s s' b) (d : Nat) :
    hunkLensInSubdirP s' b d = hunkLensInSubdirP s b d := by
  unfold hunkLensInSubdirP
  rw [h.hunkDir d]
  have hp := children_perm hs hs' (.hunkDir b d) fun k' hk' => h k' (isUnder_bandDir_of_parent hk' rfl)
  cases s.get? (.hunkDir b d) with
  | none => rfl
  | some v =>
    cases v with
    | dir =>
      simp only
      congr 1
      refine hunkPairs_eq_of_perm (b := b) (d := d) hp (Store.children_good hs' _) _ ?_
      intro e p hf
      cases hk : e.key with
      | hunk b' n =>
        simp only [hk] at hf
        split at hf
        · cases hf; exact ⟨b', rfl, rfl⟩
        · cases hf
      | _ => simp [hk] at hf
    | _ => rfl

theorem hunkLensGoP_same (hs : s.NoDupKeys) (hs' : s'.NoDupKeys) (h : BandSame s s' b) (ds : List Nat) :
    ∀ acc, hunkLensGoP s' b ds acc = hunkLensGoP s b ds acc := by
  induction ds with
  | nil => intro acc; rfl
  | cons d ds ih =>
    intro acc
    simp only [hunkLensGoP, hunkLensInSubdirP_same hs hs' h d]
    cases hunkLensInSubdirP s b d with
    | ok hsx => exact ih _
    | error e => rfl

theorem hunkLengthsP_same (hs : s.NoDupKeys) (hs' : s'.NoDupKeys) (h : BandSame s s' b) :
    hunkLengthsP s' b = hunkLengthsP s b := by
  simp only [hunkLengthsP, h.indexDir, hunkSubdirsP_same hs hs' h, hunkLensGoP_same hs hs' h]

theorem tailInfo_same (h : BandSame s s' b) : tailInfo s' b = tailInfo s b := by
  simp only [tailInfo, h.tail]

theorem checkIndexHunksP_same (hs : s.NoDupKeys) (hs' : s'.NoDupKeys) (h : BandSame s s' b) :
    checkIndexHunksP s' b = checkIndexHunksP s b := by
  simp only [checkIndexHunksP, hunkLengthsP_same hs hs' h, tailInfo_same h]

theorem readHunkP_same (h : BandSame s s' b) (n : Nat) : readHunkP s' b n = readHunkP s b n := by
  simp only [readHunkP, h.hunk]

theorem readHunksP_same (h : BandSame s s' b) (ns : List Nat) :
    ∀ after last, readHunksP s' b ns after last = readHunksP s b ns after last := by
  induction ns with
  | nil => intro _ _; rfl
  | cons n ns ih =>
    intro after last
    simp only [readHunksP, readHunkP_same h n, ih]

theorem readHunksErrs_same (h : BandSame s s' b) (ns : List Nat) :
    readHunksErrs s' b ns = readHunksErrs s b ns := by
  induction ns with
  | nil => rfl
  | cons n ns ih => simp only [readHunksErrs, readHunkP_same h n, ih]

theorem bandOpenP_same (h : BandSame s s' b) : bandOpenP s' b = bandOpenP s b := by
  simp only [bandOpenP, h.head]

theorem headOutcome_same (h : BandSame s s' b) : headOutcome s' b = headOutcome s b := by
  simp only [headOutcome, h.head]

theorem bandErrs_same (hs : s.NoDupKeys) (hs' : s'.NoDupKeys) (h : BandSame s s' b) :
    bandErrs s' b = bandErrs s b := by
  have : ∀ ns, readHunksErrs s' b ns = readHunksErrs s b ns := readHunksErrs_same h
  simp only [bandErrs, bandOpenP_same h, hunksAvailableP_same hs hs' h, checkIndexHunksP_same hs hs' h, this]

theorem bandTake_same (hs : s.NoDupKeys) (hs' : s'.NoDupKeys) (h : BandSame s s' b) (last : Option Str) :
    bandTake s' b last = bandTake s b last := by
  have : ∀ ns a l, readHunksP s' b ns a l = readHunksP s b ns a l := readHunksP_same h
  simp only [bandTake, bandOpenP_same h, hunksAvailableP_same hs hs' h, this]

theorem isFileP_congr {k : Key} (h : s'.get? k = s.get? k) : isFileP s' k = isFileP s k := by
  simp only [isFileP, h]

end band

/-- The two stores look alike to `stitchDown` below `n`: at every id the walk on `s` looks at
(`reach`: it stops at the first version with head and tail), a version with a head file holds the same
in both; one without has none in `s'` either, and has index hunk 0 in both or in neither (what the
repaired `previous_existing_band` looks at to tell a lost head from a version that was never started). -/
def ChainSame (s s' : Store) (n : Nat) : Prop :=
  ∀ c ∈ reach s n,
    if bandPresent s c then BandSame s s' c
    else bandPresent s' c = false ∧ headLost s' c = headLost s c

theorem ChainSame.present {s s' : Store} {n c : Nat} (h : ChainSame s s' n) (hc : c ∈ reach s n) :
    bandPresent s' c = bandPresent s c := by
  have := h c hc
  split at this
  · exact bandPresent_same this
  · rename_i hp
    rw [this.1]; simpa using hp

theorem ChainSame.reach {s s' : Store} {n : Nat} (h : ChainSame s s' n) : reach s' n = reach s n :=
  reach_congr n fun c hc => ⟨h.present hc, fun hp => by
    have := h c hc
    rw [if_pos hp] at this
    exact isComplete_same this⟩

theorem stitchDownP_same {s s' : Store} (hs : s.NoDupKeys) (hs' : s'.NoDupKeys) (b : Nat)
    (h : ChainSame s s' b) (last : Option Str) : stitchDownP s' b last = stitchDownP s b last := by
  refine Prod.ext ?_ ?_
  · rw [stitchDownP_fst_eq, stitchDownP_fst_eq, chainBelow_eq, chainBelow_eq, h.reach,
      List.filter_congr fun c hc => h.present hc]
    exact stitchList_congr (fun c hc => by
      have := h c (List.mem_filter.mp hc).1
      rw [if_pos (List.mem_filter.mp hc).2] at this
      exact funext fun l => bandTake_same hs hs' this l) last
  · rw [stitchDownP_snd_walk, stitchDownP_snd_walk, walkErrs, walkErrs, h.reach]
    exact NP.flatMap_congr' fun c hc => by
      have := h c hc
      unfold stepErrs
      rw [h.present hc]
      split at this
      · rename_i hp
        rw [if_pos hp, if_pos hp, bandErrs_same hs hs' this]
      · rename_i hp
        rw [if_neg hp, if_neg hp, this.2]

theorem stitchAllP_same {s s' : Store} (hs : s.NoDupKeys) (hs' : s'.NoDupKeys) {b : Nat}
    (hb : BandSame s s' b) (hc : isComplete s b = false → ChainSame s s' b) :
    stitchAllP s' b = stitchAllP s b := by
  simp only [stitchAllP, isFileP_congr hb.tail, bandTake_same hs hs' hb, bandErrs_same hs hs' hb]
  cases ht : isFileP s (.bandTail b) with
  | true => simp only [if_true]
  | false => simp only [Bool.false_eq_true, if_false, stitchDownP_same hs hs' b (hc ht)]

end Conserve.Hist
