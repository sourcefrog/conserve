import ConserveModel.Props.C09p
import ConserveModel.Props.C01a
/-
C14 from the format invariant: what C01a's `ArchiveGood` asks of the archive a backup starts from,
derived from C13's `CI = Conforms ∧ DirsOk ∧ NoDupKeys` as far as it follows, with the rest as
explicit hypotheses (`archiveGood_of_ci`).  Also `KindsOK` — directories where the layout has
directories — as an invariant of `backup` and `delete_bands` in every world.  No property
statements here.
-/
namespace Conserve.Rng
open Conserve Conserve.Inv Conserve.Conf Conserve.Exact Prog

variable {H : Str → Str}

theorem ci_root {s : Store} (hci : CI H s) : s.get? .root = some .dir :=
  ((Conf.conforms_iff H).1 hci.conf).2.1

theorem ci_blockRoot {s : Store} (hci : CI H s) : s.get? .blockRoot = some .dir :=
  ((Conf.conforms_iff H).1 hci.conf).2.2.1

theorem ci_blocksGood {s : Store} (hci : CI H s) : BlocksGood H s :=
  blocksGood_of_conform _ ((Conf.conforms_iff H).1 hci.conf).2.2.2.1

/-- **No dangling reference**: in a conforming tree-shaped archive every address of every entry of
every decodable hunk lies inside a present, correctly named block. -/
theorem ci_noDangling {s : Store} (hci : CI H s) : NoDangling H s := by
  intro b n es hes e he a ha
  have hc := entry_of_hunk_conforms hci hes he
  unfold entryConforms at hc
  cases hk : e.kind with
  | file =>
    simp only [hk, Bool.and_eq_true, List.all_eq_true] at hc
    exact hc.2.2 a ha
  | dir =>
    simp only [hk, Bool.and_eq_true, List.isEmpty_iff] at hc
    rw [hc.2.1] at ha; cases ha
  | symlink =>
    simp only [hk, Bool.and_eq_true, List.isEmpty_iff] at hc
    rw [hc.2.1] at ha; cases ha
  | unknown => simp [hk] at hc

/-- `StoreOK` from `CI`: what does NOT follow is that keys the layout reserves for directories hold
directories and vice versa (`KindsOK`: `Conforms` does not look at `bNNNN/i`, nor at a directory
sitting where a hunk file belongs), and that blocks are shorter than 2^64 bytes (`BlocksSmall`). -/
theorem storeOK_of_ci {s : Store} (hci : CI H s) (hk : KindsOK s) (hsmall : BlocksSmall s) : StoreOK H s :=
  ⟨hci.nodup, fun _ _ h => hci.dirs.parent_of_get? h, hk, ci_root hci, ci_blockRoot hci, ci_blocksGood hci, hsmall⟩

theorem bandGood_of_good {s : Store} (g : Good H s) {b : Nat} (hb : b ∈ bandIdsOf s) : BandGood s b :=
  ⟨g.heads b hb, g.indexCheck_none hb, fun _ hk => g.hunkError_none hb hk⟩

/-- **`archiveGood_of_ci`.**  C01a's hypothesis on the archive, from C13's invariant plus exactly
what the invariant does not say:
* `AllHeadsReadable` — no head-less (or index-less) version directory (a backup killed before its
  head write leaves one; `Conforms` allows it);
* `entriesInRange` — representable times, no `u64` overflow (`Conforms` does not say it);
* `KindsOK`, `BlocksSmall` — see `storeOK_of_ci`;
* no `GC_LOCK` (invisible to the format);
* `HeuristicSoundStore` — the tool's own "looks unchanged ⇒ is unchanged" assumption about the source.
Tree shape, distinct keys, `d/` and the archive directory, block names, sorted hunks, `BandGood` of
every version, and the absence of dangling references all follow. -/
theorem archiveGood_of_ci {s : Store} {src : List SrcEntry} (hci : CI H s) (hh : AllHeadsReadable s)
    (hr : entriesInRange s = true) (hk : KindsOK s) (hsmall : BlocksSmall s)
    (hlock : s.get? .gcLock = none) (hheur : HeuristicSoundStore H src s) : ArchiveGood H src s :=
  have g : Good H s := C09p.good_of_ci hci hh hr
  ⟨storeOK_of_ci hci hk hsmall, fun _ _ _ hg => g.archWF.sorted_of_get? hg, hlock,
    fun _ hb => bandGood_of_good g hb, ci_noDangling hci, hheur⟩

theorem kindOk_empty_of_file {k : Key} {v : FileVal} (h : kindOk k v = true) (hv : v.isDir = false) :
    kindOk k .empty = true := by
  cases k <;> simp_all [kindOk, isDirKey, FileVal.isDir]

theorem FineOp.write_kind {k : Key} {v : FileVal} {m : WriteMode} (h : FineOp (.write k v m)) :
    kindOk k v = true ∧ kindOk k .empty = true := by
  rcases h.2 with ⟨b, ver, fl, rfl, rfl⟩ | ⟨b, n, es, rfl, rfl⟩ | ⟨b, c, rfl, rfl⟩ | ⟨h', c, rfl, rfl⟩ | ⟨rfl, rfl⟩ <;>
    simp [kindOk, isDirKey, FileVal.isDir]

theorem FineOp.createDir_kind {k : Key} (h : FineOp (.createDir k)) : kindOk k .dir = true := by
  rcases h with ⟨b, rfl⟩ | ⟨b, rfl⟩ | ⟨b, d, rfl⟩ | ⟨p, rfl⟩ <;> simp [kindOk, isDirKey, FileVal.isDir]

/-- **One `FineOp` step keeps `KindsOK` in every world** and for every store, also one that is not a
map: `erase` and `eraseTree` filter by key only, and the zero-length file a killed write leaves is a
file where a file belongs. -/
theorem exec_kindsOK (w : World) {o : Op} (ho : FineOp o) (h : KindsOK w.store) :
    KindsOK (w.exec o).1.store :=
  w.exec_pointwise (φ := fun k v => kindOk k v = true)
    (by
      intro k v hp
      cases hp with
      | write => exact ho.write_kind.1
      | torn => exact ho.write_kind.2
      | dir => exact ho.createDir_kind)
    h

theorem run_kindsOK {α : Type} {p : Prog α} (hp : Prog.AllOps FineOp p) (w : World)
    (h : KindsOK w.store) : KindsOK (p.run w).2.store :=
  Prog.run_store_inv (fun w' _ ho h' => exec_kindsOK w' ho h') hp w h

theorem backup_kindsOK (H : Str → Str) (o : BackupOpts) (src : List SrcEntry) (w : World)
    (h : KindsOK w.store) : KindsOK ((backup H o src).run w).2.store :=
  run_kindsOK (backup_fine H o src) w h

theorem delete_kindsOK (strict : Bool) (D : List Nat) (o : DeleteOpts) (w : World)
    (h : KindsOK w.store) : KindsOK ((deleteBands strict D o).run w).2.store :=
  run_kindsOK (AllOps.fine2_fine (deleteBands_fine2 strict D o)) w h

end Conserve.Rng
