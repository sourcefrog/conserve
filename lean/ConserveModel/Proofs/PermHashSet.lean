import ConserveModel.Proofs.PermStore
import ConserveModel.Proofs.QuietWorld
import ConserveModel.Gc
/-
Helper lemmas for C17: the loop of `delete_bands` that removes the unreferenced blocks gives the
same store and the same error count in whatever order it visits the blocks (the real code
iterates a `HashSet`; the model uses name order).  Runs in which nothing interferes only.
-/
namespace Conserve
open Prog

/-- What the block-removal loop does to the store and to its error counter. -/
def removeBlocksPure (s : Store) (n : Nat) : List Str → Store × Nat
  | [] => (s, n)
  | h :: hs =>
    if fileAt s (.block h) then removeBlocksPure (s.erase (.block h)) n hs
    else removeBlocksPure s (n + 1) hs

theorem fileAt_congr {s t : Store} (h : StoreEquiv s t) (k : Key) : fileAt s k = fileAt t k := by
  unfold fileAt; rw [h k]

theorem fileAt_erase_ne (s : Store) {j k : Key} (h : j ≠ k) : fileAt (s.erase k) j = fileAt s j := by
  unfold fileAt; rw [Store.get?_erase_ne s h]

theorem removeBlocksPure_congr {s t : Store} (h : StoreEquiv s t) (n : Nat) (l : List Str) :
    StoreEquiv (removeBlocksPure s n l).1 (removeBlocksPure t n l).1 ∧
    (removeBlocksPure s n l).2 = (removeBlocksPure t n l).2 := by
  induction l generalizing s t n with
  | nil => exact ⟨h, rfl⟩
  | cons x l ih =>
    simp only [removeBlocksPure, ← fileAt_congr h]
    split
    · exact ih (h.erase _) n
    · exact ih h (n + 1)

theorem removeBlocksPure_perm {l l' : List Str} (hp : l.Perm l') {s t : Store} (h : StoreEquiv s t) (n : Nat) :
    StoreEquiv (removeBlocksPure s n l).1 (removeBlocksPure t n l').1 ∧
    (removeBlocksPure s n l).2 = (removeBlocksPure t n l').2 := by
  induction hp generalizing s t n with
  | nil => exact ⟨h, rfl⟩
  | cons x _ ih =>
    simp only [removeBlocksPure, ← fileAt_congr h]
    split
    · exact ih (h.erase _) n
    · exact ih h (n + 1)
  | swap x y l =>
    by_cases hxy : x = y
    · subst hxy
      exact removeBlocksPure_congr h n _
    · have h1 : (Key.block x) ≠ (Key.block y) := by intro e; injection e with e; exact hxy e
      have h2 : (Key.block y) ≠ (Key.block x) := fun e => h1 e.symm
      have b := removeBlocksPure_congr h n (x :: y :: l)
      have a : StoreEquiv (removeBlocksPure s n (y :: x :: l)).1 (removeBlocksPure s n (x :: y :: l)).1 ∧
          (removeBlocksPure s n (y :: x :: l)).2 = (removeBlocksPure s n (x :: y :: l)).2 := by
        simp only [removeBlocksPure]
        by_cases hx : fileAt s (.block x) = true <;> by_cases hy : fileAt s (.block y) = true <;>
          simp only [hx, hy, fileAt_erase_ne s h1, fileAt_erase_ne s h2, if_true, if_false,
            Bool.false_eq_true]
        · rw [Store.erase_comm]
          exact ⟨StoreEquiv.refl _, rfl⟩
        · exact ⟨StoreEquiv.refl _, trivial⟩
        · exact ⟨StoreEquiv.refl _, trivial⟩
        · exact ⟨StoreEquiv.refl _, trivial⟩
      exact ⟨a.1.trans b.1, a.2.trans b.2⟩
  | trans _ _ ih₁ ih₂ =>
    have a := ih₁ (StoreEquiv.refl s) n
    have b := ih₂ h n
    exact ⟨a.1.trans b.1, a.2.trans b.2⟩

theorem removeBlocksPure_nodup {s : Store} (h : Store.NoDupKeys s) (n : Nat) (l : List Str) :
    Store.NoDupKeys (removeBlocksPure s n l).1 := by
  induction l generalizing s n with
  | nil => exact h
  | cons x l ih =>
    simp only [removeBlocksPure]
    split
    · exact ih (h.erase _) n
    · exact ih h (n + 1)

/-- A world without faults, crash point, and not dead. -/
structure World.IsClean (w : World) : Prop where
  faults : w.faults = []
  crashAt : w.crashAt = none
  dead : w.dead = false

theorem World.clean_isClean (s : Store) : (World.clean s).IsClean := ⟨rfl, rfl, rfl⟩

theorem World.IsClean.quiet {w : World} (h : w.IsClean) : w.Quiet := ⟨h.faults, h.crashAt, h.dead⟩

theorem applyOp_removeFile (e : Bool) (s : Store) (k : Key) :
    (applyOp e s (.removeFile k)).1 = (if fileAt s k then s.erase k else s) ∧
    ((applyOp e s (.removeFile k)).2 = .unit ↔ fileAt s k = true) := by
  unfold fileAt
  simp only [applyOp]
  cases s.get? k with
  | none => simp
  | some v => cases v <;> simp [FileVal.isDir]

theorem eval_delBlocks_count (e : Bool) (hs : List Str) (n : Nat) (s : Store) :
    (deleteBody.delBlocks hs n).eval e s = (.ok (removeBlocksPure s n hs).2, (removeBlocksPure s n hs).1, []) := by
  induction hs generalizing n s with
  | nil => rfl
  | cons h hs ih =>
    obtain ⟨hst, hunit⟩ := applyOp_removeFile e s (.block h)
    simp only [deleteBody.delBlocks, bind_def, perform, op_bind, ret_bind, eval_op, removeBlocksPure, hst]
    by_cases hf : fileAt s (.block h) = true
    · rw [hunit.2 hf]
      simp only [hf, if_true]
      exact ih n _
    · have hne : (applyOp e s (.removeFile (.block h))).2 ≠ .unit := fun e' => hf (hunit.1 e')
      simp only [hf, if_false, Bool.false_eq_true]
      cases hx : (applyOp e s (.removeFile (.block h))).2 <;> first | exact absurd hx hne | exact ih (n + 1) _

end Conserve
