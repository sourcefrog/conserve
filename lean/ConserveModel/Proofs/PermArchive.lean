import ConserveModel.Proofs.PermListing
import ConserveModel.Proofs.Footprint
/-
Helper lemmas for C17: every archive-, band-, block-directory- and index-level program of the
model is insensitive to the order of the listings it receives (`ProgEquiv`).  Programs that
consume a listing sort it (`listBandIds`, `hunksAvailable`, the subdirectories in `listBlocks`)
or return a set (`listBlocks`: equal up to `List.Perm`).  A program that never lists is equivalent
to itself because its operations answer both worlds alike: by `ProgEquiv.of_allOps` where
Proofs/Footprint.lean has a footprint that excludes `listDir` (`performUnit`, `filterEntries`, the
removal loops of `delete_bands`), by `ProgEquiv.afterOp` along its definition otherwise (`isFile`,
`archiveOpen`, `bandOpen`, `readHunk`, …: their footprints `Rd K` admit listings).
-/
namespace Conserve
open Prog

/-- Close a leaf goal `ProgEquiv R (ret/fail/panic ..) (..)`. -/
macro "pe_leaf" : tactic =>
  `(tactic| first | exact ProgEquiv.ret rfl | exact ProgEquiv.fail _ | exact ProgEquiv.panic _ | assumption)

/-- `monitor.error(e)` followed by equivalent continuations. -/
theorem ProgEquiv.logError_then {α β : Type} {R : α → β → Prop} {p : Prog α} {q : Prog β} (e : Err)
    (h : ProgEquiv R p q) :
    ProgEquiv R (Prog.logError e >>= fun _ => p) (Prog.logError e >>= fun _ => q) := .emit _ h

/-- The shape of every program that consumes a listing: the entries are used, any other response
is an error.  `listBandIds`, `listBlocks(.go)`, `gcLockListed`, `hunksAvailable(.go)` and
`hunkLengths(.go)` are definitionally of this shape, so `ProgEquiv.withListing` applies to them
as it stands (the `match` unfolds to the one written here). -/
def withListing {α : Type} (k : Key) (wrap : ErrKind → Err) (body : List DirEnt → Prog α) : Prog α := do
  match ← Prog.perform (.listDir k) with
  | .listing xs => body xs
  | .err e => .fail (wrap e)
  | _ => .fail (wrap .other)

theorem ProgEquiv.withListing {α β : Type} {S : α → β → Prop} (k : Key) (wrap : ErrKind → Err)
    {body : List DirEnt → Prog α} {body' : List DirEnt → Prog β}
    (h : ∀ xs ys, xs.Perm ys → GoodListing k xs → ProgEquiv S (body xs) (body' ys)) :
    ProgEquiv S (Conserve.withListing k wrap body) (Conserve.withListing k wrap body') := by
  refine .afterListDir _ h fun r hr => ?_
  split
  · exact absurd rfl (hr _)
  · exact .fail _
  · exact .fail _

theorem isFile_equiv (k : Key) : ProgEquiv Eq (isFile k) (isFile k) := by
  unfold isFile
  refine .afterOp _ fun _ => ?_
  split <;> pe_leaf

theorem archiveOpen_equiv : ProgEquiv Eq archiveOpen archiveOpen := by
  unfold archiveOpen
  refine .afterOp _ fun _ => ?_
  split <;> (try split) <;> pe_leaf

theorem listBandIds_equiv : ProgEquiv Eq listBandIds listBandIds :=
  .withListing _ _ fun _ _ hp _ => .ret (sortNat_filterMap_eq_of_perm _ hp)

theorem lastBandId_equiv : ProgEquiv Eq lastBandId lastBandId := by
  unfold lastBandId
  exact ProgEquiv.bindEq listBandIds_equiv fun _ => .ret rfl

theorem bandOpen_equiv (b : Nat) : ProgEquiv Eq (bandOpen b) (bandOpen b) := by
  unfold bandOpen
  refine .afterOp _ fun _ => ?_
  split <;> (try split) <;> (try split) <;> pe_leaf

theorem bandIsClosed_equiv (b : Nat) : ProgEquiv Eq (bandIsClosed b) (bandIsClosed b) := isFile_equiv _
theorem bandExists_equiv (b : Nat) : ProgEquiv Eq (bandExists b) (bandExists b) := isFile_equiv _

theorem unwrapOr_equiv {α : Type} {p q : Prog α} (h : ProgEquiv Eq p q) (d : α) :
    ProgEquiv Eq (unwrapOr p d) (unwrapOr q d) := by
  unfold unwrapOr
  apply ProgEquiv.bindEq h.attemptEq
  intro a
  split <;> pe_leaf

theorem performUnit_equiv (o : Op) (h : o.verb ≠ .listDir := by nofun) :
    ProgEquiv Eq (performUnit o) (performUnit o) :=
  .of_allOps (performUnit_allOps h)

theorem bandCreate_equiv : ProgEquiv Eq bandCreate bandCreate := by
  unfold bandCreate
  apply ProgEquiv.bindEq lastBandId_equiv; intro l
  apply ProgEquiv.bindEq (performUnit_equiv _); intro _
  apply ProgEquiv.bindEq (performUnit_equiv _); intro _
  apply ProgEquiv.bindEq (performUnit_equiv _); intro _
  exact .ret rfl

theorem bandClose_equiv (b n : Nat) : ProgEquiv Eq (bandClose b n) (bandClose b n) :=
  performUnit_equiv _

theorem lastCompleteBand_go_equiv (ids : List Nat) :
    ProgEquiv Eq (lastCompleteBand.go ids) (lastCompleteBand.go ids) := by
  induction ids with
  | nil => exact .ret rfl
  | cons b rest ih =>
    unfold lastCompleteBand.go
    apply ProgEquiv.bindEq (bandOpen_equiv b).attemptEq; intro a
    split
    · exact ih
    · exact ih
    · pe_leaf
    · apply ProgEquiv.bindEq (bandIsClosed_equiv b); intro c
      split
      · pe_leaf
      · exact ih

theorem lastCompleteBand_equiv : ProgEquiv Eq lastCompleteBand lastCompleteBand := by
  unfold lastCompleteBand
  apply ProgEquiv.bindEq listBandIds_equiv; intro ids
  exact lastCompleteBand_go_equiv _

theorem resolveBandId_equiv (sel : BandSelection) : ProgEquiv Eq (resolveBandId sel) (resolveBandId sel) := by
  cases sel with
  | latestClosed =>
    unfold resolveBandId
    apply ProgEquiv.bindEq lastCompleteBand_equiv; intro a
    split <;> pe_leaf
  | specified b => exact .ret rfl
  | latest =>
    unfold resolveBandId
    apply ProgEquiv.bindEq lastBandId_equiv; intro a
    split <;> pe_leaf

theorem listBlocks_go_equiv (ps : List Str) {acc acc' : List Str} (ha : acc.Perm acc') :
    ProgEquiv List.Perm (listBlocks.go ps acc) (listBlocks.go ps acc') := by
  induction ps generalizing acc acc' with
  | nil => exact .ret ha
  | cons p ps ih =>
    exact .withListing _ _ fun _ _ hp _ => ih (listBlocks_step_perm ha (hp.filterMap _))

/-- `blockdir::list_blocks`: the subdirectories are visited in name order whatever the order of
the listing of `d/`, and the set of names found is the same (as a multiset). -/
theorem listBlocks_equiv : ProgEquiv List.Perm listBlocks listBlocks := by
  unfold listBlocks
  refine .withListing _ _ fun _ _ hp _ => ?_
  simp only
  rw [mergeSort_compare_eq_of_perm (hp.filterMap _)]
  exact listBlocks_go_equiv _ (List.Perm.refl _)

theorem gcIsLocked_equiv : ProgEquiv Eq gcIsLocked gcIsLocked := isFile_equiv _

/-- The second look `backup` takes at the lock: `any` over the entries of the root listing. -/
theorem gcLockListed_equiv : ProgEquiv Eq gcLockListed gcLockListed :=
  .withListing _ _ fun _ _ hp _ => .ret hp.any_eq

theorem gcLockNew_equiv : ProgEquiv Eq gcLockNew gcLockNew := by
  unfold gcLockNew
  apply ProgEquiv.bindEq lastBandId_equiv; intro last
  extract_lets write test
  have htest : ProgEquiv Eq (test ()) (test ()) := by
    apply ProgEquiv.bindEq (unwrapOr_equiv (isFile_equiv _) _); intro c
    split
    · pe_leaf
    · exact ProgEquiv.bindEq (performUnit_equiv _) fun _ => .ret rfl
  split
  · apply ProgEquiv.bindEq (bandIsClosed_equiv _); intro c
    split
    · pe_leaf
    · exact htest
  · exact htest

theorem gcBreakLock_equiv : ProgEquiv Eq gcBreakLock gcBreakLock := by
  unfold gcBreakLock
  simp only []
  apply ProgEquiv.bindEq gcIsLocked_equiv; intro c
  split
  · apply ProgEquiv.bindEq (performUnit_equiv _); intro _
    exact gcLockNew_equiv
  · exact gcLockNew_equiv

theorem gcLockCheck_equiv (held : Option Nat) : ProgEquiv Eq (gcLockCheck held) (gcLockCheck held) := by
  unfold gcLockCheck
  apply ProgEquiv.bindEq lastBandId_equiv; intro l
  split <;> pe_leaf

theorem gcLockRelease_equiv : ProgEquiv Eq gcLockRelease gcLockRelease := performUnit_equiv _

theorem hunksAvailable_go_equiv (b : Nat) (ds acc : List Nat) :
    ProgEquiv Eq (hunksAvailable.go b ds acc) (hunksAvailable.go b ds acc) := by
  induction ds generalizing acc with
  | nil => exact .ret rfl
  | cons d ds ih =>
    unfold hunksAvailable.go
    refine .withListing _ _ fun _ _ hp _ => ?_
    simp only
    rw [sortNat_filterMap_eq_of_perm _ hp]
    exact ih _

/-- `IndexRead::hunks_available`: both levels (`bNNNN/i` and its subdirectories) are sorted. -/
theorem hunksAvailable_equiv (b : Nat) : ProgEquiv Eq (hunksAvailable b) (hunksAvailable b) := by
  unfold hunksAvailable
  refine .withListing _ _ fun _ _ hp _ => ?_
  simp only
  rw [sortNat_filterMap_eq_of_perm _ hp]
  exact hunksAvailable_go_equiv _ _ _

theorem iterAvailableHunks_equiv (b : Nat) : ProgEquiv Eq (iterAvailableHunks b) (iterAvailableHunks b) := by
  unfold iterAvailableHunks
  apply ProgEquiv.bindEq (hunksAvailable_equiv b).attemptEq; intro a
  split <;> pe_leaf

theorem readHunk_equiv (b n : Nat) : ProgEquiv Eq (readHunk b n) (readHunk b n) := by
  unfold readHunk
  refine .afterOp _ fun _ => ?_
  -- one match on the response; its only branching arm is the `entryUsable` test
  split <;> first | pe_leaf | exact .ite (.ret rfl) (.fail _)

theorem readHunks_equiv (b : Nat) (ns : List Nat) (after last : Option Str) :
    ProgEquiv Eq (readHunks b ns after last) (readHunks b ns after last) := by
  induction ns generalizing after last with
  | nil => exact .ret rfl
  | cons n rest ih =>
    unfold readHunks
    apply ProgEquiv.bindEq (readHunk_equiv b n).attemptEq; intro a
    split
    · exact .ret rfl
    · exact ProgEquiv.logError_then _ (ih _ _)
    · cases after with
      | some a =>
        refine .ite (ih _ _) (.ite ?_ ?_)
        · exact ProgEquiv.bindEq (ih _ _) fun ⟨_, _⟩ => .ret rfl
        · exact ProgEquiv.bindEq (ih _ _) fun ⟨_, _⟩ => .ret rfl
      | none => exact .ite (ih _ _) (ProgEquiv.bindEq (ih _ _) fun ⟨_, _⟩ => .ret rfl)

theorem hunkLengths_go_equiv (b : Nat) (ds : List Nat) (acc : List (Nat × Bool)) :
    ProgEquiv Eq (hunkLengths.go b ds acc) (hunkLengths.go b ds acc) := by
  induction ds generalizing acc with
  | nil => exact .ret rfl
  | cons d ds ih =>
    unfold hunkLengths.go
    refine .withListing _ _ fun _ _ hp hg => ?_
    simp only
    rw [hunkPairs_eq_of_perm hp hg]
    · exact ih _
    · intro e p h
      split at h
      · split at h
        · cases h; exact ⟨_, by assumption, rfl⟩
        · cases h
      · cases h

/-- `IndexRead::hunk_lengths`: both levels are sorted, and within a real listing every hunk
number occurs once (`hunkPairs_eq_of_perm`). -/
theorem hunkLengths_equiv (b : Nat) : ProgEquiv Eq (hunkLengths b) (hunkLengths b) := by
  unfold hunkLengths
  refine .withListing _ _ fun _ _ hp _ => ?_
  simp only
  rw [sortNat_filterMap_eq_of_perm _ hp]
  exact hunkLengths_go_equiv _ _ _

theorem checkIndexHunks_equiv (b : Nat) : ProgEquiv Eq (checkIndexHunks b) (checkIndexHunks b) := by
  unfold checkIndexHunks
  apply ProgEquiv.bindEq (hunkLengths_equiv b); intro hunks
  extract_lets compare readTail
  have hcompare : ∀ x, ProgEquiv Eq (compare x) (compare x) := by
    rintro ⟨closed, expected⟩
    cases expected with
    | none => exact .ite (.fail _) (.ret rfl)
    | some n => exact .ite (.fail _) (.ite (.fail _) (.ret rfl))
  have hread : ProgEquiv Eq (readTail ()) (readTail ()) := by
    refine .afterOp _ fun _ => ?_
    split <;> exact ProgEquiv.bindEq (.ret rfl) hcompare
  split
  · pe_leaf
  · exact hread

theorem readBand_equiv (b : Nat) (last : Option Str) : ProgEquiv Eq (readBand b last) (readBand b last) := by
  unfold readBand
  apply ProgEquiv.bindEq (bandOpen_equiv b).attemptEq; intro a
  split
  · exact .emit _ (.ret rfl)
  · apply ProgEquiv.bindEq (hunksAvailable_equiv b).attemptEq; intro a
    split
    · exact .emit _ (.ret rfl)
    · simp only []
      apply ProgEquiv.bindEq (checkIndexHunks_equiv b).attemptEq; intro c
      split
      · exact ProgEquiv.logError_then _ (readHunks_equiv _ _ _ _)
      · exact readHunks_equiv _ _ _ _

theorem stitchDown_equiv (n : Nat) (last : Option Str) : ProgEquiv Eq (stitchDown n last) (stitchDown n last) := by
  induction n generalizing last with
  | zero => exact .ret rfl
  | succ b ih =>
    unfold stitchDown
    apply ProgEquiv.bindEq (unwrapOr_equiv (bandExists_equiv b) _); intro c
    split
    · apply ProgEquiv.bindEq (readBand_equiv b last); intro p
      apply ProgEquiv.bindEq (unwrapOr_equiv (bandIsClosed_equiv b) _); intro c
      split
      · pe_leaf
      · exact ProgEquiv.bindEq (ih _) fun _ => .ret rfl
    · apply ProgEquiv.bindEq (unwrapOr_equiv (isFile_equiv _) _); intro c
      split
      · exact ProgEquiv.logError_then _ (ih _)
      · exact ih _

theorem stitchAll_equiv (b : Nat) : ProgEquiv Eq (stitchAll b) (stitchAll b) := by
  unfold stitchAll
  apply ProgEquiv.bindEq (readBand_equiv b none); intro p
  apply ProgEquiv.bindEq (unwrapOr_equiv (bandIsClosed_equiv b) _); intro c
  split
  · pe_leaf
  · exact ProgEquiv.bindEq (stitchDown_equiv _ _) fun _ => .ret rfl

theorem listEntries_equiv (b : Nat) (subtree : Str) (excl : Str → Bool) :
    ProgEquiv Eq (listEntries b subtree excl) (listEntries b subtree excl) := by
  unfold listEntries
  exact ProgEquiv.bindEq (stitchAll_equiv b) fun _ => .of_allOps (filterEntries_tree _ _ _ fun _ _ _ => trivial).allOps

theorem listVersion_equiv (sel : BandSelection) (subtree : Str) (excl : Str → Bool) :
    ProgEquiv Eq (listVersion sel subtree excl) (listVersion sel subtree excl) := by
  unfold listVersion
  apply ProgEquiv.bindEq (resolveBandId_equiv sel); intro b
  apply ProgEquiv.bindEq (bandOpen_equiv b); intro _
  exact listEntries_equiv _ _ _

end Conserve
