import ConserveModel.Proofs.ProtocolEffect
/-
The invariants of the protocol skeleton, group 3 (what gc may remove, seen from the
bands that existed at the start): they hold at the
start and are preserved by both step functions.  The clauses are defined in Proofs/ProtocolInv.lean; how
preservation is proved is said there.
-/
namespace Conserve.Proto

theorem Inv3.start (c : Config) : Inv3 c c.start := by
  constructor <;>
    simp [Config.start, isNew, BPc.mkdirDone, BPc.listIdDone, NoWriteYet, Removed, DelBands, Kept,
      KeptListed, KeptRead, UnrefOld]
  all_goals grind

section
variable {c : Config} {p q : State}

theorem NoWriteYet.presB (hs : StepB p q) (h : Inv3 c p) : NoWriteYet c q := by
  have e := h.noWriteYet
  unfold NoWriteYet at *
  rw [hs.g_eq]
  cases hs with
  | lockCheck_refused hpc | lockCheck hpc | listBasis hpc | listId hpc => exact fun _ => e (by rw [hpc]; rfl)
  | _ => frame_pc e

theorem NoWriteYet.presG (hs : StepG p q) (h : Inv3 c p) : NoWriteYet c q := by
  have e := h.noWriteYet
  unfold NoWriteYet at *
  rw [hs.b_eq]
  cases hs with
  | listBlocks => exact fun hm => ⟨(e hm).1, fun g hg => (e hm).1 g (List.mem_filter.mp hg).1⟩
  | rmBlock => exact fun hm => ⟨fun g hg => (e hm).1 g (List.mem_filter.mp hg).1, (e hm).2⟩
  | _ => exact e

theorem Removed.presB (hs : StepB p q) (h : Inv3 c p) : Removed c q := by
  intro g hg
  rw [hs.g_eq]
  exact (h.removed g hg).imp_left hs.present_mono

theorem Removed.presG (hs : StepG p q) (h1 : Inv1 c p) (h : Inv3 c p) : Removed c q := by
  have e := h.removed
  unfold Removed at *
  cases hs with
  | listBlocks hpc =>
    exact fun g hg => (e g hg).imp_right fun ⟨_, hp, _⟩ => by rw [h1.notPassed (.inr hpc)] at hp; cases hp
  | check hpc _ _ =>
    exact fun g hg => (e g hg).imp_right fun ⟨_, hp, _⟩ => by rw [h1.notPassed (.inl hpc)] at hp; cases hp
  | rmBand _ i rest ht _ => exact fun g hg => (e g hg).imp_right fun ⟨_, _, h0⟩ => by rw [ht] at h0; cases h0
  | rmBlock hpc htb g0 rest ht =>
    intro g hg
    refine (e g hg).elim (fun hp => ?_) .inr
    by_cases heq : g = g0
    · exact .inr ⟨h1.todoBlocks g (ht ▸ heq ▸ List.mem_cons_self), h1.sweepPassed hpc, htb⟩
    · exact .inl (List.mem_filter.mpr ⟨hp, by simpa using heq⟩)
  | _ => exact e

theorem DelBands.presB (hs : StepB p q) (h : Inv3 c p) : DelBands c q := by
  intro hp b hb hd
  by_cases hn : isNew q b
  · exact .inr hn
  · obtain ⟨hb', hn'⟩ := hs.old_band hb hn
    rw [hs.g_eq] at hp ⊢
    exact .inl ((h.delBands hp b hb' hd).resolve_right hn')

theorem DelBands.presG (hs : StepG p q) (h1 : Inv1 c p) (h : Inv3 c p) : DelBands c q := by
  have e := h.delBands
  unfold DelBands at *
  cases hs with
  | check => exact fun _ b _ hd => .inl (h1.del ▸ hd)
  | rmBand hpc i rest htb _ =>
    exact fun hp b hb hd => (e hp b (List.mem_filter.mp hb).1 hd).imp_left fun hin => mem_rest_of_filter hb (htb ▸ hin)
  | _ => exact e

theorem Kept.presB (hs : StepB p q) (h : Inv3 c p) : Kept c q := by
  intro b hb hd
  obtain ⟨hb', hlt⟩ := h.kept b hb hd
  have hn : ¬isNew p b := fun hn => Nat.lt_irrefl _ (hn.2 ▸ hlt (mkdirDone_listIdDone hn.1))
  refine ⟨hs.old_kept hb' hn, fun hl => ?_⟩
  rcases hs.newId_cases with ⟨e, _⟩ | ⟨e, hl'⟩
  · rw [e]; exact lt_nextId hb'
  · rw [e]; exact hlt (hl' hl)

theorem Kept.presG (hs : StepG p q) (h1 : Inv1 c p) (h : Inv3 c p) : Kept c q := by
  have e := h.kept
  unfold Kept at *
  cases hs with
  | rmBand _ i rest ht _ =>
    refine fun b hb hd => ⟨List.mem_filter.mpr ⟨(e b hb hd).1, ?_⟩, (e b hb hd).2⟩
    have : i ∈ c.del := h1.todoBands i (ht ▸ List.mem_cons_self)
    simpa using fun heq : b.id = i => hd (heq ▸ this)
  | _ => exact e

theorem KeptListed.presB (hs : StepB p q) (h : Inv3 c p) : KeptListed c q := by
  unfold KeptListed; rw [hs.g_eq]; exact h.keptListed

theorem KeptListed.presG (hs : StepG p q) (h1 : Inv1 c p) (h : Inv3 c p) : KeptListed c q := by
  have e := h.keptListed
  unfold KeptListed at *
  cases hs with
  | listKeep _ => exact fun _ b hb hd => mem_keep (h.kept b hb hd).1 (h1.del ▸ hd)
  | _ => frame_pc e

theorem KeptRead.presB (hs : StepB p q) (h : Inv3 c p) : KeptRead c q := by
  unfold KeptRead; rw [hs.g_eq]; exact h.keptRead

theorem KeptRead.presG (hs : StepG p q) (h : Inv3 c p) : KeptRead c q := by
  have e := h.keptRead
  unfold KeptRead at *
  cases hs with
  | readRefs hpc _ => exact fun _ b hb hd g hg => mem_referenced (h.kept b hb hd).1 (h.keptListed hpc b hb hd) hg
  | _ => frame_pc e

theorem UnrefOld.presB (hs : StepB p q) (h : Inv3 c p) : UnrefOld c q := by
  unfold UnrefOld; rw [hs.g_eq]; exact h.unrefOld

theorem UnrefOld.presG (hs : StepG p q) (h : Inv3 c p) : UnrefOld c q := by
  have e := h.unrefOld
  unfold UnrefOld at *
  cases hs with
  | listBlocks hpc => exact fun g hg b hb hd hgr => not_mem_unref (h.keptRead hpc b hb hd g hgr) hg
  | _ => exact e

theorem Inv3.presB (hs : StepB p q) (h : Inv3 c p) : Inv3 c q :=
  ⟨NoWriteYet.presB hs h, Removed.presB hs h, DelBands.presB hs h, Kept.presB hs h,
   KeptListed.presB hs h, KeptRead.presB hs h, UnrefOld.presB hs h⟩

theorem Inv3.presG (hs : StepG p q) (h1 : Inv1 c p) (h : Inv3 c p) : Inv3 c q :=
  ⟨NoWriteYet.presG hs h, Removed.presG hs h1 h, DelBands.presG hs h1 h, Kept.presG hs h1 h,
   KeptListed.presG hs h1 h, KeptRead.presG hs h, UnrefOld.presG hs h⟩

end

end Conserve.Proto
