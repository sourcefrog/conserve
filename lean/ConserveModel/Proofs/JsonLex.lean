import ConserveModel.Json
/-
The JSON round trip (Props/C13j.lean) at the lexical level: strings, byte by byte (`escByte_spec`), and
decimal numbers through their canonical numerals (`Numeral`: what the writer produces, and what the
reader makes of any of them), which need to know what follows them (`NumEnd`; in compact JSON a `Delim`).
-/
namespace Conserve.Json
open Conserve

/-- `p` reads the text `text` as `v` and stops there, in front of every rest that `Follow` admits
and with every fuel that covers the input. -/
def Parses {α : Type} (Follow : Str → Prop) (p : Nat → Str → Option (α × Str)) (text : Str) (v : α) :
    Prop :=
  ∀ f rest, Follow rest → (text ++ rest).length ≤ f → p f (text ++ rest) = some (v, rest)

/-- Self-delimiting texts (strings, objects, arrays, `null`) may be followed by anything. -/
def AnyRest : Str → Prop := fun _ => True

theorem Parses.mono {α : Type} {F G : Str → Prop} {p : Nat → Str → Option (α × Str)} {t : Str} {v : α}
    (h : Parses F p t v) (hG : ∀ r, G r → F r) : Parses G p t v :=
  fun f rest hr hf => h f rest (hG rest hr) hf

theorem skipWs_cons_of_ne {c : Nat} {r : Str} (h32 : c ≠ 32) (h10 : c ≠ 10) (h9 : c ≠ 9) (h13 : c ≠ 13) :
    skipWs (c :: r) = c :: r := by
  simp [skipWs, h32, h10, h9, h13]

theorem expectLit_append (l rest : Str) : expectLit l (l ++ rest) = some rest := by
  induction l with
  | nil => cases rest <;> simp [expectLit]
  | cons a l ih => simp [expectLit, ih]

theorem hexDigitVal_hexLower {x : Nat} (h : x < 16) : hexDigitVal (hexLower x) = some x := by
  unfold hexLower hexDigitVal
  split
  · simp; omega
  · have h1 : ¬ (48 ≤ 87 + x ∧ 87 + x ≤ 57) := by omega
    have h2 : (97 ≤ 87 + x ∧ 87 + x ≤ 102) := by omega
    simp [h1, h2]

theorem hex4_control {b : Nat} (hb : b < 32) (r : Str) :
    hex4 (48 :: 48 :: hexLower (b / 16) :: hexLower (b % 16) :: r) = some (b, r) := by
  have h1 : hexDigitVal (hexLower (b / 16)) = some (b / 16) := hexDigitVal_hexLower (by omega)
  have h2 : hexDigitVal (hexLower (b % 16)) = some (b % 16) := hexDigitVal_hexLower (by omega)
  have h0 : hexDigitVal 48 = some 0 := by decide
  simp only [hex4, h0, h1, h2]
  congr 2
  omega

theorem parseUnicode_control {b : Nat} (hb : b < 32) (r : Str) :
    parseUnicode (48 :: 48 :: hexLower (b / 16) :: hexLower (b % 16) :: r) = some ([b], r) := by
  have h1 : ¬ (56320 ≤ b ∧ b ≤ 57343) := by omega
  have h2 : b < 55296 ∨ b > 56319 := by omega
  have h3 : b < 128 := by omega
  simp [parseUnicode, hex4_control hb, h1, h2, utf8Encode, h3]

theorem parseCharsF_raw {c : Nat} (h34 : c ≠ 34) (h92 : c ≠ 92) (h32 : ¬ c < 32) (f : Nat) (r : Str) :
    parseCharsF (f + 1) (c :: r) = (parseCharsF f r).map fun p => (c :: p.1, p.2) := by
  simp only [parseCharsF, h34, h92, h32, if_false]
  cases parseCharsF f r <;> rfl

theorem parseCharsF_esc {r r' bs : Str} (h : parseEscape r = some (bs, r')) (f : Nat) :
    parseCharsF (f + 1) (92 :: r) = (parseCharsF f r').map fun p => (bs ++ p.1, p.2) := by
  have h34 : (92 : Nat) ≠ 34 := by decide
  simp only [parseCharsF, h34, if_false, if_true, h]
  cases parseCharsF f r' <;> rfl

/-- What the writer does with one byte, in the reader's terms: the byte itself when the reader takes
it raw, otherwise a backslash and an escape that `parseEscape` decodes to that byte. -/
theorem escByte_spec (b : Nat) :
    (escByte b = [b] ∧ b ≠ 34 ∧ b ≠ 92 ∧ ¬ b < 32) ∨
    ∃ e, escByte b = 92 :: e ∧ ∀ t, parseEscape (e ++ t) = some ([b], t) := by
  by_cases hm : b ∈ [34, 92, 8, 9, 10, 12, 13]
  · -- the seven two-byte escapes
    simp only [List.mem_cons, List.not_mem_nil, or_false] at hm
    rcases hm with rfl | rfl | rfl | rfl | rfl | rfl | rfl <;> exact .inr ⟨_, rfl, fun _ => rfl⟩
  · simp only [List.mem_cons, List.not_mem_nil, or_false, not_or] at hm
    obtain ⟨h1, h2, h3, h4, h5, h6, h7⟩ := hm
    simp only [escByte, h1, h2, h3, h4, h5, h6, h7, if_false]
    by_cases h8 : b < 32
    · rw [if_pos h8]
      exact .inr ⟨_, rfl, fun t => by simp [parseEscape, parseUnicode_control h8]⟩
    · rw [if_neg h8]
      exact .inl ⟨rfl, h1, h2, h8⟩

theorem parseCharsF_escByte (b : Nat) (tail : Str) (f : Nat) :
    parseCharsF (f + 1) (escByte b ++ tail) =
      (parseCharsF f tail).map (fun p => (b :: p.1, p.2)) := by
  rcases escByte_spec b with ⟨h, h34, h92, h32⟩ | ⟨e, h, he⟩
  · rw [h]; exact parseCharsF_raw h34 h92 h32 f tail
  · rw [h]; exact parseCharsF_esc (he tail) f

theorem parseCharsF_render (s rest : Str) : ∀ f, s.length < f →
    parseCharsF f (renderChars s ++ rest) = some (s, rest) := by
  induction s with
  | nil =>
    intro f hf
    cases f with
    | zero => omega
    | succ f => simp [renderChars, parseCharsF]
  | cons b bs ih =>
    intro f hf
    cases f with
    | zero => omega
    | succ f =>
      simp only [renderChars, List.append_assoc]
      rw [parseCharsF_escByte, ih f (by simpa using hf)]
      rfl

theorem renderChars_length (s : Str) : s.length + 1 ≤ (renderChars s).length := by
  induction s with
  | nil => simp [renderChars]
  | cons b bs ih =>
    have : 1 ≤ (escByte b).length := by
      rcases escByte_spec b with ⟨h, _⟩ | ⟨e, h, _⟩ <;> simp [h]
    simp [renderChars]
    omega

theorem parseStrBody_render (s rest : Str) (hs : validUtf8 s = true) (f : Nat)
    (hf : (renderChars s ++ rest).length ≤ f) :
    parseStrBody f (renderChars s ++ rest) = some (s, rest) := by
  have := renderChars_length s
  have hlt : s.length < f := by simp at hf; omega
  simp [parseStrBody, parseCharsF_render s rest f hlt, hs]

theorem parses_str {s : Str} (hs : validUtf8 s = true) : Parses AnyRest parseStr (renderString s) s := by
  intro f rest _ hf
  have hf' : (renderChars s ++ rest).length ≤ f := by simp [renderString] at hf ⊢; omega
  simp [parseStr, renderString, skipWs, parseStrBody_render s rest hs f hf']

theorem parses_optStr {o : Option Str} (ho : wfOptStr o = true) :
    Parses AnyRest parseOptStr (renderOptStr o) o := by
  intro f rest _ hf
  cases o with
  | none => simp [parseOptStr, renderOptStr, kNull, skipWs, expectLit]
  | some s =>
    have hf' : (renderChars s ++ rest).length ≤ f := by simp [renderOptStr, renderString] at hf ⊢; omega
    simp [parseOptStr, renderOptStr, renderString, skipWs, parseStrBody_render s rest ho f hf']

/-- What may follow an integer literal for it to be read as that integer: the end of the input, or a
byte that is neither a digit nor `.`, `e`, `E`. -/
def NumEnd (rest : Str) : Prop :=
  ∀ c r, rest = c :: r → isDigit c = false ∧ c ≠ 46 ∧ c ≠ 101 ∧ c ≠ 69

/-- What follows a value in compact JSON: a comma or a closing bracket. -/
def Delim (rest : Str) : Prop := ∃ c r, rest = c :: r ∧ (c = 44 ∨ c = 125 ∨ c = 93)

theorem Delim.cons44 (r : Str) : Delim (44 :: r) := ⟨44, r, rfl, by simp⟩
theorem Delim.cons125 (r : Str) : Delim (125 :: r) := ⟨125, r, rfl, by simp⟩
theorem Delim.cons93 (r : Str) : Delim (93 :: r) := ⟨93, r, rfl, by simp⟩

theorem Delim.numEnd {rest : Str} (h : Delim rest) : NumEnd rest := by
  obtain ⟨c, r, rfl, hc⟩ := h
  intro c' r' heq
  cases heq
  rcases hc with rfl | rfl | rfl <;> simp [isDigit]

theorem NumEnd.nil : NumEnd [] := by intro c r h; cases h

theorem takeDigits_numEnd {rest : Str} (h : NumEnd rest) (acc : Nat) : takeDigits acc rest = (acc, rest) := by
  cases rest with
  | nil => rfl
  | cons c r => simp [takeDigits, (h c r rfl).1]

theorem noFraction_numEnd {rest : Str} (h : NumEnd rest) : noFraction rest = true := by
  cases rest with
  | nil => rfl
  | cons c r =>
    obtain ⟨_, h1, h2, h3⟩ := h c r rfl
    simp [noFraction, h1, h2, h3]

/-- Value of a digit string read from the left, as `takeDigits` folds it. -/
def digitsVal (acc : Nat) (ds : Str) : Nat := ds.foldl (fun a c => a * 10 + (c - 48)) acc

/-- `ds` is the canonical decimal numeral of `n`: digits only, value `n`, no leading zero but for `0`. -/
structure Numeral (ds : Str) (n : Nat) : Prop where
  digits : ∀ c ∈ ds, isDigit c = true
  val : digitsVal 0 ds = n
  head : ∃ c tl, ds = c :: tl ∧ (c = 48 → tl = [])

theorem takeDigits_digits : ∀ (ds : Str) (acc : Nat) (rest : Str), (∀ c ∈ ds, isDigit c = true) →
    takeDigits acc (ds ++ rest) = takeDigits (digitsVal acc ds) rest := by
  intro ds
  induction ds with
  | nil => intro acc rest _; rfl
  | cons d ds ih =>
    intro acc rest h
    simp only [List.cons_append, takeDigits, h d (by simp), if_true]
    exact ih _ rest fun c hc => h c (List.mem_cons_of_mem d hc)

/-- The writer, by induction on its own fuel. -/
theorem numeral_renderNatF : ∀ (f n : Nat), n ≤ f → Numeral (renderNatF f n) n := by
  intro f
  induction f with
  | zero =>
    intro n hn
    obtain rfl : n = 0 := by omega
    exact ⟨by simp [renderNatF, isDigit], rfl, 48, [], rfl, fun _ => rfl⟩
  | succ f ih =>
    intro n hn
    simp only [renderNatF]
    split
    · rename_i h
      exact ⟨by simp [isDigit]; omega, by simp [digitsVal], 48 + n, [], rfl, fun _ => rfl⟩
    · rename_i h
      obtain ⟨hd, hv, c, tl, heq, hc⟩ := ih (n / 10) (by omega)
      refine ⟨?_, ?_, c, tl ++ [48 + n % 10], by simp [heq], fun h0 => ?_⟩
      · intro x hx
        rcases List.mem_append.mp hx with hx | hx
        · exact hd x hx
        · simp at hx; subst hx; simp [isDigit]; omega
      · simp only [digitsVal, List.foldl_append, List.foldl_cons, List.foldl_nil] at hv ⊢
        rw [hv]; omega
      · -- a leading `0` would make the value of the front part 0, but it is `n / 10 ≥ 1`
        obtain rfl := hc h0
        subst h0
        rw [heq] at hv
        simp [digitsVal] at hv
        omega

theorem numeral_renderNat (n : Nat) : Numeral (renderNat n) n := numeral_renderNatF n n (Nat.le_refl n)

/-- The reader, for any canonical numeral (not only the writer's). -/
theorem parseMagnitude_numeral {ds : Str} {n : Nat} (h : Numeral ds n) {rest : Str} (hd : NumEnd rest) :
    parseMagnitude (ds ++ rest) = some (n, rest) := by
  obtain ⟨hdig, hv, c, tl, rfl, hc⟩ := h
  have hcd : isDigit c = true := hdig c (by simp)
  have key := takeDigits_digits tl (c - 48) rest fun x hx => hdig x (List.mem_cons_of_mem c hx)
  have hv' : digitsVal (c - 48) tl = n := by simpa [digitsVal] using hv
  rw [hv', takeDigits_numEnd hd] at key
  by_cases h48 : c = 48
  · subst h48
    obtain rfl := hc rfl
    obtain rfl : n = 0 := by simpa [digitsVal] using hv.symm
    cases rest with
    | nil => simp [parseMagnitude]
    | cons d r => simp [parseMagnitude, (hd d r rfl).1, noFraction_numEnd hd]
  · simp [parseMagnitude, h48, hcd, key, noFraction_numEnd hd]

theorem parseMagnitude_render (n : Nat) (rest : Str) (hd : NumEnd rest) :
    parseMagnitude (renderNat n ++ rest) = some (n, rest) :=
  parseMagnitude_numeral (numeral_renderNat n) hd

/-- What the readers of numbers test before they hand over to `parseMagnitude`. -/
theorem renderNat_cons (n : Nat) (rest : Str) :
    ∃ c tl, renderNat n ++ rest = c :: tl ∧ skipWs (c :: tl) = c :: tl ∧ c ≠ 110 ∧ c ≠ 45 := by
  obtain ⟨hdig, _, c, ds, heq, _⟩ := numeral_renderNat n
  have hc : isDigit c = true := hdig c (by simp [heq])
  simp [isDigit] at hc
  exact ⟨c, ds ++ rest, by simp [heq], skipWs_cons_of_ne (by omega) (by omega) (by omega) (by omega),
    by omega, by omega⟩

theorem parses_unsigned {bound n : Nat} (hn : n < bound) :
    Parses NumEnd (fun _ => parseUnsigned bound) (renderNat n) n := by
  intro _ rest hd _
  obtain ⟨c, tl, heq, hws, _⟩ := renderNat_cons n rest
  have hm := parseMagnitude_render n rest hd
  rw [heq] at hm ⊢
  simp [parseUnsigned, hws, hm, hn]

theorem parses_i64 {i : Int} (h1 : -9223372036854775808 ≤ i) (h2 : i < 9223372036854775808) :
    Parses NumEnd (fun _ => parseI64) (renderInt i) i := by
  intro _ rest hd _
  cases i with
  | ofNat n =>
    obtain ⟨c, tl, heq, hws, _, h45⟩ := renderNat_cons n rest
    have hm := parseMagnitude_render n rest hd
    have hn : n < 9223372036854775808 := by
      simp only [Int.ofNat_eq_natCast] at h2; omega
    rw [heq] at hm
    simp [renderInt, parseI64, heq, hws, h45, hm, hn]
  | negSucc n =>
    have hm := parseMagnitude_render (n + 1) rest hd
    have hn : ¬ (n + 1 > 9223372036854775808) := by omega
    simp only [renderInt, parseI64, List.cons_append]
    rw [skipWs_cons_of_ne (by decide) (by decide) (by decide) (by decide)]
    simp [hm, hn]
    omega

theorem parses_optU32 {o : Option Nat} (ho : wfOptU32 o = true) :
    Parses NumEnd (fun _ => parseOptU32) (renderOptNat o) o := by
  intro f rest hd hf
  cases o with
  | none => simp [parseOptU32, renderOptNat, kNull, skipWs, expectLit]
  | some n =>
    obtain ⟨c, tl, heq, hws, h110, _⟩ := renderNat_cons n rest
    have hp := parses_unsigned (bound := 4294967296) (of_decide_eq_true ho) f rest hd hf
    rw [heq] at hp
    simp [renderOptNat, parseOptU32, heq, hws, h110, hp]

theorem parses_optU64 {o : Option Nat} (ho : ∀ n, o = some n → n < 18446744073709551616) :
    Parses NumEnd (fun _ => parseOptU64) (renderOptNat o) o := by
  intro f rest hd hf
  cases o with
  | none => simp [parseOptU64, renderOptNat, kNull, skipWs, expectLit]
  | some n =>
    obtain ⟨c, tl, heq, hws, h110, _⟩ := renderNat_cons n rest
    have hp := parses_unsigned (ho n rfl) f rest hd hf
    rw [heq] at hp
    simp [renderOptNat, parseOptU64, heq, hws, h110, hp]

end Conserve.Json
