import ConserveModel.Proofs.ConformsEntry
/-
C13: `finish_hunk` and `flush_group` in all worlds, and the loop invariant `LoopSt` of `backup()`
(band open with hunks `hs`, numbering, counts, order and shape of everything buffered).
No property statements here.
-/
namespace Conserve.Conf
open Conserve Conserve.Inv Prog

section
variable {H : Str → Str}

theorem entryConforms_of {s : Store} {e : IndexEntry} (hok : AddrOK H s e) (hm : MetaOKs (sig e)) :
    entryConforms H s e = true := by
  obtain ⟨hv, hsym, hunk⟩ := hm
  change isValid e.apath = true at hv
  change (e.kind = .symlink ↔ e.target.isSome = true) at hsym
  change e.kind ≠ .unknown at hunk
  unfold entryConforms
  simp only [hv, Bool.true_and]
  cases hk : e.kind with
  | file =>
    simp only [Bool.and_eq_true, List.all_eq_true]
    refine ⟨?_, hok.1⟩
    have : ¬ e.target.isSome = true := fun h => by
      have := hsym.mpr h
      rw [hk] at this; cases this
    cases ht : e.target with
    | none => rfl
    | some t => simp [ht] at this
  | symlink =>
    have ha : e.addrs = [] := hok.2 (by rw [hk]; exact fun h => nomatch h)
    simp [ha, hsym.mp hk]
  | dir =>
    have ha : e.addrs = [] := hok.2 (by rw [hk]; exact fun h => nomatch h)
    have : ¬ e.target.isSome = true := fun h => by
      have := hsym.mpr h
      rw [hk] at this; cases this
    cases ht : e.target with
    | none => simp [ha]
    | some t => simp [ht] at this
  | unknown => exact absurd hk hunk

/-- `finish_hunk`'s sort. -/
def sortHunk (es : List IndexEntry) : List IndexEntry := es.mergeSort fun a b => apathLe a.apath b.apath

/-- What `finish_hunk` needs of the pending entries, given the hunks `hs` already in the band. -/
structure PendOK (H : Str → Str) (s : Store) (hs : List (List IndexEntry)) (pending : List IndexEntry) : Prop where
  ent : ∀ e ∈ pending, entryConforms H s e = true
  nodup : (pending.map (·.apath)).Nodup
  lt : ∀ a ∈ hs.flatten, ∀ e ∈ pending, apathCmp a.apath e.apath = .lt

/-- Writer and hunk list before / after `finish_hunk`, whether or not there was anything to
write: nothing is pending any more, `sequence` counts the hunks, `hunksWritten` too if it
did, and the hunks hold what they held plus what was pending. -/
structure FinishRel (wr wr' : Writer) (hs hs' : List (List IndexEntry)) : Prop where
  band : wr'.band = wr.band
  pending : wr'.pending = []
  finished : wr'.finished = wr.finished
  queue : wr'.queue = wr.queue
  seq : hs'.length = wr'.sequence
  hw : wr.hunksWritten = wr.sequence → wr'.hunksWritten = wr'.sequence
  mem : ∀ e ∈ hs'.flatten, e ∈ hs.flatten ∨ e ∈ wr.pending

theorem exec_createDir_bandKeys (w : World) (b : Nat) {k : Key} (hk : ∀ n, k ≠ .hunk b n)
    (ht : k ≠ .bandTail b) (hh : k ≠ .bandHead b) :
    BandKeysSame b w.store (w.exec (.createDir k)).1.store := by
  rcases exec_createDir_cases w k with hs | ⟨_, _, hs⟩
  · exact BandKeysSame.of_eq hs
  · rw [hs]; exact BandKeysSame.put _ _ hk ht hh

/-- `IndexWriter::finish_hunk` in every world: the archive conforms after every micro-step (the
sub-directory creation, the zero-length hunk file, the complete hunk); if it returns, the band is
open with the new hunk appended (or unchanged if nothing was pending). -/
theorem finishHunk_csat (wr : Writer) (w : World) (hs : List (List IndexEntry)) (hw : CWOK H w)
    (hwr : W2 H w.store wr) (hb : BandOpen w.store wr.band hs) (hok : HsOK H w.store hs)
    (hlen : hs.length = wr.sequence) (hp : PendOK H w.store hs wr.pending) :
    CSat H (finishHunk wr) w (fun wr' w' =>
      (∃ hs', BandOpen w'.store wr.band hs' ∧ HsOK H w'.store hs' ∧ FinishRel wr wr' hs hs') ∧
      W2 H w'.store wr') := by
  unfold finishHunk
  simp only [Prog.bind_def, Prog.pure_def]
  split
  · rename_i hemp
    exact CSat.ret hw ⟨⟨hs, hb, hok, rfl, by simpa using hemp, rfl, rfl, hlen, id, fun _ => Or.inl⟩, hwr⟩
  · rename_i hne
    have hne' : sortHunk wr.pending ≠ [] := by
      intro h
      have := (List.mergeSort_perm wr.pending (fun a b => apathLe a.apath b.apath)).length_eq
      unfold sortHunk at h
      rw [h] at this
      have : wr.pending = [] := List.eq_nil_of_length_eq_zero this.symm
      simp [this] at hne
    have hdone : ∀ w', CFrame H w w' →
        W2 H w'.store { wr with pending := [], sequence := wr.sequence + 1, hunksWritten := wr.hunksWritten + 1 } :=
      fun w' hf => ⟨(hwr.mono hf.ext).exists_, hwr.queue, (by intro e he; cases he), (hwr.mono hf.ext).finished⟩
    have hwrite : ∀ w1, CFrame H w w1 → BandKeysSame wr.band w.store w1.store →
        CSat H ((performUnit (.write (.hunk wr.band wr.sequence)
            (.hunk (wr.pending.mergeSort fun a b => apathLe a.apath b.apath)) .createNew)).bind fun _ =>
            Prog.ret { wr with pending := [], sequence := wr.sequence + 1, hunksWritten := wr.hunksWritten + 1 })
          w1 (fun wr' w' =>
            (∃ hs', BandOpen w'.store wr.band hs' ∧ HsOK H w'.store hs' ∧ FinishRel wr wr' hs hs') ∧
            W2 H w'.store wr') := by
      intro w1 hf1 hsame
      have hb1 : BandOpen w1.store wr.band hs := hb.same hsame
      have hok1 : HsOK H w1.store hs := hok.mono hf1.ext
      have hx := exec_write_hunk hf1.ci hf1.wok.enforce hb1 hok1 (es := sortHunk wr.pending) hne'
        (fun e he => entryConforms_mono H hf1.ext (hp.ent e (List.mem_mergeSort.mp he)))
        (List.pairwise_map.2 (mergeSort_apathLe_sorted IndexEntry.apath hp.nodup))
        (fun a ha e he => hp.lt a ha e (List.mem_mergeSort.mp he))
      rw [hlen] at hx
      apply CSat.bind
      refine (CSat.performUnit hf1.wok (createOnly_write _ _) hx.1).mono ?_
      intro _ w2 hf2 ⟨hw2, hunit⟩
      subst hw2
      refine CSat.ret hf2.wok ⟨⟨hs ++ [sortHunk wr.pending], (hx.2 hunit).1, (hx.2 hunit).2, rfl, rfl, rfl, rfl,
        by rw [List.length_append, hlen]; rfl, congrArg (· + 1), fun e he => ?_⟩, hdone _ (hf1.trans hf2)⟩
      simp only [List.flatten_append, List.flatten_cons, List.flatten_nil, List.append_nil, List.mem_append,
        sortHunk, List.mem_mergeSort] at he
      exact he
    split
    · apply CSat.bind
      refine (CSat.performUnit hw (createOnly_createDir _)
        (exec_createDir_plain hw.ci rfl (fun b => by simp [touchesBand]))).mono ?_
      intro _ w1 hf1 ⟨hw1, _⟩
      subst hw1
      exact hwrite _ hf1 (exec_createDir_bandKeys w wr.band (fun _ => by simp) (by simp) (by simp))
    · exact hwrite w (CFrame.refl hw) (BandKeysSame.refl _ _)

/-- The loop invariant: the writer invariant `W2`; the band is open with hunks `hs`, which are
fine; `sequence` is the number of hunk files and `hunksWritten` agrees; the buffered entries are
well-shaped, pairwise distinct, above everything written and below everything still to come. -/
structure LoopSt (H : Str → Str) (todo : List SrcEntry)
    (hs : List (List IndexEntry)) (s : Store) (wr : Writer) : Prop where
  wok : W2 H s wr
  band : BandOpen s wr.band hs
  hsok : HsOK H s hs
  len : hs.length = wr.sequence
  count : wr.hunksWritten = wr.sequence
  buf : BufOK todo (hs.flatten.map (·.apath)) (bufSig wr)

/-- `BackupWriter::flush_group` in every world: conforming after every micro-step; if it returns,
the loop invariant holds again (with the new hunk, if any) and nothing is buffered any more. -/
theorem flushGroup_csat (hinj : Function.Injective H) (hlen : HashLen H) (wr : Writer) (w : World)
    (todo : List SrcEntry) (hs : List (List IndexEntry)) (hw : CWOK H w)
    (hst : LoopSt H todo hs w.store wr) :
    CSat H (flushGroup H wr) w (fun wr' w' =>
      ∃ hs', LoopSt H todo hs' w'.store wr' ∧ wr'.band = wr.band ∧ bufEntries wr' = []) := by
  unfold flushGroup
  simp only [Prog.bind_def]
  apply CSat.bind
  refine (combinerFlush_csat hinj hlen wr w hw hst.wok).mono ?_
  rintro ⟨wr1, r⟩ w1 hf1 ⟨⟨hwr1, hq⟩, hsame, hstep⟩
  cases r with
  | error e => exact CSat.fail hf1.wok
  | ok u =>
    have hq1 : wr1.queue = [] := hq rfl
    have hbe : bufEntries wr1 = wr1.pending ++ wr1.finished := by simp [bufEntries, hq1]
    have hbuf1 : BufOK todo (hs.flatten.map (·.apath)) (bufSig wr1) :=
      hst.buf.perm (by simpa using hstep.perm)
    have hb1 : BandOpen w1.store wr1.band hs := by
      rw [hstep.band]; exact hst.band.same (hsame.bandKeys _)
    have hok1 : HsOK H w1.store hs := hst.hsok.mono hf1.ext
    have hwrF : W2 H w1.store { wr1 with pending := wr1.pending ++ wr1.finished, finished := [] } :=
      ⟨hwr1.exists_, hwr1.queue, List.forall_mem_append.2 ⟨hwr1.pending, hwr1.finished⟩,
        (by intro e he; cases he)⟩
    have hmem : ∀ e ∈ wr1.pending ++ wr1.finished, sig e ∈ bufSig wr1 := fun e he =>
      List.mem_map.mpr ⟨e, by rw [hbe]; exact he, rfl⟩
    have hpend : PendOK H w1.store hs (wr1.pending ++ wr1.finished) := by
      refine ⟨?_, ?_, ?_⟩
      · intro e he
        exact entryConforms_of (hwrF.pending e he) (hbuf1.shape _ (hmem e he))
      · have := hbuf1.nodup
        rw [bufSig, hbe, List.map_map] at this
        exact this
      · intro a ha e he
        exact hbuf1.written_lt _ (List.mem_map.mpr ⟨a, ha, rfl⟩) _ (hmem e he)
    refine (finishHunk_csat (H := H)
      { wr1 with pending := wr1.pending ++ wr1.finished, finished := [] } w1 hs hf1.wok hwrF hb1 hok1
      (by rw [hst.len, hstep.seq]) hpend).mono ?_
    rintro wr2 w2 hf2 ⟨⟨hs2, hb2, hok2, hrel⟩, hwr2⟩
    have hbe2 : bufEntries wr2 = [] := by
      simp [bufEntries, hrel.pending, hrel.finished, hrel.queue, hq1]
    have hcount1 : wr1.hunksWritten = wr1.sequence := by rw [hstep.hw, hstep.seq, hst.count]
    refine ⟨hs2, ⟨hwr2, by rw [hrel.band]; exact hb2, hok2, hrel.seq, hrel.hw hcount1, ?_⟩,
      hrel.band.trans hstep.band, hbe2⟩
    rw [bufSig, hbe2]
    refine ⟨(by intro g hg; cases hg), List.nodup_nil, (by intro g hg; cases hg),
      (by intro x _ g hg; cases hg), ?_⟩
    intro a ha t ht
    obtain ⟨e, he, rfl⟩ := List.mem_map.mp ha
    rcases hrel.mem e he with he | he
    · exact hbuf1.written_todo _ (List.mem_map.mpr ⟨e, he, rfl⟩) t ht
    · exact hbuf1.lt_todo _ (hmem e he) t ht

end

end Conserve.Conf
