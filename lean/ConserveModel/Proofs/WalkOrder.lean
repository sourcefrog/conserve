import ConserveModel.Proofs.WalkSet
/-
The walk below a well-formed directory is strictly increasing (`walkBelow_sorted`), hence
determined by the set of what it emits (`sorted_ext`, `Forest.mem_walkBelow`).
-/
namespace Conserve
open Std

def ELt (a b : SrcEntry) : Prop := apathCmp a.apath b.apath = .lt

theorem nameLe_totalPreorder : TotalPreorder nameLe :=
  strLe_totalPreorder (fun p : Str × Node => p.1)

theorem childApLe_totalPreorder (ap : Str) : TotalPreorder (childApLe ap) :=
  ⟨fun _ _ => apathLe.total _ _, fun _ _ _ => apathLe.trans⟩

theorem compare_lt_of_le_of_ne {x y : Str} (h : (compare x y != .gt) = true) (hne : x ≠ y) :
    compare x y = .lt := by
  simp only [bne_iff_ne, ne_eq] at h
  cases hc : compare x y with
  | lt => rfl
  | eq => exact absurd (LawfulEqOrd.eq_of_compare hc) hne
  | gt => exact absurd hc h

theorem mem_sorted_live {excl : Str → Bool} {ap : Str} {f : Forest} {le : Str × Node → Str × Node → Bool}
    {p : Str × Node} (h : p ∈ sortBy le (live excl ap f)) : p ∈ f.toList :=
  (mem_live.1 (mem_sortBy.1 h)).1

theorem sorted_distinct {le : Str × Node → Str × Node → Bool} (hle : TotalPreorder le)
    {L M : List (Str × Node)} (hd : M.Pairwise (fun a b => a.1 ≠ b.1)) (hs : L.Sublist M) :
    (sortBy le L).Pairwise (fun a b => le a b = true ∧ a.1 ≠ b.1) :=
  (sortBy_pairwise hle L).and
    ((hd.sublist hs).perm (sortBy_perm le L).symm (fun h => Ne.symm h))

theorem Forest.walk_induction {P : List Str → Forest → Prop}
    (step : ∀ cs f, GoodComps cs → f.WF = true →
      (∀ p ∈ f.toList,
        GoodComps (cs ++ [p.1]) ∧ p.2.kids.WF = true ∧ P (cs ++ [p.1]) p.2.kids) → P cs f)
    (f : Forest) : ∀ cs, GoodComps cs → f.WF = true → P cs f := by
  induction f using Forest.kids_induction with
  | h f ih =>
    intro cs hcs hwf
    have F := listingFacts (fun _ => false) hcs hwf
    refine step cs f hcs hwf fun p hp => ?_
    have hg := hcs.append (.single (F.good p hp))
    exact ⟨hg, F.wfKids p hp, ih p hp _ hg (F.wfKids p hp)⟩

/-- Both sorts of `walkBelow_eq` are sorts of distinct names, and between siblings the apath order
is the order of the names (`apathCmp_siblings`). -/
theorem walkBelow_sorted (excl : Str → Bool) (f : Forest) :
    ∀ cs, GoodComps cs → f.WF = true → (f.walkBelow excl (pathOf cs)).Pairwise ELt := by
  revert f
  refine Forest.walk_induction fun cs f hcs hwf ih => ?_
  have F := listingFacts excl hcs hwf
  have good : ∀ p ∈ f.toList, GoodComps (cs ++ [p.1]) := fun p hp => (ih p hp).1
  have sub : ∀ p ∈ f.toList, ∀ e ∈ p.2.kids.walkBelow excl (apathAppend (pathOf cs) p.1),
      ∃ x t, GoodComps (cs ++ p.1 :: x :: t) ∧ e.apath = pathOf (cs ++ p.1 :: x :: t) := by
    intro p hp e he
    rw [F.append p hp] at he
    obtain ⟨x, t, hxt, e⟩ := Forest.mem_walkBelow_path (good p hp) (F.wfKids p hp) he
    exact ⟨x, t, by simpa using (good p hp).append hxt, by simp [e]⟩
  rw [Forest.walkBelow_eq, List.pairwise_append]
  refine ⟨?_, ?_, ?_⟩
  · -- the children, by name
    rw [List.pairwise_map]
    refine (sorted_distinct nameLe_totalPreorder F.distinct List.filter_sublist).imp_of_mem
      fun ha hb hab => ?_
    have ha' := mem_sorted_live ha
    have hb' := mem_sorted_live hb
    unfold ELt
    rw [Node.entry_apath, Node.entry_apath, F.append _ ha', F.append _ hb',
      apathCmp_siblings (good _ ha') (good _ hb')]
    exact compare_lt_of_le_of_ne hab.1 hab.2
  · -- what is below the subdirectories, by apath of the subdirectory
    rw [List.pairwise_flatMap]
    refine ⟨fun p hp => ?_, ?_⟩
    · have hp := (mem_live.1 (List.mem_filter.1 (mem_sortBy.1 hp)).1).1
      rw [F.append p hp]
      exact (ih p hp).2.2
    · refine (sorted_distinct (childApLe_totalPreorder _) F.distinct
        (List.filter_sublist.trans List.filter_sublist)).imp_of_mem
        @fun a b ha hb hab x hx y hy => ?_
      have ha' := (mem_live.1 (List.mem_filter.1 (mem_sortBy.1 ha)).1).1
      have hb' := (mem_live.1 (List.mem_filter.1 (mem_sortBy.1 hb)).1).1
      obtain ⟨x1, t1, hg1, he1⟩ := sub _ ha' x hx
      obtain ⟨x2, t2, hg2, he2⟩ := sub _ hb' y hy
      have hlt : compare a.1 b.1 = .lt := by
        have := hab.1
        unfold childApLe apathLe at this
        rw [F.append _ ha', F.append _ hb', apathCmp_siblings (good _ ha') (good _ hb')] at this
        exact compare_lt_of_le_of_ne this hab.2
      unfold ELt
      rw [he1, he2]
      exact apathCmp_below_siblings hlt hg1 hg2
  · -- children before everything deeper
    intro e he s hs
    obtain ⟨a, ha, rfl⟩ := List.mem_map.1 he
    obtain ⟨b, hb, hs⟩ := List.mem_flatMap.1 hs
    obtain ⟨x2, t2, hg2, he2⟩ := sub b (mem_live.1 (List.mem_filter.1 (mem_sortBy.1 hb)).1).1 s hs
    have ha' := mem_sorted_live ha
    unfold ELt
    rw [Node.entry_apath, he2, F.append _ ha']
    exact apathCmp_child_deeper (good a ha') hg2

end Conserve
