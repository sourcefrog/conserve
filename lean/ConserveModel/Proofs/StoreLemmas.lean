import ConserveModel.Proofs.FrameStep
/-
Lemmas about the association-list store, on top of `get?` after `put` / `erase` / `eraseTree`
(Proofs/FrameStep.lean): the `≠` cases, `erase` of an absent key, the band a key belongs to
(`Key.bandOf`, which decides `isUnder (.bandDir b)`), and stores without duplicate keys
(`UniqueKeys`).  No property statements here.
-/
namespace Conserve

/-- `∀ k, get? k` equality: the two association lists denote the same store. -/
def StoreEq (s s' : Store) : Prop := ∀ k, s.get? k = s'.get? k

theorem StoreEq.refl (s : Store) : StoreEq s s := fun _ => rfl
theorem StoreEq.symm {s s' : Store} (h : StoreEq s s') : StoreEq s' s := fun k => (h k).symm
theorem StoreEq.trans {a b c : Store} (h₁ : StoreEq a b) (h₂ : StoreEq b c) : StoreEq a c :=
  fun k => (h₁ k).trans (h₂ k)

@[simp] theorem Store.get?_erase_self (s : Store) (k : Key) : (s.erase k).get? k = none := by
  simp [Store.get?_erase]

theorem Store.get?_erase_ne (s : Store) {k k' : Key} (h : k' ≠ k) :
    (s.erase k).get? k' = s.get? k' := by
  simp [Store.get?_erase, h]

theorem Store.get?_append (s t : Store) (k : Key) :
    Store.get? (s ++ t) k = (s.get? k).or (t.get? k) := by
  simp [Store.get?, List.lookup_append]

@[simp] theorem Store.get?_put_self (s : Store) (k : Key) (v : FileVal) :
    (s.put k v).get? k = some v := by
  simp [Store.get?_put]

theorem Store.get?_put_ne (s : Store) {k k' : Key} (v : FileVal) (h : k' ≠ k) :
    (s.put k v).get? k' = s.get? k' := by
  simp [Store.get?_put, h]

theorem Store.get?_put_ite (s : Store) (k k' : Key) (v : FileVal) :
    (s.put k v).get? k' = if k' = k then some v else s.get? k' := Store.get?_put s k k' v

/-- Erasing a key that is absent changes nothing (not even the list). -/
theorem Store.erase_absent (s : Store) (k : Key) (h : s.get? k = none) : s.erase k = s := by
  induction s with
  | nil => rfl
  | cons kv s ih =>
    obtain ⟨k', v⟩ := kv
    simp only [Store.get?, List.lookup_cons] at h
    by_cases hk : k = k'
    · subst hk; simp at h
    · have hb : (k == k') = false := by simpa using hk
      simp only [hb] at h
      have hne : (k' != k) = true := by simpa using (Ne.symm hk)
      simp only [Store.erase, List.filter_cons, hne, if_true]
      congr 1
      exact ih h

theorem Store.erase_put_absent (s : Store) (k : Key) (v : FileVal) (h : s.get? k = none) :
    (s.put k v).erase k = s := by
  have h0 := Store.erase_absent s k h
  simp only [Store.put, h0]
  simp only [Store.erase, List.filter_append] at h0 ⊢
  rw [h0]
  simp

theorem Store.erase_comm (s : Store) (k k' : Key) : (s.erase k).erase k' = (s.erase k').erase k := by
  simp only [Store.erase, List.filter_filter]
  congr 1
  funext kv
  exact Bool.and_comm _ _

theorem parentOk_of_dir {s : Store} {k p : Key} (hp : k.parent = some p) (h : s.get? p = some .dir) :
    s.parentOk k = true := by
  simp [Store.parentOk, hp, h]

theorem hunkAt_eq_some_iff {s : Store} {b n : Nat} {es : List IndexEntry} :
    hunkAt s b n = some es ↔ s.get? (.hunk b n) = some (.hunk es) := by
  simp only [hunkAt]
  split
  · rename_i es' h; simp [h]
  · rename_i h
    exact ⟨fun x => (nomatch x), fun x => absurd x (h es)⟩

/-- The band whose directory `k` is, or lies under. -/
def Key.bandOf : Key → Option Nat
  | .bandDir b | .bandHead b | .bandTail b | .indexDir b | .hunkDir b _ | .hunk b _ => some b
  | _ => none

theorem isUnder_bandDir (b : Nat) (k : Key) : Key.isUnder (.bandDir b) k = (k.bandOf == some b) := by
  rw [Bool.eq_iff_iff]
  cases k <;> simp [Key.isUnder, Key.parent, Key.bandOf]

theorem isUnder_bandDir_iff {b : Nat} {k : Key} : Key.isUnder (.bandDir b) k = true ↔ k.bandOf = some b := by
  rw [isUnder_bandDir, beq_iff_eq]

theorem isUnder_bandDir_bandDir (b b' : Nat) : Key.isUnder (.bandDir b) (.bandDir b') = (b' == b) := by
  simp [isUnder_bandDir, Key.bandOf]

theorem Store.get?_eraseTree_bandDir (s : Store) (b b' : Nat) :
    (s.eraseTree (.bandDir b)).get? (.bandDir b') = if b' = b then none else s.get? (.bandDir b') := by
  rw [Store.get?_eraseTree, isUnder_bandDir_bandDir]; simp

theorem bandOf_of_parent {k k' : Key} {b : Nat} (hp : k'.parent = some k) (hk : k.bandOf = some b) :
    k'.bandOf = some b := by
  cases k' <;> simp [Key.parent] at hp <;> subst hp <;> first | exact hk | cases hk

theorem isUnder_bandDir_of_parent {k k' : Key} {b : Nat} (hp : k'.parent = some k) (hk : k.bandOf = some b) :
    Key.isUnder (.bandDir b) k' = true :=
  isUnder_bandDir_iff.2 (bandOf_of_parent hp hk)

theorem isUnder_bandDir_of_bandOf_none {b : Nat} {k : Key} (h : k.bandOf = none) :
    Key.isUnder (.bandDir b) k = false := by
  rw [isUnder_bandDir, h]; rfl

theorem isUnder_bandDir_unique {k : Key} {b b' : Nat} (h1 : Key.isUnder (.bandDir b) k = true)
    (h2 : Key.isUnder (.bandDir b') k = true) : b = b' :=
  Option.some.inj ((isUnder_bandDir_iff.1 h1).symm.trans (isUnder_bandDir_iff.1 h2))

theorem isUnder_bandDir_other {k : Key} {m b : Nat} (h : Key.isUnder (.bandDir m) k = true) (hne : m ≠ b) :
    Key.isUnder (.bandDir b) k = false :=
  Bool.eq_false_iff.2 fun hb => hne (isUnder_bandDir_unique h hb)

/-- No key occurs twice in the association list. -/
def UniqueKeys (s : Store) : Prop := s.Pairwise fun a a' => a.1 ≠ a'.1

instance (s : Store) : Decidable (UniqueKeys s) := by unfold UniqueKeys; infer_instance

theorem uniqueKeys_iff_nodup (s : Store) : UniqueKeys s ↔ (s.map Prod.fst).Nodup := by
  rw [UniqueKeys, List.Nodup, List.pairwise_map]

theorem Store.mem_iff_get? {s : Store} (hn : UniqueKeys s) {k : Key} {v : FileVal} :
    (k, v) ∈ s ↔ s.get? k = some v := ⟨Store.get?_of_mem_nodup ((uniqueKeys_iff_nodup s).1 hn), Store.mem_of_get?⟩

theorem UniqueKeys.filter {s : Store} (hn : UniqueKeys s) (p : Key × FileVal → Bool) :
    UniqueKeys (s.filter p) := List.Pairwise.sublist List.filter_sublist hn

/-- `readBack` only looks at the blocks the addresses name. -/
theorem readBack_congr (H : Str → Str) {s s' : Store} (as : List Addr)
    (h : ∀ a ∈ as, s'.get? (.block a.hash) = s.get? (.block a.hash)) :
    readBack H s' as = readBack H s as := by
  induction as with
  | nil => rfl
  | cons a as ih =>
    have h1 : readAddrPure H s' a = readAddrPure H s a := by
      simp only [readAddrPure, blockContent, h a (List.mem_cons_self ..)]
    simp only [readBack, h1, ih fun a' ha' => h a' (List.mem_cons_of_mem _ ha')]

end Conserve
