import ConserveModel.Proofs.ValidateLens
import ConserveModel.Proofs.NoPanicContain
import ConserveModel.Proofs.ConformsStore
/-
From `Conforms` (Invariants.lean) to "validate reports nothing": what `bandConforms` /
`blocksConform` say, clause by clause, and why the checks of `check_index_hunks`,
`IndexEntry::check` and the block checks accept it.  No property statements.
-/
set_option linter.unusedSimpArgs false
namespace Conserve

theorem filterMap_length_eq {α β : Type} {f : α → Option β} {l : List α}
    (h : (l.filterMap f).length = l.length) : ∀ x ∈ l, (f x).isSome = true := by
  induction l with
  | nil => intro x hx; simp at hx
  | cons a l ih =>
    intro x hx
    have hle := List.length_filterMap_le f l
    cases hf : f a with
    | none =>
      simp only [List.filterMap_cons, hf, List.length_cons] at h
      omega
    | some y =>
      simp only [List.filterMap_cons, hf, List.length_cons, Nat.add_right_cancel_iff] at h
      rcases List.mem_cons.mp hx with rfl | hx
      · simp [hf]
      · exact ih h x hx

/-- The decodable content of a hunk file. -/
def selHunk : Option FileVal → Option (List IndexEntry)
  | some (.hunk es) => some es
  | _ => none

theorem selHunk_isSome {v : Option FileVal} (h : (selHunk v).isSome = true) :
    ∃ es, v = some (.hunk es) := by
  unfold selHunk at h
  split at h
  · exact ⟨_, rfl⟩
  · simp at h

/-- What `bandConforms` says about one version, clause by clause. -/
structure BandOK (H : Str → Str) (s : Store) (b : Nat) : Prop where
  range : hunkNumsOf s b = List.range (hunkNumsOf s b).length
  vals : ∀ n ∈ hunkNumsOf s b, (∃ es, s.get? (.hunk b n) = some (.hunk es)) ∨
    (s.get? (.hunk b n) = some .empty ∧ s.get? (.bandTail b) = none ∧ n + 1 = (hunkNumsOf s b).length)
  entries : ∀ n ∈ hunkNumsOf s b, ∀ es, s.get? (.hunk b n) = some (.hunk es) →
    ∀ e ∈ es, entryConforms H s e = true
  nonempty : ∀ n ∈ hunkNumsOf s b, ∀ es, s.get? (.hunk b n) = some (.hunk es) → es ≠ []
  sorted : strictlySorted ((((hunkNumsOf s b).filterMap fun n => selHunk (s.get? (.hunk b n))).flatten).map
    (·.apath)) = true
  tail : s.get? (.bandTail b) = none ∨
    ((s.get? (.bandTail b) = some (.tail (some (hunkNumsOf s b).length)) ∨ s.get? (.bandTail b) = some .empty) ∧
      ∀ n ∈ hunkNumsOf s b, ∃ es, s.get? (.hunk b n) = some (.hunk es))

theorem bandConforms_unfold (H : Str → Str) (s : Store) (b : Nat) :
    bandConforms H s b =
      (let nums := hunkNumsOf s b
       let vals := nums.map fun n => s.get? (.hunk b n)
       let decoded := vals.filterMap selHunk
       let lastIsLeftover := vals.getLast? == some (some .empty)
       let complete := isComplete s b
       nums == List.range nums.length &&
       (decoded.length == vals.length || (!complete && lastIsLeftover && decoded.length + 1 == vals.length)) &&
       decoded.all (fun es => !es.isEmpty) &&
       (decoded.flatten).all (entryConforms H s) &&
       strictlySorted ((decoded.flatten).map (·.apath)) &&
       (match s.get? (.bandTail b) with
        | none => true
        | some (.tail (some n)) => n == nums.length && decoded.length == vals.length
        | some .empty => decoded.length == vals.length
        | some _ => false) &&
       (match s.get? (.bandHead b) with
        | some (.head _ _) => true
        | some .empty => nums.isEmpty && !complete
        | none => nums.isEmpty && !complete
        | some _ => false)) := rfl

theorem bandOK_of_conforms {H : Str → Str} {s : Store} {b : Nat} (h : bandConforms H s b = true) :
    BandOK H s b := by
  rw [bandConforms_unfold] at h
  simp only [Bool.and_eq_true, beq_iff_eq] at h
  obtain ⟨⟨⟨⟨⟨⟨hrange, hlen⟩, hnonempty⟩, hconf⟩, hsorted⟩, htail⟩, _⟩ := h
  rw [List.filterMap_map] at hconf hsorted hnonempty
  have hall : (((hunkNumsOf s b).map fun n => s.get? (.hunk b n)).filterMap selHunk).length =
      ((hunkNumsOf s b).map fun n => s.get? (.hunk b n)).length →
      ∀ n ∈ hunkNumsOf s b, ∃ es, s.get? (.hunk b n) = some (.hunk es) := by
    intro hl n hn
    exact selHunk_isSome (filterMap_length_eq hl _ (List.mem_map.mpr ⟨n, hn, rfl⟩))
  have htail' : s.get? (.bandTail b) = none ∨
      ((s.get? (.bandTail b) = some (.tail (some (hunkNumsOf s b).length)) ∨ s.get? (.bandTail b) = some .empty) ∧
        ∀ n ∈ hunkNumsOf s b, ∃ es, s.get? (.hunk b n) = some (.hunk es)) := by
    cases ht : s.get? (.bandTail b) with
    | none => exact Or.inl rfl
    | some v =>
      rw [ht] at htail
      cases v with
      | tail c =>
        cases c with
        | none => simp at htail
        | some c =>
          simp only [Bool.and_eq_true, beq_iff_eq] at htail
          exact Or.inr ⟨Or.inl (by rw [htail.1]), hall htail.2⟩
      | empty =>
        simp only [beq_iff_eq] at htail
        exact Or.inr ⟨Or.inr rfl, hall htail⟩
      | _ => simp at htail
  refine ⟨hrange, ?_, ?_, ?_, hsorted, htail'⟩
  rotate_left 2
  · intro n hn es hg he
    rw [List.all_eq_true] at hnonempty
    have := hnonempty es (List.mem_filterMap.mpr ⟨n, hn, by simp [hg, selHunk]⟩)
    simp [he] at this
  · simp only [Bool.or_eq_true, beq_iff_eq, Bool.and_eq_true, Bool.not_eq_true'] at hlen
    rcases hlen with hl | ⟨⟨hcomp, hlast⟩, hl⟩
    · intro n hn; exact Or.inl (hall hl n hn)
    · -- the last hunk file is the zero-length leftover; all others decode
      have htn : s.get? (.bandTail b) = none := by
        rcases htail' with h | ⟨h | h, _⟩
        · exact h
        · simp [isComplete, h, FileVal.isDir] at hcomp
        · simp [isComplete, h, FileVal.isDir] at hcomp
      obtain ⟨ys, hys⟩ := List.getLast?_eq_some_iff.mp hlast
      intro n hn
      generalize hm : (hunkNumsOf s b).length = m at hrange hl
      have hm' : m = ys.length + 1 := by
        have := congrArg List.length hys
        simp only [List.length_map, List.length_append, List.length_singleton] at this
        omega
      subst hm'
      rw [hrange, List.range_succ, List.map_append, List.map_singleton] at hys
      have hlen' : ((List.range ys.length).map fun n => s.get? (.hunk b n)).length = ys.length := by simp
      obtain ⟨h1, h2⟩ := List.append_inj hys hlen'
      rw [hrange] at hn
      rw [List.mem_range] at hn
      by_cases hlt : n < ys.length
      · left
        have hl2 : (ys.filterMap selHunk).length = ys.length := by
          rw [hrange, List.range_succ, List.map_append, List.map_singleton, h1] at hl
          simp only [List.singleton_inj] at h2
          rw [h2] at hl
          simp only [List.filterMap_append, List.length_append, List.length_map, List.length_range,
            List.length_singleton] at hl
          simp only [List.filterMap_cons, selHunk, List.filterMap_nil, List.length_nil] at hl
          omega
        have := filterMap_length_eq hl2 (s.get? (.hunk b n))
          (by rw [← h1]; exact List.mem_map.mpr ⟨n, List.mem_range.mpr hlt, rfl⟩)
        exact selHunk_isSome this
      · right
        have : n = ys.length := by omega
        subst this
        simp only [List.singleton_inj] at h2
        exact ⟨h2, htn, rfl⟩
  · intro n hn es hg e he
    rw [List.all_eq_true] at hconf
    apply hconf e
    rw [List.mem_flatten]
    exact ⟨es, List.mem_filterMap.mpr ⟨n, hn, by simp [hg, selHunk]⟩, he⟩

theorem parent_dir {s : Store} (hd : DirsOk s) {k p : Key} {v : FileVal} (h : s.get? k = some v)
    (hp : k.parent = some p) : s.get? p = some .dir := by
  have := hd.parent_of_get? h
  simpa [Store.parentOk, hp] using this

theorem bandDir_of_head {s : Store} (hd : DirsOk s) {b : Nat} {v : FileVal}
    (h : s.get? (.bandHead b) = some v) : b ∈ bandIdsOf s :=
  mem_bandIdsOf'.mpr (Store.mem_of_get? (parent_dir hd h rfl))

theorem indexDir_of_hunk {s : Store} (hd : DirsOk s) {b n : Nat} {v : FileVal}
    (h : s.get? (.hunk b n) = some v) : s.get? (.indexDir b) = some .dir :=
  parent_dir hd (parent_dir hd h rfl) rfl

theorem bandDir_of_hunk {s : Store} (hd : DirsOk s) {b n : Nat} {v : FileVal}
    (h : s.get? (.hunk b n) = some v) : b ∈ bandIdsOf s :=
  mem_bandIdsOf'.mpr (Store.mem_of_get? (parent_dir hd (indexDir_of_hunk hd h) rfl))

theorem mem_chain_bandIds {s : Store} (hd : DirsOk s) {n x : Nat} (hn : n ∈ bandIdsOf s)
    (hx : x ∈ chain s n) : x ∈ bandIdsOf s := by
  unfold chain at hx
  rcases List.mem_cons.mp hx with rfl | hx
  · exact hn
  · by_cases hc : isComplete s n = true
    · simp [hc] at hx
    · simp only [hc] at hx
      have := chainBelow_present hx
      unfold bandPresent at this
      cases hg : s.get? (.bandHead x) with
      | none => simp [hg] at this
      | some v => exact bandDir_of_head hd hg

theorem badEmptyHunk_all_nonEmpty (c : Bool) (l : List (Nat × Bool)) (h : ∀ p ∈ l, p.2 = true) :
    badEmptyHunk c l = false := by
  cases c
  · rw [NP.badEmptyHunk_open, List.any_eq_false]
    exact fun p hp => by simp [h p (List.dropLast_subset l hp)]
  · rw [NP.badEmptyHunk_closed, List.any_eq_false]
    exact fun p hp => by simp [h p hp]

theorem entryUsable_of_conforms {H : Str → Str} {s : Store} {e : IndexEntry} (hc : entryConforms H s e = true)
    (ht : (entryTimeNs e.mtime e.mtimeNanos).isSome = true)
    (ha : ∀ a ∈ e.addrs, a.start + a.len < 18446744073709551616) : entryUsable e = true := by
  unfold entryConforms at hc
  unfold entryUsable
  simp only [Bool.and_eq_true] at hc ⊢
  obtain ⟨hv, hk⟩ := hc
  have hall : (e.addrs.all fun a => decide (a.start + a.len < 18446744073709551616)) = true := by
    rw [List.all_eq_true]; intro a h; simpa using ha a h
  cases hkind : e.kind with
  | file => rw [hkind] at hk; simp [hv, ht, hall]
  | dir => rw [hkind] at hk; simp [hv, ht, hall]
  | symlink =>
    rw [hkind] at hk
    simp only [Bool.and_eq_true] at hk
    simp [hv, ht, hall, hk.2]
  | unknown => rw [hkind] at hk; simp at hk

/-- A usable hunk is the decodable hunk, or nothing (an entry fails `IndexEntry::check`), or the
zero-length leftover. -/
theorem usableHunk_cases (s : Store) (b n : Nat) :
    usableHunk s b n = selHunk (s.get? (.hunk b n)) ∨ usableHunk s b n = none ∨ usableHunk s b n = some [] := by
  unfold usableHunk selHunk
  cases hg : s.get? (.hunk b n) with
  | none => exact .inl rfl
  | some v =>
    cases v with
    | hunk es => by_cases hu : es.all entryUsable = true <;> simp [hu]
    | empty => exact .inr (.inr rfl)
    | _ => exact .inl rfl

theorem flatten_filterMap_sublist {α β : Type} {f g : α → Option (List β)} {l : List α}
    (h : ∀ x ∈ l, f x = g x ∨ f x = none ∨ f x = some []) :
    ((l.filterMap f).flatten).Sublist ((l.filterMap g).flatten) := by
  induction l with
  | nil => exact List.Sublist.refl _
  | cons a l ih =>
    have ih := ih (fun x hx => h x (List.mem_cons_of_mem _ hx))
    rcases h a (List.mem_cons_self ..) with he | he | he
    · simp only [List.filterMap_cons, he]
      cases g a with
      | none => exact ih
      | some es => simp only [List.flatten_cons]; exact List.Sublist.append (List.Sublist.refl _) ih
    · simp only [List.filterMap_cons, he]
      cases g a with
      | none => exact ih
      | some es => simp only [List.flatten_cons]; exact ih.trans (List.sublist_append_right _ _)
    · simp only [List.filterMap_cons, he, List.flatten_cons, List.nil_append]
      cases g a with
      | none => exact ih
      | some es => simp only [List.flatten_cons]; exact ih.trans (List.sublist_append_right _ _)

/-- **`Conforms`, a map, a tree → `ArchWF`.**  The documented format (strictly increasing paths over
the DECODABLE hunks of each version) gives C08's well-formedness (strictly increasing over the USABLE
hunks).  Values out of range only remove hunks from the usable ones. -/
theorem archWF_of_conforms {H : Str → Str} {s : Store} (hc : Conforms H s = true) (nd : keysNodup s = true)
    (tr : treeShaped s = true) : ArchWF s := by
  refine .of_sortedOwn nd tr fun b => ?_
  by_cases hb : b ∈ bandIdsOf s
  · have hs := (bandOK_of_conforms (((Conf.conforms_iff H).1 hc).2.2.2.2 b hb)).sorted
    rw [strictlySorted_iff, List.pairwise_map] at hs
    -- the usable entries are a sub-list of the decodable ones
    exact hs.sublist (flatten_filterMap_sublist fun n _ => usableHunk_cases s b n)
  · have : hunkNumsOf s b = [] := List.eq_nil_iff_forall_not_mem.2 fun n hn =>
      let ⟨_, hm, _⟩ := mem_hunkNumsOf.1 hn
      hb (bandDir_of_hunk (.of_treeShaped tr) (Store.get?_of_mem_nodup (by simpa [keysNodup] using nd) hm))
    simp [ownEntries, this, SortedE]

section
variable {H : Str → Str} {s : Store}

theorem Good.dirsOk (g : Good H s) : DirsOk s := .of_treeShaped g.tree

theorem Good.uniqueKeys (g : Good H s) : UniqueKeys s := .of_keysNodup g.nodup

theorem Good.bandOK (g : Good H s) {b : Nat} (hb : b ∈ bandIdsOf s) : BandOK H s b :=
  bandOK_of_conforms (((Conf.conforms_iff H).1 g.conforms).2.2.2.2 b hb)

theorem Good.root (g : Good H s) : s.get? .root = some .dir := ((Conf.conforms_iff H).1 g.conforms).2.1

theorem Good.blockRoot (g : Good H s) : s.get? .blockRoot = some .dir := ((Conf.conforms_iff H).1 g.conforms).2.2.1

theorem Good.header (g : Good H s) : s.get? .header = some (.header [48, 46, 54]) :=
  ((Conf.conforms_iff H).1 g.conforms).1

theorem Good.block (g : Good H s) {h : Str} {v : FileVal} (hg : s.get? (.block h) = some v) :
    v = .empty ∨ ∃ c, v = .blockData c ∧ H c = h := by
  have := ((Conf.conforms_iff H).1 g.conforms).2.2.2.1
  simp only [blocksConform, List.all_eq_true] at this
  have := this _ (Store.mem_of_get? hg)
  cases v <;> simp at this ⊢
  exact this

theorem Good.blockName_len (g : Good H s) {h : Str} {v : FileVal} (hg : s.get? (.block h) = some v) :
    subdirNameChars ≤ h.length := by
  have hp := parent_dir g.dirsOk hg rfl
  have := ((Conf.conforms_iff H).1 g.conforms).2.2.2.1
  simp only [blocksConform, List.all_eq_true] at this
  have := this _ (Store.mem_of_get? hp)
  simp only [FileVal.isDir, Bool.true_and, beq_iff_eq, List.length_take] at this
  omega

theorem Good.hunkError_none (g : Good H s) {b k : Nat} (hb : b ∈ bandIdsOf s) (hk : k ∈ hunkNumsOf s b) :
    hunkError s b k = none := by
  have ok := g.bandOK hb
  unfold hunkError
  rcases ok.vals k hk with ⟨es, he⟩ | ⟨he, _, _⟩
  · rw [he]
    have : es.all entryUsable = true := by
      rw [List.all_eq_true]
      intro e hee
      have hr := g.inRange
      simp only [entriesInRange, List.all_eq_true] at hr
      have hr := hr _ (Store.mem_of_get? he)
      simp only [List.all_eq_true] at hr
      have hr := hr e hee
      simp only [entryInRange, Bool.and_eq_true, List.all_eq_true, decide_eq_true_eq] at hr
      exact entryUsable_of_conforms (ok.entries k hk es he e hee) hr.1 hr.2
    simp [this]
  · rw [he]

theorem Good.archWF (g : Good H s) : ArchWF s := archWF_of_conforms g.conforms g.nodup g.tree

theorem Good.archOK (g : Good H s) : ArchOK s := ⟨g.archWF, g.root, g.blockRoot⟩

/-- `check_index_hunks` accepts a version that conforms. -/
theorem BandOK.indexCheck_none {b : Nat} (ok : BandOK H s b) : indexCheckError s b = none := by
  have hne : ∀ n, (∃ es, s.get? (.hunk b n) = some (.hunk es)) → hunkNonEmpty s b n = true := by
    rintro n ⟨es, he⟩
    simp [hunkNonEmpty, he]
  have hbad : badEmptyHunk (tailInfo s b).1 ((hunkNumsOf s b).map fun n => (n, hunkNonEmpty s b n)) = false := by
    rcases ok.tail with ht | ⟨_, hall⟩
    · -- no tail: the last hunk may be a zero-length leftover
      have hti : tailInfo s b = (false, none) := by simp [tailInfo, ht]
      rw [hti, NP.badEmptyHunk_open, List.any_eq_false]
      intro p hp
      have hr := ok.range
      generalize hm : (hunkNumsOf s b).length = m at hr
      cases m with
      | zero => rw [hr] at hp; cases hp
      | succ m =>
        rw [hr, List.range_succ, List.map_append, List.map_singleton, List.dropLast_concat] at hp
        obtain ⟨n, hn, rfl⟩ := List.mem_map.mp hp
        have hn := List.mem_range.mp hn
        rcases ok.vals n (by rw [hr]; exact List.mem_range.mpr (by omega)) with hd | ⟨_, _, hl⟩
        · simp [hne n hd]
        · omega
    · apply badEmptyHunk_all_nonEmpty
      intro p hp
      obtain ⟨n, hn, rfl⟩ := List.mem_map.mp hp
      exact hne n (hall n hn)
  have hcount : countMismatch (tailInfo s b).2 (hunkNumsOf s b).length = false := by
    rcases ok.tail with ht | ⟨ht | ht, _⟩ <;> simp [tailInfo, ht, countMismatch]
  exact NP.indexCheckError_eq_none_iff.mpr ⟨ok.range, hcount, hbad⟩

theorem Good.indexCheck_none (g : Good H s) {b : Nat} (hb : b ∈ bandIdsOf s) : indexCheckError s b = none :=
  (g.bandOK hb).indexCheck_none

/-- In a healthy archive no version has lost its head: whatever holds a hunk has a readable head. -/
theorem Good.headLost_false (g : Good H s) (c : Nat) : headLost s c = false := by
  unfold headLost
  cases hg : s.get? (.hunk c 0) with
  | none => simp
  | some v => simp [bandPresent_of_readable (g.heads c (bandDir_of_hunk g.dirsOk hg))]

theorem Good.listErrors_nil (g : Good H s) {b : Nat} (hb : b ∈ bandIdsOf s) : listErrors s b = [] := by
  apply C08.stitch_silent
  · intro x hx
    have hxb := mem_chain_bandIds g.dirsOk hb hx
    exact ⟨g.heads x hxb, g.indexCheck_none hxb, fun k hk => g.hunkError_none hxb hk⟩
  · exact fun c _ => g.headLost_false c

theorem Good.headError_none (g : Good H s) {b : Nat} (hb : b ∈ bandIdsOf s) : headError s b = none := by
  have := ((bandReadable_iff s b).mp (g.heads b hb)).1
  rw [headError_eq] at this
  cases hh : headError s b with
  | none => rfl
  | some e => rw [hh] at this; simp at this

def Resolves (H : Str → Str) (s : Store) (h : Str) (n : Nat) : Prop :=
  ∃ c, s.get? (.block h) = some (.blockData c) ∧ H c = h ∧ n ≤ c.length

theorem resolves_of_readAddrPure {a : Addr} (h : (readAddrPure H s a).isSome = true) :
    Resolves H s a.hash (a.start + a.len) := by
  unfold readAddrPure blockContent at h
  cases hg : s.get? (.block a.hash) with
  | none => simp [hg] at h
  | some v =>
    cases v with
    | blockData c =>
      by_cases hc : H c = a.hash
      · simp only [hg, hc, if_true, Option.bind_some, sliceOf] at h
        by_cases hl : a.start + a.len ≤ c.length
        · exact ⟨c, hg, hc, hl⟩
        · simp [hl] at h
      · simp [hg, hc] at h
    | _ => simp [hg] at h

theorem Good.listed_conforms (g : Good H s) {n : Nat} {e : IndexEntry} (he : e ∈ listSpec s n) :
    entryConforms H s e = true := by
  obtain ⟨b, k, es, hg, _, hee⟩ := C08.listed_is_stored he
  have hb := bandDir_of_hunk g.dirsOk hg
  exact (g.bandOK hb).entries k (hunkNumsOf_of_get? hg rfl) es hg e hee

theorem Good.referenced_resolve (g : Good H s) : ∀ p ∈ referencedOf s, Resolves H s p.1 p.2 := by
  apply referenced_inv (Resolves H s)
  · rintro h a b ⟨c, hg, hc, hl⟩ ⟨c', hg', _, hl'⟩
    rw [hg] at hg'
    cases hg'
    exact ⟨c, hg, hc, Nat.max_le.mpr ⟨hl, hl'⟩⟩
  · intro b _ _ e he hk a ha
    have hc := g.listed_conforms he
    unfold entryConforms at hc
    rw [hk] at hc
    simp only [Bool.and_eq_true, List.all_eq_true] at hc
    exact resolves_of_readAddrPure (hc.2.2 a ha)

theorem Good.resolves_present (g : Good H s) {h : Str} {n : Nat} (hr : Resolves H s h n) :
    h ∈ blockNamesOf s := by
  obtain ⟨c, hg, _, _⟩ := hr
  exact (mem_blockNamesOf g.uniqueKeys g.dirsOk).mpr ⟨⟨_, hg, rfl, rfl⟩, g.blockName_len hg⟩

theorem blockRead_of_resolves {h : Str} {n : Nat} (hr : Resolves H s h n) :
    ∃ c, blockRead H s h = .ok c ∧ n ≤ c.length := by
  obtain ⟨c, hg, hc, hl⟩ := hr
  exact ⟨c, by simp [blockRead, hg, hc], hl⟩

/-- **Healthy ⇒ silent**, on the specification side. -/
theorem Good.validateErrors_nil (g : Good H s) (quick : Bool) : validateErrors H quick s = [] := by
  unfold validateErrors
  have hbands : (bandIdsOf s).flatMap (bandValidateErrors s) = [] := by
    rw [List.flatMap_eq_nil_iff]
    intro b hb
    simp [bandValidateErrors, g.headError_none hb, g.listErrors_nil hb]
  rw [hbands, List.nil_append]
  cases quick with
  | true =>
    simp only [if_true, List.filterMap_eq_nil_iff]
    intro p hp
    have := g.resolves_present (g.referenced_resolve p hp)
    simp [refErrorQuick, this]
  | false =>
    simp only [Bool.false_eq_true, if_false, List.append_eq_nil_iff, List.filterMap_eq_nil_iff]
    constructor
    · intro h hh
      have hh' : h ∈ blockNamesOf s := by simpa [presentSorted, List.mem_mergeSort] using hh
      obtain ⟨⟨v, hg, hnd, hne⟩, _⟩ := (mem_blockNamesOf g.uniqueKeys g.dirsOk).mp hh'
      rcases g.block hg with rfl | ⟨c, rfl, hc⟩
      · simp [FileVal.isEmptyFile] at hne
      · simp [blockReadError, blockRead, hg, hc]
    · intro p hp
      have hr := g.referenced_resolve p hp
      obtain ⟨c, hc, hl⟩ := blockRead_of_resolves hr
      have : ¬ p.2 > c.length := by omega
      simp [refErrorFull, g.resolves_present hr, hc, this]

end

end Conserve
