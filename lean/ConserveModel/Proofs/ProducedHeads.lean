import ConserveModel.Proofs.ProducedOps
/-
C09 (first sentence), "interrupted-WITH-header": in a world without injected faults whose crash
point (if any) lies at least four mutating micro-steps ahead — `mkdir bNNNN`, `mkdir bNNNN/i`, and
the two micro-steps of the head write — `backup` keeps "every version directory has a readable head
and an index directory" (`backup_headsOK`); `delete_bands` keeps it in every world
(`delete_headsOK`).  No property statements here.
-/
namespace Conserve.Rng
open Conserve Conserve.Inv Conserve.Conf Prog

/-- Alive, no injected faults, `CreateNew` honoured, and the next `n` mutating micro-steps are not
the crash point. -/
def Late (n : Nat) (w : World) : Prop :=
  w.dead = false ∧ w.faults = [] ∧ w.enforceCreateNew = true ∧ ∀ j, w.crashAt = some j → w.steps + n ≤ j

theorem Late.faultFor {n : Nat} {w : World} (h : Late n w) (o : Op) : w.faultFor o = none := by
  simp [World.faultFor, h.2.1]

theorem Late.noCrash {n : Nat} {w : World} (h : Late n w) (i : Nat) (hi : i < n) :
    w.crashesAt (w.steps + i) = false := by
  simp only [World.crashesAt, beq_eq_false_iff_ne, ne_eq]
  intro hj
  have := h.2.2.2 _ hj
  omega

theorem Late.mono {n m : Nat} {w : World} (h : Late n w) (hm : m ≤ n) : Late m w :=
  ⟨h.1, h.2.1, h.2.2.1, fun j hj => by have := h.2.2.2 j hj; omega⟩

/-- With the crash point at least `m` micro-steps ahead, an operation that takes at most `m` of them is
carried out (`World.applied`), and the crash point is `m` micro-steps nearer at most. -/
theorem Late.exec {n m : Nat} {w : World} (h : Late (n + m) w) (o : Op)
    (hm : ∀ r, o.microSteps r ≤ m) (hmut : o.isMutating = true → 0 < m) :
    w.exec o = w.applied o ∧ Late n (w.applied o).1 := by
  refine ⟨World.exec_eq_applied h.1 (h.faultFor o)
    (fun hu => by simpa using h.noCrash 0 (by have := hmut hu; omega))
    (fun h2 => h.noCrash 1 (by have := hm (applyOp w.enforceCreateNew w.store o).2; omega)), ?_⟩
  refine ⟨h.1, h.2.1, h.2.2.1, fun j hj => ?_⟩
  have := h.2.2.2 j hj
  have := hm (applyOp w.enforceCreateNew w.store o).2
  show w.steps + o.microSteps _ + n ≤ j
  omega

/-- A read-only operation in such a world: the store and the distance to the crash point stay. -/
theorem late_exec_ro {n : Nat} {w : World} (h : Late n w) {o : Op} (ho : ReadOnly o) :
    Late n (w.exec o).1 ∧ (w.exec o).1.store = w.store := by
  have hm : ∀ r, o.microSteps r ≤ 0 := by
    cases o <;> first | exact ho.elim | (intro r; cases r <;> simp [Op.microSteps])
  obtain ⟨he, hl⟩ := Late.exec (m := 0) h o hm (by rw [ho.not_mutating]; exact fun h => nomatch h)
  rw [he]
  exact ⟨hl, applyOp_readOnly_store ho⟩

theorem late_run_ro {α : Type} {n : Nat} {p : Prog α} (hp : Prog.AllOps ReadOnly p) (w : World) (h : Late n w) :
    Late n (p.run w).2 ∧ (p.run w).2.store = w.store :=
  Prog.run_world_inv (P := ReadOnly) (I := fun w' => Late n w' ∧ w'.store = w.store)
    (fun _ _ h => h)
    (fun _ _ ho ⟨hl, hs⟩ => ⟨(late_exec_ro hl ho).1, (late_exec_ro hl ho).2.trans hs⟩) hp w ⟨h, rfl⟩

theorem late_exec_createDir {n : Nat} {w : World} (h : Late (n + 1) w) (k : Key) :
    (w.exec (.createDir k)).2 = (applyOp true w.store (.createDir k)).2 ∧
    (w.exec (.createDir k)).1.store = (applyOp true w.store (.createDir k)).1 ∧
    Late n (w.exec (.createDir k)).1 := by
  obtain ⟨he, hl⟩ := h.exec (.createDir k) (fun r => by cases r <;> simp [Op.microSteps]) (fun _ => Nat.one_pos)
  rw [he, World.applied, h.2.2.1] at *
  exact ⟨rfl, rfl, hl⟩

/-- A `write` with the crash point at least two micro-steps ahead: both micro-steps happen. -/
theorem late_exec_write {n : Nat} {w : World} (h : Late (n + 2) w) (k : Key) (v : FileVal) (m : WriteMode) :
    ((applyOp true w.store (.write k v m)).2 = .unit →
      (w.exec (.write k v m)).2 = .unit ∧ (w.exec (.write k v m)).1.store = w.store.put k v) ∧
    ((applyOp true w.store (.write k v m)).2 ≠ .unit →
      (w.exec (.write k v m)).2 ≠ .unit ∧ (w.exec (.write k v m)).1.store = w.store) := by
  obtain ⟨he, _⟩ := h.exec (.write k v m) (fun r => by cases r <;> simp [Op.microSteps]) (fun _ => Nat.two_pos)
  rw [he, World.applied, h.2.2.1]
  rcases applyOp_write_store true w.store k v m with ⟨hr, hs⟩ | ⟨⟨e, hr⟩, hs⟩
  · exact ⟨fun _ => ⟨hr, hs⟩, fun hu => absurd hr hu⟩
  · exact ⟨fun hu => (by rw [hr] at hu; cases hu), fun _ => ⟨(by rw [hr]; exact fun h => nomatch h), hs⟩⟩

theorem run_performUnit_bind_unit {β : Type} (o : Op) (f : Unit → Prog β) (w : World)
    (h : (w.exec o).2 = .unit) : ((performUnit o).bind f).run w = (f ()).run (w.exec o).1 := by
  unfold performUnit perform
  simp only [Prog.bind_def, Prog.op_bind, Prog.ret_bind, Prog.run_op, h, Prog.pure_def]

theorem run_performUnit_bind_fail {β : Type} (o : Op) (f : Unit → Prog β) (w : World)
    (h : (w.exec o).2 ≠ .unit) : (((performUnit o).bind f).run w).2 = (w.exec o).1 := by
  unfold performUnit perform
  simp only [Prog.bind_def, Prog.op_bind, Prog.ret_bind, Prog.run_op, Prog.pure_def]
  cases hr : (w.exec o).2 with
  | unit => exact absurd hr h
  | err e => simp
  | val v => simp
  | listing xs => simp
  | stat a b => simp

theorem applyOp_createDir_fail {e : Bool} {s : Store} {k : Key} (h : (applyOp e s (.createDir k)).2 ≠ .unit) :
    (applyOp e s (.createDir k)).1 = s := by
  simp only [applyOp] at h ⊢
  split
  · rfl
  · split
    · rfl
    · rename_i h1 h2
      simp [h1, h2] at h

/-- `createDir k` answering `unit` when `k`'s parent is not a directory: `k` was there already. -/
theorem applyOp_createDir_unit {e : Bool} {s : Store} {k : Key} (h : (applyOp e s (.createDir k)).2 = .unit) :
    (s.has k = true ∧ (applyOp e s (.createDir k)).1 = s) ∨
    (s.get? k = none ∧ s.parentOk k = true ∧ (applyOp e s (.createDir k)).1 = s.put k .dir) := by
  simp only [applyOp] at h ⊢
  split
  · rename_i h1; exact Or.inl ⟨h1, rfl⟩
  · rename_i h1
    split
    · rename_i h2; simp [h1, h2] at h
    · rename_i h2
      refine Or.inr ⟨by simpa [Store.has] using h1, by simpa using h2, rfl⟩

/-- Nothing lies directly below a version directory that is not there. -/
theorem fresh_children {s : Store} (hd : DirsOk s) {b : Nat} (hf : s.get? (.bandDir b) ≠ some .dir) :
    s.get? (.indexDir b) = none ∧ s.get? (.bandHead b) = none := by
  constructor
  · cases hv : s.get? (.indexDir b) with
    | none => rfl
    | some v =>
      have := hd.parent_of_get? hv
      simp only [Store.parentOk, Key.parent, beq_iff_eq] at this
      exact absurd this hf
  · cases hv : s.get? (.bandHead b) with
    | none => rfl
    | some v =>
      have := hd.parent_of_get? hv
      simp only [Store.parentOk, Key.parent, beq_iff_eq] at this
      exact absurd this hf

/-- `Band::create` (after its listing) with the crash point at least four micro-steps ahead: either it
fails before the new directory exists, or it leaves the directory with its index directory and head. -/
theorem bandCreateTail_headsOK {w : World} {b : Nat} (hl : Late 4 w) (hd : DirsOk w.store)
    (hfresh : w.store.get? (.bandDir b) ≠ some .dir) (h : HeadsOK w.store) :
    HeadsOK ((bandCreateTail b).run w).2.store := by
  obtain ⟨hci, hhead⟩ := fresh_children hd hfresh
  unfold bandCreateTail
  obtain ⟨hr1, hs1, hl1⟩ := late_exec_createDir (n := 3) hl (.bandDir b)
  by_cases hu1 : (w.exec (.createDir (.bandDir b))).2 = .unit
  · rw [run_performUnit_bind_unit _ _ _ hu1]
    rw [hr1] at hu1
    obtain ⟨hr2, hs2, hl2⟩ := late_exec_createDir (n := 2) hl1 (.indexDir b)
    rcases applyOp_createDir_unit hu1 with ⟨hhas, hst1⟩ | ⟨hnone, _, hst1⟩
    · -- something that is not a directory sits at `bNNNN`: `mkdir bNNNN/i` fails, nothing changed
      have hw1 : (w.exec (.createDir (.bandDir b))).1.store = w.store := hs1.trans hst1
      have hu2 : (((w.exec (.createDir (.bandDir b))).1).exec (.createDir (.indexDir b))).2 ≠ .unit := by
        rw [hr2, hw1]
        simp [applyOp, Store.has, hci, Store.parentOk, Key.parent, hfresh]
      rw [run_performUnit_bind_fail _ _ _ hu2, hs2, hw1]
      have : (applyOp true w.store (.createDir (.indexDir b))).1 = w.store :=
        applyOp_createDir_fail (by rw [hr2, hw1] at hu2; exact hu2)
      rw [this]; exact h
    · have hw1 : (w.exec (.createDir (.bandDir b))).1.store = w.store.put (.bandDir b) .dir := hs1.trans hst1
      -- `mkdir bNNNN/i` succeeds
      have ha2 : applyOp true (w.store.put (.bandDir b) .dir) (.createDir (.indexDir b)) =
          ((w.store.put (.bandDir b) .dir).put (.indexDir b) .dir, .unit) := by
        simp [applyOp, Store.has, Store.get?_put, hci, Store.parentOk, Key.parent]
      have hu2 : (((w.exec (.createDir (.bandDir b))).1).exec (.createDir (.indexDir b))).2 = .unit := by
        rw [hr2, hw1, ha2]
      rw [run_performUnit_bind_unit _ _ _ hu2]
      have hw2 : (((w.exec (.createDir (.bandDir b))).1).exec (.createDir (.indexDir b))).1.store =
          (w.store.put (.bandDir b) .dir).put (.indexDir b) .dir := by
        rw [hs2, hw1, ha2]
      -- the head write succeeds, both micro-steps
      obtain ⟨hwu, _⟩ := late_exec_write (n := 0) hl2 (.bandHead b) (.head .ok []) .createNew
      have ha3 : (applyOp true ((w.store.put (.bandDir b) .dir).put (.indexDir b) .dir)
          (.write (.bandHead b) (.head .ok []) .createNew)).2 = .unit := by
        simp [applyOp, Store.get?_put, hhead, Store.parentOk, Key.parent]
      rw [hw2] at hwu
      obtain ⟨hu3, hs3⟩ := hwu ha3
      rw [run_performUnit_bind_unit _ _ _ hu3]
      simp only [Prog.run_ret]
      rw [hs3]
      intro b' hb'
      by_cases hbb : b' = b
      · subst hbb
        simp [bandReadable, Store.get?_put]
      · have hdir : w.store.get? (.bandDir b') = some .dir := by
          simpa [Store.get?_put, hbb] using hb'
        have := h b' hdir
        rw [← this]
        apply bandReadable_congr <;> simp [Store.get?_put, hbb]
  · rw [run_performUnit_bind_fail _ _ _ hu1, hs1]
    rw [hr1] at hu1
    rw [applyOp_createDir_fail hu1]; exact h

/-- A reading program in such a world leaves the store alone. -/
theorem late_ro_framed {α : Type} {n : Nat} {I : Store → Prop} {p : Prog α} (hp : Prog.AllOps ReadOnly p)
    {w : World} (hl : Late n w) (h : I w.store) :
    Framed (fun _ w' => I w'.store) p w (fun _ w' => Late n w' ∧ w'.store = w.store) :=
  have ⟨hl1, hs1⟩ := late_run_ro hp w hl
  ⟨show I _ from hs1 ▸ h, fun _ _ => ⟨hl1, hs1⟩⟩

theorem fine2_framed {α : Type} {p : Prog α} (hp : Prog.AllOps Fine2 p) {w : World} (h : HeadsOK w.store) :
    Framed (fun _ w' => HeadsOK w'.store) p w (fun _ _ => True) := ⟨run_headsOK hp w h, fun _ _ => trivial⟩

theorem backupPrelude_headsOK (w : World) (hl : Late 4 w) (hn : NoDupKeys w.store) (hd : DirsOk w.store)
    (h : HeadsOK w.store) : Framed (fun _ w' => HeadsOK w'.store) backupPrelude w (fun _ _ => True) := by
  have ht : ∀ a b c : World, HeadsOK b.store → HeadsOK c.store → HeadsOK c.store := fun _ _ _ _ h => h
  rw [backupPrelude_eq]
  refine .bind ((late_ro_framed preludeHead_ro hl h).mono ?_) ht
  rintro basisBand w2 - ⟨hl2, hs2⟩
  rw [← hs2] at h hn hd
  rw [bandCreate_eq, Prog.bind_assoc]
  refine .bind (((late_ro_framed lastBandId_ro hl2 h).and_run
    (Q' := fun r _ => r = maxNat? (bandIdsOf w2.store)) fun r hr => lastBandId_result _ r hr).mono ?_) ht
  rintro r w3 - ⟨⟨hl3, hs3⟩, rfl⟩
  rw [← hs3] at h hn hd ⊢
  have hbc := bandCreateTail_headsOK hl3 hd (next_band_fresh hn) h
  exact .bind ⟨hbc, fun band _ => fine2_framed (AllOps.ro_fine2 (preludeTail_ro basisBand band)) hbc⟩ ht

/-- **`backup` keeps `HeadsOK`** in every world without injected faults whose crash point, if any, is
at least four mutating micro-steps away (the new directory, its index directory, and the two
micro-steps of the head write); any options, any source. -/
theorem backup_headsOK (H : Str → Str) (o : BackupOpts) (src : List SrcEntry) (w : World) (hl : Late 4 w)
    (hn : NoDupKeys w.store) (hd : DirsOk w.store) (h : HeadsOK w.store) :
    HeadsOK ((backup H o src).run w).2.store := by
  rw [backup_eq]
  exact (Framed.bind ((backupPrelude_headsOK w hl hn hd h).mono fun x _ h1 _ =>
    fine2_framed (backupMain_fine2 H o src x) h1) fun _ _ _ _ h => h).1

/-- **`delete_bands` keeps `HeadsOK` in every world**: a version directory goes with everything
below it, in one step. -/
theorem delete_headsOK (strict : Bool) (D : List Nat) (o : DeleteOpts) (w : World) (h : HeadsOK w.store) :
    HeadsOK ((deleteBands strict D o).run w).2.store :=
  run_headsOK (deleteBands_fine2 strict D o) w h

end Conserve.Rng
