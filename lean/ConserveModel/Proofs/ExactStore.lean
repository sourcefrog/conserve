import ConserveModel.Proofs.QuietWorld
import ConserveModel.Proofs.CleanWorld
import ConserveModel.Proofs.BackupPrelude
import ConserveModel.StitchSpec
/-
Store-level facts for the end-to-end theorem C01 (a): runs from any fault-free world that holds a
given store (`RunsAt`: the graph of `Prog.eval true`, `runsAt_iff`), the well-formedness a fault-free
backup keeps (`StoreOK`), what one `put` of a fresh key does to it, and the keys a backup may create
(`newKey`).  No property statements here.
-/
namespace Conserve.Exact
open Conserve Prog

/-- `w` is a fault-free, crash-free, alive world that honours `CreateNew` and holds store `s`. -/
structure At (w : World) (s : Store) : Prop where
  quiet : w.Quiet
  ecn : w.enforceCreateNew = true
  store : w.store = s

theorem At.clean (s : Store) : At (World.clean s) s := ⟨World.clean_quiet s, rfl, rfl⟩

/-- From every fault-free world holding `s`, program `p` has outcome `out`, ends with store `s'` and
emits `ev` (newest first). -/
def RunsAt {α : Type} (p : Prog α) (s : Store) (out : Outcome α) (s' : Store) (ev : List Event) : Prop :=
  ∀ w, At w s → Runs p w out s' ev

theorem runsAt_iff {α : Type} {p : Prog α} {s : Store} {out : Outcome α} {s' : Store} {ev : List Event} :
    RunsAt p s out s' ev ↔ p.eval true s = (out, s', ev) :=
  ⟨fun h => (World.clean_quiet s).runs_iff.1 (h _ (At.clean s)),
    fun h w hw => hw.quiet.runs (by rw [hw.ecn, hw.store, h])⟩

theorem RunsAt.ret {α : Type} (a : α) (s : Store) : RunsAt (.ret a) s (.ok a) s [] := runsAt_iff.2 rfl

theorem RunsAt.pure {α : Type} (a : α) (s : Store) : RunsAt (Pure.pure a : Prog α) s (.ok a) s [] :=
  runsAt_iff.2 rfl

theorem RunsAt.fail {α : Type} (e : Err) (s : Store) : RunsAt (.fail e : Prog α) s (.err e) s [] :=
  runsAt_iff.2 rfl

theorem RunsAt.bind {α β : Type} {p : Prog α} {f : α → Prog β} {s s1 s2 : Store} {a : α}
    {e1 e2 : List Event} {out : Outcome β} (hp : RunsAt p s (.ok a) s1 e1) (hf : RunsAt (f a) s1 out s2 e2) :
    RunsAt (p.bind f) s out s2 (e2 ++ e1) :=
  runsAt_iff.2 (by rw [eval_bind, runsAt_iff.1 hp, andThen, runsAt_iff.1 hf])

theorem RunsAt.bind0 {α β : Type} {p : Prog α} {f : α → Prog β} {s s1 s2 : Store} {a : α}
    {e2 : List Event} {out : Outcome β} (hp : RunsAt p s (.ok a) s1 []) (hf : RunsAt (f a) s1 out s2 e2) :
    RunsAt (p.bind f) s out s2 e2 := by
  simpa using RunsAt.bind hp hf

theorem RunsAt.bind_r0 {α β : Type} {p : Prog α} {f : α → Prog β} {s s1 s2 : Store} {a : α}
    {e1 : List Event} {out : Outcome β} (hp : RunsAt p s (.ok a) s1 e1) (hf : RunsAt (f a) s1 out s2 []) :
    RunsAt (p.bind f) s out s2 e1 := by
  simpa using RunsAt.bind hp hf

theorem RunsAt.bind_err {α β : Type} {p : Prog α} {f : α → Prog β} {s s1 : Store} {e : Err}
    {e1 : List Event} (hp : RunsAt p s (.err e) s1 e1) : RunsAt (p.bind f) s (.err e) s1 e1 :=
  runsAt_iff.2 (by rw [eval_bind, runsAt_iff.1 hp, andThen])

theorem RunsAt.op_ro {α : Type} {s : Store} {o : Op} {k : Resp → Prog α} {out : Outcome α} {s' : Store}
    {ev : List Event} (ho : o.isMutating = false) (hk : RunsAt (k (roResp s o)) s out s' ev) :
    RunsAt (.op o k) s out s' ev :=
  runsAt_iff.2 (by rw [eval_op, applyOp_ro _ _ _ ho]; exact runsAt_iff.1 hk)

theorem RunsAt.emit {α : Type} {s : Store} {ev : Event} {k : Prog α} {out : Outcome α} {s' : Store}
    {evs : List Event} (hk : RunsAt k s out s' evs) : RunsAt (.emit ev k) s out s' (evs ++ [ev]) :=
  runsAt_iff.2 (by rw [eval_emit, runsAt_iff.1 hk])

/-- An operation that answers `r` and leaves store `s1`. -/
theorem RunsAt.op {α : Type} {s s1 : Store} {o : Op} {r : Resp} {kont : Resp → Prog α} {out : Outcome α}
    {s' : Store} {ev : List Event} (happ : applyOp true s o = (s1, r)) (hk : RunsAt (kont r) s1 out s' ev) :
    RunsAt (.op o kont) s out s' ev :=
  runsAt_iff.2 (by rw [eval_op, happ]; exact runsAt_iff.1 hk)

theorem RunsAt.op_createDir {α : Type} {s : Store} {k : Key} {kont : Resp → Prog α} {out : Outcome α}
    {s' : Store} {ev : List Event} (habs : s.get? k = none) (hp : s.parentOk k = true)
    (hk : RunsAt (kont .unit) (s.put k .dir) out s' ev) : RunsAt (.op (.createDir k) kont) s out s' ev :=
  RunsAt.op (by simp [applyOp, Store.has, habs, hp]) hk

theorem RunsAt.op_createDir_exists {α : Type} {s : Store} {k : Key} {kont : Resp → Prog α} {out : Outcome α}
    {s' : Store} {ev : List Event} {v : FileVal} (hex : s.get? k = some v)
    (hk : RunsAt (kont .unit) s out s' ev) : RunsAt (.op (.createDir k) kont) s out s' ev :=
  RunsAt.op (by simp [applyOp, Store.has, hex]) hk

theorem RunsAt.op_write {α : Type} {s : Store} {k : Key} {v : FileVal} {kont : Resp → Prog α}
    {out : Outcome α} {s' : Store} {ev : List Event} (hp : s.parentOk k = true)
    (habs : s.get? k = none ∨ s.get? k = some .empty)
    (hk : RunsAt (kont .unit) (s.put k v) out s' ev) : RunsAt (.op (.write k v .createNew) kont) s out s' ev :=
  RunsAt.op (by rcases habs with h | h <;> simp [applyOp, hp, h, FileVal.isEmptyFile]) hk

theorem RunsAt.congr {α : Type} {p : Prog α} {s : Store} {out out' : Outcome α} {s1 s2 : Store}
    {e1 e2 : List Event} (h : RunsAt p s out s1 e1) (ho : out = out') (hs : s1 = s2) (he : e1 = e2) :
    RunsAt p s out' s2 e2 := by subst ho hs he; exact h

theorem RunsAt.clean {α : Type} {p : Prog α} {s s' : Store} {out : Outcome α} {ev : List Event}
    (h : RunsAt p s out s' ev) :
    (p.run (World.clean s)).1 = out ∧ (p.run (World.clean s)).2.store = s' ∧
      (p.run (World.clean s)).2.events = ev := Prog.run_clean_eval (runsAt_iff.1 h)

/-- Keys that are directories in the archive layout. -/
def isDirKey : Key → Bool
  | .root | .bandDir _ | .indexDir _ | .hunkDir _ _ | .blockRoot | .blockDir _ => true
  | _ => false

/-- Is the value of the right kind (directory / file) for its key?  Foreign entries of the archive
directory (`other`) are not constrained. -/
def kindOk (k : Key) (v : FileVal) : Bool :=
  match k with
  | .other _ => true
  | _ => v.isDir == isDirKey k

/-- Block files and block sub-directories: the keys under `d/`. -/
def isBlockish : Key → Bool
  | .block _ | .blockDir _ => true
  | _ => false

/-- The keys a backup that creates version `nb` may create or complete: everything at or below the
new version's directory, block sub-directories and block files. -/
def newKey (nb : Nat) (k : Key) : Bool := Key.isUnder (.bandDir nb) k || isBlockish k

theorem parent_ne_self (k : Key) : k.parent ≠ some k := by
  cases k <;> simp [Key.parent]

theorem parent_not_block (k : Key) (h : Str) : k.parent ≠ some (.block h) := by
  cases k <;> simp [Key.parent]

/-- Every block that decodes is shorter than 2^64 bytes. -/
def BlocksSmall (s : Store) : Prop :=
  ∀ h c, s.get? (.block h) = some (.blockData c) → c.length < 18446744073709551616

structure StoreOK (H : Str → Str) (s : Store) : Prop where
  noDup : Inv.NoDupKeys s
  dirs : ∀ k v, s.get? k = some v → s.parentOk k = true
  kinds : ∀ k v, s.get? k = some v → kindOk k v = true
  root : s.get? .root = some .dir
  blockRoot : s.get? .blockRoot = some .dir
  blocks : Inv.BlocksGood H s
  small : BlocksSmall s

theorem parentOk_put {s : Store} {k k' : Key} {v : FileVal} (h : s.parentOk k' = true)
    (hk : s.get? k ≠ some .dir ∨ v = .dir) : (s.put k v).parentOk k' = true := by
  unfold Store.parentOk at h ⊢
  cases hp : k'.parent with
  | none => rfl
  | some p =>
    simp only [hp, beq_iff_eq] at h ⊢
    rw [Store.get?_put]
    by_cases hpk : p = k
    · subst hpk
      rcases hk with hk | hk
      · exact absurd h hk
      · simp [hk]
    · simp [hpk, h]

variable {H : Str → Str}

theorem StoreOK.put {s : Store} (h : StoreOK H s) {k : Key} {v : FileVal} (hp : s.parentOk k = true)
    (habs : s.get? k = none ∨ (∃ hh, k = .block hh ∧ s.get? k = some .empty))
    (hk : kindOk k v = true)
    (hb : ∀ hh, k = .block hh → ∃ c, v = .blockData c ∧ H c = hh ∧ c.length < 18446744073709551616) :
    StoreOK H (s.put k v) := by
  have hnd : s.get? k ≠ some .dir := by
    rcases habs with h0 | ⟨_, _, h0⟩ <;> simp [h0]
  refine ⟨Store.NoDupKeys.put h.noDup k v, ?_, ?_, ?_, ?_, ?_, ?_⟩
  · intro k' v' hg
    rw [Store.get?_put] at hg
    by_cases hkk : k' = k
    · subst hkk
      exact parentOk_put hp (Or.inl hnd)
    · simp only [hkk, if_false] at hg
      exact parentOk_put (h.dirs k' v' hg) (Or.inl hnd)
  · intro k' v' hg
    rw [Store.get?_put] at hg
    by_cases hkk : k' = k
    · subst hkk; simp only [if_true, Option.some.injEq] at hg; subst hg; exact hk
    · simp only [hkk, if_false] at hg; exact h.kinds k' v' hg
  · have : Key.root ≠ k := by
      intro e; subst e
      rcases habs with h0 | ⟨_, h1, _⟩
      · rw [h.root] at h0; cases h0
      · cases h1
    rw [Store.get?_put_ne _ v this]; exact h.root
  · have : Key.blockRoot ≠ k := by
      intro e; subst e
      rcases habs with h0 | ⟨_, h1, _⟩
      · rw [h.blockRoot] at h0; cases h0
      · cases h1
    rw [Store.get?_put_ne _ v this]; exact h.blockRoot
  · intro hh v' hg
    rw [Store.get?_put] at hg
    by_cases hkk : Key.block hh = k
    · simp only [hkk, if_true, Option.some.injEq] at hg
      subst hg
      obtain ⟨c, hv, hc, _⟩ := hb hh hkk.symm
      exact Or.inr ⟨c, hv, hc⟩
    · simp only [hkk, if_false] at hg
      exact h.blocks hh v' hg
  · intro hh c hg
    rw [Store.get?_put] at hg
    by_cases hkk : Key.block hh = k
    · simp only [hkk, if_true, Option.some.injEq] at hg
      obtain ⟨c', hv, _, hlen⟩ := hb hh hkk.symm
      rw [hv] at hg
      cases hg
      exact hlen
    · simp only [hkk, if_false] at hg
      exact h.small hh c hg

theorem StoreOK.put_fresh {s : Store} (h : StoreOK H s) {k : Key} {v : FileVal} (hp : s.parentOk k = true)
    (habs : s.get? k = none) (hk : kindOk k v = true) (hnb : ∀ hh, k ≠ .block hh) : StoreOK H (s.put k v) :=
  h.put hp (Or.inl habs) hk fun hh e => absurd e (hnb hh)

theorem StoreOK.parent_dir {s : Store} (h : StoreOK H s) {k p : Key} {v : FileVal} (hg : s.get? k = some v)
    (hp : k.parent = some p) : s.get? p = some .dir := by
  have := h.dirs k v hg
  simpa [Store.parentOk, hp] using this

theorem StoreOK.none_of_parent_none {s : Store} (h : StoreOK H s) {k p : Key} (hp : k.parent = some p)
    (hn : s.get? p = none) : s.get? k = none := by
  cases hg : s.get? k with
  | none => rfl
  | some v => rw [h.parent_dir hg hp] at hn; cases hn

theorem StoreOK.uniqueKeys {s : Store} (h : StoreOK H s) : UniqueKeys s :=
  (uniqueKeys_iff_nodup s).2 h.noDup

theorem StoreOK.dirsOk {s : Store} (h : StoreOK H s) : DirsOk s := by
  intro kv hkv
  obtain ⟨k, v⟩ := kv
  exact h.dirs k v (Store.get?_of_mem_nodup h.noDup hkv)

theorem StoreOK.blockDir_dir {s : Store} (h : StoreOK H s) {p : Str} {v : FileVal}
    (hg : s.get? (.blockDir p) = some v) : v = .dir := by
  have := h.kinds _ _ hg
  simp only [kindOk, isDirKey, beq_iff_eq] at this
  cases v <;> simp_all [FileVal.isDir]

theorem StoreOK.bandDir_dir {s : Store} (h : StoreOK H s) {b : Nat} {v : FileVal}
    (hg : s.get? (.bandDir b) = some v) : v = .dir := by
  have := h.kinds _ _ hg
  simp only [kindOk, isDirKey, beq_iff_eq] at this
  cases v <;> simp_all [FileVal.isDir]

def newBandOf (s : Store) : Nat := nextBandId (bandIdsOf s)

theorem mem_bandIdsOf {s : Store} (h : StoreOK H s) {b : Nat} :
    b ∈ bandIdsOf s ↔ s.get? (.bandDir b) = some .dir := by
  rw [mem_bandIdsOf']
  exact Store.mem_iff_get? h.uniqueKeys

theorem fresh_under_new {s : Store} (h : StoreOK H s) {k : Key}
    (hu : Key.isUnder (.bandDir (newBandOf s)) k = true) : s.get? k = none := by
  have hband : s.get? (.bandDir (newBandOf s)) = none := by
    cases hg : s.get? (.bandDir (newBandOf s)) with
    | none => rfl
    | some v =>
      have hv := h.bandDir_dir hg
      subst hv
      have := nextBandId_gt (bandIdsOf s) _ ((mem_bandIdsOf h).2 hg)
      exact absurd this (Nat.lt_irrefl _)
  cases k <;> simp [Key.isUnder, Key.parent] at hu
  all_goals subst hu
  · exact hband
  · exact h.none_of_parent_none rfl hband
  · exact h.none_of_parent_none rfl hband
  · exact h.none_of_parent_none rfl hband
  · exact h.none_of_parent_none rfl (h.none_of_parent_none (k := .indexDir _) rfl hband)
  · exact h.none_of_parent_none rfl (h.none_of_parent_none (k := .hunkDir _ _) rfl
      (h.none_of_parent_none (k := .indexDir _) rfl hband))

end Conserve.Exact
