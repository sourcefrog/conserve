import ConserveModel.Proofs.WalkRec
import ConserveModel.Proofs.ApathPrefix
/-
Paths as component lists (`pathOf`): their pieces, components and sort keys, how two paths below
a common directory compare, strict descent on components, and what `Forest.WF` says of a listing.
-/
namespace Conserve
open Std

/-- The apath with the given components below the root. -/
def pathOf : List Str → Str
  | [] => [slash]
  | c :: cs => slash :: joinSlash (c :: cs)

/-- Every component is a good name. -/
def GoodComps (cs : List Str) : Prop := ∀ c ∈ cs, goodName c = true

theorem goodName_iff (c : Str) :
    goodName c = true ↔ c ≠ [] ∧ slash ∉ c ∧ 0 ∉ c ∧ c ≠ [dot] ∧ c ≠ [dot, dot] := by
  simp [goodName, and_assoc]

theorem GoodComps.nil : GoodComps [] := nofun

theorem GoodComps.append {a b : List Str} (ha : GoodComps a) (hb : GoodComps b) :
    GoodComps (a ++ b) := by
  intro c hc
  rcases List.mem_append.1 hc with h | h
  · exact ha c h
  · exact hb c h

theorem GoodComps.left {a b : List Str} (h : GoodComps (a ++ b)) : GoodComps a :=
  fun c hc => h c (List.mem_append_left _ hc)

theorem GoodComps.right {a b : List Str} (h : GoodComps (a ++ b)) : GoodComps b :=
  fun c hc => h c (List.mem_append_right _ hc)

theorem GoodComps.single {x : Str} (h : goodName x = true) : GoodComps [x] := by
  intro c hc; rw [List.mem_singleton.1 hc]; exact h

theorem splitSlash_of_not_mem {c : Str} (h : slash ∉ c) : splitSlash c = [c] := by
  induction c with
  | nil => rfl
  | cons a as ih =>
    have ha : a ≠ slash := fun e => h (e ▸ List.mem_cons_self)
    have has : slash ∉ as := fun e => h (List.mem_cons_of_mem _ e)
    rw [splitSlash, if_neg ha, ih has]

theorem splitSlash_joinSlash {c : Str} {cs : List Str} (h : ∀ x ∈ c :: cs, slash ∉ x) :
    splitSlash (joinSlash (c :: cs)) = c :: cs := by
  induction cs generalizing c with
  | nil => exact splitSlash_of_not_mem (h c List.mem_cons_self)
  | cons d ds ih =>
    rw [joinSlash_cons_cons, splitSlash_append_slash, splitSlash_of_not_mem (h c List.mem_cons_self),
      ih (fun x hx => h x (List.mem_cons_of_mem _ hx))]
    rfl

theorem joinSlash_ne_nil {c : Str} (cs : List Str) (h : c ≠ []) : joinSlash (c :: cs) ≠ [] := by
  cases cs with
  | nil => exact h
  | cons d ds => rw [joinSlash_cons_cons]; simp [h]

theorem GoodComps.noSlash {cs : List Str} (h : GoodComps cs) : ∀ x ∈ cs, slash ∉ x :=
  fun x hx => ((goodName_iff x).1 (h x hx)).2.1

theorem splitSlash_pathOf {c : Str} {cs : List Str} (h : GoodComps (c :: cs)) :
    splitSlash (pathOf (c :: cs)) = [] :: c :: cs := by
  have : splitSlash (pathOf (c :: cs)) = [] :: splitSlash (joinSlash (c :: cs)) := by
    simp [pathOf, splitSlash]
  rw [this, splitSlash_joinSlash h.noSlash]

theorem components_pathOf {cs : List Str} (h : GoodComps cs) : components (pathOf cs) = cs := by
  cases cs with
  | nil => rfl
  | cons c cs =>
    have hne := joinSlash_ne_nil cs ((goodName_iff c).1 (h c List.mem_cons_self)).1
    unfold pathOf
    rw [components_cons _ hne, splitSlash_joinSlash h.noSlash]

theorem strictDesc_of_components {cd : List Str} (hcd : GoodComps cd) {b x : Str} {t : List Str}
    (h : components b = cd ++ x :: t) : StrictDesc (pathOf cd) b := by
  constructor
  · unfold isAncestorOrSelf
    rw [components_pathOf hcd, h, List.isPrefixOf_iff_prefix]
    exact List.prefix_append _ _
  · intro e
    have := congrArg List.length (congrArg components e)
    rw [components_pathOf hcd, h] at this
    simp at this

theorem strictDesc_pathOf_iff {cd cs : List Str} (hcd : GoodComps cd) (hcs : GoodComps cs) :
    StrictDesc (pathOf cd) (pathOf cs) ↔ ∃ x t, cs = cd ++ x :: t := by
  constructor
  · rintro ⟨hp, hne⟩
    unfold isAncestorOrSelf at hp
    rw [components_pathOf hcd, components_pathOf hcs, List.isPrefixOf_iff_prefix] at hp
    obtain ⟨t, rfl⟩ := hp
    cases t with
    | nil => exact absurd (by rw [List.append_nil]) hne
    | cons x t => exact ⟨x, t, rfl⟩
  · rintro ⟨x, t, rfl⟩
    exact strictDesc_of_components hcd (components_pathOf hcs)

theorem pathOf_injective {a b : List Str} (ha : GoodComps a) (hb : GoodComps b)
    (h : pathOf a = pathOf b) : a = b := by
  rw [← components_pathOf ha, ← components_pathOf hb, h]

theorem pathOf_cons_ne_root {cs : List Str} {x : Str} {t : List Str} (h : GoodComps (cs ++ x :: t)) :
    pathOf (cs ++ x :: t) ≠ [slash] := by
  intro e
  have : cs ++ x :: t = [] := pathOf_injective h (fun _ hc => nomatch hc) e
  simp at this

theorem pathOf_valid {cs : List Str} (h : GoodComps cs) : isValid (pathOf cs) = true := by
  rw [C11.valid_iff_spec]
  refine ⟨by cases cs <;> rfl, Or.inr ?_⟩
  rw [components_pathOf h]
  intro c hc
  have := (goodName_iff c).1 (h c hc)
  exact ⟨this.1, this.2.2.2.1, this.2.2.2.2, this.2.2.1⟩

theorem apathAppend_pathOf {cs : List Str} (h : GoodComps cs) (x : Str) :
    apathAppend (pathOf cs) x = pathOf (cs ++ [x]) := by
  cases cs with
  | nil => simp [apathAppend, pathOf, joinSlash]
  | cons c cs =>
    have hne := joinSlash_ne_nil cs ((goodName_iff c).1 (h c List.mem_cons_self)).1
    have h1 : pathOf (c :: cs) ≠ [slash] := by
      simp [pathOf, hne]
    rw [apathAppend, if_neg h1]
    have := joinSlash_append (List.cons_ne_nil c cs) (List.cons_ne_nil x [])
    simp only [pathOf, List.cons_append] at this ⊢
    rw [this]
    simp [joinSlash]

/-- The keys of the directory part: every component flagged 1, after the empty first piece. -/
def dirKeys (cs : List Str) : List Str := (1 :: []) :: cs.map (1 :: ·)

theorem keysOf_append (o : Str) (pre : List Str) (x : Str) (t : List Str) :
    keysOf o (pre ++ x :: t) = (o :: pre).map (1 :: ·) ++ keysOf x t := by
  induction pre generalizing o with
  | nil => simp [keysOf]
  | cons p pre ih => simp [keysOf, ih]

theorem keys_pathOf {cs : List Str} {x : Str} {t : List Str} (h : GoodComps (cs ++ x :: t)) :
    keys (pathOf (cs ++ x :: t)) = dirKeys cs ++ keysOf x t := by
  have hne : cs ++ x :: t ≠ [] := by simp
  obtain ⟨c, r, hcr⟩ := List.exists_cons_of_ne_nil hne
  unfold keys
  rw [hcr] at h
  rw [hcr, splitSlash_pathOf h, ← hcr]
  show keysOf [] (cs ++ x :: t) = _
  rw [keysOf_append]
  rfl

theorem compare_append_left (p a b : List Str) : compare (p ++ a) (p ++ b) = compare a b := by
  induction p with
  | nil => rfl
  | cons k p ih =>
    simp only [List.cons_append]
    rw [List.compare_cons_cons, ih]
    simp [ReflOrd.compare_self]

theorem apathCmp_pathOf {cs : List Str} {x y : Str} {s t : List Str}
    (h1 : GoodComps (cs ++ x :: s)) (h2 : GoodComps (cs ++ y :: t)) :
    apathCmp (pathOf (cs ++ x :: s)) (pathOf (cs ++ y :: t)) = cmpLoop x y s t := by
  rw [apathCmp_eq_keys, keys_pathOf h1, keys_pathOf h2, compare_append_left, cmpLoop_eq_keys]

theorem apathCmp_siblings {cs : List Str} {x y : Str}
    (h1 : GoodComps (cs ++ [x])) (h2 : GoodComps (cs ++ [y])) :
    apathCmp (pathOf (cs ++ [x])) (pathOf (cs ++ [y])) = compare x y :=
  apathCmp_pathOf h1 h2

theorem apathCmp_child_deeper {cs : List Str} {x y z : Str} {t : List Str}
    (h1 : GoodComps (cs ++ [x])) (h2 : GoodComps (cs ++ y :: z :: t)) :
    apathCmp (pathOf (cs ++ [x])) (pathOf (cs ++ y :: z :: t)) = .lt :=
  apathCmp_pathOf h1 h2

theorem apathCmp_below_siblings {cs : List Str} {x y a b : Str} {s t : List Str}
    (hxy : compare x y = .lt)
    (h1 : GoodComps (cs ++ x :: a :: s)) (h2 : GoodComps (cs ++ y :: b :: t)) :
    apathCmp (pathOf (cs ++ x :: a :: s)) (pathOf (cs ++ y :: b :: t)) = .lt := by
  rw [apathCmp_pathOf h1 h2, cmpLoop, hxy]

theorem Forest.hasName_iff (f : Forest) (name : Str) :
    f.hasName name = true ↔ ∃ p ∈ f.toList, p.1 = name := by
  induction f using Forest.induct with
  | nil => simp [Forest.hasName, Forest.toList]
  | cons nm n rest ih => simp [Forest.hasName, Forest.toList, ih]

theorem Node.WF_kids {n : Node} (h : n.WF = true) : n.kids.WF = true := by
  cases n <;> simp_all [Node.WF, Node.kids, Forest.WF]

theorem Forest.WF_cons (name : Str) (n : Node) (rest : Forest) :
    (Forest.cons name n rest).WF = true ↔
      goodName name = true ∧ name ∉ rest.toList.map (·.1) ∧ n.WF = true ∧ rest.WF = true := by
  have : rest.hasName name = false ↔ name ∉ rest.toList.map (·.1) := by
    rw [← Bool.not_eq_true, Forest.hasName_iff]
    simp
  simp only [Forest.WF, Bool.and_eq_true, Bool.not_eq_true', this, and_assoc]

theorem Forest.WF_iff (f : Forest) :
    f.WF = true ↔
      f.toList.Pairwise (fun a b => a.1 ≠ b.1) ∧
        ∀ p ∈ f.toList, goodName p.1 = true ∧ p.2.WF = true := by
  induction f using Forest.induct with
  | nil => simp [Forest.WF, Forest.toList]
  | cons nm n rest ih =>
    rw [Forest.WF_cons, ih]
    simp only [Forest.toList, List.pairwise_cons, List.mem_cons, forall_eq_or_imp, List.mem_map,
      not_exists, not_and]
    constructor
    · rintro ⟨h1, h2, h3, h4, h5⟩
      exact ⟨⟨fun a ha e => h2 a ha e.symm, h4⟩, ⟨h1, h3⟩, h5⟩
    · rintro ⟨⟨h2, h4⟩, ⟨h1, h3⟩, h5⟩
      exact ⟨h1, fun a ha e => h2 a ha e.symm, h3, h4, h5⟩

theorem Node.entry_apath (n : Node) (ap : Str) : (n.entry ap).apath = ap := by
  cases n <;> rfl

end Conserve
