import ConserveModel.Prog
/-
Core lemmas for reasoning about programs: how `run` unfolds over the monad operations
(`run_bind`, `run_attempt`, `run_bind_ok_split`, `bind_assoc`), the rule "every operation the program
can issue satisfies P ⇒ the run keeps every invariant that P-operations keep" (`AllOps`,
`run_world_inv`), and the triple `Prog.Framed R p w Q` (a relation between start and end world whatever
the outcome, and a postcondition of the returned value) with its rules, of which `Prog.InvSat I p Q`
(a world invariant) is the instance used most.
-/
namespace Conserve
open Prog

@[simp] theorem Prog.pure_def {α : Type} (a : α) : (pure a : Prog α) = .ret a := rfl
@[simp] theorem Prog.bind_def {α β : Type} (p : Prog α) (f : α → Prog β) : (p >>= f) = p.bind f := rfl

@[simp] theorem Prog.ret_bind {α β : Type} (a : α) (f : α → Prog β) : (Prog.ret a).bind f = f a := rfl
@[simp] theorem Prog.fail_bind {α β : Type} (e : Err) (f : α → Prog β) : (Prog.fail e : Prog α).bind f = .fail e := rfl
@[simp] theorem Prog.panic_bind {α β : Type} (s : String) (f : α → Prog β) : (Prog.panic s : Prog α).bind f = .panic s := rfl
@[simp] theorem Prog.emit_bind {α β : Type} (ev : Event) (k : Prog α) (f : α → Prog β) :
    (Prog.emit ev k).bind f = .emit ev (k.bind f) := rfl
@[simp] theorem Prog.op_bind {α β : Type} (o : Op) (k : Resp → Prog α) (f : α → Prog β) :
    (Prog.op o k).bind f = .op o (fun r => (k r).bind f) := rfl

@[simp] theorem Prog.run_ret {α : Type} (a : α) (w : World) : (Prog.ret a).run w = (.ok a, w) := rfl
@[simp] theorem Prog.run_fail {α : Type} (e : Err) (w : World) : (Prog.fail e : Prog α).run w = (.err e, w) := rfl
@[simp] theorem Prog.run_panic {α : Type} (s : String) (w : World) : (Prog.panic s : Prog α).run w = (.panic s, w) := rfl
@[simp] theorem Prog.run_emit {α : Type} (ev : Event) (k : Prog α) (w : World) :
    (Prog.emit ev k).run w = k.run { w with events := ev :: w.events } := rfl
@[simp] theorem Prog.run_op {α : Type} (o : Op) (k : Resp → Prog α) (w : World) :
    (Prog.op o k).run w = (k (w.exec o).2).run (w.exec o).1 := rfl

theorem Prog.bind_assoc {α β γ : Type} (p : Prog α) (f : α → Prog β) (g : β → Prog γ) :
    (p.bind f).bind g = p.bind (fun a => (f a).bind g) := by
  induction p with
  | ret a => rfl
  | fail e => rfl
  | panic s => rfl
  | emit ev k ih => simp [ih]
  | op o k ih => simp [ih]

theorem Prog.run_bind {α β : Type} (p : Prog α) (f : α → Prog β) (w : World) :
    (p.bind f).run w =
      match p.run w with
      | (.ok a, w') => (f a).run w'
      | (.err e, w') => (.err e, w')
      | (.panic s, w') => (.panic s, w') := by
  induction p generalizing w with
  | ret a => simp
  | fail e => simp
  | panic s => simp
  | emit ev k ih => simp [ih]
  | op o k ih => simp [ih]

theorem Prog.run_attempt {α : Type} (p : Prog α) (w : World) :
    p.attempt.run w =
      match p.run w with
      | (.ok a, w') => (.ok (.ok a), w')
      | (.err e, w') => (.ok (.error e), w')
      | (.panic s, w') => (.panic s, w') := by
  induction p generalizing w with
  | ret a => simp [Prog.attempt]
  | fail e => simp [Prog.attempt]
  | panic s => simp [Prog.attempt]
  | emit ev k ih => simp [Prog.attempt, ih]
  | op o k ih => simp [Prog.attempt, ih]

theorem Prog.run_attemptAll {α : Type} (p : Prog α) (w : World) :
    p.attemptAll.run w = (.ok (p.run w).1, (p.run w).2) := by
  induction p generalizing w with
  | ret a => simp [Prog.attemptAll]
  | fail e => simp [Prog.attemptAll]
  | panic s => simp [Prog.attemptAll]
  | emit ev k ih => simp [Prog.attemptAll, ih]
  | op o k ih => simp [Prog.attemptAll, ih]

/-- Every operation node of the program (on every continuation branch) satisfies `P`. -/
inductive Prog.AllOps {α : Type} (P : Op → Prop) : Prog α → Prop
  | ret (a : α) : AllOps P (.ret a)
  | fail (e : Err) : AllOps P (.fail e)
  | panic (s : String) : AllOps P (.panic s)
  | emit (ev : Event) {k : Prog α} : AllOps P k → AllOps P (.emit ev k)
  | op {o : Op} {k : Resp → Prog α} : P o → (∀ r, AllOps P (k r)) → AllOps P (.op o k)

theorem Prog.AllOps.bind {α β : Type} {P : Op → Prop} {p : Prog α} {f : α → Prog β}
    (hp : Prog.AllOps P p) (hf : ∀ a, Prog.AllOps P (f a)) : Prog.AllOps P (p.bind f) := by
  induction hp with
  | ret a => exact hf a
  | fail e => exact .fail e
  | panic s => exact .panic s
  | emit ev _ ih => exact .emit ev ih
  | op ho _ ih => exact .op ho ih

theorem Prog.AllOps.attempt {α : Type} {P : Op → Prop} {p : Prog α}
    (hp : Prog.AllOps P p) : Prog.AllOps P p.attempt := by
  induction hp with
  | ret a => exact .ret _
  | fail e => exact .ret _
  | panic s => exact .panic s
  | emit ev _ ih => exact .emit ev ih
  | op ho _ ih => exact .op ho ih

/-- The judgements on the program tree — on EVERY branch, whether or not a store produces the
responses along it — in one: each operation issued satisfies `O`, a returned value satisfies `Q`, and a
`panic` leaf occurs only if `Z`.  `AllOps O` is `Tree O True ⊤` (`Tree.allOps`), `NP.Safe Q` is
`Tree ⊤ False Q` (`Tree.safe`), `Tree ⊤ True Q` is what `Prog.Post Q` and `Fault.Post Q` say, with
`Tree.run` for its meaning on a run; so that a program is walked once for its footprint, what it returns
and that it cannot panic.  A walk of a program without panic leaf leaves `Z` a variable; one with such a
leaf takes the condition under which it is reached as a hypothesis `… → Z`. -/
inductive Prog.Tree {α : Type} (O : Op → Prop) (Z : Prop) (Q : α → Prop) : Prog α → Prop
  | ret {a : α} : Q a → Tree O Z Q (.ret a)
  | fail (e : Err) : Tree O Z Q (.fail e)
  | panic (s : String) : Z → Tree O Z Q (.panic s)
  | emit (ev : Event) {k : Prog α} : Tree O Z Q k → Tree O Z Q (.emit ev k)
  | op {o : Op} {k : Resp → Prog α} : O o → (∀ r, Tree O Z Q (k r)) → Tree O Z Q (.op o k)

namespace Prog.Tree
variable {α β : Type} {O : Op → Prop} {Z : Prop}

theorem bind {Q1 : α → Prop} {Q : β → Prop} {p : Prog α} {f : α → Prog β} (hp : Tree O Z Q1 p)
    (hf : ∀ a, Q1 a → Tree O Z Q (f a)) : Tree O Z Q (p.bind f) := by
  induction hp with
  | ret ha => exact hf _ ha
  | fail e => exact .fail e
  | panic s hz => exact .panic s hz
  | emit ev _ ih => exact .emit ev ih
  | op ho _ ih => exact .op ho ih

theorem mono {O' : Op → Prop} {Q Q' : α → Prop} {p : Prog α} (hp : Tree O Z Q p)
    (ho : ∀ o, O o → O' o) (hq : ∀ a, Q a → Q' a) : Tree O' Z Q' p := by
  induction hp with
  | ret ha => exact .ret (hq _ ha)
  | fail e => exact .fail e
  | panic s hz => exact .panic s hz
  | emit ev _ ih => exact .emit ev ih
  | op h _ ih => exact .op (ho _ h) ih

theorem ops {O' : Op → Prop} {Q : α → Prop} {p : Prog α} (hp : Tree O Z Q p) (ho : ∀ o, O o → O' o) :
    Tree O' Z Q p := hp.mono ho fun _ h => h

theorem top {Q : α → Prop} {p : Prog α} (hp : Tree O Z Q p) : Tree (fun _ => True) Z Q p := hp.ops fun _ _ => trivial

theorem imp {Q Q' : α → Prop} {p : Prog α} (hp : Tree O Z Q p) (hq : ∀ a, Q a → Q' a) : Tree O Z Q' p :=
  hp.mono (fun _ h => h) hq

theorem perform {o : Op} (h : O o) : Tree O Z (fun _ => True) (Prog.perform o) := .op h fun _ => .ret trivial

theorem report (ev : Event) : Tree O Z (fun _ => True) (Prog.report ev) := .emit _ (.ret trivial)

theorem attempt {Q : α → Prop} {p : Prog α} (hp : Tree O Z Q p) :
    Tree O Z (fun r => ∀ a, r = .ok a → Q a) p.attempt := by
  induction hp with
  | ret ha => exact .ret fun a h => by cases h; exact ha
  | fail e => exact .ret fun a h => nomatch h
  | panic s hz => exact .panic s hz
  | emit ev _ ih => exact .emit ev ih
  | op ho _ ih => exact .op ho ih

theorem attemptAll {Z' : Prop} {Q : α → Prop} {p : Prog α} (hp : Tree O Z Q p) :
    Tree O Z' (fun r => match r with | .ok a => Q a | .err _ => True | .panic _ => Z) p.attemptAll := by
  induction hp with
  | ret ha => exact .ret ha
  | fail e => exact .ret trivial
  | panic s hz => exact .ret hz
  | emit ev _ ih => exact .emit ev ih
  | op ho _ ih => exact .op ho ih

theorem ite {Q : α → Prop} {c : Prop} [Decidable c] {a b : Prog α} (ha : Tree O Z Q a) (hb : Tree O Z Q b) :
    Tree O Z Q (if c then a else b) := by
  split
  · exact ha
  · exact hb

theorem allOps {Q : α → Prop} {p : Prog α} (hp : Tree O True Q p) : Prog.AllOps O p := by
  induction hp with
  | ret _ => exact .ret _
  | fail e => exact .fail e
  | panic s _ => exact .panic s
  | emit ev _ ih => exact .emit ev ih
  | op ho _ ih => exact .op ho ih

theorem run {Q : α → Prop} {p : Prog α} (hp : Tree O True Q p) {w : World} {a : α} (h : (p.run w).1 = .ok a) :
    Q a := by
  induction hp generalizing w with
  | ret ha => cases h; exact ha
  | fail e => cases h
  | panic s _ => cases h
  | emit ev _ ih => exact ih h
  | op _ _ ih => exact ih _ h

end Prog.Tree

/-- An invariant of worlds that every `P`-operation preserves (and that does not look at the
emitted events) holds after running any program built from `P`-operations. -/
theorem Prog.run_world_inv {α : Type} {P : Op → Prop} {I : World → Prop}
    (hev : ∀ (w : World) (ev : Event), I w → I { w with events := ev :: w.events })
    (hstep : ∀ (w : World) (o : Op), P o → I w → I (w.exec o).1)
    {p : Prog α} (hp : Prog.AllOps P p) (w : World) (hw : I w) : I (p.run w).2 := by
  induction hp generalizing w with
  | ret a => exact hw
  | fail e => exact hw
  | panic s => exact hw
  | emit ev _ ih => simpa using ih _ (hev w ev hw)
  | op ho _ ih =>
    rw [Prog.run_op]
    exact ih _ _ (hstep w _ ho hw)

theorem Prog.run_store_rel {α : Type} {P : Op → Prop} {R : Store → Store → Prop}
    (hrefl : ∀ s, R s s) (htrans : ∀ a b c, R a b → R b c → R a c)
    (hstep : ∀ (w : World) (o : Op), P o → R w.store (w.exec o).1.store)
    {p : Prog α} (hp : Prog.AllOps P p) (w : World) : R w.store (p.run w).2.store :=
  Prog.run_world_inv (I := fun w' => R w.store w'.store) (fun _ _ h => h)
    (fun w' o ho h => htrans _ _ _ h (hstep w' o ho)) hp w (hrefl _)

theorem Prog.run_bind_ok_split {α β : Type} {p : Prog α} {f : α → Prog β} {w : World} {c : β}
    (h : ((p.bind f).run w).1 = .ok c) :
    ∃ a, (p.run w).1 = .ok a ∧ (p.bind f).run w = (f a).run (p.run w).2 := by
  rw [Prog.run_bind] at h ⊢
  rcases hp : p.run w with ⟨o, w'⟩
  rw [hp] at h
  cases o with
  | ok a => exact ⟨a, rfl, rfl⟩
  | err e => simp at h
  | panic s => simp at h

theorem Prog.run_bind_ok_run {α β : Type} {p : Prog α} {f : α → Prog β} {w w' : World} {b : β}
    (h : (p.bind f).run w = (.ok b, w')) : ∃ a, (p.run w).1 = .ok a ∧ (f a).run (p.run w).2 = (.ok b, w') := by
  obtain ⟨a, ha, e⟩ := Prog.run_bind_ok_split (congrArg Prod.fst h)
  exact ⟨a, ha, e ▸ h⟩

namespace Prog

/-- What the triples of the development have in common: `p`, run in `w`, ends — whatever the outcome,
faults and crash point — in a world `w'` with `R w w'`, and `Q a w'` if it returns `a`.  Instances by `R`:
`InvSat` (below; `ROSpec` BackupBasis, `HSat`/`RSat` ProducedRange, `JSat` JsonStoreInv), `Sat` BackupBlock,
`CSat` ConformsSat, `ISat` ConformsDelete, `GSat` RaceCritCI, `BSat` HistFrame, `Keeps` FaultFinal,
`RetSpec` ConformsBlock. -/
def Framed {α : Type} (R : World → World → Prop) (p : Prog α) (w : World) (Q : α → World → Prop) : Prop :=
  R w (p.run w).2 ∧ ∀ a, (p.run w).1 = .ok a → Q a (p.run w).2

namespace Framed
variable {R : World → World → Prop} {α β : Type} {w : World}

theorem ret {a : α} {Q : α → World → Prop} (hr : R w w) (hq : Q a w) : Framed R (.ret a) w Q :=
  ⟨hr, fun _ h => by cases h; exact hq⟩

theorem fail {e : Err} {Q : α → World → Prop} (hr : R w w) : Framed R (.fail e) w Q := ⟨hr, fun _ h => nomatch h⟩

theorem panic {m : String} {Q : α → World → Prop} (hr : R w w) : Framed R (.panic m) w Q :=
  ⟨hr, fun _ h => nomatch h⟩

theorem mono {p : Prog α} {Q Q' : α → World → Prop} (hp : Framed R p w Q)
    (h : ∀ a w', R w w' → Q a w' → Q' a w') : Framed R p w Q' := ⟨hp.1, fun a ha => h a _ hp.1 (hp.2 a ha)⟩

theorem and_run {p : Prog α} {Q Q' : α → World → Prop} (hp : Framed R p w Q)
    (h : ∀ a, (p.run w).1 = .ok a → Q' a (p.run w).2) : Framed R p w (fun a w' => Q a w' ∧ Q' a w') :=
  ⟨hp.1, fun a ha => ⟨hp.2 a ha, h a ha⟩⟩

theorem op {o : Op} {k : Resp → Prog α} {Q : α → World → Prop} (h1 : R w (w.exec o).1)
    (hk : ∀ r, r = (w.exec o).2 → Framed R (k r) (w.exec o).1 Q) (ht : ∀ a b c, R a b → R b c → R a c) :
    Framed R (.op o k) w Q :=
  ⟨ht _ _ _ h1 (hk _ rfl).1, (hk _ rfl).2⟩

theorem bind {p : Prog α} {f : α → Prog β} {Q : β → World → Prop}
    (hp : Framed R p w (fun a w' => Framed R (f a) w' Q)) (ht : ∀ a b c, R a b → R b c → R a c) :
    Framed R (p.bind f) w Q := by
  unfold Framed at hp ⊢
  rw [Prog.run_bind]
  obtain ⟨hf, hq⟩ := hp
  cases hrun : p.run w with
  | mk out w1 =>
    rw [hrun] at hf hq
    cases out with
    | ok a => exact ⟨ht _ _ _ hf (hq a rfl).1, (hq a rfl).2⟩
    | err e => exact ⟨hf, fun _ h => nomatch h⟩
    | panic s => exact ⟨hf, fun _ h => nomatch h⟩

theorem attempt {p : Prog α} {Q : α → World → Prop} (hp : Framed R p w Q) :
    Framed R p.attempt w (fun r w' => ∀ a, r = .ok a → Q a w') := by
  unfold Framed at hp ⊢
  rw [Prog.run_attempt]
  obtain ⟨hf, hq⟩ := hp
  cases hrun : p.run w with
  | mk out w1 =>
    rw [hrun] at hf hq
    cases out with
    | ok a => exact ⟨hf, fun r hr a' ha' => by cases hr; cases ha'; exact hq a rfl⟩
    | err e => exact ⟨hf, fun r hr a' ha' => by cases hr; cases ha'⟩
    | panic m => exact ⟨hf, fun _ h' => nomatch h'⟩

theorem attemptAll {p : Prog α} {Q : α → World → Prop} (hp : Framed R p w Q) :
    Framed R p.attemptAll w (fun r w' => ∀ a, r = .ok a → Q a w') := by
  unfold Framed
  rw [Prog.run_attemptAll]
  exact ⟨hp.1, fun _ h a ha => by cases h; exact hp.2 a ha⟩

end Framed

/-- The logic for an invariant `I` of worlds: from any world satisfying `I`, `p` ends — whatever the
outcome — in one satisfying `I`; if it returns `a` then `Q a`. -/
def InvSat (I : World → Prop) {α : Type} (p : Prog α) (Q : α → Prop) : Prop :=
  ∀ w : World, I w → Framed (fun _ w' => I w') p w (fun a _ => Q a)

namespace InvSat
variable {I : World → Prop} {α β : Type}

theorem ret {a : α} {Q : α → Prop} (h : Q a) : InvSat I (.ret a) Q := fun _ hw => .ret hw h

theorem fail {e : Err} {Q : α → Prop} : InvSat I (.fail e : Prog α) Q := fun _ hw => .fail hw

theorem panic {m : String} {Q : α → Prop} : InvSat I (.panic m : Prog α) Q := fun _ hw => .panic hw

theorem bind {p : Prog α} {f : α → Prog β} {Q1 : α → Prop} {Q : β → Prop}
    (hp : InvSat I p Q1) (hf : ∀ a, Q1 a → InvSat I (f a) Q) : InvSat I (p.bind f) Q :=
  fun w hw => .bind ((hp w hw).mono fun a w' hI hq => hf a hq w' hI) fun _ _ _ _ h => h

theorem mono {p : Prog α} {Q Q' : α → Prop} (hp : InvSat I p Q) (h : ∀ a, Q a → Q' a) : InvSat I p Q' :=
  fun w hw => (hp w hw).mono fun a _ _ => h a

theorem attempt {p : Prog α} {Q : α → Prop} (hp : InvSat I p Q) :
    InvSat I p.attempt (fun r => ∀ a, r = .ok a → Q a) := fun w hw => (hp w hw).attempt

end InvSat

end Prog

end Conserve
