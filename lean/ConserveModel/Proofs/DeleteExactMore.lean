import ConserveModel.Proofs.DeleteFault
/-
More about `delete_bands`, for Props/C05g.lean:
* the store `deleted s D` a successful delete leaves satisfies the hypotheses of the
  functional-correctness theorems again, and has nothing left to collect (`unrefOf_deleted_nil`);
* in any world, a `delete_bands` that returns `Ok` has opened every kept band
  (`referencedBlocks_heads`, `withLock_ok_inv`).
-/
set_option linter.unusedSimpArgs false
namespace Conserve
open Prog

theorem survives_parent {s : Store} {D : List Nat} {k p : Key} (hp : k.parent = some p)
    (hk : survives s D k = true) : survives s D p = true := by
  simp only [survives, Bool.and_eq_true, Bool.not_eq_true'] at hk ⊢
  refine ⟨?_, ?_⟩
  · cases hu : underAny D p with
    | false => rfl
    | true =>
      obtain ⟨b, hb, hbp⟩ := underAny_eq_true.1 hu
      have := underAny_eq_true.2 ⟨b, hb, bandOf_of_parent hp hbp⟩
      rw [hk.1] at this; cases this
  · cases k <;> simp [Key.parent] at hp <;> subst hp <;> rfl

theorem dirsOk_deleted {s : Store} (hd : DirsOk s) (D : List Nat) : DirsOk (deleted s D) := by
  intro kv hkv
  have hm := List.mem_filter.1 hkv
  have h1 := hd kv hm.1
  cases hp : kv.1.parent with
  | none => simp [Store.parentOk, hp]
  | some p =>
    simp only [Store.parentOk, hp] at h1 ⊢
    rw [get?_deleted, survives_parent hp hm.2]
    simpa using h1

theorem hunkDirsOf_deleted (s : Store) {D : List Nat} {b : Nat} (hb : b ∉ D) :
    hunkDirsOf (deleted s D) b = hunkDirsOf s b :=
  congrArg sortNat ((hunkDirSel_picks b).filter_keeps (survives s D) fun _ =>
    survives_of_under_kept s hb (isUnder_bandDir_iff.2 rfl))

theorem hunksInDir_deleted (s : Store) {D : List Nat} {b : Nat} (hb : b ∉ D) (d : Nat) :
    hunksInDir (deleted s D) b d = hunksInDir s b d :=
  congrArg sortNat ((hunkInDirSel_picks b d).filter_keeps (survives s D) fun _ =>
    survives_of_under_kept s hb (isUnder_bandDir_iff.2 rfl))

theorem hunksListed_deleted (s : Store) {D : List Nat} {b : Nat} (hb : b ∉ D) :
    hunksListed (deleted s D) b = hunksListed s b := by
  simp only [hunksListed, hunkDirsOf_deleted s hb]
  congr 1
  funext d
  exact hunksInDir_deleted s hb d

theorem bandReadable_deleted {s : Store} {D : List Nat} {b : Nat} (hb : b ∉ D) (h : BandReadable s b) :
    BandReadable (deleted s D) b := by
  have hk : ∀ k, Key.isUnder (.bandDir b) k = true → (deleted s D).get? k = s.get? k :=
    fun k hk => kept_band_unchanged s hb hk
  refine ⟨?_, ?_, ?_⟩
  · simp only [headReadable, hk (.bandHead b) (isUnder_bandDir_iff.2 rfl)]
    exact h.head
  · rw [hk (.indexDir b) (isUnder_bandDir_iff.2 rfl)]; exact h.index
  · intro n hn
    rw [hunksListed_deleted s hb] at hn
    simp only [hunkUsable, hk (.hunk b n) (isUnder_bandDir_iff.2 rfl)]
    exact h.hunks n hn

theorem mem_keptOf {s : Store} {D : List Nat} {b : Nat} : b ∈ keptOf s D ↔ b ∈ bandIdsOf s ∧ b ∉ D := by
  simp [keptOf]

theorem keptOf_nil (s : Store) : keptOf s [] = bandIdsOf s := by
  simp [keptOf]

/-- After a successful delete of `D` the archive is again well-formed for any further delete `D'`
(the kept bands of the new store are among the kept bands of the old one). -/
theorem delArchOK_deleted {s : Store} {D : List Nat} (ok : DelArchOK s D) (D' : List Nat) :
    DelArchOK (deleted s D) D' where
  nodup := ok.nodup.filter _
  root := by rw [other_unchanged s (underAny_of_bandOf_none _ rfl) (by intro h; simp)]; exact ok.root
  blockRoot := by
    rw [other_unchanged s (underAny_of_bandOf_none _ rfl) (by intro h; simp)]; exact ok.blockRoot
  kept := by
    intro b hb
    have hb' := (mem_keptOf.1 hb).1
    rw [bandIdsOf_deleted] at hb'
    exact bandReadable_deleted (mem_keptOf.1 hb').2 (ok.kept b hb')

theorem newestComplete_deleted_nil {s : Store} (hnew : newestComplete s) :
    newestComplete (deleted s []) := by
  intro b hb
  rw [bandIdsOf_deleted, keptOf_nil] at hb
  have := hnew b hb
  simp only [isComplete] at this ⊢
  rw [kept_band_unchanged s (D := []) (b := b) (by simp) (isUnder_bandDir_iff.2 rfl)]
  exact this

theorem referencedBy_deleted {s : Store} {D : List Nat} {h : Str} :
    referencedBy (deleted s D) (bandIdsOf (deleted s D)) h ↔ referencedBy s (keptOf s D) h := by
  rw [bandIdsOf_deleted]
  have hh : ∀ b ∈ keptOf s D, ∀ n, hunkAt (deleted s D) b n = hunkAt s b n := fun b hb n =>
    hunkAt_congr (kept_band_unchanged s (mem_keptOf.1 hb).2 (isUnder_bandDir_iff.2 rfl))
  constructor
  · rintro ⟨b, hb, n, es, hes, rest⟩
    exact ⟨b, hb, n, es, hh b hb n ▸ hes, rest⟩
  · rintro ⟨b, hb, n, es, hes, rest⟩
    exact ⟨b, hb, n, es, (hh b hb n).trans hes, rest⟩

/-- **Nothing is left to collect**: in the store a successful delete leaves, every block file
`list_blocks` can see is named by a band that is still there. -/
theorem unrefOf_deleted_nil {s : Store} {D : List Nat} (hn : UniqueKeys s) (hd : DirsOk s) :
    unrefOf (deleted s D) [] = [] := by
  apply List.eq_nil_iff_forall_not_mem.2
  intro h hh
  have hn' : UniqueKeys (deleted s D) := hn.filter _
  obtain ⟨hl, hlen, hnr⟩ := (mem_unrefOf_iff hn' (dirsOk_deleted hd D)).1 hh
  rw [keptOf_nil, referencedBy_deleted] at hnr
  exact hnr ((blockListed_deleted_iff hn hd hlen).1 hl).2

theorem deleted_ready {s : Store} {D : List Nat} (ok : DelArchOK s D) (hd : DirsOk s)
    (hfree : s.get? .gcLock = none) :
    DelArchOK (deleted s D) [] ∧ (deleted s D).get? .gcLock = none ∧ unrefOf (deleted s D) [] = [] :=
  ⟨delArchOK_deleted ok [], (other_unchanged s (underAny_gcLock D) (fun _ h => nomatch h)).trans hfree,
    unrefOf_deleted_nil ok.nodup hd⟩

theorem deleted_nil_of_no_garbage {s : Store} (h : unrefOf s [] = []) : deleted s [] = s := by
  simp only [deleted, survives, h]
  apply List.filter_eq_self.2
  rintro ⟨k, v⟩ _
  cases k <;> simp [underAny, blockIn]

theorem bandOpen_ok_sound {b : Nat} {w : World} (h : ((bandOpen b).run w).1 = .ok ()) :
    headReadable w.store b = true := by
  simp only [bandOpen, perform, bind_def, op_bind, ret_bind] at h
  obtain ⟨w', r, hrun, _, hr⟩ := run_op_ro_inv (o := .read (.bandHead b)) _ w rfl
  rw [hrun] at h
  rcases hr with rfl | ⟨e, rfl⟩
  · simp only [roResp, readResp] at h
    cases hg : w.store.get? (.bandHead b) with
    | none => simp [hg] at h
    | some v =>
      cases v with
      | head ver flags =>
        cases ver <;> simp [hg] at h
        · cases flags with
          | nil => simp [headReadable, hg]
          | cons x xs => simp at h
        · cases flags with
          | nil => simp [headReadable, hg]
          | cons x xs => simp at h
      | _ => simp [hg] at h
  · cases e <;> simp at h

/-- In ANY world (either scan): if `referenced_blocks` returns at all, every band it was given has
an accepted head. -/
theorem referencedBlocks_heads (strict : Bool) (bs : List Nat) :
    ∀ (w : World) (refs : List Str), ((referencedBlocks strict bs).run w).1 = .ok refs →
      ∀ b ∈ bs, headReadable w.store b = true := by
  induction bs with
  | nil => intro w refs _ b hb; cases hb
  | cons b' bs ih =>
    intro w refs h b hb
    have key : ∀ (av : Prog (List Nat)), AllOps ReadOnly av →
        (((bandOpen b').bind fun _ => av.bind fun hunks => (bandHunkEntries strict b' hunks).bind fun es =>
          (referencedBlocks strict bs).bind fun more =>
            ret (dedupStr (List.flatMap (fun e => List.map (fun x => x.hash) e.addrs) es ++ more))).run w).1
          = .ok refs → headReadable w.store b = true := by
      intro av hro h
      obtain ⟨_, w1, h1, hst1, h⟩ := run_bind_ok_readOnly (bandOpen_fp (K := Key.inBand) trivial).rd_ro h
      obtain ⟨hunks, w2, _, hst2, h⟩ := run_bind_ok_readOnly hro h
      obtain ⟨all, w3, _, hst3, h⟩ := run_bind_ok_readOnly (bandHunkEntries_fp strict b' hunks).rd_ro h
      obtain ⟨more, w4, hmore, _, h⟩ := run_bind_ok_readOnly (referencedBlocks_fp strict bs).rd_ro h
      rcases List.mem_cons.1 hb with rfl | hb
      · exact bandOpen_ok_sound (by rw [h1])
      · have e3 : w3.store = w.store := hst3.trans (hst2.trans hst1)
        rw [← e3]
        exact ih w3 more (by rw [hmore]) b hb
    cases strict with
    | true =>
      simp only [referencedBlocks, bind_def, pure_def, if_true] at h
      exact key _ (hunksAvailable_fp b').rd_ro h
    | false =>
      simp only [referencedBlocks, bind_def, pure_def, Bool.false_eq_true, if_false] at h
      exact key _ (iterAvailableHunks_fp b').rd_ro h

/-- If `delete_bands` returns `Ok` once the lock is held, the body returned `Ok`: an error or a
panic of the body is passed on after the lock is released. -/
theorem withLock_ok_inv {strict : Bool} {D : List Nat} {o : DeleteOpts} {held : Option Nat} {w : World}
    {st : DeleteStats} (h : ((withLock strict D o held).run w).1 = .ok st) :
    ∃ st', ((deleteBody strict D o held).run w).1 = .ok st' := by
  simp only [withLock] at h
  obtain ⟨r, hr, hrun⟩ := Prog.run_bind_ok_split h
  rw [Prog.run_attemptAll, Outcome.ok.injEq] at hr
  rw [hrun] at h
  cases r with
  | ok st' => exact ⟨st', hr⟩
  | err e =>
    obtain ⟨_, _, h2⟩ := Prog.run_bind_ok_split h
    rw [h2] at h
    cases h
  | panic site =>
    obtain ⟨_, _, h2⟩ := Prog.run_bind_ok_split h
    rw [h2] at h
    cases h

end Conserve
