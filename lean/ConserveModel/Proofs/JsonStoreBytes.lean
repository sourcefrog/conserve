import ConserveModel.Proofs.JsonStoreBackup
import ConserveModel.Proofs.ProducedOps
import ConserveModel.Props.C13
import ConserveModel.Proofs.Blake2bVectors
import ConserveModel.Props.C13j
/-
C13 k, part 3: the bytes view of the JSON-carried files of the abstract store.

* `encodeFile` / `decodeFile`: from a `FileVal` to the (decompressed) bytes of the file and back, for
  index hunks, band heads and band tails.  The abstract store drops `start_time`, `end_time` and the
  text of `band_format_version` (it keeps its class, `VerClass`); `encodeFile` takes them as
  parameters (`Dropped`), `decodeFile` takes the classification of version strings as a parameter.
* `Placed`: JSON-carried values sit at the keys the layout gives them (a hunk value at a hunk key,
  a head at `BANDHEAD`, a tail at `BANDTAIL`), so that the path alone tells the reader which of the
  three parsers to use; kept by `backup` and `delete_bands` in every world (they are `FineOp`s).
* lifting of `StoreJsonGood` and `Placed` over the histories of `C13` (`C13.Step`, `C13.states`).
* `blake2bHex_hashHex`: the model of BLAKE2b-512 that the driver instantiates `H` with is `HashHex`.
No property statements here.
-/
namespace Conserve.JStore
open Conserve Conserve.Inv Conserve.Conf Conserve.Rng Conserve.Json Prog

/-- Which of the three JSON documents a file is. -/
inductive JsonKind
  | hunk | head | tail
  deriving DecidableEq, Repr

/-- By the layout: `bNNNN/i/DDDDD/NNNNNNNNN`, `bNNNN/BANDHEAD`, `bNNNN/BANDTAIL`. -/
def jsonKindOfKey : Key → Option JsonKind
  | .hunk _ _ => some .hunk
  | .bandHead _ => some .head
  | .bandTail _ => some .tail
  | _ => none

def jsonKindOfVal : FileVal → Option JsonKind
  | .hunk _ => some .hunk
  | .head _ _ => some .head
  | .tail _ => some .tail
  | _ => none

/-- What the abstract `FileVal` dropped of a head or tail: the time (`start_time` of a head,
`end_time` of a tail) and the text of `band_format_version`. -/
structure Dropped where
  time : Int := 0
  version : Option Str := none
  deriving DecidableEq, Repr

/-- The times are `i64`s and the version is a `String`. -/
def Dropped.wf (d : Dropped) : Prop :=
  -9223372036854775808 ≤ d.time ∧ d.time < 9223372036854775808 ∧ wfOptStr d.version = true

/-- The bytes (before Snappy, for a hunk) of a JSON-carried file. -/
def encodeFile (d : Dropped) : FileVal → Option Str
  | .hunk es => some (renderHunk es)
  | .head _ flags => some (renderHead { startTime := d.time, bandFormatVersion := d.version, formatFlags := flags })
  | .tail n => some (renderTail { endTime := d.time, indexHunkCount := n })
  | _ => none

/-- The abstract value of the bytes of a JSON-carried file; `cls` classifies `band_format_version`
(semver comparison with the program's version; not modelled). -/
def decodeFile (cls : Option Str → VerClass) : JsonKind → Str → Option FileVal
  | .hunk, b => (parseHunk b).map .hunk
  | .head, b => (parseHead b).map fun h => .head (cls h.bandFormatVersion) h.formatFlags
  | .tail, b => (parseTail b).map fun t => .tail t.indexHunkCount

theorem decode_encode_val (cls : Option Str → VerClass) (d : Dropped) (hd : d.wf) {v : FileVal}
    (hv : FileJsonGood v) {jk : JsonKind} (hk : jsonKindOfVal v = some jk)
    (hcls : ∀ c fl, v = .head c fl → cls d.version = c) :
    ∃ b, encodeFile d v = some b ∧ decodeFile cls jk b = some v := by
  obtain ⟨h1, h2, h3⟩ := hd
  cases v with
  | hunk es =>
    cases hk
    exact ⟨_, rfl, by simp only [decodeFile, C13j.parse_render_hunk es hv]; rfl⟩
  | head c fl =>
    cases hk
    refine ⟨_, rfl, ?_⟩
    have hw : wfHead { startTime := d.time, bandFormatVersion := d.version, formatFlags := fl } = true := by
      simp only [wfHead, Bool.and_eq_true, decide_eq_true_eq, List.all_eq_true]
      exact ⟨⟨⟨h1, h2⟩, h3⟩, hv⟩
    simp only [decodeFile, parseHead_render _ hw, Option.map_some, hcls c fl rfl]
  | tail n =>
    cases hk
    refine ⟨_, rfl, ?_⟩
    have hw : wfTail { endTime := d.time, indexHunkCount := n } = true := by
      simp only [wfTail, Bool.and_eq_true, decide_eq_true_eq]
      refine ⟨⟨h1, h2⟩, ?_⟩
      cases n with
      | none => rfl
      | some n => exact decide_eq_true (show n < u64Bound from hv)
    simp only [decodeFile, parseTail_render _ hw, Option.map_some]
  | _ => cases hk

/-- A hunk value at a hunk key, a head at `BANDHEAD`, a tail at `BANDTAIL`. -/
def placed (k : Key) (v : FileVal) : Prop :=
  ∀ jk, jsonKindOfVal v = some jk → jsonKindOfKey k = some jk

def Placed (s : Store) : Prop := ∀ kv ∈ s, placed kv.1 kv.2

theorem Placed.get {s : Store} (h : Placed s) {k : Key} {v : FileVal} (hg : s.get? k = some v) :
    placed k v := h (k, v) (Store.mem_of_get? hg)

theorem FineOp.placed {k : Key} {v : FileVal} {m : WriteMode} (h : FineOp (.write k v m)) : placed k v := by
  obtain ⟨_, hv⟩ := h
  rcases hv with ⟨b, ver, fl, rfl, rfl⟩ | ⟨b, n, es, rfl, rfl⟩ | ⟨b, c, rfl, rfl⟩ | ⟨h, c, rfl, rfl⟩ | ⟨rfl, rfl⟩ <;>
    (intro jk hjk; cases hjk <;> rfl)

theorem exec_placed (w : World) {o : Op} (ho : FineOp o) (h : Placed w.store) : Placed (w.exec o).1.store :=
  w.exec_forall_mem (fun kv => placed kv.1 kv.2) (fun _ _ hjk => nomatch hjk) (fun _ _ hjk => nomatch hjk)
    (fun _ _ _ ho' => FineOp.placed (ho' ▸ ho)) h

theorem run_placed {α : Type} {p : Prog α} (hp : Prog.AllOps FineOp p) (w : World) (h : Placed w.store) :
    Placed (p.run w).2.store := Prog.run_store_inv (fun w _ ho h => exec_placed w ho h) hp w h

/-- What is assumed of a step: a backup's source listing is `SrcJsonGood`; nothing of its world or
options, nothing of a delete. -/
def StepJ : C13.Step → Prop
  | .backup _ src _ => SrcJsonGood src
  | .delete _ _ _ => True

theorem emptyArchive_sj : StoreJsonGood C13.emptyArchive := by
  intro kv hkv
  simp only [C13.emptyArchive, List.mem_cons, List.not_mem_nil, or_false] at hkv
  rcases hkv with rfl | rfl | rfl <;> trivial

theorem emptyArchive_placed : Placed C13.emptyArchive := by
  intro kv hkv
  simp only [C13.emptyArchive, List.mem_cons, List.not_mem_nil, or_false] at hkv
  rcases hkv with rfl | rfl | rfl <;> (intro jk hjk; cases hjk)

theorem states_sj {H : Str → Str} (hH : HashHex H) (hist : List C13.Step) (hok : ∀ st ∈ hist, StepJ st)
    (s : Store) (h : StoreJsonGood s) : ∀ s' ∈ C13.states H hist s, StoreJsonGood s' := by
  refine C13.states_invariant (A := StepJ) (fun st s hA hI => ?_) hist hok s h
  cases st with
  | backup o src w => exact backup_sj hH o hA _ hI
  | delete D opts w => exact delete_sj true D opts _ hI

/-- `backup` and `delete_bands` issue `FineOp`s only, in every world. -/
theorem states_placed {H : Str → Str} (hist : List C13.Step) (s : Store) (h : Placed s) :
    ∀ s' ∈ C13.states H hist s, Placed s' := by
  refine C13.states_invariant (A := fun _ => True) (fun st s _ hI => ?_) hist (fun _ _ => trivial) s h
  cases st with
  | backup o src w => exact run_placed (backup_fine H o src) _ hI
  | delete D opts w => exact run_placed (AllOps.fine2_fine (deleteBands_fine2 true D opts)) _ hI

open Blake2b in
theorem and_ff_lt (w : UInt64) : (w &&& 0xff).toNat < 256 := by
  rw [UInt64.toNat_and]
  have : w.toNat &&& (0xff : UInt64).toNat ≤ (0xff : UInt64).toNat := Nat.and_le_right
  have h2 : (0xff : UInt64).toNat = 255 := by decide
  omega

theorem shr56_lt (w : UInt64) : (w >>> 56).toNat < 256 := by
  rw [UInt64.toNat_shiftRight]
  have := w.toNat_lt
  have h2 : (56 : UInt64).toNat % 64 = 56 := by decide
  rw [h2, Nat.shiftRight_eq_div_pow]
  omega

open Blake2b in
theorem wordBytes_lt (w : UInt64) (acc : List Nat) (h : ∀ b ∈ acc, b < 256) :
    ∀ b ∈ wordBytes w acc, b < 256 := by
  intro b hb
  simp only [wordBytes, List.mem_cons] at hb
  rcases hb with rfl | rfl | rfl | rfl | rfl | rfl | rfl | rfl | hb
  all_goals first | exact and_ff_lt _ | exact shr56_lt _ | exact h b hb

open Blake2b in
theorem foldr_wordBytes_lt (l : List UInt64) : ∀ b ∈ l.foldr wordBytes [], b < 256 := by
  induction l with
  | nil => intro b hb; cases hb
  | cons w l ih => exact wordBytes_lt w _ ih

theorem blake2b512_lt (msg : List Nat) : ∀ b ∈ blake2b512 msg, b < 256 := by
  unfold blake2b512
  simp only []
  rw [← Array.foldr_toList]
  exact foldr_wordBytes_lt _

open Blake2b in
theorem hexDigitCode_lower (n : Nat) (h : n < 16) : isLowerHex (hexDigitCode n) = true := by
  unfold hexDigitCode isLowerHex
  split <;> simp <;> omega

/-- The file name the model's BLAKE2b-512 gives a block is 128 lower-case hex digits, for every
content. -/
theorem blake2bHex_hashHex : HashHex blake2bHex := by
  intro msg
  unfold wfHash
  rw [blake2bHex_length]
  simp only [beq_self_eq_true, Bool.true_and, List.all_eq_true]
  intro c hc
  unfold blake2bHex at hc
  rw [List.mem_flatMap] at hc
  obtain ⟨b, hb, hc⟩ := hc
  have := blake2b512_lt msg b hb
  simp only [List.mem_cons, List.not_mem_nil, or_false] at hc
  rcases hc with rfl | rfl
  · exact hexDigitCode_lower _ (by omega)
  · exact hexDigitCode_lower _ (by omega)

/-- The sixteen lower-case hex digits. -/
def hexDigits : List Nat := (List.range 103).filter isLowerHex

theorem mem_hexDigits {c : Nat} (h : isLowerHex c = true) : c ∈ hexDigits := by
  refine List.mem_filter.2 ⟨List.mem_range.2 ?_, h⟩
  simp only [isLowerHex, Bool.or_eq_true, Bool.and_eq_true, decide_eq_true_eq] at h
  omega

/-- All strings of `n` lower-case hex digits. -/
def allHex : Nat → List Str
  | 0 => [[]]
  | n + 1 => (allHex n).flatMap fun s => hexDigits.map (· :: s)

theorem mem_allHex : ∀ (n : Nat) (s : Str), s.length = n → s.all isLowerHex = true → s ∈ allHex n
  | 0, s, hl, _ => by
    have : s = [] := List.eq_nil_of_length_eq_zero hl
    simp [this, allHex]
  | n + 1, [], hl, _ => by simp at hl
  | n + 1, c :: s, hl, ha => by
    simp only [List.all_cons, Bool.and_eq_true] at ha
    simp only [allHex, List.mem_flatMap, List.mem_map]
    exact ⟨s, mem_allHex n s (by simpa using hl) ha.2, c, mem_hexDigits ha.1, rfl⟩

/-- **No `HashHex` function is injective**: there are only finitely many names of 128 hex digits.
(C13 and others assume `Function.Injective H` — the usual idealisation "no collisions"; the two
hypotheses cannot be made about the same `H`.) -/
theorem hashHex_not_injective {H : Str → Str} (hH : HashHex H) : ¬ Function.Injective H := by
  intro hinj
  let N := (allHex 128).length
  let inputs : List Str := (List.range (N + 1)).map fun i => List.replicate i 0
  have hnd : inputs.Nodup := by
    refine List.Pairwise.map _ ?_ List.nodup_range
    intro a b hab h
    exact hab (by simpa using congrArg List.length h)
  have hnd2 : (inputs.map H).Nodup := List.Pairwise.map _ (fun a b hab h => hab (hinj h)) hnd
  have hsub : inputs.map H ⊆ allHex 128 := by
    intro x hx
    obtain ⟨d, _, rfl⟩ := List.mem_map.mp hx
    have := hH d
    simp only [wfHash, Bool.and_eq_true, beq_iff_eq] at this
    exact mem_allHex 128 _ this.1 this.2
  have := hnd2.length_le_of_subset hsub
  simp only [inputs, N, List.length_map, List.length_range] at this
  omega

end Conserve.JStore
