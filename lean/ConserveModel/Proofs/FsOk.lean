import ConserveModel.Proofs.FsMode
/-
Success of the calls restore makes on clean paths whose parent directories exist, with paths
shorter than the resolution step bound.
-/
namespace Conserve

def HaveFull (fs : Fs) (D : Path) (cs : List Str) : Prop :=
  ∀ pre, pre <+: cs → fs.isDir (D ++ pre) = true

theorem HaveFull.to_of_dropLast {fs : Fs} {D : Path} {cs : List Str} (h : HaveFull fs D cs.dropLast) :
    HaveTo fs D cs :=
  fun pre hp hne => h pre (prefix_dropLast_of_ne hp hne)

theorem HaveFull.kept {fs fs' : Fs} {D : Path} {cs : List Str} (h : HaveFull fs D cs) (hk : Kept fs fs') :
    HaveFull fs' D cs :=
  fun pre hp => hk.isDir (h pre hp)

theorem resolve_ok {fs : Fs} {D : Path} {cs : List Str} {follow : Bool} (hD : DestOk fs D)
    (hg : ∀ c ∈ cs, goodName c = true) (hlen : (D ++ cs).length < resolveFuel) (hh : HaveTo fs D cs)
    (hfin : follow = false ∨ NotLink (fs.node (D ++ cs))) :
    fs.resolve follow (D ++ cs) = .ok (D ++ cs) :=
  walk_clean_ok fs follow resolveFuel maxSymlinks [] (D ++ cs) hlen (hD.good_append hg)
    (fun _ => hD.dirs [] List.nil_prefix) (hD.prefixes (fun _ h => h) hh) hfin

theorem resolve_missing {fs : Fs} {D : Path} {cs : List Str} {follow : Bool} (hD : DestOk fs D)
    (hg : ∀ c ∈ cs, goodName c = true) (hlen : (D ++ cs).length < resolveFuel) (hc : CleanFull fs D cs)
    (hm : ∃ pre, pre <+: cs ∧ pre ≠ cs ∧ fs.node (D ++ pre) = none) :
    fs.resolve follow (D ++ cs) = .error .ENOENT := by
  obtain ⟨pre, hp, hne, hn⟩ := hm
  refine walk_clean_missing fs follow resolveFuel maxSymlinks [] (D ++ cs) hlen (hD.good_append hg)
    (hD.dirs [] List.nil_prefix) (hD.prefixes (fun _ h => noneOrDir_of_isDir h) fun q hq _ => hc q hq)
    ⟨D ++ pre, (List.prefix_append_right_inj D).2 hp, ?_, fun e => hne (List.append_cancel_left e), hn⟩
  intro e
  rw [e] at hn
  exact hD.node_ne_none ((List.append_eq_nil_iff.1 e).1 ▸ hn)

theorem mkdirOrDir_have {fs : Fs} {D : Path} {cs : List Str} (hD : DestOk fs D)
    (hg : ∀ c ∈ cs, goodName c = true) (hlen : (D ++ cs).length < resolveFuel) (hh : HaveTo fs D cs)
    (hc : CleanFull fs D cs) :
    (fs.mkdir (D ++ cs)).2 ≠ .error .ENOENT ∧ (mkdirOrDir fs (D ++ cs)).2 = .ok () ∧
      HaveFull (mkdirOrDir fs (D ++ cs)).1 D cs := by
  have full_of : ∀ {fs' : Fs}, Kept fs fs' → fs'.isDir (D ++ cs) = true → HaveFull fs' D cs :=
    fun hk hd pre hp => by
      by_cases e : pre = cs
      · rw [e]; exact hd
      · exact hk.isDir (hh pre hp e)
  have hself := hc cs (List.prefix_refl _)
  have G := mkdir_grows hD hg hc.toL
  have hmk := (Fs.mkdir_eq fs (D ++ cs)).trans (Fs.onPath_ok (resolve_ok hD hg hlen hh (Or.inl rfl)))
  rcases hm : fs.mkdir (D ++ cs) with ⟨fs1, r⟩
  rw [hm] at G
  unfold mkdirOrDir
  rw [hm]
  rcases Fs.newAt_eq (hmk.symm.trans hm) with ⟨_, rfl, rfl⟩ | ⟨⟨x, hn⟩, rfl, rfl⟩
  · exact ⟨by simp, rfl, full_of G.kept (isDir_createAt_self rfl)⟩
  · -- the name is taken (`fs1` is `fs`): by a directory, which `is_dir()` accepts
    have hd : fs1.isDir (D ++ cs) = true := Fs.isDir_iff.2 ⟨x, hn, hself x hn⟩
    have hst : fs1.statIsDir (D ++ cs) = true := by
      unfold Fs.statIsDir
      rw [resolve_ok hD hg hlen hh (Or.inr hself.notLink)]
      exact hd
    simp only [hst, if_true]
    exact ⟨by simp, trivial, full_of (Kept.refl fs1) hd⟩

theorem mkdirAll_ok {D : Path} : ∀ (k : Nat) (fs : Fs) (cs : List Str), cs.length < k → DestOk fs D →
    (∀ c ∈ cs, goodName c = true) → CleanFull fs D cs → (D ++ cs).length < resolveFuel →
    (Fs.mkdirAll k fs (D ++ cs)).2 = .ok () ∧ HaveFull (Fs.mkdirAll k fs (D ++ cs)).1 D cs := by
  intro k
  induction k with
  | zero => intro fs cs h; exact absurd h (Nat.not_lt_zero _)
  | succ k ih =>
    intro fs cs hk hD hg hc hlen
    by_cases hh : HaveTo fs D cs
    · -- the parents exist
      obtain ⟨hne, hok⟩ := mkdirOrDir_have hD hg hlen hh hc
      rw [Fs.mkdirAll_of_ne_enoent hne]
      exact hok
    · -- some parent is missing: ENOENT, create the parent first
      have hm : ∃ pre, pre <+: cs ∧ pre ≠ cs ∧ fs.node (D ++ pre) = none := by
        apply Classical.byContradiction
        intro hcon
        apply hh
        intro pre hp hne
        cases hn : fs.node (D ++ pre) with
        | none => exact absurd ⟨pre, hp, hne, hn⟩ hcon
        | some x => exact Fs.isDir_iff.2 ⟨x, hn, hc pre hp x hn⟩
      have hmk : fs.mkdir (D ++ cs) = (fs, .error .ENOENT) := by
        rw [Fs.mkdir_eq, Fs.onPath_error (resolve_missing hD hg hlen hc hm)]
      have hcs := mkdir_cs_ne_nil hD hmk
      have hpre : cs.dropLast <+: cs := List.dropLast_prefix cs
      have hlen' : (D ++ cs.dropLast).length < resolveFuel := by
        have := hpre.length_le
        simp only [List.length_append] at hlen ⊢
        omega
      have hk' : cs.dropLast.length < k := by
        rw [List.length_dropLast]
        have := List.length_pos_iff.2 hcs
        omega
      have hg' : ∀ c ∈ cs.dropLast, goodName c = true := fun c h => hg c (List.dropLast_subset cs h)
      obtain ⟨hok, hfull⟩ := ih fs cs.dropLast hk' hD hg' (hc.prefix hpre) hlen'
      rw [Fs.mkdirAll_of_enoent hmk (by simp [hcs]), dropLast_dest_append hcs]
      rcases hr : Fs.mkdirAll k fs (D ++ cs.dropLast) with ⟨fs1, r⟩
      have G1 := (mkdirAll_result k fs cs.dropLast hD hg' (hc.prefix hpre).toL fs1 r hr).1
      rw [hr] at hok hfull
      dsimp only at hok
      subst hok
      exact (mkdirOrDir_have (G1.destOk hD) hg hlen hfull.to_of_dropLast (G1.cleanFull hc)).2

end Conserve
