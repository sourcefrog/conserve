import ConserveModel.Proofs.ExactRestore
import ConserveModel.Proofs.StitchRun
/-
`restore(Specified(b), subtree, exclusions)` and `listEntries` as pure functions of ANY store that is a
map (`restoreRaw`, `filterP` of `stitchAllP`: no tree shape, no sortedness, no readable heads assumed),
with the one walk through the body of `restore()` (`restoreBody_raw_runs`).  What they are on a
well-formed archive is C08's rule (`Exact.restoreSpecP`, `Exact.restoreSelP`).
-/
set_option linter.unusedSimpArgs false
namespace Conserve.Exact
open Conserve Prog

theorem bandOpen_runsAt (s : Store) (b : Nat) : RunsAt (bandOpen b) s (headOutcome s b) s [] :=
  runsAt_iff.2 (by rw [eval_bandOpen, headOutcome_eq])

end Conserve.Exact

namespace Conserve.Hist
open Conserve Conserve.Exact Prog

variable {H : Str → Str}

theorem mem_of_filterP {subtree : Str} {excl : Str → Bool} {es out : List IndexEntry} :
    filterP subtree excl es = .ok out → ∀ e ∈ out, e ∈ es := by
  fun_induction filterP subtree excl es generalizing out
  case case1 => intro h e he; cases h; cases he
  case case2 ih | case4 ih => exact fun h e he => List.mem_cons_of_mem _ (ih h e he)
  case case3 => intro h; cases h
  case case5 x es _ _ _ ih =>
    intro h e he
    cases hf : filterP subtree excl es with
    | ok out' =>
      rw [hf] at h
      cases h
      rcases List.mem_cons.mp he with rfl | he
      · exact List.mem_cons_self ..
      · exact List.mem_cons_of_mem _ (ih hf e he)
    | err _ | panic _ => rw [hf] at h; cases h

theorem listEntries_raw_runsAt (s : Store) (n : Nat) (subtree : Str) (excl : Str → Bool) :
    RunsAt (listEntries n subtree excl) s (filterP subtree excl (stitchAllP s n).1) s
      (evsOf (stitchAllP s n).2) := runsAt_iff.2 (eval_listEntries true s n subtree excl)

theorem listBlocks_runsAt_ok {s : Store} (hn : UniqueKeys s) (hr : s.get? .blockRoot = some .dir) :
    RunsAt listBlocks s (.ok (blockNamesOf s)) s [] :=
  runsAt_iff.2 (eval_listBlocks true hr (blockSubdirs_are_dirs hn))

/-- The error `list_blocks` ends with when `d/` is not a directory. -/
def blockRootErr (s : Store) : Err :=
  .transport (if s.get? .blockRoot = none then .notFound else .other)

theorem listBlocks_runsAt_err {s : Store} (hr : s.get? .blockRoot ≠ some .dir) :
    RunsAt listBlocks s (.err (blockRootErr s)) s [] :=
  runsAt_iff.2 (by
    simp only [listBlocks, perform, bind_def, op_bind, ret_bind, eval_op, applyOp_listDir, listResp_not_dir hr]
    rfl)

/-- What `restore(Specified(b), subtree, excl)` returns and reports on a store (any store without
duplicate keys): open the head; list the blocks (fails iff `d/` is no directory); stitch and filter
the listing; restore entry by entry. -/
def restoreRaw (H : Str → Str) (s : Store) (b : Nat) (subtree : Str) (excl : Str → Bool) :
    Outcome (List RNode) × List Event :=
  match headOutcome s b with
  | .err e => (.err e, [])
  | .panic m => (.panic m, [])
  | .ok () =>
    if s.get? .blockRoot = some .dir then
      match filterP subtree excl (stitchAllP s b).1 with
      | .ok es => ((restoreP H s [] es).1, (restoreP H s [] es).2 ++ evsOf (stitchAllP s b).2)
      | .err e => (.err e, evsOf (stitchAllP s b).2)
      | .panic m => (.panic m, evsOf (stitchAllP s b).2)
    else (.err (blockRootErr s), [])

theorem RunsAt.bind_err' {α β : Type} {p : Prog α} {f : α → Prog β} {s s1 s2 : Store} {a : α} {e : Err}
    {e1 e2 : List Event} (hp : RunsAt p s (.ok a) s1 e1) (hf : RunsAt (f a) s1 (.err e) s2 e2) :
    RunsAt (p.bind f) s (.err e) s2 (e2 ++ e1) := RunsAt.bind hp hf

theorem restoreBody_raw_runs {s : Store} (hn : UniqueKeys s) (b : Nat) (subtree : Str) (excl : Str → Bool) :
    RunsAt ((bandOpen b).bind fun _ => listBlocks.bind fun _ =>
        (listEntries b subtree excl).bind fun es => restoreEntries H [] es) s
      (restoreRaw H s b subtree excl).1 s (restoreRaw H s b subtree excl).2 := by
  unfold restoreRaw
  have ho := bandOpen_runsAt s b
  cases hh : headOutcome s b with
  | ok u =>
    rw [hh] at ho
    refine RunsAt.bind0 ho ?_
    by_cases hr : s.get? .blockRoot = some .dir
    · simp only [hr, if_true]
      refine RunsAt.bind0 (listBlocks_runsAt_ok hn hr) ?_
      have hle := listEntries_raw_runsAt s b subtree excl
      cases hf : filterP subtree excl (stitchAllP s b).1 with
      | ok es =>
        rw [hf] at hle
        exact RunsAt.bind hle (restoreEntries_runs s _ [])
      | err e => rw [hf] at hle; exact RunsAt.bind_err hle
      | panic m => rw [hf] at hle; exact RunsAt.bind_panic hle
    · simp only [hr, if_false]
      exact RunsAt.bind_err (listBlocks_runsAt_err hr)
  | err e => rw [hh] at ho; exact RunsAt.bind_err ho
  | panic m => rw [hh] at ho; exact RunsAt.bind_panic ho

theorem restore_raw_runs {s : Store} (hn : UniqueKeys s) (b : Nat) (subtree : Str) (excl : Str → Bool) :
    RunsAt (restore H (.specified b) subtree excl) s (restoreRaw H s b subtree excl).1 s
      (restoreRaw H s b subtree excl).2 := by
  have := restoreBody_raw_runs (H := H) hn b subtree excl
  simpa [restore, resolveBandId] using this

end Conserve.Hist
