import ConserveModel.Proofs.FaultSim
/-
A fault list that is "spent": every injected fault names an attempt number that already lies in the
past of the trace.  From such a world on, no operation can hit a fault (`unfaulted_of_spent`), so the
run is the fault-free run (`Fault.sim`).  Used to exhibit worlds in which a fault DOES fire, is swallowed
by the implementation, and the backup still — correctly — reports success.
No property statements here.
-/
namespace Conserve.Fault
open Conserve Prog

/-- Every fault of the list refers to an attempt that has already happened. -/
def Spent (w : World) : Prop :=
  ∀ f ∈ w.faults, f.at_.nth < w.occurrences f.at_.verb f.at_.key

theorem Spent.faultFor {w : World} (h : Spent w) (o : Op) : w.faultFor o = none := by
  unfold World.faultFor
  simp only [Option.map_eq_none_iff, List.find?_eq_none]
  intro f hf hp
  simp only [Bool.and_eq_true, beq_iff_eq] at hp
  have := h f hf
  rw [hp.1.1, hp.1.2, hp.2] at this
  exact absurd this (Nat.lt_irrefl _)

theorem Spent.exec {w : World} (hl : Live w) (h : Spent w) (o : Op) : Spent (w.exec o).1 := by
  rw [exec_live hl (h.faultFor o)]
  intro f hf
  refine Nat.lt_of_lt_of_le (h f hf) ?_
  simp only [World.occurrences, World.applied, List.filter_cons]
  split <;> simp

theorem unfaulted_of_spent {α : Type} (p : Prog α) : ∀ {w : World}, Live w → Spent w → Unfaulted p w := by
  induction p with
  | ret a => intro _ _ _; trivial
  | fail e => intro _ _ _; trivial
  | panic s => intro _ _ _; trivial
  | emit ev k ih => intro w hl hs; exact ih (w := { w with events := ev :: w.events }) (hl.events _) hs
  | op o k ih => intro w hl hs; exact ⟨hs.faultFor o, ih _ (hl.exec o) (hs.exec hl o)⟩

end Conserve.Fault
