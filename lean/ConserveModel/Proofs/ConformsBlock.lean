import ConserveModel.Proofs.ConformsStep
import ConserveModel.Proofs.FrameOps
/-
C13, the block-level half of `backup` (`copy_entry` and everything below it):
(a) it only issues block operations — reads, creation of a block sub-directory named by the first
    three characters of a hash, `CreateNew` writes of a block under the hash of its content — and
    those keep the store invariant `CI` and leave every non-block key alone, in every world;
(b) pure facts about the writer it returns (`BufStep`, read off `Blk.Copied`): band, sequence and hunk count unchanged,
    and the buffered entries (pending ++ finished ++ queue), seen through (apath, kind, target),
    are the old ones plus at most the entry for the source file just processed.
No property statements here.
-/
namespace Conserve.Conf
open Conserve Conserve.Inv Prog

/-- The block hash, as a file name, has at least the three characters that name its sub-directory
(BLAKE2b-512 in hex has 128). -/
def HashLen (H : Str → Str) : Prop := ∀ c, subdirNameChars ≤ (H c).length

def BlockOp (H : Str → Str) (o : Op) : Prop :=
  o.isMutating = false ∨ (∃ d, o = .createDir (.blockDir ((H d).take subdirNameChars))) ∨
  (∃ d, o = .write (.block (H d)) (.blockData d) .createNew)

def NonBlockSame (s s' : Store) : Prop :=
  ∀ k, (∀ h, k ≠ .block h) → (∀ p, k ≠ .blockDir p) → s'.get? k = s.get? k

theorem NonBlockSame.refl (s : Store) : NonBlockSame s s := fun _ _ _ => rfl

theorem NonBlockSame.trans {a b c : Store} (h1 : NonBlockSame a b) (h2 : NonBlockSame b c) :
    NonBlockSame a c := fun k hb hd => (h2 k hb hd).trans (h1 k hb hd)

theorem NonBlockSame.bandKeys {s s' : Store} (h : NonBlockSame s s') (b : Nat) : BandKeysSame b s s' :=
  ⟨fun n => h _ (fun _ => by simp) (fun _ => by simp), h _ (fun _ => by simp) (fun _ => by simp),
   h _ (fun _ => by simp) (fun _ => by simp)⟩

section
variable {H : Str → Str}

theorem BlockOp.createOnly {o : Op} (ho : BlockOp H o) : Inv.CreateOnly o := by
  rcases ho with ho | ⟨d, rfl⟩ | ⟨d, rfl⟩
  · exact Or.inl ho
  · exact Or.inr (Or.inl ⟨_, rfl⟩)
  · exact Or.inr (Or.inr ⟨_, _, rfl⟩)

theorem exec_blockOp (hlen : HashLen H) (w : World) (he : w.enforceCreateNew = true)
    (h : CI H w.store) {o : Op} (ho : BlockOp H o) :
    CI H (w.exec o).1.store ∧ NonBlockSame w.store (w.exec o).1.store := by
  rcases ho with ho | ⟨d, rfl⟩ | ⟨d, rfl⟩
  · rw [w.exec_readOnly_store o (.of_not_mutating ho)]; exact ⟨h, NonBlockSame.refl _⟩
  · refine ⟨exec_createDir_plain h ?_ (fun b => by simp [touchesBand]), ?_⟩
    · have := hlen d
      simp [blockEntryOk, FileVal.isDir, List.length_take]
      omega
    · rcases exec_createDir_cases w (.blockDir ((H d).take subdirNameChars)) with hs | ⟨_, _, hs⟩
      · rw [hs]; exact NonBlockSame.refl _
      · rw [hs]
        exact fun k _ hd => Store.get?_put_ne _ _ (hd _)
  · refine ⟨exec_write_ci h he rfl (by simp [blockEntryOk]) (fun b ht => by simp [touchesBand] at ht), ?_⟩
    rcases exec_write_cases w (.block (H d)) (.blockData d) he with ⟨hs, _⟩ | ⟨_, _, ⟨hs, _⟩ | ⟨hs, _⟩⟩
    · rw [hs]; exact NonBlockSame.refl _
    · rw [hs]; exact fun k hb _ => Store.get?_put_ne _ _ (hb _)
    · rw [hs]; exact fun k hb _ => Store.get?_put_ne _ _ (hb _)

theorem run_blockOps (hlen : HashLen H) {α : Type} {p : Prog α} (hp : Prog.AllOps (BlockOp H) p)
    (w : World) (he : w.enforceCreateNew = true) (h : CI H w.store) :
    CI H (p.run w).2.store ∧ NonBlockSame w.store (p.run w).2.store ∧ Extends w.store (p.run w).2.store := by
  have := Prog.run_world_inv (P := BlockOp H)
    (I := fun w' => w'.enforceCreateNew = true ∧ CI H w'.store ∧ NonBlockSame w.store w'.store ∧
      Extends w.store w'.store)
    (fun _ _ h => h)
    (fun w' o ho ⟨he', hc, hs, hx⟩ =>
      ⟨by simpa using he', (exec_blockOp hlen w' he' hc ho).1, hs.trans (exec_blockOp hlen w' he' hc ho).2,
       hx.trans (w'.exec_extends o he' ho.createOnly.createOnly)⟩)
    hp w ⟨he, h, NonBlockSame.refl _, Extends.refl _⟩
  exact ⟨this.2.1, this.2.2.1, this.2.2.2⟩

end

theorem _root_.Conserve.BlockWr.blockOp {H : Str → Str} {o : Op} (h : BlockWr H o) : BlockOp H o := by
  cases h
  · exact Or.inr (Or.inl ⟨_, rfl⟩)
  · exact Or.inr (Or.inr ⟨_, rfl⟩)

section
variable (H : Str → Str)

theorem combinerFlush_blk (w : Writer) : AllOps (BlockOp H) (combinerFlush H w) :=
  (combinerFlush_fp H w).mono fun _ => BlockWr.blockOp

theorem copyEntry_blk (o : BackupOpts) (w : Writer) (basis : Option IndexEntry) (s : SrcEntry) :
    AllOps (BlockOp H) (copyEntry H o w basis s) :=
  (copyEntry_fp H o w basis s).mono fun _ => BlockWr.blockOp

end

def RetSpec {α : Type} (p : Prog α) (Q : α → Prop) : Prop := ∀ w a, (p.run w).1 = .ok a → Q a

namespace RetSpec

theorem ret {α : Type} {a : α} {Q : α → Prop} (h : Q a) : RetSpec (.ret a) Q :=
  fun _ _ h' => by cases h'; exact h

theorem fail {α : Type} {e : Err} {Q : α → Prop} : RetSpec (.fail e : Prog α) Q := fun _ _ h' => nomatch h'

theorem panic {α : Type} {m : String} {Q : α → Prop} : RetSpec (.panic m : Prog α) Q := fun _ _ h' => nomatch h'

theorem emit {α : Type} {ev : Event} {k : Prog α} {Q : α → Prop} (h : RetSpec k Q) : RetSpec (.emit ev k) Q :=
  fun w a ha => h { w with events := ev :: w.events } a ha

theorem op {α : Type} {o : Op} {k : Resp → Prog α} {Q : α → Prop} (h : ∀ r, RetSpec (k r) Q) :
    RetSpec (.op o k) Q := fun _ a ha => h _ _ a ha

theorem framed {α : Type} {p : Prog α} {Q : α → Prop} :
    RetSpec p Q ↔ ∀ w, Framed (fun _ _ => True) p w (fun a _ => Q a) :=
  ⟨fun h w => ⟨trivial, h w⟩, fun h w => (h w).2⟩

theorem bind {α β : Type} {p : Prog α} {f : α → Prog β} {Q1 : α → Prop} {Q : β → Prop}
    (hp : RetSpec p Q1) (hf : ∀ a, Q1 a → RetSpec (f a) Q) : RetSpec (p.bind f) Q :=
  framed.2 fun w => .bind ((framed.1 hp w).mono fun a w' _ ha => framed.1 (hf a ha) w') fun _ _ _ _ _ => trivial

theorem mono {α : Type} {p : Prog α} {Q Q' : α → Prop} (hp : RetSpec p Q) (h : ∀ a, Q a → Q' a) :
    RetSpec p Q' := fun w a ha => h a (hp w a ha)

end RetSpec

/-- What the order / shape argument needs of an index entry. -/
abbrev Sig := Str × Kind × Option Str

def sig (e : IndexEntry) : Sig := (e.apath, e.kind, e.target)

/-- The entries the writer holds in memory: pending, finished, and queued in the combiner. -/
def bufEntries (wr : Writer) : List IndexEntry := wr.pending ++ wr.finished ++ wr.queue.map (·.2.2)

def bufSig (wr : Writer) : List Sig := (bufEntries wr).map sig

/-- Writer before / after a block-level function: same band, sequence and hunk count; the buffered
entries are the old ones plus `xs` (up to order; addresses may have been filled in). -/
structure BufStep (wr wr' : Writer) (xs : List Sig) : Prop where
  band : wr'.band = wr.band
  seq : wr'.sequence = wr.sequence
  hw : wr'.hunksWritten = wr.hunksWritten
  perm : (bufSig wr').Perm (bufSig wr ++ xs)

theorem BufStep.of_eq {wr wr' : Writer} (hb : wr'.band = wr.band) (hs : wr'.sequence = wr.sequence)
    (hh : wr'.hunksWritten = wr.hunksWritten) (he : bufSig wr' = bufSig wr) : BufStep wr wr' [] :=
  ⟨hb, hs, hh, by rw [he]; simp⟩

theorem BufStep.refl (wr : Writer) : BufStep wr wr [] := BufStep.of_eq rfl rfl rfl rfl

theorem BufStep.trans_nil {a b c : Writer} {xs : List Sig} (h1 : BufStep a b xs) (h2 : BufStep b c []) :
    BufStep a c xs :=
  ⟨h2.band.trans h1.band, h2.seq.trans h1.seq, h2.hw.trans h1.hw,
   (by simpa using h2.perm : (bufSig c).Perm (bufSig b)).trans h1.perm⟩

theorem BufStep.nil_trans {a b c : Writer} {xs : List Sig} (h1 : BufStep a b []) (h2 : BufStep b c xs) :
    BufStep a c xs :=
  ⟨h2.band.trans h1.band, h2.seq.trans h1.seq, h2.hw.trans h1.hw,
   h2.perm.trans (List.Perm.append_right xs (by simpa using h1.perm))⟩

theorem perm_insert {α : Type} (a : α) (l1 l2 : List α) : (l1 ++ a :: l2).Perm (l1 ++ l2 ++ [a]) :=
  List.perm_middle.trans (List.perm_append_singleton a (l1 ++ l2)).symm

theorem BufStep.pushPending (wr : Writer) (e : IndexEntry) (st : Stats) :
    BufStep wr { wr with pending := wr.pending ++ [e], stats := st } [sig e] := by
  refine ⟨rfl, rfl, rfl, ?_⟩
  simp only [bufSig, bufEntries, List.map_append, List.map_cons, List.append_assoc,
    List.singleton_append]
  exact (perm_insert _ _ _).trans (by simp)

theorem BufStep.pushFinished (wr : Writer) (e : IndexEntry) (st : Stats) :
    BufStep wr { wr with finished := wr.finished ++ [e], stats := st } [sig e] := by
  refine ⟨rfl, rfl, rfl, ?_⟩
  simp only [bufSig, bufEntries, List.map_append, List.map_cons, List.append_assoc,
    List.singleton_append]
  have := perm_insert (sig e) (wr.pending.map sig ++ wr.finished.map sig) ((wr.queue.map (·.2.2)).map sig)
  simpa using this

section
variable (H : Str → Str)

/-- The result `copy_entry` has for the buffered entries: nothing, or exactly the entry of this source
file, which is of a known kind, joined them. -/
def StepOf (o : BackupOpts) (sf : SrcEntry) (wr wr' : Writer) : Prop :=
  ∃ xs, (xs = [] ∨ (xs = [sig (metaOf o sf)] ∧ sf.kind ≠ .unknown)) ∧ BufStep wr wr' xs

variable {H} {o : BackupOpts} {sf : SrcEntry} {basis : Option IndexEntry} {wr : Writer}

theorem _root_.Conserve.Blk.Flushed.bufStep {x : Writer × Except Err Unit} (h : Blk.Flushed H wr x) :
    BufStep wr x.1 [] ∧ (x.2 = .ok () → x.1.queue = []) := by
  cases h with
  | idle hq => exact ⟨BufStep.refl _, fun _ => hq⟩
  | failed e => exact ⟨BufStep.refl _, fun h => nomatch h⟩
  | done ex st _ =>
    refine ⟨BufStep.of_eq rfl rfl rfl ?_, fun _ => rfl⟩
    simp only [bufSig, bufEntries, List.map_append, List.map_nil, List.append_nil, List.append_assoc]
    congr 2
    -- filling in the addresses does not change the signatures
    simp only [List.map_map]
    rfl

theorem _root_.Conserve.Blk.Pushed.bufStep {x : Writer × Except Err Unit} (h : Blk.Pushed H o sf wr x) :
    BufStep wr x.1 [sig (metaOf o sf)] := by
  have hq : BufStep wr (Blk.queued o sf wr) [sig (metaOf o sf)] :=
    ⟨rfl, rfl, rfl, by simp [bufSig, bufEntries, Blk.queued]⟩
  cases h with
  | empty st _ => exact BufStep.pushFinished wr _ _
  | queued => exact hq
  | flushed h => exact hq.trans_nil h.bufStep.1

theorem _root_.Conserve.Blk.Copied.stepOf {x : Writer × Except Err (Option ChangeKind)}
    (h : Blk.Copied H o sf basis wr x) : StepOf o sf wr x.1 := by
  have known : sf.kind = .file → sf.kind ≠ .unknown := fun hk => by simp [hk]
  cases h with
  | skipped st => exact ⟨[], Or.inl rfl, BufStep.of_eq rfl rfl rfl rfl⟩
  | plain st r hk _ => exact ⟨_, Or.inr ⟨rfl, hk⟩, BufStep.pushPending wr _ _⟩
  | reused b st ck hk _ _ _ => exact ⟨_, Or.inr ⟨rfl, known hk⟩, BufStep.pushPending wr _ st⟩
  | small st x r hk hp =>
    exact ⟨_, Or.inr ⟨rfl, known hk⟩,
      BufStep.nil_trans (b := { wr with stats := st }) (BufStep.of_eq rfl rfl rfl rfl) hp.bufStep⟩
  | failed ex st e _ => exact ⟨[], Or.inl rfl, BufStep.of_eq rfl rfl rfl rfl⟩
  | large ex st ck hk _ _ =>
    exact ⟨_, Or.inr ⟨rfl, known hk⟩, BufStep.nil_trans (b := { wr with exists_ := ex, stats := st })
      (BufStep.of_eq rfl rfl rfl rfl) (BufStep.pushPending _ { metaOf o sf with addrs := _ } st)⟩

variable (H)

theorem combinerFlush_ret (wr : Writer) :
    RetSpec (combinerFlush H wr) (fun x => BufStep wr x.1 [] ∧ (x.2 = .ok () → x.1.queue = [])) :=
  fun w x hx => ((Blk.combinerFlush_carries H wr).returns w x hx).bufStep

theorem copyEntry_ret (o : BackupOpts) (wr : Writer) (basis : Option IndexEntry) (sf : SrcEntry) :
    RetSpec (copyEntry H o wr basis sf) (fun x => StepOf o sf wr x.1) :=
  fun w x hx => ((Blk.copyEntry_carries H o wr basis sf).returns w x hx).stepOf

end

end Conserve.Conf
