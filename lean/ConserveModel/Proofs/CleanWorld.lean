import ConserveModel.Proofs.FrameOps
import ConserveModel.Proofs.QuietWorld
/-
A world is `Clean` when it has no injected faults, no crash point, is alive and honours `CreateNew`
(`World.clean s` is one; so is every world reached from it): a quiet world (QuietWorld.lean) whose
`exec` is `applyOp true`.  What the readers of Archive.lean / IndexRead.lean return there, read off
their `eval_X`; how `run` splits along `bind`; the id `bandCreate` picks.
-/
namespace Conserve
open Prog

def World.Clean (w : World) : Prop :=
  w.enforceCreateNew = true ∧ w.faults = [] ∧ w.crashAt = none ∧ w.dead = false

theorem World.clean_Clean (s : Store) : (World.clean s).Clean := ⟨rfl, rfl, rfl, rfl⟩

@[simp] theorem World.clean_store (s : Store) : (World.clean s).store = s := rfl

theorem World.Clean.toQuiet {w : World} (h : w.Clean) : w.Quiet := ⟨h.2.1, h.2.2.1, h.2.2.2⟩

theorem World.exec_clean {w : World} (h : w.Clean) (o : Op) : w.exec o = w.applied o :=
  h.toQuiet.exec_eq_applied o

theorem World.exec_clean_resp {w : World} (h : w.Clean) (o : Op) : (w.exec o).2 = (applyOp true w.store o).2 := by
  rw [World.exec_clean h o, World.applied, h.1]

theorem World.exec_clean_store {w : World} (h : w.Clean) (o : Op) :
    (w.exec o).1.store = (applyOp true w.store o).1 := by
  rw [World.exec_clean h o, World.applied, h.1]

theorem World.exec_clean_Clean {w : World} (h : w.Clean) (o : Op) : (w.exec o).1.Clean := by
  rw [World.exec_clean h o]; exact h

theorem Prog.run_clean {α : Type} (p : Prog α) {w : World} (h : w.Clean) : (p.run w).2.Clean := by
  rw [Prog.run_eq_eval p (h.toQuiet.calm p)]
  exact h

theorem Prog.run_bind_ok {α β : Type} {p : Prog α} {f : α → Prog β} {w : World} {a : α}
    (h : (p.run w).1 = .ok a) : (p.bind f).run w = (f a).run (p.run w).2 := by
  rw [Prog.run_bind]
  rcases hp : p.run w with ⟨out, w'⟩
  rw [hp] at h
  simp only at h
  subst h
  rfl

theorem Prog.run_bind_err {α β : Type} {p : Prog α} {f : α → Prog β} {w : World} {e : Err}
    (h : (p.run w).1 = .err e) : (p.bind f).run w = (.err e, (p.run w).2) := by
  rw [Prog.run_bind]
  rcases hp : p.run w with ⟨out, w'⟩
  rw [hp] at h
  simp only at h
  subst h
  rfl

theorem Prog.run_bind_ok_inv {α β : Type} {p : Prog α} {f : α → Prog β} {w : World} {b : β}
    (h : ((p.bind f).run w).1 = .ok b) :
    ∃ a, (p.run w).1 = .ok a ∧ ((f a).run (p.run w).2).1 = .ok b := by
  obtain ⟨a, ha, e⟩ := Prog.run_bind_ok_split h
  exact ⟨a, ha, e ▸ h⟩

/-- Band ids a root listing shows (what `listBandIds` computes from the response). -/
def listingBandIds (xs : List DirEnt) : List Nat :=
  sortNat <| xs.filterMap fun e =>
    match e.key with
    | .bandDir b => if e.isDir then some b else none
    | _ => none

theorem listBandIds_run_ok {w : World} {ids : List Nat} (h : (listBandIds.run w).1 = .ok ids) :
    ∃ xs, (w.exec (.listDir .root)).2 = .listing xs ∧ ids = listingBandIds xs := by
  unfold listBandIds at h
  simp only [Prog.bind_def, Prog.perform, Prog.op_bind, Prog.run_op, Prog.ret_bind] at h
  split at h
  · rename_i xs hx
    refine ⟨xs, hx, ?_⟩
    simp only [Prog.pure_def, Prog.run_ret, Outcome.ok.injEq] at h
    exact h.symm
  · simp at h
  · simp at h

theorem lastBandId_run_clean {w : World} (h : w.Clean) (hroot : w.store.get? .root = some .dir) :
    (lastBandId.run w).1 = .ok (maxNat? (bandIdsOf w.store)) := (h.toQuiet.runs (eval_lastBandId _ hroot)).1

theorem isFile_run_clean {w : World} (h : w.Clean) (k : Key) :
    ((isFile k).run w).1 = .ok (match w.store.get? k with | some v => !v.isDir | none => false) :=
  (h.toQuiet.runs (eval_isFile _ _ k)).1

theorem bandIsClosed_run_clean {w : World} (h : w.Clean) (b : Nat) :
    ((bandIsClosed b).run w).1 = .ok (isComplete w.store b) := isFile_run_clean h _

theorem bandExists_run_clean {w : World} (h : w.Clean) (b : Nat) :
    ((bandExists b).run w).1 =
      .ok (match w.store.get? (.bandHead b) with | some v => !v.isDir | none => false) :=
  isFile_run_clean h _

theorem gcIsLocked_run_clean {w : World} (h : w.Clean) :
    (gcIsLocked.run w).1 = .ok (match w.store.get? .gcLock with | some v => !v.isDir | none => false) :=
  isFile_run_clean h _

theorem unwrapOr_run_ok {α : Type} {p : Prog α} {w : World} {a : α} (d : α) (h : (p.run w).1 = .ok a) :
    ((unwrapOr p d).run w).1 = .ok a ∧ ((unwrapOr p d).run w).2 = (p.run w).2 := by
  unfold unwrapOr
  simp only [Prog.bind_def]
  rw [Prog.run_bind, Prog.run_attempt]
  rcases hp : p.run w with ⟨out, w'⟩
  rw [hp] at h
  simp only at h
  subst h
  exact ⟨rfl, rfl⟩

theorem archiveOpen_run_clean {w : World} (h : w.Clean)
    (hh : w.store.get? .header = some (.header [48, 46, 54])) : (archiveOpen.run w).1 = .ok () :=
  (h.toQuiet.runs (out := .ok ()) (s' := w.store) (ev := []) (by
    simp [archiveOpen, perform, eval_op, applyOp_read, readResp, hh])).1

theorem bandOpen_run_clean {w : World} (h : w.Clean) {b : Nat} {ver : VerClass}
    (hh : w.store.get? (.bandHead b) = some (.head ver [])) (hv : ver = .ok ∨ ver = .absent) :
    ((bandOpen b).run w).1 = .ok () :=
  (h.toQuiet.runs (eval_bandOpen _ _ b)).1.trans (by rcases hv with rfl | rfl <;> simp [bandOpenP, hh, toOutcome])

theorem readHunk_run_clean_some {w : World} (h : w.Clean) {b n : Nat} {es : List IndexEntry}
    (hh : hunkAt w.store b n = some es) (hu : es.all entryUsable = true) :
    ((readHunk b n).run w).1 = .ok (some es) :=
  (h.toQuiet.runs (eval_readHunk _ _ b n)).1.trans (by simp [readHunkP, hunkAt_eq_some_iff.1 hh, hu, toOutcome])

theorem readHunk_run_clean_none {w : World} (h : w.Clean) {b n : Nat}
    (hh : w.store.get? (.hunk b n) = none) : ((readHunk b n).run w).1 = .ok none :=
  (h.toQuiet.runs (eval_readHunk _ _ b n)).1.trans (by simp [readHunkP, hh, toOutcome])

theorem Prog.run_readOnly_clean {α : Type} {p : Prog α} (hp : Prog.AllOps ReadOnly p) {w : World} (h : w.Clean) :
    (p.run w).2.store = w.store ∧ (p.run w).2.Clean :=
  ⟨Prog.run_readOnly_store hp w, Prog.run_clean p h⟩

theorem foldl_max_ge (xs : List Nat) (x : Nat) : x ≤ xs.foldl max x ∧ ∀ y ∈ xs, y ≤ xs.foldl max x := by
  induction xs generalizing x with
  | nil => simp
  | cons a xs ih =>
    simp only [List.foldl_cons, List.mem_cons]
    obtain ⟨h1, h2⟩ := ih (max x a)
    refine ⟨by omega, ?_⟩
    rintro y (rfl | hy)
    · omega
    · exact h2 y hy

theorem maxNat?_none {xs : List Nat} (h : maxNat? xs = none) : xs = [] := by
  cases xs <;> simp_all [maxNat?]

theorem maxNat?_ge {xs : List Nat} {m : Nat} (h : maxNat? xs = some m) : ∀ y ∈ xs, y ≤ m := by
  cases xs with
  | nil => simp [maxNat?] at h
  | cons x xs =>
    simp only [maxNat?, Option.some.injEq] at h
    subst h
    intro y hy
    rcases List.mem_cons.mp hy with rfl | hy
    · exact (foldl_max_ge xs _).1
    · exact (foldl_max_ge xs _).2 y hy

theorem foldl_max_mem (xs : List Nat) (x : Nat) : xs.foldl max x = x ∨ xs.foldl max x ∈ xs := by
  induction xs generalizing x with
  | nil => simp
  | cons a xs ih =>
    simp only [List.foldl_cons, List.mem_cons]
    rcases ih (max x a) with h | h
    · rw [h]
      rcases Nat.le_total x a with hxa | hxa
      · right; left; omega
      · left; omega
    · right; right; exact h

theorem maxNat?_mem {xs : List Nat} {m : Nat} (h : maxNat? xs = some m) : m ∈ xs := by
  cases xs with
  | nil => simp [maxNat?] at h
  | cons x xs =>
    simp only [maxNat?, Option.some.injEq] at h
    subst h
    rcases foldl_max_mem xs x with h | h
    · rw [h]; simp
    · simp [h]

/-- The id `bandCreate` picks from a list of existing ids. -/
def nextBandId (ids : List Nat) : Nat :=
  match maxNat? ids with
  | none => 0
  | some l => l + 1

theorem nextBandId_gt (ids : List Nat) : ∀ b ∈ ids, b < nextBandId ids := by
  intro b hb
  unfold nextBandId
  cases h : maxNat? ids with
  | none => rw [maxNat?_none h] at hb; simp at hb
  | some m => have := maxNat?_ge h b hb; simp only; omega

end Conserve
