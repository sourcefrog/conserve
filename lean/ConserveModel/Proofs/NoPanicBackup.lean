import ConserveModel.Proofs.NoPanicRestore
import ConserveModel.Proofs.BackupPrelude
/-
No panic in backup (property C10): the basis listing is usable, so `IndexEntry::mtime()` on a
basis entry cannot panic; `metadata_from` is total since the repair of D3.
No property statements here.
-/
namespace Conserve.NP
open Conserve Prog

theorem heuristicallyUnchanged_ne_none (s : SrcEntry) {b : IndexEntry} (hb : entryUsable b = true) :
    heuristicallyUnchanged s b ≠ none := by
  obtain ⟨t, ht⟩ := usable_time hb
  unfold heuristicallyUnchanged
  split
  · exact nofun
  · simp [ht]

/-- The one panic `backup_tree` leaves open cannot happen: a matched basis entry comes from the
listing (`mergeTrees_mem`), which is usable. -/
theorem backup_safe (H : Str → Str) (o : BackupOpts) (src : List SrcEntry) : Safe (fun _ => True) (backup H o src) :=
  (backup_tree H o src fun basis hb b s hm hu =>
    heuristicallyUnchanged_ne_none s (hb b (Inv.mergeTrees_mem basis src _ hm).1) hu).safe

end Conserve.NP
