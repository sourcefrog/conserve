import ConserveModel.Proofs.WalkSort
/-
The recursion equation of `Forest.walkBelow` over the non-excluded children (`live`), induction
on trees through `Node.kids`, a bound on any weight summed over the walk, and the iterator
(`iterRun`) against the recursive specification with the fuel it needs.
-/
namespace Conserve

def live (excl : Str → Bool) (ap : Str) (f : Forest) : List (Str × Node) :=
  f.toList.filter (fun p => !excl (apathAppend ap p.1))

/-- Order of `children.sort_unstable_by(|a, b| a.0.cmp(&b.0))`. -/
def nameLe (a b : Str × Node) : Bool := strLe a.1 b.1

/-- Order of `subdir_apaths.sort_unstable()` for children of `ap`. -/
def childApLe (ap : Str) (a b : Str × Node) : Bool :=
  apathLe (apathAppend ap a.1) (apathAppend ap b.1)

theorem Forest.induct {P : Forest → Prop} (nil : P .nil)
    (cons : ∀ name n rest, P rest → P (.cons name n rest)) : ∀ f, P f
  | .nil => nil
  | .cons name n rest => cons name n rest (Forest.induct nil cons rest)

theorem Node.walkBelow_eq_kids (excl : Str → Bool) (n : Node) (ap : Str) :
    n.walkBelow excl ap = n.kids.walkBelow excl ap := by
  cases n <;> simp [Node.walkBelow, Node.kids, Forest.walkBelow, Forest.items, assemble, sortBy]

theorem Forest.items_eq (excl : Str → Bool) (f : Forest) (ap : Str) :
    f.items excl ap =
      (live excl ap f).map (fun p => (p, p.2.walkBelow excl (apathAppend ap p.1))) := by
  induction f using Forest.induct with
  | nil => simp [Forest.items, live, Forest.toList]
  | cons name n rest ih =>
    rw [Forest.items, ih]
    simp only [live, Forest.toList, List.filter_cons]
    by_cases h : excl (apathAppend ap name) = true <;> simp [h]

theorem Forest.walkBelow_eq (excl : Str → Bool) (f : Forest) (ap : Str) :
    f.walkBelow excl ap =
      (sortBy nameLe (live excl ap f)).map (fun p => p.2.entry (apathAppend ap p.1)) ++
      (sortBy (childApLe ap) ((live excl ap f).filter (·.2.isDir))).flatMap
        (fun p => p.2.kids.walkBelow excl (apathAppend ap p.1)) := by
  unfold Forest.walkBelow assemble
  rw [Forest.items_eq]
  have h1 := sortBy_map (fun p : Str × Node => (p, p.2.walkBelow excl (apathAppend ap p.1)))
    (le' := fun a b : Item => strLe a.1.1 b.1.1) (le := nameLe) (fun _ _ => rfl)
  have h2 := sortBy_map (fun p : Str × Node => (p, p.2.walkBelow excl (apathAppend ap p.1)))
    (le' := fun a b : Item => apathLe (apathAppend ap a.1.1) (apathAppend ap b.1.1))
    (le := childApLe ap) (fun _ _ => rfl)
  congr 1
  · rw [h1, List.map_map]
    rfl
  · rw [List.filter_map, h2, List.flatMap_map]
    congr 1
    funext p
    exact Node.walkBelow_eq_kids excl p.2 _

theorem walkRec_eq (root : Node) (excl : Str → Bool) :
    walkRec root excl = root.entry [slash] :: root.kids.walkBelow excl [slash] := by
  unfold walkRec
  rw [Node.walkBelow_eq_kids]

theorem Node.kids_size_lt (n : Node) : n.kids.size < n.size := by
  cases n <;> simp [Node.kids, Node.size, Forest.size]

theorem Forest.size_eq_sum (f : Forest) : f.size = (f.toList.map (·.2.size)).sum := by
  induction f using Forest.induct with
  | nil => simp [Forest.size, Forest.toList]
  | cons name n rest ih => simp [Forest.size, Forest.toList, ih]

mutual
theorem Node.kids_rec {P : Forest → Prop} (h : ∀ f, (∀ p ∈ f.toList, P p.2.kids) → P f) :
    ∀ n : Node, P n.kids
  | .dir _ kids => h kids (Forest.kids_rec h kids)
  | .file .. => h .nil nofun
  | .symlink .. => h .nil nofun
theorem Forest.kids_rec {P : Forest → Prop} (h : ∀ f, (∀ p ∈ f.toList, P p.2.kids) → P f) :
    ∀ f : Forest, ∀ p ∈ f.toList, P p.2.kids
  | .nil => nofun
  | .cons _ n rest => fun _ hp =>
    (List.mem_cons.1 hp).elim (· ▸ Node.kids_rec h n) (Forest.kids_rec h rest _)
end

theorem Forest.kids_induction {P : Forest → Prop}
    (h : ∀ f, (∀ p ∈ f.toList, P p.2.kids) → P f) (f : Forest) : P f :=
  h f (Forest.kids_rec h f)

theorem mem_live {excl : Str → Bool} {ap : Str} {f : Forest} {p : Str × Node} :
    p ∈ live excl ap f ↔ p ∈ f.toList ∧ excl (apathAppend ap p.1) = false := by
  simp [live, List.mem_filter]

theorem sum_filter_add_le {α : Type} (L : List α) (q r : α → Bool) (own g tot : α → Nat)
    (hg : ∀ p ∈ L, own p + g p ≤ tot p) :
    ((L.filter q).map own).sum + (((L.filter q).filter r).map g).sum ≤ (L.map tot).sum := by
  induction L with
  | nil => simp
  | cons p L ih =>
    have h1 := hg p List.mem_cons_self
    have h2 := ih (fun x hx => hg x (List.mem_cons_of_mem _ hx))
    rw [List.filter_cons]
    by_cases hq : q p = true
    · rw [if_pos hq, List.filter_cons]
      by_cases hr : r p = true
      · rw [if_pos hr]; simp only [List.map_cons, List.sum_cons]; omega
      · rw [if_neg hr]; simp only [List.map_cons, List.sum_cons]; omega
    · rw [if_neg hq]; simp only [List.map_cons, List.sum_cons]; omega

theorem _root_.List.sum_map_flatMap {α β : Type} (wt : β → Nat) (L : List α) (g : α → List β) :
    ((L.flatMap g).map wt).sum = (L.map fun x => ((g x).map wt).sum).sum := by
  induction L with
  | nil => rfl
  | cons x L ih => simp [List.flatMap_cons, ih]

theorem Forest.walkBelow_sum_le (wt : SrcEntry → Nat) (tot : Node → Nat)
    (h : ∀ n ap, wt (n.entry ap) + (n.kids.toList.map (tot ·.2)).sum ≤ tot n)
    (excl : Str → Bool) (f : Forest) :
    ∀ ap, ((f.walkBelow excl ap).map wt).sum ≤ (f.toList.map (tot ·.2)).sum := by
  induction f using Forest.kids_induction with
  | h f ih =>
    intro ap
    rw [Forest.walkBelow_eq, List.map_append, List.sum_append, List.map_map, List.sum_map_flatMap,
      ((sortBy_perm nameLe _).map _).sum_nat, ((sortBy_perm (childApLe ap) _).map _).sum_nat]
    unfold live
    apply sum_filter_add_le
    intro p hp
    exact Nat.le_trans (Nat.add_le_add_left (ih p hp (apathAppend ap p.1)) _)
      (h p.2 (apathAppend ap p.1))

theorem Forest.walkBelow_length_le (excl : Str → Bool) (f : Forest) (ap : Str) :
    (f.walkBelow excl ap).length ≤ f.size := by
  have := Forest.walkBelow_sum_le (fun _ => 1) Node.size
    (fun n _ => by rw [← Forest.size_eq_sum]; have := n.kids_size_lt; omega) excl f ap
  rwa [List.map_const', List.sum_replicate_nat, Nat.mul_one, ← Forest.size_eq_sum] at this

theorem scanDir_eq (excl : Str → Bool) (ap : Str) (f : Forest) :
    scanDir excl ap f =
      ((live excl ap f).map (fun p => (p.1, p.2.entry (apathAppend ap p.1))),
       ((live excl ap f).filter (·.2.isDir)).map (fun p => (apathAppend ap p.1, p.2.kids))) := by
  induction f using Forest.induct with
  | nil => simp [scanDir, live, Forest.toList]
  | cons name n rest ih =>
    rw [scanDir, ih]
    simp only [live, Forest.toList, List.filter_cons]
    by_cases h : excl (apathAppend ap name) = true
    · simp [h]
    · by_cases hd : n.isDir = true <;> simp [h, hd]

theorem pushFrontRev_eq {α : Type} (xs deque : List α) : pushFrontRev xs deque = xs ++ deque := by
  unfold pushFrontRev
  induction xs generalizing deque with
  | nil => rfl
  | cons x xs ih => simp [List.foldl_append, ih]

theorem visitNextDirectory_eq (excl : Str → Bool) (ap : Str) (f : Forest)
    (es : List SrcEntry) (ds : List (Str × Forest)) :
    visitNextDirectory excl ap f es ds =
      (es ++ (sortBy nameLe (live excl ap f)).map (fun p => p.2.entry (apathAppend ap p.1)),
       (sortBy (childApLe ap) ((live excl ap f).filter (·.2.isDir))).map
          (fun p => (apathAppend ap p.1, p.2.kids)) ++ ds) := by
  have h1 := sortBy_map (fun p : Str × Node => (p.1, p.2.entry (apathAppend ap p.1)))
    (le' := fun a b : Str × SrcEntry => strLe a.1 b.1) (le := nameLe) (fun _ _ => rfl)
  have h2 := sortBy_map (fun p : Str × Node => (apathAppend ap p.1, p.2.kids))
    (le' := fun a b : Str × Forest => apathLe a.1 b.1) (le := childApLe ap) (fun _ _ => rfl)
  unfold visitNextDirectory
  simp only [scanDir_eq, pushFrontRev_eq]
  rw [h1, h2, List.map_map]
  rfl

/-- What the iterator still has to emit, by the specification: the queued entries, then the
walk below every queued directory. -/
def pending (excl : Str → Bool) (es : List SrcEntry) (ds : List (Str × Forest)) : List SrcEntry :=
  es ++ ds.flatMap (fun d => d.2.walkBelow excl d.1)

/-- Turns of the `next` loop that certainly suffice from a given state: one per queued entry,
one per queued directory, and for every entry still to come one to emit it and one in case it is
a directory to visit; one more to see both deques empty. -/
def turnsNeeded (excl : Str → Bool) (es : List SrcEntry) (ds : List (Str × Forest)) : Nat :=
  es.length + ds.length + 2 * (ds.flatMap fun d => d.2.walkBelow excl d.1).length + 1

theorem iterRun_eq_pending (excl : Str → Bool) (fuel : Nat) :
    ∀ es ds, turnsNeeded excl es ds ≤ fuel → iterRun excl fuel es ds = pending excl es ds := by
  induction fuel with
  | zero => intro es ds h; simp [turnsNeeded] at h
  | succ fuel ih =>
    intro es ds h
    cases es with
    | cons e es =>
      rw [iterRun, ih es ds (by simp only [turnsNeeded, List.length_cons] at h ⊢; omega)]
      rfl
    | nil =>
      cases ds with
      | nil => simp [iterRun, pending]
      | cons d ds =>
        obtain ⟨ap, f⟩ := d
        rw [iterRun]
        simp only [visitNextDirectory_eq, List.nil_append]
        rw [ih]
        · simp only [pending, List.flatMap_append, List.flatMap_map, List.flatMap_cons]
          rw [Forest.walkBelow_eq excl f ap, List.append_assoc, List.nil_append]
        · -- the subdirectories are among the children
          have hlen : (sortBy (childApLe ap) ((live excl ap f).filter (·.2.isDir))).length
              ≤ (sortBy nameLe (live excl ap f)).length := by
            rw [length_sortBy, length_sortBy]
            exact List.length_filter_le _ _
          simp only [turnsNeeded, List.flatMap_cons, Forest.walkBelow_eq excl f ap] at h
          simp only [turnsNeeded, List.flatMap_append, List.flatMap_map, List.length_append,
            List.length_map, List.length_cons, List.length_nil] at h ⊢
          omega

theorem turnsNeeded_root_le (T : Node) (excl : Str → Bool) :
    turnsNeeded excl [T.entry [slash]] [([slash], T.kids)] ≤ walkFuel T := by
  have h1 := Forest.walkBelow_length_le excl T.kids [slash]
  have h2 := T.kids_size_lt
  simp only [turnsNeeded, walkFuel, List.length_cons, List.length_nil, List.flatMap_cons,
    List.flatMap_nil, List.append_nil]
  omega

end Conserve
