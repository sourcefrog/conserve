import ConserveModel.Validate
import ConserveModel.Proofs.PermProg
import ConserveModel.Proofs.WalkSort
import ConserveModel.Proofs.WalkPerm
/-
Helper lemmas for C17: the pure functions the model applies to a directory listing (or to a set
obtained from listings) do not depend on its order.
-/
namespace Conserve
open Std

theorem mergeSort_eq_of_perm_on {α : Type} {le : α → α → Bool}
    (trans : ∀ a b c : α, le a b = true → le b c = true → le a c = true)
    (total : ∀ a b : α, (le a b || le b a) = true)
    {xs ys : List α} (h : xs.Perm ys)
    (antisymm : ∀ a b : α, a ∈ xs → b ∈ xs → le a b = true → le b a = true → a = b) :
    xs.mergeSort le = ys.mergeSort le := by
  apply List.Perm.eq_of_pairwise (le := fun a b => le a b = true)
  · intro a b ha hb h1 h2
    rw [List.mem_mergeSort] at ha hb
    exact antisymm a b ha (h.mem_iff.2 hb) h1 h2
  · exact List.pairwise_mergeSort trans total xs
  · exact List.pairwise_mergeSort trans total ys
  · exact (List.mergeSort_perm xs le).trans (h.trans (List.mergeSort_perm ys le).symm)

theorem mergeSort_eq_of_perm {α : Type} {le : α → α → Bool}
    (trans : ∀ a b c : α, le a b = true → le b c = true → le a c = true)
    (total : ∀ a b : α, (le a b || le b a) = true)
    (antisymm : ∀ a b : α, le a b = true → le b a = true → a = b)
    {xs ys : List α} (h : xs.Perm ys) : xs.mergeSort le = ys.mergeSort le :=
  mergeSort_eq_of_perm_on trans total h fun a b _ _ => antisymm a b

/-- `IndexRead::hunk_lengths`, one subdirectory: (hunk number, non-empty) pairs sorted by number.
The order is not antisymmetric on pairs, but in a real listing of `bNNNN/i/DDDDD` every hunk
number occurs once, so the result still ignores the order of the listing. -/
theorem hunkPairs_eq_of_perm {b d : Nat} {xs ys : List DirEnt} (hp : xs.Perm ys)
    (hg : GoodListing (.hunkDir b d) xs) (f : DirEnt → Option (Nat × Bool))
    (hf : ∀ e p, f e = some p → ∃ b', e.key = .hunk b' p.1 ∧ p.2 = e.nonEmpty) :
    (xs.filterMap f).mergeSort (fun x y => decide (x.1 ≤ y.1)) =
    (ys.filterMap f).mergeSort (fun x y => decide (x.1 ≤ y.1)) := by
  apply mergeSort_eq_of_perm_on _ _ (hp.filterMap _)
  · intro p q hpm hqm h1 h2
    simp only [decide_eq_true_eq] at h1 h2
    have hn : p.1 = q.1 := by omega
    simp only [List.mem_filterMap] at hpm hqm
    obtain ⟨e, he, hfe⟩ := hpm
    obtain ⟨e', he', hfe'⟩ := hqm
    have key : ∀ (e : DirEnt) (p : Nat × Bool), e ∈ xs → f e = some p →
        e.key = .hunk b p.1 ∧ p.2 = e.nonEmpty := by
      intro e p he hfe
      have hpar := hg.2 e he
      obtain ⟨b', hk, hne⟩ := hf e p hfe
      rw [hk] at hpar ⊢
      simp only [Key.parent, Option.some.injEq, Key.hunkDir.injEq] at hpar
      exact ⟨by rw [hpar.1], hne⟩
    have k1 := key e p he hfe
    have k2 := key e' q he' hfe'
    have : e = e' := hg.eq_of_key he he' (by rw [k1.1, k2.1, hn])
    subst this
    exact Prod.ext hn (by rw [k1.2, k2.2])
  · intro a b c h1 h2; simp only [decide_eq_true_eq] at *; omega
  · intro a b; simp only [Bool.or_eq_true, decide_eq_true_eq]; omega

theorem sortNat_eq_of_perm {xs ys : List Nat} (h : xs.Perm ys) : sortNat xs = sortNat ys := by
  unfold sortNat
  apply mergeSort_eq_of_perm (le := fun a b => decide (a ≤ b)) _ _ _ h
  · intro a b c h1 h2; simp only [decide_eq_true_eq] at *; omega
  · intro a b; simp only [Bool.or_eq_true, decide_eq_true_eq]; omega
  · intro a b h1 h2; simp only [decide_eq_true_eq] at *; omega

/-- Filtering/parsing a listing and sorting: `list_band_ids`, both levels of `hunks_available`. -/
theorem sortNat_filterMap_eq_of_perm {α : Type} (f : α → Option Nat) {xs ys : List α} (h : xs.Perm ys) :
    sortNat (xs.filterMap f) = sortNat (ys.filterMap f) :=
  sortNat_eq_of_perm (h.filterMap f)

theorem strLe_trans (a b c : Str) (h1 : strLe a b = true) (h2 : strLe b c = true) : strLe a c = true :=
  (strLe_totalPreorder (fun x : Str => x)).trans a b c h1 h2

theorem strLe_total (a b : Str) : (strLe a b || strLe b a) = true := by
  rw [Bool.or_eq_true]; exact (strLe_totalPreorder (fun x : Str => x)).total a b

theorem strLe_antisymm (a b : Str) (h1 : strLe a b = true) (h2 : strLe b a = true) : a = b :=
  LawfulEqCmp.eq_of_compare (cmp := (compare : Str → Str → Ordering)) (compare_eq_of_le_le h1 h2)

/-- Sorting names byte-wise (`unref` in `delete_bands`, block names in `validate`) ignores the
input order. -/
theorem mergeSort_strLe_eq_of_perm {xs ys : List Str} (h : xs.Perm ys) :
    xs.mergeSort strLe = ys.mergeSort strLe :=
  mergeSort_eq_of_perm strLe_trans strLe_total strLe_antisymm h

/-- The same with the comparison written out, as in `list_blocks`' subdirectory order. -/
theorem mergeSort_compare_eq_of_perm {xs ys : List Str} (h : xs.Perm ys) :
    xs.mergeSort (fun a b => compare a b != .gt) = ys.mergeSort (fun a b => compare a b != .gt) :=
  mergeSort_strLe_eq_of_perm h

/-- One step of `list_blocks`' accumulation. -/
theorem listBlocks_step_perm {acc acc' hs hs' : List Str} (ha : acc.Perm acc') (hh : hs.Perm hs') :
    (acc ++ hs.filter (fun h => !acc.contains h)).Perm (acc' ++ hs'.filter (fun h => !acc'.contains h)) := by
  have : (fun h => !acc.contains h) = (fun h => !acc'.contains h) := by
    funext h; rw [ha.contains_eq]
  rw [this]
  exact ha.append (hh.filter _)

end Conserve
