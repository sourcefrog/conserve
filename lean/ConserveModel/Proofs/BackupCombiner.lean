import ConserveModel.Proofs.BlockSpec
/-
The small-file combiner (`FileCombiner`): its invariant, `push_file` and `flush` in all worlds,
and a refutation of the behaviour before the repair of D5.  No property statements here.
-/
namespace Conserve.Inv
open Conserve Prog
open Conserve.Blk (readBack_single)

/-- One queued small file: its slice of the buffer is its source content. -/
def QueuedOK (src : List SrcEntry) (buf : Str) (q : Nat × Nat × IndexEntry) : Prop :=
  q.2.2.kind = .file ∧ q.1 + q.2.1 ≤ buf.length ∧
    ∃ sf ∈ src, sf.apath = q.2.2.apath ∧ sf.kind = .file ∧
      (buf.drop q.1).take q.2.1 = sf.content.take sf.size

/-- Combiner invariant: every queued `(start, len, entry)` describes the buffer. -/
def CombOK (src : List SrcEntry) (wr : Writer) : Prop :=
  ∀ q ∈ wr.queue, QueuedOK src wr.buf q

theorem QueuedOK.append {src : List SrcEntry} {buf : Str} {q : Nat × Nat × IndexEntry}
    (h : QueuedOK src buf q) (more : Str) : QueuedOK src (buf ++ more) q := by
  obtain ⟨h1, h2, sf, h3, h4, h5, h6⟩ := h
  refine ⟨h1, by simp only [List.length_append]; omega, sf, h3, h4, h5, ?_⟩
  rw [← h6, List.drop_append_of_le_length (by omega), List.take_append_of_le_length]
  simp only [List.length_drop]; omega

structure WriterOK (H : Str → Str) (src : List SrcEntry) (s : Store) (wr : Writer) : Prop where
  exists_ : ExistsOK H s wr.exists_
  comb : CombOK src wr
  pending : ∀ e ∈ wr.pending, EntryOK H src s e
  finished : ∀ e ∈ wr.finished, EntryOK H src s e

theorem WriterOK.mono {H : Str → Str} {src : List SrcEntry} {s s' : Store} {wr : Writer}
    (h : WriterOK H src s wr) (hx : Extends s s') : WriterOK H src s' wr :=
  ⟨h.exists_.mono hx, h.comb, fun e he => (h.pending e he).mono hx, fun e he => (h.finished e he).mono hx⟩

section
variable {H : Str → Str} {src : List SrcEntry} {s0 : Store}

theorem WriterOK.setExists {s s' : Store} {wr : Writer} (h : WriterOK H src s wr) (hx : Extends s s')
    {ex' : List Str} (hex : ExistsOK H s' ex') (st' : Stats) :
    WriterOK H src s' { wr with exists_ := ex', stats := st' } :=
  { h.mono hx with exists_ := hex }

theorem WriterOK.setStats {s : Store} {wr : Writer} (h : WriterOK H src s wr) (st' : Stats) :
    WriterOK H src s { wr with stats := st' } :=
  ⟨h.exists_, h.comb, h.pending, h.finished⟩

theorem WriterOK.pushPending {s : Store} {wr : Writer} (h : WriterOK H src s wr) {e : IndexEntry}
    (he : EntryOK H src s e) (st' : Stats) :
    WriterOK H src s { wr with pending := wr.pending ++ [e], stats := st' } := by
  refine ⟨h.exists_, h.comb, ?_, h.finished⟩
  intro e' he'
  simp only [List.mem_append, List.mem_singleton] at he'
  rcases he' with he' | rfl
  · exact h.pending e' he'
  · exact he

theorem WriterOK.pushQueue {s : Store} {wr : Writer} (hwr : WriterOK H src s wr) (o : BackupOpts)
    {sf : SrcEntry} (hsrc : sf ∈ src) (hkind : sf.kind = .file) : WriterOK H src s (Blk.queued o sf wr) := by
  refine ⟨hwr.exists_, ?_, hwr.pending, hwr.finished⟩
  intro q hq
  simp only [Blk.queued, List.mem_append, List.mem_singleton] at hq
  rcases hq with hq | rfl
  · exact (hwr.comb q hq).append _
  · refine ⟨hkind, by simp [Blk.queued], sf, hsrc, rfl, hkind, ?_⟩
    simp only [Blk.queued]
    generalize sf.content.take sf.size = d
    simp

/-- After a flush: the queued files are finished, each reading back its slice of the combined
block, because the queue described the buffer and the buffer is the block. -/
theorem _root_.Conserve.Blk.Flushed.writerOK (hinj : Function.Injective H) {s s' : Store} {wr : Writer}
    {x : Writer × Except Err Unit} (h : Blk.Flushed H wr x) (hwr : WriterOK H src s wr) (hx : Extends s s')
    (hex : ExistsOK H s' x.1.exists_) : WriterOK H src s' x.1 := by
  cases h with
  | idle _ => exact hwr.mono hx
  | failed e => exact hwr.mono hx
  | done ex st hmem =>
    have hb := Blk.blockContent_of_exists hinj hex hmem
    refine { hwr.mono hx with exists_ := hex, comb := fun _ hq' => (nomatch hq'), finished := ?_ }
    intro e he
    simp only [List.mem_append, List.mem_map] at he
    rcases he with he | ⟨⟨start, len, e0⟩, hq', rfl⟩
    · exact (hwr.finished e he).mono hx
    · obtain ⟨hk, hle, sf, hsf, hap, hkf, hsl⟩ := hwr.comb _ hq'
      refine EntryOK.of_file hsf hap hkf hk ?_
      simp only [Blk.fillAddr] at hle hsl ⊢
      rw [readBack_single hb hle, hsl]

theorem _root_.Conserve.Blk.Pushed.writerOK (hinj : Function.Injective H) {s s' : Store} {o : BackupOpts}
    {sf : SrcEntry} {wr : Writer} {x : Writer × Except Err Unit} (h : Blk.Pushed H o sf wr x)
    (hwr : WriterOK H src s wr) (hx : Extends s s') (hex : ExistsOK H s' x.1.exists_) (hsrc : sf ∈ src)
    (hkind : sf.kind = .file) : WriterOK H src s' x.1 := by
  cases h with
  | empty st hd =>
    have hwr' := hwr.mono hx
    refine ⟨hwr'.exists_, hwr'.comb, hwr'.pending, ?_⟩
    intro e he
    simp only [List.mem_append, List.mem_singleton] at he
    rcases he with he | rfl
    · exact hwr'.finished e he
    · exact EntryOK.of_file hsrc rfl hkind hkind (by simp [metaOf, readBack, hd])
  | queued => exact (hwr.pushQueue o hsrc hkind).mono hx
  | flushed h => exact h.writerOK hinj (hwr.pushQueue o hsrc hkind) hx hex

/-- `FileCombiner::flush` in every world.  On a failed store the buffer is put back (the repair of
D5), so the queue still describes it. -/
theorem combinerFlush_spec (hinj : Function.Injective H) (wr : Writer) (w : World)
    (hw : WOK H src s0 w) (hwr : WriterOK H src w.store wr) :
    Sat H src s0 (combinerFlush H wr) w (fun x w' => WriterOK H src w'.store x.1) :=
  Sat.of_block (combinerFlush_fp H wr) (Blk.combinerFlush_carries H wr) hw hwr.exists_
    fun _ _ hf hr hex => hr.writerOK hinj hwr hf.ext hex

end

/-- `FileCombiner::flush` as it was before the repair: on a failed store the buffer stays
taken (empty) while the queue is kept. -/
def combinerFlushLosing (H : Str → Str) (w : Writer) : Prog (Writer × Except Err Unit) := do
  if w.queue.isEmpty then pure (w, .ok ())
  else
    let data := w.buf
    let w := { w with buf := [] }
    let (w, r) ← storeOrDedup H w data
    match r with
    | .error e => pure (w, .error e)
    | .ok h =>
      let done := w.queue.map fun (start, len, e) => { e with addrs := [{ hash := h, start := start, len := len }] }
      pure ({ w with finished := w.finished ++ done, queue := [],
                     stats := { w.stats with combinedBlocks := w.stats.combinedBlocks + 1 } }, .ok ())

namespace LosingExample

def fa : SrcEntry := { apath := [47, 97], kind := .file, mtimeNs := 0, unixMode := 420, user := none,
                       group := none, size := 1, content := [1] }
def fb : SrcEntry := { apath := [47, 98], kind := .file, mtimeNs := 0, unixMode := 420, user := none,
                       group := none, size := 1, content := [2] }
def src : List SrcEntry := [fa, fb]
def opts : BackupOpts := {}
def wr : Writer := { band := 0, buf := [1, 2], queue := [(0, 1, metaOf opts fa), (1, 1, metaOf opts fb)] }
/-- A world in which the first write of the combined block fails. -/
def world : World :=
  { store := [(.root, .dir), (.blockRoot, .dir)],
    faults := [{ at_ := { verb := .write, key := .block [1, 2], nth := 0 }, kind := .other }] }

theorem wr_ok : CombOK src wr := by
  intro q hq
  simp only [wr, List.mem_cons, List.not_mem_nil, or_false] at hq
  rcases hq with rfl | rfl
  · exact ⟨rfl, by decide, fa, by simp [src], rfl, rfl, rfl⟩
  · exact ⟨rfl, by decide, fb, by simp [src], rfl, rfl, rfl⟩

/-- The writer the pre-repair flush leaves behind: queue kept, buffer gone. -/
def wrAfter : Writer := { wr with buf := [] }

theorem run_eq : ((combinerFlushLosing id wr).run world).1 = .ok (wrAfter, .error (.transport .other)) := by
  rfl

theorem after_not_ok : ¬ CombOK src wrAfter := by
  intro h
  have := (h (0, 1, metaOf opts fa) (by simp [wrAfter, wr])).2.1
  simp [wrAfter] at this

end LosingExample

/-- The flush as it was before the repair of D5 does NOT preserve the combiner invariant: two
queued small files, the store of their combined block fails, and the writer is left with the
queue describing a buffer that is gone (a later flush would record both files with addresses
into a block that does not contain their bytes). -/
theorem combinerFlushLosing_breaks :
    ∃ (src : List SrcEntry) (wr wr' : Writer) (w : World) (e : Err),
      CombOK src wr ∧ ((combinerFlushLosing id wr).run w).1 = .ok (wr', .error e) ∧ ¬ CombOK src wr' :=
  ⟨LosingExample.src, LosingExample.wr, LosingExample.wrAfter, LosingExample.world, _,
   LosingExample.wr_ok, LosingExample.run_eq, LosingExample.after_not_ok⟩

/-- The repaired flush on the same example keeps it. -/
example : ∃ wr' e, ((combinerFlush id LosingExample.wr).run LosingExample.world).1 = .ok (wr', .error e) ∧
    CombOK LosingExample.src wr' :=
  ⟨LosingExample.wr, .transport .other, rfl, LosingExample.wr_ok⟩

end Conserve.Inv
