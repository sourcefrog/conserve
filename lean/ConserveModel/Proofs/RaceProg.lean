import ConserveModel.Proofs.RaceBasic
import ConserveModel.Proofs.QuietWorld
/-
C06 on the full model — the first operation of the small building blocks (`performUnit`, `isFile`,
`listBandIds`, `gcLockListed`, …) followed by a continuation, as explicit `Prog.op` nodes with
named response handlers, used to write down the residual programs of `backup` and `delete_bands`
between their storage operations; and what the handlers make of the responses of the fault-free store.
No property statements here.
-/
namespace Conserve
open Prog

/-- Response handler of `performUnit o >>= fun _ => k`. -/
def onUnit {α : Type} (k : Prog α) : Resp → Prog α
  | .unit => k
  | .err e => .fail (.transport e)
  | _ => .fail (.transport .other)

theorem performUnit_bind {α : Type} (o : Op) (f : Unit → Prog α) :
    (performUnit o).bind f = .op o (onUnit (f ())) := by
  simp only [performUnit, perform, Prog.bind_def, Prog.op_bind, Prog.ret_bind, Prog.pure_def]
  congr 1; funext r; cases r <;> rfl

/-- Response handler of `isFile k >>= f`. -/
def onFile {α : Type} (f : Bool → Prog α) : Resp → Prog α
  | .stat b _ => f b
  | .err .notFound => f false
  | .err e => .fail (.transport e)
  | _ => .fail (.transport .other)

theorem isFile_bind {α : Type} (k : Key) (f : Bool → Prog α) :
    (isFile k).bind f = .op (.metadata k) (onFile f) := by
  simp only [isFile, perform, Prog.bind_def, Prog.op_bind, Prog.ret_bind, Prog.pure_def]
  congr 1; funext r
  cases r with
  | err e => cases e <;> rfl
  | _ => rfl

/-- Response handler of `unwrapOr (isFile k) d >>= f`. -/
def onFileOr {α : Type} (d : Bool) (f : Bool → Prog α) : Resp → Prog α
  | .stat b _ => f b
  | .err .notFound => f false
  | _ => f d

theorem unwrapOr_isFile_bind {α : Type} (k : Key) (d : Bool) (f : Bool → Prog α) :
    (unwrapOr (isFile k) d).bind f = .op (.metadata k) (onFileOr d f) := by
  simp only [unwrapOr, isFile, perform, Prog.bind_def, Prog.op_bind, Prog.ret_bind, Prog.pure_def, Prog.attempt]
  congr 1; funext r
  cases r with
  | err e => cases e <;> rfl
  | _ => rfl

/-- Response handler of `listBandIds >>= f`. -/
def onIds {α : Type} (f : List Nat → Prog α) : Resp → Prog α
  | .listing xs => f (listingBandIds xs)
  | .err e => .fail (.transport e)
  | _ => .fail (.transport .other)

theorem listBandIds_bind {α : Type} (f : List Nat → Prog α) :
    listBandIds.bind f = .op (.listDir .root) (onIds f) := by
  simp only [listBandIds, perform, Prog.bind_def, Prog.op_bind, Prog.ret_bind, Prog.pure_def]
  congr 1; funext r; cases r <;> rfl

theorem lastBandId_bind {α : Type} (f : Option Nat → Prog α) :
    lastBandId.bind f = .op (.listDir .root) (onIds fun ids => f (maxNat? ids)) := by
  simp only [lastBandId, Prog.bind_def, Prog.pure_def]
  rw [Prog.bind_assoc, listBandIds_bind]
  rfl

/-- Response handler of `gcLockListed >>= f`. -/
def onLockListed {α : Type} (f : Bool → Prog α) : Resp → Prog α
  | .listing xs => f (xs.any fun e => e.key == .gcLock && !e.isDir)
  | .err e => .fail (.transport e)
  | _ => .fail (.transport .other)

theorem gcLockListed_bind {α : Type} (f : Bool → Prog α) :
    gcLockListed.bind f = .op (.listDir .root) (onLockListed f) := by
  simp only [gcLockListed, perform, Prog.bind_def, Prog.op_bind, Prog.ret_bind, Prog.pure_def]
  congr 1; funext r; cases r <;> rfl

/-- Response handler of `bandDelete b >>= fun _ => k`. -/
def onRmBand {α : Type} (b : Nat) (k : Prog α) : Resp → Prog α
  | .unit => k
  | .err .notFound => .fail (.bandNotFound b)
  | .err e => .fail (.transport e)
  | _ => .fail (.transport .other)

theorem bandDelete_bind {α : Type} (b : Nat) (f : Unit → Prog α) :
    (bandDelete b).bind f = .op (.removeDirAll (.bandDir b)) (onRmBand b (f ())) := by
  simp only [bandDelete, perform, Prog.bind_def, Prog.op_bind, Prog.ret_bind, Prog.pure_def]
  congr 1; funext r
  cases r with
  | err e => cases e <;> rfl
  | _ => rfl

theorem onUnit_bind {α β : Type} (k : Prog α) (f : α → Prog β) (r : Resp) :
    (onUnit k r).bind f = onUnit (k.bind f) r := by cases r <;> rfl

theorem onFile_bind {α β : Type} (g : Bool → Prog α) (f : α → Prog β) (r : Resp) :
    (onFile g r).bind f = onFile (fun b => (g b).bind f) r := by
  cases r with
  | err e => cases e <;> rfl
  | _ => rfl

theorem onFileOr_bind {α β : Type} (d : Bool) (g : Bool → Prog α) (f : α → Prog β) (r : Resp) :
    (onFileOr d g r).bind f = onFileOr d (fun b => (g b).bind f) r := by
  cases r with
  | err e => cases e <;> rfl
  | _ => rfl

theorem onIds_bind {α β : Type} (g : List Nat → Prog α) (f : α → Prog β) (r : Resp) :
    (onIds g r).bind f = onIds (fun ids => (g ids).bind f) r := by cases r <;> rfl

theorem onLockListed_bind {α β : Type} (g : Bool → Prog α) (f : α → Prog β) (r : Resp) :
    (onLockListed g r).bind f = onLockListed (fun b => (g b).bind f) r := by cases r <;> rfl

theorem onRmBand_bind {α β : Type} (b : Nat) (k : Prog α) (f : α → Prog β) (r : Resp) :
    (onRmBand b k r).bind f = onRmBand b (k.bind f) r := by
  cases r with
  | err e => cases e <;> rfl
  | _ => rfl

theorem ite_bind {α β : Type} (c : Prop) [Decidable c] (p q : Prog α) (f : α → Prog β) :
    (if c then p else q).bind f = if c then p.bind f else q.bind f := by split <;> rfl

/-! The elimination forms are stated for a predicate `P` on programs, so that a goal about `onUnit k r`
splits into the goals about `k` and about `.fail e` without naming `k`. -/

theorem onUnit_elim {α : Type} {P : Prog α → Prop} {k : Prog α} (hk : P k) (he : ∀ e, P (.fail e))
    (r : Resp) : P (onUnit k r) := by
  cases r <;> first | exact hk | exact he _

theorem applyOp_listDir_store (s : Store) (k : Key) : (applyOp true s (.listDir k)).1 = s :=
  applyOp_readOnly_store trivial

theorem applyOp_metadata_store (s : Store) (k : Key) : (applyOp true s (.metadata k)).1 = s :=
  applyOp_readOnly_store trivial

theorem applyOp_read_store (s : Store) (k : Key) : (applyOp true s (.read k)).1 = s :=
  applyOp_readOnly_store trivial

theorem applyOp_listDir_listing {s : Store} {k : Key} {xs : List DirEnt}
    (h : (applyOp true s (.listDir k)).2 = .listing xs) : xs = s.children k := by
  simp only [applyOp] at h
  split at h
  · cases h
  · cases h; rfl
  · cases h

/-- `metadata` only ever answers `stat` or `notFound`. -/
theorem onFile_metadata {α : Type} (f : Bool → Prog α) (s : Store) (k : Key) :
    onFile f (applyOp true s (.metadata k)).2 = f (fileAt s k) := by
  simp only [applyOp, fileAt]
  cases s.get? k <;> rfl

theorem onFileOr_metadata {α : Type} (d : Bool) (f : Bool → Prog α) (s : Store) (k : Key) :
    onFileOr d f (applyOp true s (.metadata k)).2 = f (fileAt s k) := by
  simp only [applyOp, fileAt]
  cases s.get? k <;> rfl

theorem onIds_root_elim {α : Type} {P : Prog α → Prop} {f : List Nat → Prog α} (s : Store)
    (hf : P (f (bandIdsOf s))) (he : ∀ e, P (.fail e)) : P (onIds f (applyOp true s (.listDir .root)).2) := by
  generalize hr : (applyOp true s (.listDir .root)).2 = r
  cases r with
  | listing xs =>
    rw [applyOp_listDir_listing hr]
    show P (f (listingBandIds (s.children .root)))
    rw [show listingBandIds (s.children .root) = bandIdsOf s from bandIds_listing s]
    exact hf
  | _ => exact he _

theorem onLockListed_root_elim {α : Type} {P : Prog α → Prop} {f : Bool → Prog α} (s : Store)
    (hf : P (f (lockListedOf s))) (he : ∀ e, P (.fail e)) :
    P (onLockListed f (applyOp true s (.listDir .root)).2) := by
  generalize hr : (applyOp true s (.listDir .root)).2 = r
  cases r with
  | listing xs =>
    rw [applyOp_listDir_listing hr]
    exact hf
  | _ => exact he _

end Conserve
