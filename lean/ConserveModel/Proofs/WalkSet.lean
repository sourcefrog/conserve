import ConserveModel.Proofs.WalkPath
/-
What the walk emits, as a set: the nodes met below a directory without passing an excluded child
(`Forest.Below`), for every forest; below a well-formed listing they sit at `pathOf` of good
components.
-/
namespace Conserve

/-- Facts about one well-formed listing `f` of the directory with components `cs`. -/
structure ListingFacts (excl : Str → Bool) (cs : List Str) (f : Forest) : Prop where
  good : ∀ p ∈ f.toList, goodName p.1 = true
  wfKids : ∀ p ∈ f.toList, p.2.kids.WF = true
  distinct : f.toList.Pairwise (fun a b => a.1 ≠ b.1)
  append : ∀ p ∈ f.toList, apathAppend (pathOf cs) p.1 = pathOf (cs ++ [p.1])

theorem listingFacts (excl : Str → Bool) {cs : List Str} {f : Forest} (hcs : GoodComps cs)
    (hwf : f.WF = true) : ListingFacts excl cs f := by
  obtain ⟨hd, hg⟩ := (Forest.WF_iff f).1 hwf
  exact ⟨fun p hp => (hg p hp).1, fun p hp => Node.WF_kids (hg p hp).2, hd,
    fun p _ => apathAppend_pathOf hcs p.1⟩

/-- Walking the directory `ap` whose listing is `f`, node `n` is met at apath `ap'` without
passing an excluded child. -/
inductive Forest.Below (excl : Str → Bool) : Forest → Str → Node → Str → Prop
  | child {f : Forest} {ap : Str} {p : Str × Node} :
      p ∈ live excl ap f → Below excl f ap p.2 (apathAppend ap p.1)
  | deeper {f : Forest} {ap : Str} {p : Str × Node} {n : Node} {ap' : Str} :
      p ∈ live excl ap f → p.2.isDir = true →
      Below excl p.2.kids (apathAppend ap p.1) n ap' → Below excl f ap n ap'

theorem Forest.mem_walkBelow {excl : Str → Bool} {f : Forest} {ap : Str} {e : SrcEntry} :
    e ∈ f.walkBelow excl ap ↔ ∃ n ap', Forest.Below excl f ap n ap' ∧ e = n.entry ap' := by
  constructor
  · revert ap e
    induction f using Forest.kids_induction with
    | h f ih =>
      intro ap e he
      rw [Forest.walkBelow_eq] at he
      rcases List.mem_append.1 he with he | he
      · obtain ⟨p, hp, rfl⟩ := List.mem_map.1 he
        exact ⟨_, _, .child (mem_sortBy.1 hp), rfl⟩
      · obtain ⟨p, hp, hep⟩ := List.mem_flatMap.1 he
        obtain ⟨hl, hd⟩ := List.mem_filter.1 (mem_sortBy.1 hp)
        obtain ⟨n, ap', hb, rfl⟩ := ih p (mem_live.1 hl).1 hep
        exact ⟨n, ap', .deeper hl hd hb, rfl⟩
  · rintro ⟨n, ap', hb, rfl⟩
    induction hb with
    | child hp =>
      rw [Forest.walkBelow_eq]
      exact List.mem_append_left _ (List.mem_map.2 ⟨_, mem_sortBy.2 hp, rfl⟩)
    | deeper hp hd _ ih =>
      rw [Forest.walkBelow_eq]
      exact List.mem_append_right _
        (List.mem_flatMap.2 ⟨_, mem_sortBy.2 (List.mem_filter.2 ⟨hp, hd⟩), ih⟩)

theorem Forest.Below.path {excl : Str → Bool} {f : Forest} {ap : Str} {n : Node} {ap' : Str}
    (h : Forest.Below excl f ap n ap') :
    ∀ {cs}, GoodComps cs → f.WF = true → ap = pathOf cs →
      ∃ x t, GoodComps (x :: t) ∧ ap' = pathOf (cs ++ x :: t) := by
  induction h with
  | @child f ap p hp =>
    rintro cs hcs hwf rfl
    have F := listingFacts excl hcs hwf
    have hp := (mem_live.1 hp).1
    exact ⟨p.1, [], .single (F.good p hp), F.append p hp⟩
  | @deeper f ap p n ap' hp _ _ ih =>
    rintro cs hcs hwf rfl
    have F := listingFacts excl hcs hwf
    have hp := (mem_live.1 hp).1
    obtain ⟨x, t, hg, e⟩ := ih (hcs.append (.single (F.good p hp))) (F.wfKids p hp) (F.append p hp)
    exact ⟨p.1, x :: t, (GoodComps.single (F.good p hp)).append hg, by rw [e, List.append_assoc]; rfl⟩

/-- The entries below a well-formed listing, with their paths. -/
theorem Forest.mem_walkBelow_path {excl : Str → Bool} {f : Forest} {cs : List Str} (hcs : GoodComps cs)
    (hwf : f.WF = true) {e : SrcEntry} (he : e ∈ f.walkBelow excl (pathOf cs)) :
    ∃ x t, GoodComps (x :: t) ∧ e.apath = pathOf (cs ++ x :: t) := by
  obtain ⟨n, ap', hb, rfl⟩ := Forest.mem_walkBelow.1 he
  rw [Node.entry_apath]
  exact hb.path hcs hwf rfl

end Conserve
