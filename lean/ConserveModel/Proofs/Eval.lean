import ConserveModel.Proofs.FrameStep
/-
What a program does when nothing interferes, as a function of the store.  `Prog.eval ecn p s` answers
every operation with `applyOp ecn` and returns outcome, final store and emitted events (newest first);
`Prog.evalTrace` the operations issued.  `Calm p w`: along the run of `p` from `w` every operation is
simply applied (`World.exec = World.applied`).  `Prog.run_eq_eval`: a calm run is what `eval` says, as
an equation between worlds, so that everything about the end world is a projection of `World.after`.
The predicates on worlds used elsewhere (`World.Quiet`, `World.Clean`, `Exact.At`, `Quiet s evs w`,
`Fault.Live` with `Unfaulted`, `Armed`/`Spent`) are ways of showing `Calm` (`calm_of_*`), and what a
reader or writer of Archive.lean does is stated once, as an equation `eval_X`.
-/
namespace Conserve
open Prog

def Prog.eval {α : Type} (ecn : Bool) : Prog α → Store → Outcome α × Store × List Event
  | .ret a, s => (.ok a, s, [])
  | .fail e, s => (.err e, s, [])
  | .panic m, s => (.panic m, s, [])
  | .emit ev k, s => ((k.eval ecn s).1, (k.eval ecn s).2.1, (k.eval ecn s).2.2 ++ [ev])
  | .op o k, s => (k (applyOp ecn s o).2).eval ecn (applyOp ecn s o).1

/-- Operations issued with their responses, newest first. -/
def Prog.evalTrace {α : Type} (ecn : Bool) : Prog α → Store → List TraceEv
  | .emit _ k, s => k.evalTrace ecn s
  | .op o k, s => (k (applyOp ecn s o).2).evalTrace ecn (applyOp ecn s o).1 ++ [⟨o, (applyOp ecn s o).2⟩]
  | _, _ => []

def stepsOf (tr : List TraceEv) : Nat := (tr.map fun t => t.op.microSteps t.resp).sum

/-- `w` after a run that changed the store to `s'`, emitted `ev` and issued `tr`. -/
def World.after (w : World) (s' : Store) (ev : List Event) (tr : List TraceEv) : World :=
  { w with store := s', events := ev ++ w.events, trace := tr ++ w.trace, steps := w.steps + stepsOf tr }

def Calm {α : Type} : Prog α → World → Prop
  | .op o k, w => w.exec o = w.applied o ∧ Calm (k (w.applied o).2) (w.applied o).1
  | .emit ev k, w => Calm k { w with events := ev :: w.events }
  | _, _ => True

namespace Prog
variable {α β : Type} (ecn : Bool) (s : Store)

@[simp] theorem eval_ret (a : α) : (Prog.ret a).eval ecn s = (.ok a, s, []) := rfl
@[simp] theorem eval_pure (a : α) : (pure a : Prog α).eval ecn s = (.ok a, s, []) := rfl
@[simp] theorem eval_fail (e : Err) : (Prog.fail e : Prog α).eval ecn s = (.err e, s, []) := rfl
@[simp] theorem eval_panic (m : String) : (Prog.panic m : Prog α).eval ecn s = (.panic m, s, []) := rfl
@[simp] theorem eval_emit (ev : Event) (k : Prog α) :
    (Prog.emit ev k).eval ecn s = ((k.eval ecn s).1, (k.eval ecn s).2.1, (k.eval ecn s).2.2 ++ [ev]) := rfl
@[simp] theorem eval_op (o : Op) (k : Resp → Prog α) :
    (Prog.op o k).eval ecn s = (k (applyOp ecn s o).2).eval ecn (applyOp ecn s o).1 := rfl

/-- Sequencing on results. -/
def andThen (r : Outcome α × Store × List Event) (f : α → Store → Outcome β × Store × List Event) :
    Outcome β × Store × List Event :=
  match r with
  | (.ok a, s1, e1) => ((f a s1).1, (f a s1).2.1, (f a s1).2.2 ++ e1)
  | (.err e, s1, e1) => (.err e, s1, e1)
  | (.panic m, s1, e1) => (.panic m, s1, e1)

@[simp] theorem andThen_ok (a : α) (s1 : Store) (f : α → Store → Outcome β × Store × List Event) :
    andThen (.ok a, s1, []) f = f a s1 := by simp [andThen]

theorem eval_bind (p : Prog α) (f : α → Prog β) :
    (p.bind f).eval ecn s = andThen (p.eval ecn s) fun a s1 => (f a).eval ecn s1 := by
  induction p generalizing s with
  | ret a => simp [andThen]
  | fail _ | panic _ => rfl
  | emit ev k ih =>
    simp only [emit_bind, eval_emit, ih, andThen]
    split <;> simp_all
  | op o k ih => exact ih _ _

theorem eval_attempt (p : Prog α) :
    p.attempt.eval ecn s =
      (match (p.eval ecn s).1 with
        | .ok a => .ok (.ok a)
        | .err e => .ok (.error e)
        | .panic m => .panic m, (p.eval ecn s).2) := by
  induction p generalizing s with
  | ret _ | fail _ | panic _ => rfl
  | emit ev k ih => simp only [attempt, eval_emit, ih]
  | op o k ih => exact ih _ _

theorem eval_attemptAll (p : Prog α) : p.attemptAll.eval ecn s = (.ok (p.eval ecn s).1, (p.eval ecn s).2) := by
  induction p generalizing s with
  | ret _ | fail _ | panic _ => rfl
  | emit ev k ih => simp only [attemptAll, eval_emit, ih]
  | op o k ih => exact ih _ _

/-- `Except` as an outcome (what `attempt` of a panic-free program wraps). -/
def _root_.Conserve.toOutcome {α : Type} : Except Err α → Outcome α
  | .ok a => .ok a
  | .error e => .err e

def _root_.Conserve.Exact.Outcome.map {α β : Type} (f : α → β) : Outcome α → Outcome β
  | .ok a => .ok (f a)
  | .err e => .err e
  | .panic m => .panic m

theorem eval_attempt_toOutcome {p : Prog α} {x : Except Err α} {s' : Store} {evs : List Event}
    (h : p.eval ecn s = (toOutcome x, s', evs)) : p.attempt.eval ecn s = (.ok x, s', evs) := by
  rw [eval_attempt, h]
  cases x <;> rfl

theorem evalTrace_bind (p : Prog α) (f : α → Prog β) :
    (p.bind f).evalTrace ecn s =
      (match (p.eval ecn s).1 with
        | .ok a => (f a).evalTrace ecn (p.eval ecn s).2.1
        | _ => []) ++ p.evalTrace ecn s := by
  induction p generalizing s with
  | ret a => simp [evalTrace]
  | fail _ | panic _ => rfl
  | emit ev k ih => exact ih _
  | op o k ih => simp only [op_bind, evalTrace, eval_op, ih, List.append_assoc]

theorem evalTrace_attempt (p : Prog α) : p.attempt.evalTrace ecn s = p.evalTrace ecn s := by
  induction p generalizing s with
  | ret _ | fail _ | panic _ => rfl
  | emit ev k ih => exact ih _
  | op o k ih => simp only [attempt, evalTrace, ih]

/-- The number of operations issued. -/
def evalOps (p : Prog α) : Nat := (p.evalTrace ecn s).length

@[simp] theorem evalOps_ret (a : α) : (Prog.ret a).evalOps ecn s = 0 := rfl
@[simp] theorem evalOps_pure (a : α) : (pure a : Prog α).evalOps ecn s = 0 := rfl
@[simp] theorem evalOps_fail (e : Err) : (Prog.fail e : Prog α).evalOps ecn s = 0 := rfl
@[simp] theorem evalOps_panic (m : String) : (Prog.panic m : Prog α).evalOps ecn s = 0 := rfl
@[simp] theorem evalOps_emit (ev : Event) (k : Prog α) : (Prog.emit ev k).evalOps ecn s = k.evalOps ecn s := rfl
@[simp] theorem evalOps_op (o : Op) (k : Resp → Prog α) :
    (Prog.op o k).evalOps ecn s = (k (applyOp ecn s o).2).evalOps ecn (applyOp ecn s o).1 + 1 := by
  simp [evalOps, evalTrace]

theorem evalOps_bind (p : Prog α) (f : α → Prog β) :
    (p.bind f).evalOps ecn s = p.evalOps ecn s +
      match (p.eval ecn s).1 with
      | .ok a => (f a).evalOps ecn (p.eval ecn s).2.1
      | _ => 0 := by
  simp only [evalOps, evalTrace_bind, List.length_append, Nat.add_comm]
  split <;> rfl

theorem evalOps_attempt (p : Prog α) : p.attempt.evalOps ecn s = p.evalOps ecn s := by
  simp only [evalOps, evalTrace_attempt]

theorem AllOps.evalTrace {P : Op → Prop} {p : Prog α} (hp : AllOps P p) : ∀ t ∈ p.evalTrace ecn s, P t.op := by
  induction hp generalizing s with
  | ret _ | fail _ | panic _ => simp [Prog.evalTrace]
  | emit _ _ ih => exact ih s
  | op ho _ ih =>
    intro t ht
    rcases List.mem_append.mp ht with ht | ht
    · exact ih _ _ t ht
    · cases List.mem_singleton.mp ht; exact ho

/-- A program that only reads: the store stays and `enforceCreateNew` does not matter. -/
theorem eval_readOnly {p : Prog α} (hp : AllOps ReadOnly p) :
    (p.eval ecn s).2.1 = s ∧ p.eval ecn s = p.eval true s ∧ p.evalTrace ecn s = p.evalTrace true s := by
  induction hp with
  | ret _ | fail _ | panic _ => exact ⟨rfl, rfl, rfl⟩
  | emit ev _ ih => exact ⟨ih.1, by simp only [eval_emit, ih.2.1], ih.2.2⟩
  | @op o k ho _ ih =>
    have h1 : applyOp ecn s o = applyOp true s o :=
      Prod.ext ((applyOp_readOnly_store ho).trans (applyOp_readOnly_store ho).symm)
        (by cases o <;> first | rfl | cases ho)
    simp only [eval_op, evalTrace, h1]
    rw [applyOp_readOnly_store ho]
    exact ⟨(ih _).1, (ih _).2.1, by rw [(ih _).2.2]⟩

end Prog

theorem stepsOf_snoc (tr : List TraceEv) (t : TraceEv) :
    stepsOf (tr ++ [t]) = t.op.microSteps t.resp + stepsOf tr := by
  simp [stepsOf, Nat.add_comm]

theorem Prog.run_eq_eval {α : Type} (p : Prog α) : ∀ {w : World}, Calm p w →
    p.run w = ((p.eval w.enforceCreateNew w.store).1,
      w.after (p.eval w.enforceCreateNew w.store).2.1 (p.eval w.enforceCreateNew w.store).2.2
        (p.evalTrace w.enforceCreateNew w.store)) := by
  induction p with
  | ret _ | fail _ | panic _ => intro w _; rfl
  | emit ev k ih =>
    intro w h
    rw [Prog.run_emit, ih (w := { w with events := ev :: w.events }) h]
    simp [World.after, Prog.evalTrace]
  | op o k ih =>
    intro w h
    rw [Prog.run_op, h.1, ih _ h.2]
    simp [World.after, World.applied, Prog.evalTrace, stepsOf_snoc, Nat.add_assoc]

/-- No faults, no crash point, alive: every program runs calmly. -/
theorem calm_of_noCrash {α : Type} (p : Prog α) :
    ∀ {w : World}, w.faults = [] → w.crashAt = none → w.dead = false → Calm p w := by
  induction p with
  | ret _ | fail _ | panic _ => intro w _ _ _; trivial
  | emit ev k ih => intro w hf hc hd; exact ih (w := { w with events := ev :: w.events }) hf hc hd
  | op o k ih =>
    intro w hf hc hd
    exact ⟨World.exec_of_noCrash hd hc (by simp [World.faultFor, hf]), ih _ hf hc hd⟩

/-- No faults, alive, any crash point: programs that only read (only writes count towards it). -/
theorem calm_of_readOnly {α : Type} {p : Prog α} (hp : Prog.AllOps ReadOnly p) :
    ∀ {w : World}, w.faults = [] → w.dead = false → Calm p w := by
  induction hp with
  | ret _ | fail _ | panic _ => intro w _ _; trivial
  | emit ev _ ih => intro w hf hd; exact ih (w := { w with events := ev :: w.events }) hf hd
  | @op o k ho _ ih =>
    intro w hf hd
    have hm : ∀ r, o.microSteps r = 0 := fun r => by
      cases o <;> first | (cases r <;> rfl) | cases ho
    exact ⟨World.exec_eq_applied hd (by simp [World.faultFor, hf]) (by simp [ho.not_mutating]) (by simp [hm]),
      ih _ hf hd⟩

/-- Any fault list: an invariant of worlds under which no fault applies to the `P`-operations. -/
theorem calm_of_inv {α : Type} {Inv : World → Prop} {P : Op → Prop}
    (hcalm : ∀ w, Inv w → w.crashAt = none ∧ w.dead = false)
    (hf : ∀ w o, Inv w → P o → w.faultFor o = none)
    (hi : ∀ w o, Inv w → P o → Inv (w.applied o).1)
    (he : ∀ w ev, Inv w → Inv { w with events := ev :: w.events })
    {p : Prog α} (hp : Prog.AllOps P p) : ∀ {w : World}, Inv w → Calm p w := by
  induction hp with
  | ret _ | fail _ | panic _ => intro w _; trivial
  | emit ev _ ih => intro w hI; exact ih (he w ev hI)
  | @op o k ho _ ih =>
    intro w hI
    exact ⟨World.exec_of_noCrash (hcalm w hI).2 (hcalm w hI).1 (hf w o hI ho), ih _ (hi w o hI ho)⟩

end Conserve
