import ConserveModel.Proofs.FsOk
/-
C01 (c) without the "no error reported" hypothesis: on an empty destination every call restore
makes for a tree-consistent listing that starts with a directory succeeds, so every file ends
with exactly its stored mode.
-/
namespace Conserve

theorem Fs.create_new {fs : Fs} {path : List Str} {p : Path} (hr : fs.resolve true path = .ok p)
    (hn : fs.node p = none) :
    fs.create path =
      (fs.createAt p (.file [] (maskMode 0o666 fs.umask) fs.euid (fs.newGid p.dropLast) .now), .ok p) := by
  rw [Fs.create_eq, Fs.onPath_ok hr]
  unfold Fs.openAt
  rw [hn]

theorem Fs.lchown_snd_ok {fs : Fs} {path : List Str} {p : Path} {x : FNode} {u g : Option Nat}
    (hr : fs.resolve false path = .ok p) (hn : fs.node p = some x) : (fs.lchown path u g).2 = .ok () :=
  (congrArg Prod.snd (Fs.onPath_ok hr)).trans (Fs.updateAt_snd_ok hn)

theorem Fs.chmod_snd_ok {fs : Fs} {path : List Str} {p : Path} {x : FNode} {m : Nat}
    (hr : fs.resolve true path = .ok p) (hn : fs.node p = some x) : (fs.chmod path m).2 = .ok () :=
  (congrArg Prod.snd (Fs.onPath_ok hr)).trans (Fs.updateAt_snd_ok hn)

theorem setOwnerFs_snd {uidOf gidOf : Str → Option Nat} {fs : Fs} {path : List Str} {n : RNode}
    (h : (fs.lchown path (n.user.bind uidOf) (n.group.bind gidOf)).2 = .ok ()) :
    (setOwnerFs uidOf gidOf fs path n).2 = none := by
  unfold setOwnerFs
  rcases hl : fs.lchown path (n.user.bind uidOf) (n.group.bind gidOf) with ⟨fs1, r⟩
  rw [hl] at h
  dsimp only at h
  subst h
  rfl

theorem setPermsFs_snd {fs : Fs} {path : List Str} {n : RNode}
    (h : ∀ m, (fs.chmod path m).2 = .ok ()) : (setPermsFs fs path n).2 = none := by
  unfold setPermsFs
  cases n.unixMode with
  | none => rfl
  | some m =>
    dsimp only
    rcases hl : fs.chmod path m with ⟨fs1, r⟩
    have := h m
    rw [hl] at this
    dsimp only at this
    subst this
    rfl

theorem restoreFileFs_noerr {uidOf gidOf : Str → Option Nat} {fs : Fs} {D : Path} {cs : List Str}
    {n : RNode} (hc : Ctx fs D cs []) (hlen : (D ++ cs).length < resolveFuel) (hh : HaveTo fs D cs)
    (hfree : fs.node (D ++ cs) = none) (hcomp : n.complete = true) :
    (restoreFileFs uidOf gidOf false fs (D ++ cs ++ []) n).2 = [] := by
  have hf0 : NotLink (fs.node (D ++ cs)) := fun x hx => by rw [hfree] at hx; cases hx
  obtain ⟨fs1, hcr⟩ : ∃ fs1, fs.create (D ++ cs ++ []) = (fs1, .ok (D ++ cs)) :=
    ⟨_, by rw [List.append_nil]
           exact Fs.create_new (resolve_ok hc.dest hc.good hlen hh (Or.inr hf0)) hfree⟩
  obtain ⟨-, -, L3, x3, hx3, -⟩ := restoreFileFs_written (n := n) hc hf0 hcr
  rw [restoreFileFs_complete hcr hcomp, List.append_nil]
  simp only [Bool.false_eq_true, if_false]
  -- the path still resolves to itself, and the file is there: `lchown`, then `chmod` succeed
  have hc3 := L3.ctx hc
  have hres3 := resolve_ok (follow := false) hc3.dest hc.good hlen (hh.kept L3.kept) (Or.inl rfl)
  have L34 := setOwnerFs_local (k := .file) (uidOf := uidOf) (gidOf := gidOf) (n := n) hc3
  rw [List.append_nil] at L34
  have L4 := L3.trans L34
  obtain ⟨x4, hx4, -⟩ := L34.self x3 hx3
  have hres4 := resolve_ok (follow := true) (L4.ctx hc).dest hc.good hlen (hh.kept L4.kept)
    (Or.inr (L4.notLink (by decide) hf0))
  rw [setOwnerFs_snd (Fs.lchown_snd_ok hres3 hx3), setPermsFs_snd fun m => Fs.chmod_snd_ok hres4 hx4]
  rfl

/-- What is known after some entries (`earlier`) have been restored into an empty destination. -/
structure Progress (D : Path) (earlier : List RNode) (fs : Fs) : Prop where
  only : ∀ cs, fs.node (D ++ cs) ≠ none → cs = [] ∨ ∃ d ∈ earlier, cs <+: comps d
  dirs : ∀ d ∈ earlier, d.kind = .dir → HaveFull fs D (comps d)

theorem restoreNodeFs_dir_fst {uidOf gidOf : Str → Option Nat} {old : Bool} {D : Path} {fs : Fs}
    {n : RNode} (hk : n.kind = .dir) (hr : n.apath ≠ [slash]) :
    (restoreNodeFs uidOf gidOf old D fs n).1 = (restoreDirFs fs (joinDest D n.apath)).1 := by
  unfold restoreNodeFs
  rw [hk]
  simp only [hr, ne_eq, not_false_eq_true, if_true]
  rcases restoreDirFs fs (joinDest D n.apath) with ⟨fs1, r⟩
  cases r <;> rfl

theorem restoreNodeFs_progress {uidOf gidOf : Str → Option Nat} {old : Bool} {D : Path}
    {fs : Fs} {n : RNode} {earlier : List RNode} (hD : DestOk fs D)
    (hP : Progress D earlier fs) (hv : isValid n.apath = true)
    (hfull : CleanFull fs D (comps n)) (hlen : (D ++ comps n).length < resolveFuel) :
    Progress D (earlier ++ [n]) (restoreNodeFs uidOf gidOf old D fs n).1 := by
  have G := (restoreNodeFs_turn (uidOf := uidOf) (gidOf := gidOf) (old := old) hD hv hfull.toL).1
  refine ⟨fun cs hne => ?_, fun d hd hk => ?_⟩
  · by_cases hp : cs <+: comps n
    · exact Or.inr ⟨n, by simp, hp⟩
    · have := (G.stable cs hp).none_iff
      rcases hP.only cs (fun e => hne (this.1 e)) with h | ⟨d, hd, h⟩
      · exact Or.inl h
      · exact Or.inr ⟨d, List.mem_append_left _ hd, h⟩
  · rcases List.mem_append.1 hd with hd | hd
    · exact (hP.dirs d hd hk).kept G.kept
    · rw [List.mem_singleton.1 hd] at hk ⊢
      by_cases hr : n.apath = [slash]
      · have : comps n = [] := comps_root_of_eq hr
        rw [this]
        intro pre hp
        rw [List.prefix_nil.1 hp, List.append_nil]
        exact (G.destOk hD).dirs D (List.prefix_refl _)
      · rw [restoreNodeFs_dir_fst hk hr, restoreDirFs_fst]
        rw [joinDest_comps D hv, if_neg hr, List.append_nil]
        exact (mkdirAll_ok _ fs (comps n) (by simp; omega) hD (valid_eq_pathOf hv).1 hfull hlen).2

theorem restoreLoopFs_mode_full {uidOf gidOf : Str → Option Nat} {D : Path} {m : Nat} {head : RNode}
    {nodes : List RNode} (hC : Confinable nodes)
    (hlen : ∀ n ∈ nodes, (D ++ comps n).length < resolveFuel) :
    ∀ (rest earlier : List RNode) (fs : Fs), nodes = earlier ++ rest →
      Ready D fs rest → (∀ n ∈ rest, CleanFull fs D (comps n)) → Progress D earlier fs →
      rest.Pairwise NotBelowNonDir →
      tcFrom head earlier rest = true →
      ∀ n ∈ rest, n.kind = .file → n.complete = true → n.unixMode = some m → m < 0o10000 →
        ∃ x, (restoreLoopFs uidOf gidOf false D fs rest).1.node (D ++ comps n) = some x ∧
          x.kind = .file ∧ x.mode = m := by
  intro rest
  induction rest with
  | nil => intro _ _ _ _ _ _ _ _ n hn; cases hn
  | cons n0 rest ih =>
    intro earlier fs hsplit R hcf hP hp htc n hn hk hcomp hm hlt
    have hmem0 : n0 ∈ nodes := by rw [hsplit]; simp
    simp only [tcFrom, Bool.and_eq_true] at htc
    obtain ⟨⟨_, hps⟩, htc'⟩ := htc
    obtain ⟨hpn, hpr⟩ := List.pairwise_cons.1 hp
    have hv0 := R.valid n0 List.mem_cons_self
    have hfull0 := R.clean n0 List.mem_cons_self
    rcases List.mem_cons.1 hn with rfl | hn'
    · -- the file restored in this turn: its parent is an earlier directory, its place is free
      obtain ⟨d, hd, hd2⟩ := List.any_eq_true.1 hps
      simp only [Bool.and_eq_true, beq_iff_eq] at hd2
      have hdist : ∀ a ∈ earlier, comps a ≠ comps n := by
        have := hC.distinct
        rw [hsplit, List.pairwise_append] at this
        exact fun a ha => this.2.2 a ha n List.mem_cons_self
      have hne : comps n ≠ [] := by
        intro e
        have := hd2.2
        rw [e] at this
        exact hdist d hd (by rw [this, e]; rfl)
      have hr : n.apath ≠ [slash] := fun e => hne (comps_root_of_eq e)
      have hto : HaveTo fs D (comps n) := by
        have := hP.dirs d hd hd2.1
        rw [hd2.2] at this
        exact this.to_of_dropLast
      have hfree : fs.node (D ++ comps n) = none := by
        cases hx : fs.node (D ++ comps n) with
        | none => rfl
        | some x =>
          rcases hP.only (comps n) (by rw [hx]; simp) with e | ⟨a, ha, hpre⟩
          · exact absurd e hne
          · have hamem : a ∈ nodes := by rw [hsplit]; exact List.mem_append_left _ ha
            have := hC.anc n hmem0 a hamem hpre (fun e => hdist a ha e.symm)
            rw [hk] at this; cases this
      have hctx := ctx_of_cleanL R.dest hv0 hfull0
      rw [if_neg hr] at hctx
      refine restoreLoopFs_file_turn R hpn hk hcomp hm hlt ?_
      rw [joinDest_comps D hv0, if_neg hr]
      exact restoreFileFs_noerr hctx (hlen n hmem0) hto hfree hcomp
    · simp only [restoreLoopFs]
      exact ih (earlier ++ [n0]) _ (by rw [hsplit]; simp) (R.tail uidOf gidOf false)
        (fun n' hn'' => restoreNodeFs_clean R.dest hv0 hfull0 (hpn n' hn'') (hcf n' (List.mem_cons_of_mem _ hn'')))
        (restoreNodeFs_progress R.dest hP hv0 (hcf n0 List.mem_cons_self) (hlen n0 hmem0))
        hpr htc' n hn' hk hcomp hm hlt

theorem hasChild_false_of_absent {fs : Fs} {D : Path} (hwf : fs.wf = true) (hn : fs.node D = none) :
    fs.hasChild D = false := by
  cases h : fs.hasChild D with
  | false => rfl
  | true =>
    unfold Fs.hasChild at h
    obtain ⟨kv, hkv, hc⟩ := List.any_eq_true.1 h
    simp only [Bool.and_eq_true, bne_iff_ne, ne_eq, beq_iff_eq] at hc
    have := List.all_eq_true.1 hwf kv hkv
    simp only [Bool.or_eq_true, beq_iff_eq, hc.1, false_or, hc.2] at this
    simp [Fs.isDir, hn] at this

theorem not_child_of_le {D k : Path} (h : k.length ≤ D.length) : (k != [] && k.dropLast == D) = false := by
  cases hk : (k != [] && k.dropLast == D) with
  | false => rfl
  | true =>
    simp only [Bool.and_eq_true, bne_iff_ne, ne_eq, beq_iff_eq] at hk
    have := congrArg List.length hk.2
    rw [List.length_dropLast] at this
    have := List.length_pos_iff.2 hk.1
    omega

theorem hasChild_createAt {fs : Fs} {D : Path} {x : FNode} :
    (fs.createAt D x).hasChild D = fs.hasChild D := by
  unfold Fs.createAt Fs.modify
  cases (fs.set D x).node D.dropLast with
  | none =>
    simp only [Fs.hasChild, Fs.set, List.any_cons, not_child_of_le (Nat.le_refl D.length), Bool.false_or]
  | some y =>
    simp only [Fs.hasChild, Fs.set, List.any_cons, not_child_of_le (Nat.le_refl D.length),
      not_child_of_le (k := D.dropLast) (D := D) (by rw [List.length_dropLast]; omega), Bool.false_or]

theorem ensure_and_empty {fs : Fs} {D : Path} (hwf : fs.wf = true) (hP : DestPlain fs D)
    (hlen : D.length < resolveFuel) (hempty : fs.node D = none ∨ fs.hasChild D = false) :
    ∃ fs0, fs.ensureDir D = (fs0, .ok ()) ∧ fs0.readDirEmpty D = .ok true := by
  have L := ensureDir_local hP
  rw [ensureDir_plain hP hlen] at L ⊢
  cases hn : fs.node D with
  | none =>
    rw [hn] at L
    refine ⟨_, rfl, ?_⟩
    rw [readDirEmpty_plain (L.destPlain hP) hlen (isDir_createAt_self rfl), hasChild_createAt,
      hasChild_false_of_absent hwf hn]
    rfl
  | some x =>
    refine ⟨fs, rfl, ?_⟩
    rw [readDirEmpty_plain hP hlen (Fs.isDir_iff.2 ⟨x, hn, hP.self x hn⟩),
      hempty.resolve_left (by rw [hn]; simp)]
    rfl

/-- **Modes are restored exactly**: a tree-consistent listing that starts with a directory,
restored (owner first, then mode) into an absent or empty destination. -/
theorem restoreToFs_mode_full {uidOf gidOf : Str → Option Nat} {fs : Fs} {D : Path}
    {nodes : List RNode} {m : Nat} (hT : treeConsistent nodes = true)
    (hhead : ∀ h ∈ nodes.head?, h.kind = .dir) (hwf : fs.wf = true) (hP : DestPlain fs D)
    (hlen : ∀ n ∈ nodes, (D ++ comps n).length < resolveFuel)
    (hempty : fs.node D = none ∨ fs.hasChild D = false) :
    ∀ n ∈ nodes, n.kind = .file → n.complete = true → n.unixMode = some m → m < 0o10000 →
      ∃ x, (restoreToFs fs D false nodes uidOf gidOf false).1.node (D ++ comps n) = some x ∧
        x.kind = .file ∧ x.mode = m := by
  intro n hn hk hcomp hm hlt
  have hC := confinable_of_treeConsistent hT
  cases nodes with
  | nil => cases hn
  | cons h rest =>
    have hhk : h.kind = .dir := hhead h rfl
    have htc : tcFrom h [h] rest = true := by
      simp only [treeConsistent, Bool.and_eq_true] at hT
      exact hT.2
    have hDlen : D.length < resolveFuel := by
      have := hlen h List.mem_cons_self
      simp only [List.length_append] at this
      omega
    obtain ⟨fs0, hens, hrd⟩ := ensure_and_empty hwf hP hDlen hempty
    have L := ensureDir_local hP
    rw [hens] at L
    obtain ⟨hD0, honly⟩ := dest_empty hwf hP L hrd
    have hcf := cleanFull_of_empty hD0 honly
    have R := Ready.of_empty hD0 honly hC.valid hC.toL.notBelowLink
    have hn' : n ∈ rest := by
      rcases List.mem_cons.1 hn with e | h'
      · rw [e, hhk] at hk; cases hk
      · exact h'
    -- the first turn: the root of the selected subtree
    obtain ⟨hpn, hpr⟩ := List.pairwise_cons.1 hC.notBelowNonDir
    have hv0 := hC.valid h List.mem_cons_self
    have P0 : Progress D [] fs0 :=
      ⟨fun cs hne => Or.inl (Classical.byContradiction fun hcs => hne (honly cs hcs)),
       fun d hd => by cases hd⟩
    obtain ⟨x, hx, hxk, hxm⟩ := restoreLoopFs_mode_full (uidOf := uidOf) (gidOf := gidOf) (head := h) hC hlen
      rest ([] ++ [h]) _ (by simp) (R.tail uidOf gidOf false)
      (fun n' hn'' => restoreNodeFs_clean R.dest hv0 (hcf _).toL (hpn n' hn'') (hcf _))
      (restoreNodeFs_progress R.dest P0 hv0 (hcf _) (hlen h List.mem_cons_self)) hpr htc n hn' hk hcomp hm hlt
    have hx' : (restoreLoopFs uidOf gidOf false D fs0 (h :: rest)).1.node (D ++ comps n) = some x := by
      simp only [restoreLoopFs]; exact hx
    -- the deferrals leave the file alone
    obtain ⟨y, hy, hyk, hym, _⟩ := (applyDeferralsFs_keeps_file hC R hn hk).some_left hx'
    rw [restoreToFs_of_empty hens hrd]
    exact ⟨y, hy, hyk.trans hxk, hym.trans hxm⟩

end Conserve
