import ConserveModel.Proofs.ValidateRun
/-
The (hash, needed length) table of `validate_bands`: `referencedOf` is one fold of `lensInsert` over
the addresses of all listed file entries (`referencedOf_eq_lensOf`), so an invariant of `lensInsert`
(`referenced_inv`) and what it covers (`referenced_covers`) carry over.  No property statements.
-/
namespace Conserve

/-- The table asks at least `k` bytes of block `h`. -/
def Covers (m : List (Str × Nat)) (h : Str) (k : Nat) : Prop := ∃ n, (h, n) ∈ m ∧ k ≤ n

theorem covers_lensInsert_self (m : List (Str × Nat)) (h : Str) (n : Nat) :
    Covers (lensInsert m h n) h n := by
  induction m with
  | nil => exact ⟨n, by simp [lensInsert], Nat.le_refl _⟩
  | cons p m ih =>
    obtain ⟨h', n'⟩ := p
    simp only [lensInsert]
    by_cases hh : h' = h
    · subst hh
      exact ⟨max n' n, by simp, Nat.le_max_right ..⟩
    · obtain ⟨x, hx, hle⟩ := ih
      exact ⟨x, by simp [hh, hx], hle⟩

theorem covers_lensInsert_mono {m : List (Str × Nat)} {h : Str} {k : Nat} (h2 : Str) (n2 : Nat)
    (hc : Covers m h k) : Covers (lensInsert m h2 n2) h k := by
  induction m with
  | nil => obtain ⟨_, hx, _⟩ := hc; simp at hx
  | cons p m ih =>
    obtain ⟨h', n'⟩ := p
    obtain ⟨x, hx, hle⟩ := hc
    simp only [lensInsert]
    by_cases hh : h' = h2
    · simp only [hh, if_true]
      rcases List.mem_cons.mp hx with he | hx
      · cases he
        exact ⟨max n' n2, by simp [hh], Nat.le_trans hle (Nat.le_max_left ..)⟩
      · exact ⟨x, List.mem_cons_of_mem _ hx, hle⟩
    · simp only [hh, if_false]
      rcases List.mem_cons.mp hx with he | hx
      · cases he
        exact ⟨n', List.mem_cons_self .., hle⟩
      · obtain ⟨y, hy, hle'⟩ := ih ⟨x, hx, hle⟩
        exact ⟨y, List.mem_cons_of_mem _ hy, hle'⟩

theorem lensInsert_inv (P : Str → Nat → Prop) (hmax : ∀ h a b, P h a → P h b → P h (max a b))
    {m : List (Str × Nat)} {h : Str} {n : Nat} (hm : ∀ p ∈ m, P p.1 p.2) (hn : P h n) :
    ∀ p ∈ lensInsert m h n, P p.1 p.2 := by
  induction m with
  | nil => intro p hp; simp [lensInsert] at hp; subst hp; exact hn
  | cons q m ih =>
    obtain ⟨h', n'⟩ := q
    intro p hp
    simp only [lensInsert] at hp
    by_cases hh : h' = h
    · simp only [hh, if_true] at hp
      rcases List.mem_cons.mp hp with rfl | hp
      · exact hmax _ _ _ (hh ▸ hm (h', n') (List.mem_cons_self ..)) hn
      · exact hm p (List.mem_cons_of_mem _ hp)
    · simp only [hh, if_false] at hp
      rcases List.mem_cons.mp hp with rfl | hp
      · exact hm _ (List.mem_cons_self ..)
      · exact ih (fun p hp => hm p (List.mem_cons_of_mem _ hp)) p hp

def lensOf (m ps : List (Str × Nat)) : List (Str × Nat) := ps.foldl (fun m p => lensInsert m p.1 p.2) m

theorem lensOf_inv (P : Str → Nat → Prop) (hmax : ∀ h a b, P h a → P h b → P h (max a b))
    (ps : List (Str × Nat)) : ∀ m : List (Str × Nat), (∀ p ∈ m, P p.1 p.2) → (∀ p ∈ ps, P p.1 p.2) →
    ∀ p ∈ lensOf m ps, P p.1 p.2 := by
  induction ps with
  | nil => intro m hm _; exact hm
  | cons q ps ih =>
    intro m hm hq
    exact ih _ (lensInsert_inv P hmax hm (hq q (List.mem_cons_self ..)))
      (fun x hx => hq x (List.mem_cons_of_mem _ hx))

theorem covers_lensOf_mono (ps : List (Str × Nat)) : ∀ {m : List (Str × Nat)} {h : Str} {k : Nat},
    Covers m h k → Covers (lensOf m ps) h k := by
  induction ps with
  | nil => intro m h k hc; exact hc
  | cons q ps ih => intro m h k hc; exact ih (covers_lensInsert_mono _ _ hc)

theorem covers_lensOf_mem (ps : List (Str × Nat)) : ∀ (m : List (Str × Nat)) {p : Str × Nat}, p ∈ ps →
    Covers (lensOf m ps) p.1 p.2 := by
  induction ps with
  | nil => intro m p hp; cases hp
  | cons q ps ih =>
    intro m p hp
    rcases List.mem_cons.mp hp with rfl | hp
    · exact covers_lensOf_mono ps (covers_lensInsert_self ..)
    · exact ih _ hp

/-- What `validate_stored_tree` records for version `b`: one pair per address of each file entry of
its listing, nothing if the version does not open. -/
def bandRefList (s : Store) (b : Nat) : List (Str × Nat) :=
  match headError s b with
  | some _ => []
  | none => (listSpec s b).flatMap fun e =>
      if e.kind == .file then e.addrs.map fun a => (a.hash, a.start + a.len) else []

theorem mem_bandRefList {s : Store} {b : Nat} {p : Str × Nat} :
    p ∈ bandRefList s b ↔ headError s b = none ∧
      ∃ e ∈ listSpec s b, e.kind = .file ∧ ∃ a ∈ e.addrs, (a.hash, a.start + a.len) = p := by
  unfold bandRefList
  cases headError s b with
  | some e => simp
  | none =>
    simp only [List.mem_flatMap, true_and]
    refine exists_congr fun e => and_congr_right fun _ => ?_
    by_cases hk : e.kind = .file <;> simp [hk]

theorem bandRefs_eq_lensOf (s : Store) (m : List (Str × Nat)) (b : Nat) :
    bandRefs s m b = lensOf m (bandRefList s b) := by
  unfold bandRefs bandRefList
  cases headError s b with
  | some e => rfl
  | none =>
    simp only [lensOf, entryLens, List.foldl_flatMap]
    congr
    funext m e
    split <;> simp [List.foldl_map]

theorem referencedOf_eq_lensOf (s : Store) :
    referencedOf s = lensOf [] ((bandIdsOf s).flatMap (bandRefList s)) := by
  unfold referencedOf
  generalize ([] : List (Str × Nat)) = m
  induction bandIdsOf s generalizing m with
  | nil => rfl
  | cons b bs ih =>
    simp only [List.foldl_cons, ih, bandRefs_eq_lensOf, List.flatMap_cons, lensOf, List.foldl_append]

theorem referenced_inv {s : Store} (P : Str → Nat → Prop)
    (hmax : ∀ h a b, P h a → P h b → P h (max a b))
    (hP : ∀ b ∈ bandIdsOf s, headError s b = none → ∀ e ∈ listSpec s b, e.kind = .file →
      ∀ a ∈ e.addrs, P a.hash (a.start + a.len)) :
    ∀ p ∈ referencedOf s, P p.1 p.2 := by
  rw [referencedOf_eq_lensOf]
  refine lensOf_inv P hmax _ [] (by simp) fun p hp => ?_
  obtain ⟨b, hb, hp⟩ := List.mem_flatMap.mp hp
  obtain ⟨hh, e, he, hk, a, ha, rfl⟩ := mem_bandRefList.mp hp
  exact hP b hb hh e he hk a ha

theorem referenced_covers {s : Store} {b : Nat} {e : IndexEntry} {a : Addr} (hb : b ∈ bandIdsOf s)
    (hh : headError s b = none) (he : e ∈ listSpec s b) (hk : e.kind = .file) (ha : a ∈ e.addrs) :
    Covers (referencedOf s) a.hash (a.start + a.len) := by
  rw [referencedOf_eq_lensOf]
  exact covers_lensOf_mem _ [] (p := (a.hash, a.start + a.len))
    (List.mem_flatMap.mpr ⟨b, hb, mem_bandRefList.mpr ⟨hh, e, he, hk, a, ha, rfl⟩⟩)

end Conserve
