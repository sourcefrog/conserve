import ConserveModel.Fs
/-
Basic facts about the `Fs` node map and the locality of every system call: a call whose path
resolves to `p` changes at most the node at `p` (keeping its kind, or creating it) and the
mtime of `p`'s parent directory (only when it creates `p`).  A call that takes a path is `Fs.onPath`:
resolution, then one operation at the place found (`newAt`, `updateAt`, `openAt`); what is known of a
call follows from what is known of its operation.
-/
namespace Conserve

theorem Fs.node_set (fs : Fs) (p q : Path) (x : FNode) :
    (fs.set p x).node q = if q = p then some x else fs.node q := by
  unfold Fs.node Fs.set
  simp only [List.find?_cons]
  by_cases h : q = p
  · subst h; simp
  · have h2 : (p == q) = false := by
      simp only [beq_eq_false_iff_ne, ne_eq]; exact fun e => h e.symm
    simp [h2, h]

theorem Fs.node_modify (fs : Fs) (p q : Path) (f : FNode → FNode) :
    (fs.modify p f).node q = if q = p then (fs.node p).map f else fs.node q := by
  unfold Fs.modify
  cases h : fs.node p with
  | none => by_cases hq : q = p <;> simp [hq, h]
  | some x => simp [Fs.node_set]

theorem Fs.node_createAt (fs : Fs) (p q : Path) (x : FNode) :
    (fs.createAt p x).node q =
      if q = p.dropLast then (if p.dropLast = p then some x else fs.node p.dropLast).map FNode.touch
      else if q = p then some x else fs.node q := by
  unfold Fs.createAt
  rw [Fs.node_modify, Fs.node_set, Fs.node_set]

theorem Fs.isDir_iff {fs : Fs} {p : Path} : fs.isDir p = true ↔ ∃ x, fs.node p = some x ∧ x.kind = .dir := by
  unfold Fs.isDir
  cases fs.node p <;> simp

abbrev Kept (fs fs' : Fs) : Prop :=
  ∀ q x, fs.node q = some x → ∃ x', fs'.node q = some x' ∧ x'.kind = x.kind

theorem Kept.refl (fs : Fs) : Kept fs fs := fun _ x h => ⟨x, h, rfl⟩

theorem Kept.trans {a b c : Fs} (h1 : Kept a b) (h2 : Kept b c) : Kept a c := by
  intro q x hx
  obtain ⟨x1, hx1, hk1⟩ := h1 q x hx
  obtain ⟨x2, hx2, hk2⟩ := h2 q x1 hx1
  exact ⟨x2, hx2, hk2.trans hk1⟩

theorem Kept.isDir {fs fs' : Fs} (hk : Kept fs fs') {p : Path} (h : fs.isDir p = true) :
    fs'.isDir p = true := by
  obtain ⟨x, hx, hxk⟩ := Fs.isDir_iff.1 h
  obtain ⟨x', hx', hk'⟩ := hk p x hx
  exact Fs.isDir_iff.2 ⟨x', hx', hk'.trans hxk⟩

theorem isDir_createAt_self {fs : Fs} {p : Path} {x : FNode} (hk : x.kind = .dir) :
    (fs.createAt p x).isDir p = true := by
  by_cases hp : p = p.dropLast
  · exact Fs.isDir_iff.2 ⟨x.touch, by rw [Fs.node_createAt, if_pos hp, if_pos hp.symm]; rfl, hk⟩
  · exact Fs.isDir_iff.2 ⟨x, by rw [Fs.node_createAt, if_neg hp, if_pos rfl], hk⟩

def EqMod (a b : Option FNode) : Prop := a.map FNode.touch = b.map FNode.touch

theorem EqMod.refl (a : Option FNode) : EqMod a a := rfl
theorem EqMod.trans {a b c : Option FNode} (h1 : EqMod a b) (h2 : EqMod b c) : EqMod a c :=
  Eq.trans h1 h2
theorem EqMod.of_eq {a b : Option FNode} (h : a = b) : EqMod a b := by subst h; rfl

theorem EqMod.none_iff {a b : Option FNode} (h : EqMod a b) : a = none ↔ b = none := by
  unfold EqMod at h
  cases a <;> cases b <;> simp_all

theorem EqMod.some_left {a b : Option FNode} {x : FNode} (h : EqMod a b) (ha : a = some x) :
    ∃ y, b = some y ∧ y.kind = x.kind ∧ y.mode = x.mode ∧ y.content = x.content ∧
      y.uid = x.uid ∧ y.gid = x.gid ∧ y.target = x.target := by
  unfold EqMod at h
  subst ha
  cases b with
  | none => simp at h
  | some y =>
    refine ⟨y, rfl, ?_⟩
    simp only [Option.map_some, Option.some.injEq, FNode.touch, FNode.mk.injEq] at h
    obtain ⟨h1, h2, h3, h4, h5, h6, _⟩ := h
    exact ⟨h1.symm, h4.symm, h2.symm, h5.symm, h6.symm, h3.symm⟩

theorem EqMod.touch_right (a : Option FNode) : EqMod a (a.map FNode.touch) := by
  unfold EqMod
  cases a <;> simp [FNode.touch]

/-- `fs'` arises from `fs` by changing (kind kept) or creating (with kind `k`) the node at `p`,
touching the mtime of `p`'s parent only if `p` did not exist. -/
structure Local (k : FKind) (fs fs' : Fs) (p : Path) : Prop where
  frame : ∀ q, q ≠ p → q ≠ p.dropLast → fs'.node q = fs.node q
  parent : p.dropLast ≠ p → EqMod (fs.node p.dropLast) (fs'.node p.dropLast) ∧
    (fs.node p ≠ none → fs'.node p.dropLast = fs.node p.dropLast)
  self : ∀ x, fs.node p = some x → ∃ x', fs'.node p = some x' ∧ x'.kind = x.kind
  created : ∀ x', fs.node p = none → fs'.node p = some x' → x'.kind = k

theorem Local.refl (k : FKind) (fs : Fs) (p : Path) : Local k fs fs p :=
  ⟨fun _ _ _ => rfl, fun _ => ⟨EqMod.refl _, fun _ => rfl⟩, fun x h => ⟨x, h, rfl⟩,
   fun x' h1 h2 => by rw [h1] at h2; cases h2⟩

theorem Local.trans {k : FKind} {fs fs1 fs2 : Fs} {p : Path} (h1 : Local k fs fs1 p)
    (h2 : Local k fs1 fs2 p) : Local k fs fs2 p := by
  refine ⟨fun q a b => (h2.frame q a b).trans (h1.frame q a b), fun hp => ?_, fun x hx => ?_,
    fun x' hn hs => ?_⟩
  · obtain ⟨a1, b1⟩ := h1.parent hp
    obtain ⟨a2, b2⟩ := h2.parent hp
    refine ⟨a1.trans a2, fun hne => ?_⟩
    rw [b2, b1 hne]
    cases hx : fs.node p with
    | none => exact absurd hx hne
    | some x =>
      obtain ⟨x', hx', _⟩ := h1.self x hx
      simp [hx']
  · obtain ⟨x1, hx1, hk1⟩ := h1.self x hx
    obtain ⟨x2, hx2, hk2⟩ := h2.self x1 hx1
    exact ⟨x2, hx2, hk2.trans hk1⟩
  · cases h : fs1.node p with
    | none => exact h2.created x' h hs
    | some x1 =>
      obtain ⟨x2, hx2, hk2⟩ := h2.self x1 h
      rw [hs] at hx2
      cases hx2
      rw [hk2]
      exact h1.created x1 hn h

theorem Local.of_set {k : FKind} {fs : Fs} {p : Path} {x x' : FNode} (h : fs.node p = some x)
    (hk : x'.kind = x.kind) : Local k fs (fs.set p x') p := by
  refine ⟨fun q a _ => by simp [Fs.node_set, a], fun hp => ?_, fun y hy => ?_, fun y hn => ?_⟩
  · have : (fs.set p x').node p.dropLast = fs.node p.dropLast := by simp [Fs.node_set, hp]
    exact ⟨EqMod.of_eq this.symm, fun _ => this⟩
  · rw [h] at hy; cases hy
    exact ⟨x', by simp [Fs.node_set], hk⟩
  · rw [h] at hn; cases hn

theorem Local.of_modify {k : FKind} {fs : Fs} {p : Path} {f : FNode → FNode}
    (hf : ∀ x, (f x).kind = x.kind) : Local k fs (fs.modify p f) p := by
  unfold Fs.modify
  cases h : fs.node p with
  | none => exact Local.refl k fs p
  | some x => exact Local.of_set h (hf x)

theorem Local.of_createAt {k : FKind} {fs : Fs} {p : Path} {x : FNode} (h : fs.node p = none)
    (hk : x.kind = k) : Local k fs (fs.createAt p x) p := by
  refine ⟨fun q a b => by simp [Fs.node_createAt, a, b], fun hp => ?_, fun y hy => ?_,
    fun y _ hy => ?_⟩
  · refine ⟨?_, fun hne => absurd h hne⟩
    have : (fs.createAt p x).node p.dropLast = (fs.node p.dropLast).map FNode.touch := by
      simp [Fs.node_createAt, hp]
    rw [this]
    exact EqMod.touch_right _
  · rw [h] at hy; cases hy
  · by_cases hp : p = p.dropLast
    · rw [Fs.node_createAt, if_pos hp, if_pos hp.symm] at hy
      simp only [Option.map_some, Option.some.injEq] at hy
      rw [← hy]; exact hk
    · rw [Fs.node_createAt, if_neg hp, if_pos rfl] at hy
      cases hy; exact hk

/-! ### A system call that takes a path: resolution, then ONE operation at the place found -/

def Fs.onPath {α : Type} (fs : Fs) (follow : Bool) (path : List Str) (k : Path → Fs × Except Errno α) :
    Fs × Except Errno α :=
  match fs.resolve follow path with
  | .error e => (fs, .error e)
  | .ok p => k p

/-- Make a new directory entry: refused if the name exists (`mkdir`, `symlink`). -/
def Fs.newAt (fs : Fs) (p : Path) (x : FNode) : Fs × Except Errno Unit :=
  match fs.node p with
  | some _ => (fs, .error .EEXIST)
  | none => (fs.createAt p x, .ok ())

/-- Change the attributes of an existing inode (`lchown`, `chmod`, `utimensat`). -/
def Fs.updateAt (fs : Fs) (p : Path) (g : FNode → FNode) : Fs × Except Errno Unit :=
  match fs.node p with
  | none => (fs, .error .ENOENT)
  | some x => (fs.set p (g x), .ok ())

/-- Truncate a file or make a new one; the handle is the place (`open(O_WRONLY|O_CREAT|O_TRUNC)`). -/
def Fs.openAt (fs : Fs) (p : Path) : Fs × Except Errno Path :=
  match fs.node p with
  | some x =>
    if x.kind = .dir then (fs, .error .EISDIR)
    else if x.kind = .symlink then (fs, .error .ELOOP)
    else (fs.set p { x with content := [], mtime := .now }, .ok p)
  | none =>
    (fs.createAt p (.file [] (maskMode 0o666 fs.umask) fs.euid (fs.newGid p.dropLast) .now), .ok p)

theorem Fs.mkdir_eq (fs : Fs) (path : List Str) : fs.mkdir path = fs.onPath false path fun p =>
    fs.newAt p (.dir (maskMode 0o777 fs.umask + fs.parentSgid p.dropLast) fs.euid (fs.newGid p.dropLast) .now) := rfl

theorem Fs.symlink_eq (fs : Fs) (target : Str) (path : List Str) : fs.symlink target path =
    fs.onPath false path fun p =>
      if target = [] ∧ fs.node p = none then (fs, .error .ENOENT)
      else fs.newAt p (.symlink target fs.euid (fs.newGid p.dropLast) .now) := by
  unfold Fs.symlink Fs.onPath Fs.newAt
  cases fs.resolve false path with
  | error e => rfl
  | ok p =>
    dsimp only
    cases hn : fs.node p with
    | some x => simp
    | none => by_cases ht : target = [] <;> simp [ht]

theorem Fs.create_eq (fs : Fs) (path : List Str) : fs.create path = fs.onPath true path fs.openAt := rfl

theorem Fs.lchown_eq (fs : Fs) (path : List Str) (u g : Option Nat) : fs.lchown path u g =
    fs.onPath false path fun p => fs.updateAt p fun x =>
      { x with uid := u.getD x.uid, gid := g.getD x.gid,
               mode := if x.kind = .file then clearSetid x.mode else x.mode } := rfl

theorem Fs.chmod_eq (fs : Fs) (path : List Str) (m : Nat) : fs.chmod path m =
    fs.onPath true path fun p => fs.updateAt p fun x => { x with mode := m % 0o10000 } := rfl

theorem Fs.utimes_eq (fs : Fs) (follow : Bool) (path : List Str) (t : Int) : fs.utimes follow path t =
    fs.onPath follow path fun p => fs.updateAt p fun x => { x with mtime := .at t } := rfl

section
variable {α : Type} {fs : Fs} {follow : Bool} {path : List Str} {k : Path → Fs × Except Errno α}

theorem Fs.onPath_ok {p : Path} (h : fs.resolve follow path = .ok p) : fs.onPath follow path k = k p := by
  unfold Fs.onPath; rw [h]

theorem Fs.onPath_error {e : Errno} (h : fs.resolve follow path = .error e) :
    fs.onPath follow path k = (fs, .error e) := by
  unfold Fs.onPath; rw [h]

/-- What a call returned: the error of the resolution, or what the operation returned. -/
theorem Fs.onPath_eq {r : Fs × Except Errno α} (h : fs.onPath follow path k = r) :
    (∃ e, fs.resolve follow path = .error e ∧ r = (fs, .error e)) ∨
      ∃ p, fs.resolve follow path = .ok p ∧ k p = r := by
  unfold Fs.onPath at h
  cases hr : fs.resolve follow path with
  | error e => rw [hr] at h; exact Or.inl ⟨e, rfl, h.symm⟩
  | ok p => rw [hr] at h; exact Or.inr ⟨p, rfl, h⟩

theorem Fs.onPath_fst_unresolved (h : ∀ p, fs.resolve follow path ≠ .ok p) :
    (fs.onPath follow path k).1 = fs := by
  rcases Fs.onPath_eq (r := fs.onPath follow path k) rfl with ⟨e, _, he⟩ | ⟨p, hr, _⟩
  · rw [he]
  · exact absurd hr (h p)

/-- The locality of a call from that of its operation. -/
theorem Fs.onPath_local {kd : FKind} {p0 : Path} (hres : ∀ p, fs.resolve follow path = .ok p → p = p0)
    (hk : Local kd fs (k p0).1 p0) : Local kd fs (fs.onPath follow path k).1 p0 := by
  rcases Fs.onPath_eq (r := fs.onPath follow path k) rfl with ⟨e, _, he⟩ | ⟨p, hr, he⟩
  · rw [he]; exact Local.refl _ _ _
  · rw [← he, hres p hr]; exact hk

end

theorem Fs.newAt_local {k : FKind} {fs : Fs} {p : Path} {x : FNode} (hk : x.kind = k) :
    Local k fs (fs.newAt p x).1 p := by
  unfold Fs.newAt
  cases hn : fs.node p with
  | some _ => exact Local.refl _ _ _
  | none => exact Local.of_createAt hn hk

/-- What `newAt` answers: it made the entry, or found the name taken and did nothing. -/
theorem Fs.newAt_eq {fs fs1 : Fs} {p : Path} {x : FNode} {r : Except Errno Unit} (h : fs.newAt p x = (fs1, r)) :
    (fs.node p = none ∧ fs1 = fs.createAt p x ∧ r = .ok ()) ∨
      ((∃ y, fs.node p = some y) ∧ fs1 = fs ∧ r = .error .EEXIST) := by
  unfold Fs.newAt at h
  cases hn : fs.node p with
  | none => rw [hn] at h; cases h; exact Or.inl ⟨rfl, rfl, rfl⟩
  | some y => rw [hn] at h; cases h; exact Or.inr ⟨⟨y, rfl⟩, rfl, rfl⟩

theorem Fs.updateAt_local {k : FKind} {fs : Fs} {p : Path} {g : FNode → FNode}
    (hg : ∀ x, (g x).kind = x.kind) : Local k fs (fs.updateAt p g).1 p := by
  unfold Fs.updateAt
  cases hn : fs.node p with
  | none => exact Local.refl _ _ _
  | some x => exact Local.of_set hn (hg x)

theorem Fs.updateAt_ok {fs fs1 : Fs} {p : Path} {g : FNode → FNode} (h : fs.updateAt p g = (fs1, .ok ())) :
    ∃ x, fs.node p = some x ∧ fs1 = fs.set p (g x) := by
  unfold Fs.updateAt at h
  cases hn : fs.node p with
  | none => rw [hn] at h; cases h
  | some x => rw [hn] at h; cases h; exact ⟨x, rfl, rfl⟩

theorem Fs.updateAt_snd_ok {fs : Fs} {p : Path} {x : FNode} {g : FNode → FNode} (hn : fs.node p = some x) :
    (fs.updateAt p g).2 = .ok () := by
  unfold Fs.updateAt; rw [hn]

theorem Fs.openAt_local {fs : Fs} {p : Path} :
    Local .file fs (fs.openAt p).1 p ∧
    ∀ h, (fs.openAt p).2 = .ok h → h = p ∧ ∃ x, (fs.openAt p).1.node p = some x ∧ x.kind = .file := by
  unfold Fs.openAt
  cases hn : fs.node p with
  | some x =>
    by_cases hd : x.kind = .dir
    · simp only [hd, if_true]; exact ⟨Local.refl _ _ _, fun h hh => by cases hh⟩
    · by_cases hl : x.kind = .symlink
      · simp only [hl, if_true]; exact ⟨Local.refl _ _ _, fun h hh => by cases hh⟩
      · simp only [hd, hl, if_false]
        refine ⟨Local.of_set hn rfl, fun h hh => ?_⟩
        cases hh
        refine ⟨rfl, _, by rw [Fs.node_set, if_pos rfl], ?_⟩
        show x.kind = .file
        cases hx : x.kind with
        | file => rfl
        | dir => exact absurd hx hd
        | symlink => exact absurd hx hl
  | none =>
    refine ⟨Local.of_createAt hn rfl, fun h hh => ?_⟩
    cases hh
    refine ⟨rfl, ?_⟩
    by_cases hp : p = p.dropLast
    · exact ⟨_, by rw [Fs.node_createAt, if_pos hp, if_pos hp.symm]; rfl, rfl⟩
    · exact ⟨_, by rw [Fs.node_createAt, if_neg hp, if_pos rfl], rfl⟩

section
variable {fs : Fs} {path : List Str} {p0 : Path}

theorem Fs.mkdir_local (hres : ∀ p, fs.resolve false path = .ok p → p = p0) :
    Local .dir fs (fs.mkdir path).1 p0 := by
  rw [Fs.mkdir_eq]; exact Fs.onPath_local hres (Fs.newAt_local rfl)

theorem Fs.symlink_local {target : Str} (hres : ∀ p, fs.resolve false path = .ok p → p = p0) :
    Local .symlink fs (fs.symlink target path).1 p0 := by
  rw [Fs.symlink_eq]
  refine Fs.onPath_local hres ?_
  split
  · exact Local.refl _ _ _
  · exact Fs.newAt_local rfl

theorem Fs.create_local (hres : ∀ p, fs.resolve true path = .ok p → p = p0) :
    Local .file fs (fs.create path).1 p0 ∧
    ∀ h, (fs.create path).2 = .ok h → h = p0 ∧ ∃ x, (fs.create path).1.node p0 = some x ∧ x.kind = .file := by
  refine ⟨Fs.onPath_local hres Fs.openAt_local.1, fun h hh => ?_⟩
  rcases Fs.onPath_eq (Fs.create_eq fs path).symm with ⟨e, _, he⟩ | ⟨p, hr, he⟩
  · rw [he] at hh; cases hh
  · rw [← he, hres p hr] at hh ⊢
    exact Fs.openAt_local.2 h hh

theorem Fs.lchown_local {k : FKind} {u g : Option Nat}
    (hres : ∀ p, fs.resolve false path = .ok p → p = p0) :
    Local k fs (fs.lchown path u g).1 p0 := by
  rw [Fs.lchown_eq]; exact Fs.onPath_local hres (Fs.updateAt_local fun _ => rfl)

theorem Fs.chmod_local {k : FKind} {m : Nat}
    (hres : ∀ p, fs.resolve true path = .ok p → p = p0) :
    Local k fs (fs.chmod path m).1 p0 := by
  rw [Fs.chmod_eq]; exact Fs.onPath_local hres (Fs.updateAt_local fun _ => rfl)

theorem Fs.utimes_local {k : FKind} {follow : Bool} {t : Int}
    (hres : ∀ p, fs.resolve follow path = .ok p → p = p0) :
    Local k fs (fs.utimes follow path t).1 p0 := by
  rw [Fs.utimes_eq]; exact Fs.onPath_local hres (Fs.updateAt_local fun _ => rfl)

end

theorem Fs.writeAt_local {k : FKind} (fs : Fs) (h : Path) (b : Str) : Local k fs (fs.writeAt h b) h :=
  Local.of_modify fun _ => rfl

theorem Fs.futimensAt_local {k : FKind} (fs : Fs) (h : Path) (t : Int) :
    Local k fs (fs.futimensAt h t) h :=
  Local.of_modify fun _ => rfl

end Conserve
