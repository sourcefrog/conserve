import ConserveModel.Proofs.ProtocolInv5
/-
The invariants of the protocol skeleton, group 6 (the repaired backup, `recheck = true`): they hold at the
start and are preserved by both step functions.  The clauses are defined in Proofs/ProtocolInv.lean; how
preservation is proved is said there.
-/
namespace Conserve.Proto

theorem Inv6.start (c : Config) : Inv6 c c.start := by
  constructor <;>
    simp [Config.start, isNew, BPc.mkdirDone, Exclusive, DoneSeen, SnapshotR, NewSafeR, SnapshotBody, NewSafeBody]

section
variable {c : Config} {p q : State}

/-- The repaired backup enters its critical section only through `B.lockCheck2`, which finds the
lock while gc sweeps. -/
theorem Exclusive.presB (hs : StepB p q) (h1 : Inv1 c p) (h : Inv6 c p) : Exclusive q := by
  have k := h.exclusive
  unfold Exclusive at *
  cases hs with
  | head _ _ hr => exact fun _ hre => by rw [hr] at hre; cases hre
  | lockCheck2 _ hl => exact fun hpc _ => by rw [h1.lock (by rw [hpc]; rfl)] at hl; cases hl
  | listBlocks hpc => exact fun hg hre => absurd hpc (k hg hre).1
  | hunk hpc _ _ => exact fun hg hre => absurd hpc (k hg hre).2.1
  | _ => first | exact k | exact fun _ _ => ⟨nofun, nofun, nofun⟩

theorem Exclusive.presG (hs : StepG p q) (h1 : Inv1 c p) (h2 : Inv2 c p) (h4 : Inv4 c p) (h : Inv6 c p) :
    Exclusive q := by
  have k := h.exclusive
  unfold Exclusive at *
  cases hs with
  | check hpc _ heq => exact fun _ _ => check_pass_pc (p := p) h1 h2 h4 hpc heq
  | _ => frame_pc k

theorem DoneSeen.presB (hs : StepB p q) (h : Inv6 c p) : DoneSeen q := by
  intro hpc hre hd
  rw [hs.recheck_eq] at hre; rw [hs.g_eq] at hpc
  rcases hs.to_done hd with e | e
  · obtain rfl := hs.eq_of_fin (by rw [e]; rfl)
    exact h.doneSeen hpc hre hd
  · exact absurd e (h.exclusive hpc hre).2.2

theorem DoneSeen.presG (hs : StepG p q) (h1 : Inv1 c p) (h2 : Inv2 c p) (h4 : Inv4 c p) (h : Inv6 c p) :
    DoneSeen q := by
  have k := h.doneSeen
  unfold DoneSeen at *
  cases hs with
  | check hpc _ heq =>
    intro _ _ hd
    rcases check_pass_case h1 h2 h4 hpc heq with hm | ⟨_, hacc⟩
    · rw [hd] at hm; cases hm
    · exact hacc
  | rmBand hpc i rest htb _ => exact fun _ hre hd => NewAccounted.rmBand (k hpc hre hd) htb
  | _ => frame_pc k

/-- Why a removal is harmless for the repaired backup: mutual exclusion. -/
theorem RmBlock.sparesR {g0 : Nat} (hr : RmBlock p q g0) (hre : p.b.recheck = true) (h1 : Inv1 c p)
    (h2 : Inv2 c p) (h6 : Inv6 c p) : Spared p g0 := by
  obtain ⟨hpc, htb, hg0, _⟩ := hr
  obtain ⟨_, e2, e3⟩ := h6.exclusive hpc hre
  refine ⟨fun b hb hn hg => ?_, fun hb => absurd hb e2⟩
  rcases (h2.newBand b hb hn).1 with hr | hr | hr
  · rw [hr] at hg; cases hg
  · exact e3 hr
  · rcases h6.doneSeen hpc hre hr b hb hn with hin | hnu
    · rw [htb] at hin; cases hin
    · exact hnu g0 hg (h1.todoBlocks g0 hg0)

theorem SnapshotR.presB (hs : StepB p q) (h : Inv6 c p) : SnapshotR q :=
  fun hr => SnapshotBody.presB hs (h.snapshotR (hs.recheck_eq ▸ hr))

theorem SnapshotR.presG (hs : StepG p q) (h1 : Inv1 c p) (h2 : Inv2 c p) (h : Inv6 c p) : SnapshotR q :=
  fun hre => have hre' := hs.b_eq ▸ hre
    SnapshotBody.presG hs (h.snapshotR hre') fun _ hr => hr.sparesR hre' h1 h2 h

theorem NewSafeR.presB (hs : StepB p q) (h2 : Inv2 c p) (h4 : Inv4 c p) (h : Inv6 c p) : NewSafeR q :=
  fun hr => have hr' := hs.recheck_eq ▸ hr
    NewSafeBody.presB hs h2.below h4.handled (h.snapshotR hr') (h.newSafeR hr')

theorem NewSafeR.presG (hs : StepG p q) (h1 : Inv1 c p) (h2 : Inv2 c p) (h : Inv6 c p) : NewSafeR q :=
  fun hre => have hre' := hs.b_eq ▸ hre
    NewSafeBody.presG hs (h.newSafeR hre') fun _ hr => hr.sparesR hre' h1 h2 h

theorem Inv6.presB (hs : StepB p q) (h1 : Inv1 c p) (h2 : Inv2 c p) (h4 : Inv4 c p) (h : Inv6 c p) : Inv6 c q :=
  ⟨Exclusive.presB hs h1 h, DoneSeen.presB hs h, SnapshotR.presB hs h, NewSafeR.presB hs h2 h4 h⟩

theorem Inv6.presG (hs : StepG p q) (h1 : Inv1 c p) (h2 : Inv2 c p) (h4 : Inv4 c p) (h : Inv6 c p) : Inv6 c q :=
  ⟨Exclusive.presG hs h1 h2 h4 h, DoneSeen.presG hs h1 h2 h4 h, SnapshotR.presG hs h1 h2 h,
   NewSafeR.presG hs h1 h2 h⟩

end

end Conserve.Proto
