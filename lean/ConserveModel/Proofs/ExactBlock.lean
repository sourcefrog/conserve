import ConserveModel.Proofs.ExactStore
/-
The block store, the small-file combiner and `copy_entry` on a fault-free world: they SUCCEED, and
what they do to the writer is described exactly enough to know, at the end, which entries were
recorded in which order (`BInv.perm`).  Content fidelity is not repeated here — it is the
all-worlds development Proofs/Backup*.lean.  No property statements here.
-/
namespace Conserve.Exact
open Conserve Prog

def strip (e : IndexEntry) : IndexEntry := { e with addrs := [] }

@[simp] theorem strip_kind (e : IndexEntry) : (strip e).kind = e.kind := rfl
@[simp] theorem strip_apath (e : IndexEntry) : (strip e).apath = e.apath := rfl
@[simp] theorem strip_setAddrs (e : IndexEntry) (as : List Addr) : strip { e with addrs := as } = strip e := rfl
@[simp] theorem strip_metaOf (o : BackupOpts) (sf : SrcEntry) : strip (Inv.metaOf o sf) = Inv.metaOf o sf := rfl

/-- The entries of the group being assembled: pending, finished by the combiner, still queued. -/
def groupEntries (wr : Writer) : List IndexEntry := wr.pending ++ wr.finished ++ wr.queue.map (·.2.2)

/-- The in-memory block set knows every non-empty block file of the store. -/
def ExAll (s : Store) (ex : List Str) : Prop := ∀ h, blockListed s h → h ∈ ex

/-- The part of the writer/store invariant the block-level functions maintain.  `grp` are the source
entries recorded since the last hunk was written; `bytes` bounds the combiner buffer. -/
structure BInv (H : Str → Str) (o : BackupOpts) (s : Store) (wr : Writer) (grp : List SrcEntry) (bytes : Nat) :
    Prop where
  st : StoreOK H s
  exAll : ExAll s wr.exists_
  perm : ((groupEntries wr).map strip).Perm (grp.map (Inv.metaOf o))
  nonfile : ∀ e ∈ wr.pending ++ wr.finished, e.kind ≠ .file → e.addrs = []
  queueFiles : ∀ q ∈ wr.queue, q.2.2.kind = .file
  buf : wr.buf.length ≤ bytes

/-- What the block-level functions leave alone. -/
structure Keep (s : Store) (wr : Writer) (s' : Store) (wr' : Writer) : Prop where
  band : wr'.band = wr.band
  sequence : wr'.sequence = wr.sequence
  hunksWritten : wr'.hunksWritten = wr.hunksWritten
  errors : wr'.stats.errors = wr.stats.errors
  frame : ∀ k, isBlockish k = false → s'.get? k = s.get? k

theorem Keep.refl (s : Store) (wr : Writer) : Keep s wr s wr := ⟨rfl, rfl, rfl, rfl, fun _ _ => rfl⟩

theorem Keep.trans {s s1 s2 : Store} {wr wr1 wr2 : Writer} (h1 : Keep s wr s1 wr1) (h2 : Keep s1 wr1 s2 wr2) :
    Keep s wr s2 wr2 :=
  ⟨h2.band.trans h1.band, h2.sequence.trans h1.sequence, h2.hunksWritten.trans h1.hunksWritten,
   h2.errors.trans h1.errors, fun k hk => (h2.frame k hk).trans (h1.frame k hk)⟩

variable {H : Str → Str} {o : BackupOpts}

theorem BInv.mono_bytes {s : Store} {wr : Writer} {grp : List SrcEntry} {b b' : Nat}
    (h : BInv H o s wr grp b) (hb : b ≤ b') : BInv H o s wr grp b' :=
  ⟨h.st, h.exAll, h.perm, h.nonfile, h.queueFiles, Nat.le_trans h.buf hb⟩

theorem BInv.pushPending {s : Store} {wr : Writer} {grp : List SrcEntry} {b : Nat} (h : BInv H o s wr grp b)
    {e : IndexEntry} {sf : SrcEntry} (he : strip e = Inv.metaOf o sf) (hnf : e.kind ≠ .file → e.addrs = [])
    (st' : Stats) :
    BInv H o s { wr with pending := wr.pending ++ [e], stats := st' } (grp ++ [sf]) b := by
  refine ⟨h.st, h.exAll, ?_, ?_, h.queueFiles, h.buf⟩
  · have hp := h.perm
    simp only [groupEntries, List.map_append, List.append_assoc, List.map_cons, List.map_nil, he] at hp ⊢
    refine List.Perm.trans ?_ (hp.append_right [Inv.metaOf o sf])
    rw [List.append_assoc]
    refine List.Perm.append_left _ ?_
    exact List.perm_append_comm (l₁ := [Inv.metaOf o sf])
  · intro e' he' hk
    simp only [List.mem_append, List.mem_singleton] at he'
    rcases he' with (he' | rfl) | he'
    · exact h.nonfile e' (List.mem_append_left _ he') hk
    · exact hnf hk
    · exact h.nonfile e' (List.mem_append_right _ he') hk

theorem BInv.setStats {s : Store} {wr : Writer} {grp : List SrcEntry} {b : Nat} (h : BInv H o s wr grp b)
    (st' : Stats) : BInv H o s { wr with stats := st' } grp b :=
  ⟨h.st, h.exAll, h.perm, h.nonfile, h.queueFiles, h.buf⟩

theorem storeOrDedup_runs {s : Store} (wr : Writer) (data : Str) (hst : StoreOK H s)
    (hex : ExAll s wr.exists_) (hsmall : data.length < 18446744073709551616) :
    ∃ s' ex' st', RunsAt (storeOrDedup H wr data) s
        (.ok ({ wr with exists_ := ex', stats := st' }, .ok (H data))) s' [] ∧
      StoreOK H s' ∧ ExAll s' ex' ∧ st'.errors = wr.stats.errors ∧
      (∀ k, isBlockish k = false → s'.get? k = s.get? k) := by
  unfold storeOrDedup
  by_cases hc : wr.exists_.contains (H data) = true
  · simp only [hc, if_true, Prog.pure_def]
    exact ⟨s, wr.exists_, _, RunsAt.ret _ _, hst, hex, rfl, fun _ _ => rfl⟩
  · simp only [hc, Bool.false_eq_true, if_false, Prog.pure_def, Prog.bind_def, perform, Prog.op_bind,
      Prog.ret_bind]
    have hnotin : H data ∉ wr.exists_ := by simpa using hc
    -- what happens once the sub-directory is in place
    have rest : ∀ s1, StoreOK H s1 → s1.get? (.blockDir ((H data).take subdirNameChars)) = some .dir →
        (∀ k, k ≠ .blockDir ((H data).take subdirNameChars) → s1.get? k = s.get? k) →
        ∃ s' ex' st', RunsAt (Prog.op (.write (.block (H data)) (.blockData data) .createNew) fun r =>
            match r with
            | .unit => Prog.ret ({ wr with exists_ := H data :: wr.exists_,
                                           stats := { wr.stats with writtenBlocks := wr.stats.writtenBlocks + 1,
                                                                    uncompressedBytes := wr.stats.uncompressedBytes + data.length } },
                                 (Except.ok (H data) : Except Err Str))
            | .err e => Prog.ret (wr, .error (.transport e))
            | _ => Prog.ret (wr, .error (.transport .other))) s1
            (.ok ({ wr with exists_ := ex', stats := st' }, .ok (H data))) s' [] ∧
          StoreOK H s' ∧ ExAll s' ex' ∧ st'.errors = wr.stats.errors ∧
          (∀ k, isBlockish k = false → s'.get? k = s.get? k) := by
      intro s1 hst1 hdir hsame
      have hpar : s1.parentOk (.block (H data)) = true := parentOk_of_dir rfl hdir
      have hblk : s1.get? (.block (H data)) = s.get? (.block (H data)) := hsame _ (by simp)
      have habs : s1.get? (.block (H data)) = none ∨ s1.get? (.block (H data)) = some .empty := by
        rw [hblk]
        cases hg : s.get? (.block (H data)) with
        | none => exact Or.inl rfl
        | some v =>
          rcases hst.blocks _ _ hg with rfl | ⟨c, rfl, _⟩
          · exact Or.inr rfl
          · exact absurd (hex _ ⟨.blockData c, hg, rfl, rfl⟩) hnotin
      have hA : StoreOK H (s1.put (.block (H data)) (.blockData data)) := by
        refine hst1.put hpar ?_ rfl ?_
        · rcases habs with h0 | h0
          · exact Or.inl h0
          · exact Or.inr ⟨_, rfl, h0⟩
        · intro hh hk
          cases hk
          exact ⟨data, rfl, rfl, hsmall⟩
      have hB : ExAll (s1.put (.block (H data)) (.blockData data)) (H data :: wr.exists_) := by
        intro h' hl
        obtain ⟨v, hg, h1, h2⟩ := hl
        rw [Store.get?_put] at hg
        by_cases hk : Key.block h' = Key.block (H data)
        · cases hk; exact List.mem_cons_self ..
        · simp only [hk, if_false] at hg
          rw [hsame _ (by simp)] at hg
          exact List.mem_cons_of_mem _ (hex h' ⟨v, hg, h1, h2⟩)
      have hC : ∀ k, isBlockish k = false →
          (s1.put (.block (H data)) (.blockData data)).get? k = s.get? k := by
        intro k hk
        exact (Store.get?_put_ne _ _ (by rintro rfl; cases hk)).trans (hsame k (by rintro rfl; cases hk))
      exact ⟨_, H data :: wr.exists_, _, RunsAt.op_write hpar habs (RunsAt.ret _ _), hA, hB, rfl, hC⟩
    cases hg : s.get? (.blockDir ((H data).take subdirNameChars)) with
    | none =>
      have hpar : s.parentOk (.blockDir ((H data).take subdirNameChars)) = true :=
        parentOk_of_dir rfl hst.blockRoot
      obtain ⟨s', ex', st', hr, h1, h2, h3, h4⟩ := rest _ (hst.put_fresh (v := .dir) hpar hg rfl fun _ => nofun)
        (by simp) (fun k hk => Store.get?_put_ne _ _ hk)
      exact ⟨s', ex', st', RunsAt.op_createDir hg hpar hr, h1, h2, h3, h4⟩
    | some v =>
      have hv := hst.blockDir_dir hg
      subst hv
      obtain ⟨s', ex', st', hr, h1, h2, h3, h4⟩ := rest s hst hg (fun _ _ => rfl)
      exact ⟨s', ex', st', RunsAt.op_createDir_exists hg hr, h1, h2, h3, h4⟩

theorem combinerFlush_runs {s : Store} {wr : Writer} {grp : List SrcEntry} {bytes : Nat}
    (hb : BInv H o s wr grp bytes) (hB : bytes < 18446744073709551616) :
    ∃ s' wr', RunsAt (combinerFlush H wr) s (.ok (wr', .ok ())) s' [] ∧
      BInv H o s' wr' grp bytes ∧ Keep s wr s' wr' ∧ wr'.queue = [] ∧ wr'.pending = wr.pending := by
  unfold combinerFlush
  by_cases hq : wr.queue.isEmpty = true
  · simp only [hq, if_true, Prog.pure_def]
    exact ⟨s, wr, RunsAt.ret _ _, hb, Keep.refl _ _, by simpa using hq, rfl⟩
  · simp only [hq, Bool.false_eq_true, if_false, Prog.pure_def, Prog.bind_def]
    obtain ⟨s', ex', st', hr, hst', hex', herr, hfr⟩ :=
      storeOrDedup_runs (H := H) { wr with buf := [] } wr.buf hb.st hb.exAll (Nat.lt_of_le_of_lt hb.buf hB)
    refine ⟨s', _, RunsAt.bind0 hr (RunsAt.ret _ _), ?_, ⟨rfl, rfl, rfl, herr, hfr⟩, rfl, rfl⟩
    refine ⟨hst', hex', ?_, ?_, (fun _ h => nomatch h), Nat.zero_le _⟩
    · have hp := hb.perm
      simp only [groupEntries, List.map_append, List.map_map, List.append_assoc, List.map_nil,
        List.append_nil] at hp ⊢
      refine List.Perm.trans (List.Perm.of_eq ?_) hp
      congr 2
    · intro e he hk
      simp only [List.mem_append, List.mem_map] at he
      rcases he with he | he | ⟨q, hq', rfl⟩
      · exact hb.nonfile e (List.mem_append_left _ he) hk
      · exact hb.nonfile e (List.mem_append_right _ he) hk
      · obtain ⟨a, b, e0⟩ := q
        exact absurd (hb.queueFiles _ hq') hk

theorem combinerPush_runs {s : Store} {wr : Writer} {grp : List SrcEntry} {bytes : Nat}
    (hb : BInv H o s wr grp bytes) (sf : SrcEntry) (hk : sf.kind = .file)
    (hB : bytes + sf.size < 18446744073709551616) :
    ∃ s' wr', RunsAt (combinerPush H o wr sf) s (.ok (wr', .ok ())) s' [] ∧
      BInv H o s' wr' (grp ++ [sf]) (bytes + sf.size) ∧ Keep s wr s' wr' ∧ wr'.pending = wr.pending := by
  unfold combinerPush
  simp only [Inv.metadataFrom_eq, Prog.pure_def]
  by_cases hd : (sf.content.take sf.size).isEmpty = true
  · simp only [hd, if_true]
    refine ⟨s, _, RunsAt.ret _ _, ?_, ⟨rfl, rfl, rfl, rfl, fun _ _ => rfl⟩, rfl⟩
    refine ⟨hb.st, hb.exAll, ?_, ?_, hb.queueFiles, Nat.le_trans hb.buf (Nat.le_add_right _ _)⟩
    · have hp := hb.perm
      simp only [groupEntries, List.map_append, List.append_assoc, List.map_cons, List.map_nil,
        strip_metaOf] at hp ⊢
      refine List.Perm.trans ?_ (hp.append_right [Inv.metaOf o sf])
      rw [List.append_assoc, List.append_assoc]
      refine List.Perm.append_left _ (List.Perm.append_left _ ?_)
      exact List.perm_append_comm (l₁ := [Inv.metaOf o sf])
    · intro e he hkk
      simp only [List.mem_append, List.mem_singleton] at he
      rcases he with he | he | rfl
      · exact hb.nonfile e (List.mem_append_left _ he) hkk
      · exact hb.nonfile e (List.mem_append_right _ he) hkk
      · rfl
  · simp only [hd, Bool.false_eq_true, if_false]
    have hb2 : BInv H o s
        { wr with buf := wr.buf ++ sf.content.take sf.size,
                  queue := wr.queue ++ [(wr.buf.length, (sf.content.take sf.size).length, Inv.metaOf o sf)],
                  stats := { wr.stats with smallCombinedFiles := wr.stats.smallCombinedFiles + 1 } }
        (grp ++ [sf]) (bytes + sf.size) := by
      refine ⟨hb.st, hb.exAll, ?_, hb.nonfile, ?_, ?_⟩
      · have hp := hb.perm
        simp only [groupEntries, List.map_append, List.append_assoc, List.map_cons, List.map_nil,
          strip_metaOf] at hp ⊢
        have := hp.append_right [Inv.metaOf o sf]
        simpa only [List.append_assoc] using this
      · intro q hq
        simp only [List.mem_append, List.mem_singleton] at hq
        rcases hq with hq | rfl
        · exact hb.queueFiles q hq
        · exact hk
      · have h1 := hb.buf
        have h2 : (sf.content.take sf.size).length ≤ sf.size := by
          rw [List.length_take]; exact Nat.min_le_left _ _
        simp only [List.length_append]
        omega
    split
    · obtain ⟨s', wr', hr, hb', hkeep, _, hp⟩ := combinerFlush_runs hb2 hB
      exact ⟨s', wr', hr, hb', ⟨hkeep.band, hkeep.sequence, hkeep.hunksWritten, hkeep.errors, hkeep.frame⟩, hp⟩
    · exact ⟨s, _, RunsAt.ret _ _, hb2, ⟨rfl, rfl, rfl, rfl, fun _ _ => rfl⟩, rfl⟩

theorem storeChunks_runs (cs : List Str) : ∀ {s : Store} (wr : Writer) (acc : List Addr), StoreOK H s →
    ExAll s wr.exists_ → (∀ c ∈ cs, c.length < 18446744073709551616) →
    ∃ s' ex' st' addrs, RunsAt (storeChunks H wr cs acc) s
        (.ok ({ wr with exists_ := ex', stats := st' }, .ok addrs)) s' [] ∧
      StoreOK H s' ∧ ExAll s' ex' ∧ st'.errors = wr.stats.errors ∧
      (∀ k, isBlockish k = false → s'.get? k = s.get? k) := by
  induction cs with
  | nil =>
    intro s wr acc hst hex _
    exact ⟨s, wr.exists_, wr.stats, acc, RunsAt.ret _ _, hst, hex, rfl, fun _ _ => rfl⟩
  | cons c cs ih =>
    intro s wr acc hst hex hcs
    obtain ⟨s1, ex1, st1, hr1, hst1, hex1, herr1, hfr1⟩ :=
      storeOrDedup_runs (H := H) wr c hst hex (hcs c (List.mem_cons_self ..))
    obtain ⟨s2, ex2, st2, addrs, hr2, hst2, hex2, herr2, hfr2⟩ :=
      ih (s := s1) { wr with exists_ := ex1, stats := st1 }
        (acc ++ [{ hash := H c, start := 0, len := c.length }]) hst1 hex1
        (fun c' hc' => hcs c' (List.mem_cons_of_mem _ hc'))
    refine ⟨s2, ex2, st2, addrs, ?_, hst2, hex2, herr2.trans herr1, fun k hk => (hfr2 k hk).trans (hfr1 k hk)⟩
    unfold storeChunks
    simp only [Prog.bind_def]
    exact RunsAt.bind0 hr1 hr2

theorem length_le_flatten {α : Type} {L : List (List α)} {c : List α} (h : c ∈ L) :
    c.length ≤ L.flatten.length := by
  induction L with
  | nil => cases h
  | cons x L ih =>
    simp only [List.flatten_cons, List.length_append]
    rcases List.mem_cons.mp h with rfl | h
    · omega
    · have := ih h; omega

theorem storeFileContent_runs {s : Store} (wr : Writer) (sf : SrcEntry) (hmax : 0 < o.maxBlockSize)
    (hst : StoreOK H s) (hex : ExAll s wr.exists_) (hsz : sf.content.length < 18446744073709551616) :
    ∃ s' ex' st' addrs, RunsAt (storeFileContent H o wr sf) s
        (.ok ({ wr with exists_ := ex', stats := st' }, .ok addrs)) s' [] ∧
      StoreOK H s' ∧ ExAll s' ex' ∧ st'.errors = wr.stats.errors ∧
      (∀ k, isBlockish k = false → s'.get? k = s.get? k) := by
  obtain ⟨s', ex', st', addrs, hr, hst', hex', herr, hfr⟩ :=
    storeChunks_runs (H := H) (chunks o.maxBlockSize sf.content) wr [] hst hex (by
      intro c hc
      have := length_le_flatten hc
      rw [C01.chunks_flatten _ hmax] at this
      omega)
  unfold storeFileContent
  simp only [Prog.bind_def, Prog.pure_def]
  refine ⟨s', ex', _, addrs, RunsAt.bind0 hr (RunsAt.ret _ _), hst', hex', ?_, hfr⟩
  simp only
  rw [← herr]
  split <;> rfl

theorem copyFileStore_runs {s : Store} {wr : Writer} {grp : List SrcEntry} {bytes : Nat}
    (hb : BInv H o s wr grp bytes) (ck : ChangeKind) (sf : SrcEntry) (hk : sf.kind = .file)
    (hwf : sf.size = sf.content.length) (hmax : 0 < o.maxBlockSize)
    (hB : bytes + sf.size < 18446744073709551616) :
    ∃ s' wr', RunsAt (Inv.copyFileStore H o wr ck sf) s (.ok (wr', .ok (some ck))) s' [] ∧
      BInv H o s' wr' (grp ++ [sf]) (bytes + sf.size) ∧ Keep s wr s' wr' := by
  unfold Inv.copyFileStore
  simp only [Inv.metadataFrom_eq, Prog.pure_def, Prog.bind_def]
  have hkm : (Inv.metaOf o sf).kind = .file := hk
  split
  · refine ⟨s, _, RunsAt.ret _ _, ?_, ⟨rfl, rfl, rfl, rfl, fun _ _ => rfl⟩⟩
    exact (hb.pushPending (e := Inv.metaOf o sf) rfl (fun _ => rfl) _).mono_bytes (Nat.le_add_right _ _)
  · split
    · obtain ⟨s', wr', hr, hb', hkeep, _⟩ := combinerPush_runs hb sf hk hB
      exact ⟨s', wr', RunsAt.bind0 hr (RunsAt.ret _ _), hb', hkeep⟩
    · obtain ⟨s', ex', st', addrs, hr, hst', hex', herr, hfr⟩ :=
        storeFileContent_runs (H := H) (o := o) wr sf hmax hb.st hb.exAll (by omega)
      refine ⟨s', _, RunsAt.bind0 hr (RunsAt.ret _ _), ?_, ⟨rfl, rfl, rfl, herr, hfr⟩⟩
      have hb1 : BInv H o s' { wr with exists_ := ex', stats := st' } grp bytes :=
        ⟨hst', hex', hb.perm, hb.nonfile, hb.queueFiles, hb.buf⟩
      exact (hb1.pushPending (e := { Inv.metaOf o sf with addrs := addrs }) rfl
        (fun h => absurd hkm h) st').mono_bytes (Nat.le_add_right _ _)

theorem heuristicallyUnchanged_ne_none {sf : SrcEntry} {b : IndexEntry}
    (h : (entryTimeNs b.mtime b.mtimeNanos).isSome = true) : heuristicallyUnchanged sf b ≠ none := by
  unfold heuristicallyUnchanged
  split
  · simp
  · cases ht : entryTimeNs b.mtime b.mtimeNanos with
    | none => simp [ht] at h
    | some t => simp

theorem copyFile_runs {s : Store} {wr : Writer} {grp : List SrcEntry} {bytes : Nat}
    (hb : BInv H o s wr grp bytes) (basis : Option IndexEntry) (sf : SrcEntry) (hk : sf.kind = .file)
    (hwf : sf.size = sf.content.length) (hmax : 0 < o.maxBlockSize)
    (hB : bytes + sf.size < 18446744073709551616)
    (hbasis : ∀ b, basis = some b → (entryTimeNs b.mtime b.mtimeNanos).isSome = true) :
    ∃ s' wr' ck, RunsAt (copyFile H o wr basis sf) s (.ok (wr', .ok (some ck))) s' [] ∧
      BInv H o s' wr' (grp ++ [sf]) (bytes + sf.size) ∧ Keep s wr s' wr' := by
  obtain ⟨st', ck, herr, heq⟩ | ⟨b, m, rfl, hh, _⟩ | ⟨b, st', ck, rfl, _, _, herr, heq⟩ :=
    Inv.copyFile_cases (H := H) o wr basis sf
  · rw [heq]
    obtain ⟨s', wr', hr, hb', hkeep⟩ := copyFileStore_runs (hb.setStats st') ck sf hk hwf hmax hB
    exact ⟨s', wr', ck, hr, hb', ⟨hkeep.band, hkeep.sequence, hkeep.hunksWritten, hkeep.errors.trans herr,
      hkeep.frame⟩⟩
  · exact absurd hh (heuristicallyUnchanged_ne_none (hbasis b rfl))
  · rw [heq]
    refine ⟨s, _, ck, RunsAt.ret _ _, ?_, ⟨rfl, rfl, rfl, herr, fun _ _ => rfl⟩⟩
    have hkm : (Inv.metaOf o sf).kind = .file := hk
    exact (hb.pushPending (e := { Inv.metaOf o sf with addrs := b.addrs }) rfl
      (fun h => absurd hkm h) st').mono_bytes (Nat.le_add_right _ _)

theorem copyEntry_runs {s : Store} {wr : Writer} {grp : List SrcEntry} {bytes : Nat}
    (hb : BInv H o s wr grp bytes) (basis : Option IndexEntry) (sf : SrcEntry) (hkind : sf.kind ≠ .unknown)
    (hwf : sf.kind = .file → sf.size = sf.content.length) (hmax : 0 < o.maxBlockSize)
    (hB : bytes + sf.size < 18446744073709551616)
    (hbasis : ∀ b, basis = some b → (entryTimeNs b.mtime b.mtimeNanos).isSome = true) :
    ∃ s' wr' ch, RunsAt (copyEntry H o wr basis sf) s (.ok (wr', .ok ch)) s' [] ∧
      BInv H o s' wr' (grp ++ [sf]) (bytes + sf.size) ∧ Keep s wr s' wr' := by
  unfold copyEntry
  simp only [Inv.metadataFrom_eq, Prog.pure_def]
  cases hk : sf.kind with
  | file =>
    obtain ⟨s', wr', ck, hr, hb', hkeep⟩ := copyFile_runs hb basis sf hk (hwf hk) hmax hB hbasis
    exact ⟨s', wr', some ck, hr, hb', hkeep⟩
  | dir =>
    refine ⟨s, _, none, RunsAt.ret _ _, ?_, ⟨rfl, rfl, rfl, rfl, fun _ _ => rfl⟩⟩
    exact (hb.pushPending (e := Inv.metaOf o sf) rfl (fun _ => rfl) _).mono_bytes (Nat.le_add_right _ _)
  | symlink =>
    refine ⟨s, _, none, RunsAt.ret _ _, ?_, ⟨rfl, rfl, rfl, rfl, fun _ _ => rfl⟩⟩
    exact (hb.pushPending (e := Inv.metaOf o sf) rfl (fun _ => rfl) _).mono_bytes (Nat.le_add_right _ _)
  | unknown => exact absurd hk hkind

end Conserve.Exact
