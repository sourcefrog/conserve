import ConserveModel.IndexRead
import ConserveModel.StitchSpec
import ConserveModel.Proofs.FrameOps
import ConserveModel.Proofs.QuietWorld
/-
What the read-only programs of Archive.lean / IndexRead.lean return as pure functions of the store
(`eval_X`: what `(X …).eval e s` is, with the hand-written mirrors `XP` of Rust's readers), and what
that means in a world `Quiet s evs w`: store `s`, events `evs` so far, no faults, alive — a crash point
is allowed, since only writes count towards it (`Quiet.run_eval`, `Quiet.run_of_eval`).
-/
namespace Conserve
open Prog

/-- A world in which read-only programs behave as functions of the store. -/
structure Quiet (s : Store) (evs : List Event) (w : World) : Prop where
  store : w.store = s
  dead : w.dead = false
  faults : w.faults = []
  events : w.events = evs

theorem Quiet.clean (s : Store) : Quiet s [] (World.clean s) := ⟨rfl, rfl, rfl, rfl⟩

theorem Quiet.emit {s : Store} {evs : List Event} {w : World} (h : Quiet s evs w) (ev : Event) :
    Quiet s (ev :: evs) { w with events := ev :: w.events } :=
  ⟨h.store, h.dead, h.faults, by simp [h.events]⟩

/-- Response of a read-only operation, as a function of the store. -/
def quietResp (s : Store) : Op → Resp
  | .read k =>
    match s.get? k with
    | none => .err .notFound
    | some .dir => .err .other
    | some v => .val v
  | .listDir k =>
    match s.get? k with
    | none => .err .notFound
    | some .dir => .listing (s.children k)
    | some _ => .err .other
  | .metadata k =>
    match s.get? k with
    | none => .err .notFound
    | some v => .stat (!v.isDir) (!v.isDir && !v.isEmptyFile)
  | _ => .unit

theorem quietResp_eq_roResp : quietResp = roResp := by
  funext s o
  cases o <;> rfl

theorem Quiet.calm {α : Type} {s : Store} {evs : List Event} {w : World} (h : Quiet s evs w) {p : Prog α}
    (hp : AllOps ReadOnly p) : Calm p w := calm_of_readOnly hp h.faults h.dead

/-- A read-only program in such a world: outcome and events as `eval` says, the world stays as it is
but for the trace. -/
theorem Quiet.run_eval {α : Type} {s : Store} {evs : List Event} {w : World} (h : Quiet s evs w) {p : Prog α}
    (hp : AllOps ReadOnly p) :
    ∃ w', p.run w = ((p.eval true s).1, w') ∧ Quiet s ((p.eval true s).2.2 ++ evs) w' ∧
      w'.trace.length = w.trace.length + p.evalOps true s := by
  have hr := Prog.run_eq_eval p (h.calm hp)
  rw [(eval_readOnly _ _ hp).2.1, (eval_readOnly _ _ hp).2.2, h.store] at hr
  refine ⟨_, hr, ⟨(eval_readOnly _ _ hp).1, h.dead, h.faults, congrArg _ h.events⟩, ?_⟩
  simp [World.after, evalOps, Nat.add_comm]

theorem Quiet.exec_ro {s : Store} {evs : List Event} {w : World} (h : Quiet s evs w) (o : Op)
    (ho : o.isMutating = false) : ∃ w', w.exec o = (w', quietResp s o) ∧ Quiet s evs w' := by
  have hc : Calm (Prog.op o .ret) w := h.calm (.op (.of_not_mutating ho) fun r => .ret r)
  have ha := applyOp_ro w.enforceCreateNew w.store o ho
  refine ⟨(w.applied o).1, hc.1.trans (Prod.ext rfl ?_), ?_, h.dead, h.faults, h.events⟩
  · show (applyOp w.enforceCreateNew w.store o).2 = quietResp s o
    rw [ha, quietResp_eq_roResp, h.store]
  · show (applyOp w.enforceCreateNew w.store o).1 = s
    rw [ha]
    exact h.store

theorem Quiet.run_op {α : Type} {s : Store} {evs : List Event} {w : World} (h : Quiet s evs w)
    (o : Op) (ho : o.isMutating = false) (k : Resp → Prog α) :
    ∃ w', (Prog.op o k).run w = (k (quietResp s o)).run w' ∧ Quiet s evs w' := by
  obtain ⟨w', he, hq⟩ := h.exec_ro o ho
  exact ⟨w', by rw [Prog.run_op, he], hq⟩

/-- Events, newest first, for a list of errors in order of occurrence. -/
def evsOf (errs : List Err) : List Event := (errs.map Event.error).reverse

theorem mem_evsOf {e : Err} {errs : List Err} : Event.error e ∈ evsOf errs ↔ e ∈ errs := by
  simp [evsOf]

theorem evsOf_cons (e : Err) (errs : List Err) (evs : List Event) :
    evsOf (e :: errs) ++ evs = evsOf errs ++ (Event.error e :: evs) := by
  simp [evsOf]

theorem evsOf_append (xs ys : List Err) : evsOf (xs ++ ys) = evsOf ys ++ evsOf xs := by
  simp [evsOf]

theorem Quiet.run_of_eval {α : Type} {e : Bool} {s : Store} {p : Prog α} {r : Outcome α} {errs : List Err}
    (hp : Prog.AllOps ReadOnly p) (he : p.eval e s = (r, s, evsOf errs)) {evs : List Event} {w : World}
    (h : Quiet s evs w) : ∃ w', p.run w = (r, w') ∧ Quiet s (evsOf errs ++ evs) w' := by
  obtain ⟨w', h1, q, _⟩ := h.run_eval hp
  rw [← (eval_readOnly e s hp).2.1, he] at h1 q
  exact ⟨w', h1, q⟩

theorem run_bandOpen {s : Store} {evs : List Event} {w : World} (h : Quiet s evs w) (b : Nat) :
    ∃ w', (bandOpen b).run w = (toOutcome (bandOpenP s b), w') ∧ Quiet s evs w' :=
  Quiet.run_of_eval (errs := []) (bandOpen_ro b) (eval_bandOpen true s b) h

def lastApath? (es : List IndexEntry) : Option Str := es.getLast?.map (fun (l : IndexEntry) => l.apath)

/-- First test of `IndexHunkIter::next`: the whole hunk is at or before `after`. -/
def hunkAllBefore (a : Str) (es : List IndexEntry) : Bool :=
  match es.getLast? with
  | some (l : IndexEntry) => apathLe l.apath a
  | none => false

/-- Second test: the whole hunk is after `after`. -/
def hunkAllAfter (a : Str) (es : List IndexEntry) : Bool :=
  match es.head? with
  | some (f : IndexEntry) => apathCmp f.apath a == Ordering.gt
  | none => false

/-- The defining equation of `readHunks`, with the tests named. -/
theorem readHunks_cons (b n : Nat) (rest : List Nat) (after last : Option Str) :
    readHunks b (n :: rest) after last =
      ((readHunk b n).attempt.bind fun r =>
        match r with
        | .ok none => pure ([], last)
        | .error e => (logError e).bind fun _ => readHunks b rest after last
        | .ok (some es) =>
          match after with
          | some a =>
            if hunkAllBefore a es then readHunks b rest after last
            else if hunkAllAfter a es then
              (readHunks b rest none (lastApath? es)).bind fun r => pure (es ++ r.1, r.2)
            else
              (readHunks b rest after (lastOr (trimAfter a es) last)).bind fun r =>
                pure (trimAfter a es ++ r.1, r.2)
          | none =>
            if es.isEmpty then readHunks b rest none last
            else (readHunks b rest none (lastApath? es)).bind fun r => pure (es ++ r.1, r.2)) := by
  rfl

/-- `readHunks` on a store (all remaining `IndexHunkIter::next` calls of one band). -/
def readHunksP (s : Store) (b : Nat) : List Nat → Option Str → Option Str → List IndexEntry × Option Str
  | [], _, last => ([], last)
  | n :: rest, after, last =>
    match readHunkP s b n with
    | .ok none => ([], last)
    | .error _ => readHunksP s b rest after last
    | .ok (some es) =>
      match after with
      | some a =>
        if hunkAllBefore a es then readHunksP s b rest after last
        else if hunkAllAfter a es then
          let r := readHunksP s b rest none (lastApath? es)
          (es ++ r.1, r.2)
        else
          let r := readHunksP s b rest after (lastOr (trimAfter a es) last)
          (trimAfter a es ++ r.1, r.2)
      | none =>
        if es.isEmpty then readHunksP s b rest none last
        else
          let r := readHunksP s b rest none (lastApath? es)
          (es ++ r.1, r.2)

/-- The errors `readHunks` reports: one per hunk file that cannot be read or used, in order
(whether or not the skip-ahead would have skipped it). -/
def readHunksErrs (s : Store) (b : Nat) : List Nat → List Err
  | [] => []
  | n :: rest =>
    match readHunkP s b n with
    | .ok none => []
    | .error e => e :: readHunksErrs s b rest
    | .ok (some _) => readHunksErrs s b rest


theorem eval_prepend {e : Bool} {s s' : Store} {p : Prog (List IndexEntry × Option Str)}
    {r : List IndexEntry × Option Str} {evs : List Event} (h : p.eval e s = (.ok r, s', evs))
    (pre : List IndexEntry) :
    (p.bind fun r => pure (pre ++ r.1, r.2)).eval e s = (.ok (pre ++ r.1, r.2), s', evs) := by
  rw [eval_bind, h]
  simp [andThen]

theorem eval_readHunks (e : Bool) (s : Store) (b : Nat) (ns : List Nat) (after last : Option Str) :
    (readHunks b ns after last).eval e s =
      (.ok (readHunksP s b ns after last), s, evsOf (readHunksErrs s b ns)) := by
  induction ns generalizing after last with
  | nil => rfl
  | cons n rest ih =>
    rw [readHunks_cons, eval_bind, eval_attempt_toOutcome e s (eval_readHunk e s b n), andThen_ok]
    simp only [readHunksP, readHunksErrs]
    cases readHunkP s b n with
    | error e' =>
      simp only [logError, emit_bind, ret_bind, eval_emit, ih]
      rw [← evsOf_cons, List.append_nil]
    | ok o =>
      cases o with
      | none => rfl
      | some es =>
        cases after with
        | none =>
          simp only
          split
          · exact ih none last
          · exact eval_prepend (ih none _) es
        | some a =>
          simp only
          split
          · exact ih (some a) last
          · split
            · exact eval_prepend (ih none _) es
            · exact eval_prepend (ih (some a) _) _

def hunkLensInSubdirP (s : Store) (b d : Nat) : Except Err (List (Nat × Bool)) :=
  match s.get? (.hunkDir b d) with
  | none => .error (.transport .notFound)
  | some .dir => .ok (((s.children (.hunkDir b d)).filterMap fun e =>
      match e.key with
      | .hunk _ n => if !e.isDir then some (n, e.nonEmpty) else none
      | _ => none).mergeSort fun x y => x.1 ≤ y.1)
  | some _ => .error (.transport .other)

def hunkLensGoP (s : Store) (b : Nat) : List Nat → List (Nat × Bool) → Except Err (List (Nat × Bool))
  | [], acc => .ok acc
  | d :: ds, acc =>
    match hunkLensInSubdirP s b d with
    | .ok hs => hunkLensGoP s b ds (acc ++ hs)
    | .error e => .error e

/-- `IndexRead::hunk_lengths` on a store. -/
def hunkLengthsP (s : Store) (b : Nat) : Except Err (List (Nat × Bool)) :=
  match s.get? (.indexDir b) with
  | none => .error (.transport .notFound)
  | some .dir => hunkLensGoP s b (hunkSubdirsP s b) []
  | some _ => .error (.transport .other)

theorem eval_hunkLengths_go (e : Bool) (s : Store) (b : Nat) (ds : List Nat) (acc : List (Nat × Bool)) :
    (hunkLengths.go b ds acc).eval e s = (toOutcome (hunkLensGoP s b ds acc), s, []) := by
  induction ds generalizing acc with
  | nil => rfl
  | cons d ds ih =>
    simp only [hunkLengths.go, perform, bind_def, op_bind, ret_bind, eval_op, applyOp_listDir, listResp,
      hunkLensGoP, hunkLensInSubdirP]
    cases s.get? (.hunkDir b d) with
    | none => rfl
    | some v => cases v <;> first | exact ih _ | rfl

theorem eval_hunkLengths (e : Bool) (s : Store) (b : Nat) :
    (hunkLengths b).eval e s = (toOutcome (hunkLengthsP s b), s, []) := by
  simp only [hunkLengths, perform, bind_def, op_bind, ret_bind, eval_op, applyOp_listDir, listResp,
    hunkLengthsP]
  cases s.get? (.indexDir b) with
  | none => rfl
  | some v => cases v <;> first | exact eval_hunkLengths_go e s b _ [] | rfl

/-- `Band::check_index_hunks` on a store. -/
def checkIndexHunksP (s : Store) (b : Nat) : Except Err Unit :=
  match hunkLengthsP s b with
  | .error e => .error e
  | .ok hunks =>
    if hunks.map (·.1) != List.range hunks.length then .error .invalidMetadata
    else if countMismatch (tailInfo s b).2 hunks.length then .error .invalidMetadata
    else if badEmptyHunk (tailInfo s b).1 hunks then .error .invalidMetadata
    else .ok ()

/-- What `check_index_hunks` makes of the response to reading the tail: (is there a tail file?,
the hunk count it states). -/
def tailOfResp : Resp → Bool × Option Nat
  | .err .notFound => (false, none)
  | .val (.tail n) => (true, n)
  | _ => (true, none)

theorem tailOfResp_read (s : Store) (b : Nat) :
    tailOfResp (readResp s (.bandTail b)) = tailInfo s b := by
  simp only [readResp, tailInfo]
  cases s.get? (.bandTail b) with
  | none => rfl
  | some v => cases v <;> rfl

/-- `checkIndexHunks` with its three tests written as in `checkIndexHunksP`. -/
theorem checkIndexHunks_eq (b : Nat) : checkIndexHunks b =
    (hunkLengths b).bind fun hunks =>
      if hunks.map (·.1) != List.range hunks.length then .fail .invalidMetadata
      else .op (.read (.bandTail b)) fun r =>
        if countMismatch (tailOfResp r).2 hunks.length then .fail .invalidMetadata
        else if badEmptyHunk (tailOfResp r).1 hunks then .fail .invalidMetadata
        else .ret () := by
  unfold checkIndexHunks
  simp only [Prog.bind_def, perform, Prog.pure_def, Prog.op_bind, Prog.ret_bind]
  congr 1
  funext hunks
  split
  · rfl
  · congr 1
    funext r
    split
    · rfl
    · rename_i n
      cases n <;> rfl
    · rename_i h1 h2
      have ht : tailOfResp r = (true, none) := by
        unfold tailOfResp
        split
        · exact absurd rfl h1
        · exact absurd rfl (h2 _)
        · rfl
      rw [ht]
      rfl

theorem eval_guard {α : Type} {e : Bool} {s : Store} {c : Bool} {err : Err} {p : Prog α} {x : Except Err α}
    (h : p.eval e s = (toOutcome x, s, [])) :
    (if c then .fail err else p).eval e s = (toOutcome (if c then .error err else x), s, []) := by
  cases c
  · exact h
  · rfl

theorem eval_checkIndexHunks (e : Bool) (s : Store) (b : Nat) :
    (checkIndexHunks b).eval e s = (toOutcome (checkIndexHunksP s b), s, []) := by
  rw [checkIndexHunks_eq, eval_bind, eval_hunkLengths]
  unfold checkIndexHunksP
  cases hunkLengthsP s b with
  | error e => rfl
  | ok hunks =>
    simp only [toOutcome, andThen_ok]
    refine eval_guard ?_
    rw [eval_op, applyOp_read, tailOfResp_read]
    exact eval_guard (eval_guard rfl)

/-- The errors reported while version `b` is read (`monitor.error` in `State::BeforeBand` and
in the hunk iterator), in order. -/
def bandErrs (s : Store) (b : Nat) : List Err :=
  match bandOpenP s b with
  | .error e => [e]
  | .ok () =>
    match hunksAvailableP s b with
    | .error e => [e]
    | .ok hs =>
      (match checkIndexHunksP s b with
       | .error e => [e]
       | .ok () => []) ++ readHunksErrs s b hs

/-- What `readBand` returns on a store. -/
def bandTake (s : Store) (b : Nat) (last : Option Str) : List IndexEntry × Option Str :=
  match bandOpenP s b, hunksAvailableP s b with
  | .ok (), .ok hs => readHunksP s b hs last last
  | _, _ => ([], last)

theorem eval_readBand (e : Bool) (s : Store) (b : Nat) (last : Option Str) :
    (readBand b last).eval e s = (.ok (bandTake s b last), s, evsOf (bandErrs s b)) := by
  simp only [readBand, bind_def, eval_bind, eval_attempt_toOutcome e s (eval_bandOpen e s b), andThen_ok, bandTake,
    bandErrs]
  cases bandOpenP s b with
  | error e => rfl
  | ok u =>
    simp only [eval_bind, eval_attempt_toOutcome e s (eval_hunksAvailable e s b), andThen_ok]
    cases hunksAvailableP s b with
    | error e => rfl
    | ok hs =>
      simp only [eval_bind, eval_attempt_toOutcome e s (eval_checkIndexHunks e s b), andThen_ok]
      cases checkIndexHunksP s b with
      | error e => simp [logError, eval_readHunks, evsOf]
      | ok u => simp [eval_readHunks]

/-- `stitchDown` on a store: entries, and the errors reported (in order). -/
def stitchDownP (s : Store) : Nat → Option Str → List IndexEntry × List Err
  | 0, _ => ([], [])
  | b + 1, last =>
    if isFileP s (.bandHead b) then
      let r := bandTake s b last
      if isFileP s (.bandTail b) then (r.1, bandErrs s b)
      else
        let m := stitchDownP s b r.2
        (r.1 ++ m.1, bandErrs s b ++ m.2)
    else
      let m := stitchDownP s b last
      (m.1, (if isFileP s (.hunk b 0) then [Err.bandHeadMissing b] else []) ++ m.2)

theorem eval_stitchDown (e : Bool) (s : Store) (b : Nat) (last : Option Str) :
    (stitchDown b last).eval e s = (.ok (stitchDownP s b last).1, s, evsOf (stitchDownP s b last).2) := by
  induction b generalizing last with
  | zero => rfl
  | succ b ih =>
    simp only [stitchDown, stitchDownP, bandExists, bandIsClosed, bind_def]
    rw [eval_bind, eval_unwrapOr_isFile, andThen_ok]
    cases isFileP s (.bandHead b) with
    | true =>
      simp only [if_true, eval_bind, eval_readBand, eval_unwrapOr_isFile, andThen]
      cases isFileP s (.bandTail b) with
      | true => simp
      | false => simp [eval_bind, ih, andThen, evsOf_append]
    | false =>
      simp only [Bool.false_eq_true, if_false, eval_bind, eval_unwrapOr_isFile, andThen_ok]
      cases isFileP s (.hunk b 0) with
      | true => simp [logError, ih, evsOf]
      | false => simp [ih]

theorem run_stitchDown {s : Store} (b : Nat) :
    ∀ (last : Option Str) (evs : List Event) (w : World), Quiet s evs w →
    ∃ w', (stitchDown b last).run w = (.ok (stitchDownP s b last).1, w') ∧
      Quiet s (evsOf (stitchDownP s b last).2 ++ evs) w' :=
  fun last _ _ h => Quiet.run_of_eval (stitchDown_fp b last).rd_ro (eval_stitchDown true s b last) h

/-- `stitchAll` on a store: entries, and the errors reported (in order). -/
def stitchAllP (s : Store) (n : Nat) : List IndexEntry × List Err :=
  let r := bandTake s n none
  if isFileP s (.bandTail n) then (r.1, bandErrs s n)
  else
    let m := stitchDownP s n r.2
    (r.1 ++ m.1, bandErrs s n ++ m.2)

theorem eval_stitchAll (e : Bool) (s : Store) (n : Nat) :
    (stitchAll n).eval e s = (.ok (stitchAllP s n).1, s, evsOf (stitchAllP s n).2) := by
  simp only [stitchAll, stitchAllP, bandIsClosed, bind_def, eval_bind, eval_readBand,
    eval_unwrapOr_isFile, andThen]
  cases isFileP s (.bandTail n) with
  | true => simp
  | false => simp [eval_bind, eval_stitchDown, andThen, evsOf_append]

theorem run_stitchAll {s : Store} (n : Nat) {evs : List Event} {w : World} (h : Quiet s evs w) :
    ∃ w', (stitchAll n).run w = (.ok (stitchAllP s n).1, w') ∧
      Quiet s (evsOf (stitchAllP s n).2 ++ evs) w' :=
  Quiet.run_of_eval (stitchAll_fp n).rd_ro (eval_stitchAll true s n) h

namespace Hist

/-- The filter of `Stitch::next` on a list (`panic`: the `assert!(is_valid)` of `Exclude::matches`). -/
def filterP (subtree : Str) (excl : Str → Bool) : List IndexEntry → Outcome (List IndexEntry)
  | [] => .ok []
  | e :: es =>
    if !isPrefixOfImpl subtree e.apath then filterP subtree excl es
    else if !isValid e.apath then .panic "Exclude::matches: assert is_valid"
    else if excl e.apath then filterP subtree excl es
    else Exact.Outcome.map (e :: ·) (filterP subtree excl es)

theorem eval_filterEntries (e : Bool) (s : Store) (subtree : Str) (excl : Str → Bool) (es : List IndexEntry) :
    (filterEntries subtree excl es).eval e s = (filterP subtree excl es, s, []) := by
  induction es with
  | nil => rfl
  | cons x es ih =>
    simp only [filterEntries, filterP, Prog.bind_def]
    by_cases hp : isPrefixOfImpl subtree x.apath = true
    · by_cases hv : isValid x.apath = true
      · by_cases hx : excl x.apath = true
        · simp [hp, hv, hx, ih]
        · simp only [hp, hv, hx, Bool.not_true, Bool.false_eq_true, if_false, eval_bind, ih]
          cases filterP subtree excl es <;> rfl
      · simp [hp, hv]
    · simp [hp, ih]

/-- Where every selected path is valid the filter is `List.filter`. -/
theorem filterP_valid {subtree : Str} {excl : Str → Bool} : ∀ {es : List IndexEntry},
    (∀ e ∈ es, isPrefixOfImpl subtree e.apath = true → isValid e.apath = true) →
    filterP subtree excl es = .ok (es.filter fun e => isPrefixOfImpl subtree e.apath && !excl e.apath) := by
  intro es
  induction es with
  | nil => intro _; rfl
  | cons e es ih =>
    intro hv
    have ih := ih fun x hx => hv x (List.mem_cons_of_mem _ hx)
    have hve := hv e (List.mem_cons_self ..)
    simp only [filterP, ih, List.filter_cons]
    cases hp : isPrefixOfImpl subtree e.apath
    · rfl
    · simp only [hve hp]
      cases excl e.apath <;> rfl

end Hist

theorem eval_listEntries (e : Bool) (s : Store) (n : Nat) (subtree : Str) (excl : Str → Bool) :
    (listEntries n subtree excl).eval e s =
      (Hist.filterP subtree excl (stitchAllP s n).1, s, evsOf (stitchAllP s n).2) := by
  simp [listEntries, eval_bind, eval_stitchAll, andThen, Hist.eval_filterEntries]

end Conserve
