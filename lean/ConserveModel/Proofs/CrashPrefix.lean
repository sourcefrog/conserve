import ConserveModel.Proofs.FaultSim
import ConserveModel.Proofs.Killed
/-
A run killed at a crash point, no injected faults: the store it leaves is a micro-state of the
uninterrupted run (`killed_store`, from `Prog.run_killed`), so for a program made of creating operations it
is extended by the store the uninterrupted run leaves (`crash_prefix`): every file the killed run wrote
is, unchanged, a file of the complete run — except a zero-length leftover, which the complete run filled.
No property statements here.
-/
namespace Conserve.Crash
open Conserve Prog

/-- `c` is the fault-free world `w` with a crash point added: same store, same step count. -/
structure Twin (w c : World) : Prop where
  clean : w.Clean
  noFaults : c.faults = []
  alive : c.dead = false
  ecn : c.enforceCreateNew = true
  store : c.store = w.store
  steps : c.steps = w.steps

theorem Twin.start (s : Store) (j : Nat) : Twin (World.clean s) { store := s, crashAt := some j } :=
  ⟨World.clean_Clean s, rfl, rfl, rfl, rfl, rfl⟩

theorem Twin.events {w c : World} (h : Twin w c) (ev : Event) :
    Twin { w with events := ev :: w.events } { c with events := ev :: c.events } :=
  ⟨h.clean, h.noFaults, h.alive, h.ecn, h.store, h.steps⟩

/-- The store a run killed at micro-step `j` leaves is the `j`-th micro-state of the fault-free run. -/
theorem killed_store {α : Type} (p : Prog α) (s : Store) (j : Nat) :
    (p.run { store := s, crashAt := some j }).2.store = p.storeAt true s j :=
  p.run_killed (w := { store := s, crashAt := some j }) rfl rfl rfl (Nat.zero_le j)

theorem crash_prefix {α : Type} {p : Prog α} (hp : Prog.AllOps CreateOnly p) (s : Store) (j : Nat) :
    Extends (p.run { store := s, crashAt := some j }).2.store (p.run (World.clean s)).2.store := by
  rw [killed_store, (Prog.run_clean_eval (p := p) (s := s) rfl).2.1]
  exact Prog.storeAt_extends hp s j

end Conserve.Crash
