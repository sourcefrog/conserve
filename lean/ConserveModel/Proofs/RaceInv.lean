import ConserveModel.Proofs.RaceGc
import ConserveModel.Proofs.RaceCritCI
/-
C06 on the full model — the joint invariant `J` of (shared store, residual program of `backup`,
residual program of `delete_bands`): where each program is (`BSt`, `GSt`), what each knows about the
store there (`BFacts`, `GFacts`), and how the two positions constrain each other (`Cross`).
No property statements here.
-/
namespace Conserve.Race
open Conserve Prog Conserve.Conf Conserve.Inv

def isBand (s : Store) (b : Nat) : Prop := s.get? (.bandDir b) = some .dir

def Above : Option Nat → Nat → Prop
  | none, _ => True
  | some a, b => a < b

/-- `check()` would fail on this store: there is a band newer than the remembered one. -/
def Doomed (s : Store) (m : Option Nat) : Prop := ∃ b, isBand s b ∧ Above m b

def AtLeast (m : Option Nat) (s : Store) : Prop := ∀ a, m = some a → ∃ b, isBand s b ∧ a ≤ b

def Top (n : Nat) (s : Store) : Prop := ∀ b, isBand s b → b ≤ n

def Locked (s : Store) : Prop := s.get? .gcLock = some .lock

/-- Where `backup` is. -/
inductive BSt
  | l1 | basis | idl (bs : Option Nat)
  | mkdir (bs : Option Nat) (n : Nat)
  /-- `create_dir bN` found a non-directory of that name: `create_dir bN/i` is about to fail -/
  | mkdirX (bs : Option Nat) (n : Nat)
  | mkI (bs : Option Nat) (n : Nat) | head (bs : Option Nat) (n : Nat) | l2 (bs : Option Nat) (n : Nat)
  | crit (n : Nat)
  | done

/-- Where `delete_bands` is. -/
inductive GSt
  | b1 | b2 | atN
  | tc (b : Nat) | lc (m : Option Nat) | w (m : Option Nat)
  | read (m : Option Nat) (q : Prog (List Str))
  | atK (m : Option Nat) (U : List Str)
  | sweepB (U : List Str) (b : Nat) (bs : List Nat) (n : Nat)
  | sweepU (U : List Str) (h : Str) (hs : List Str) (errs nb : Nat)
  | unl

/-- The band `backup` has created and not finished or given up. -/
def BSt.act : BSt → Option Nat
  | .mkI _ n | .head _ n | .l2 _ n | .crit n => some n
  | _ => none

def BSt.isCrit : BSt → Bool
  | .crit _ => true
  | _ => false

/-- The remembered newest band id, once `band_is_closed` has passed and before `check()` has. -/
def GSt.chk : GSt → Option (Option Nat)
  | .lc m | .w m | .read m _ | .atK m _ => some m
  | _ => none

def GSt.preSweep : GSt → Bool
  | .sweepB .. | .sweepU .. | .unl => false
  | _ => true

def GSt.sweeping : GSt → Bool
  | .sweepB .. | .sweepU .. => true
  | _ => false

section
variable (H : Str → Str) (o : BackupOpts) (src : List SrcEntry) (D : List Nat) (opts : DeleteOpts)

def BSt.prog : BSt → Prog Stats → Prop
  | .l1, p => p = bkL1 H o src
  | .basis, p => p = bkBasis H o src
  | .idl bs, p => p = bkIdl H o src bs
  | .mkdir bs n, p => p = bkMkdir H o src bs n
  | .mkdirX bs n, p => p = bkMkI H o src bs n
  | .mkI bs n, p => p = bkMkI H o src bs n
  | .head bs n, p => p = bkHead H o src bs n
  | .l2 bs n, p => p = bkL2 H o src bs n
  | .crit _, p => AllOps CritOp p ∧ TailLast p ∧ ¬ p.Done
  | .done, p => p.Done

def GSt.prog : GSt → Prog DeleteStats → Prop
  | .b1, p => p = gcB1 D opts
  | .b2, p => p = gcB2 D opts
  | .atN, p => p = gcN D opts
  | .tc b, p => p = gcTC D opts b
  | .lc m, p => p = gcLC D opts m
  | .w m, p => p = gcW D opts m
  | .read m q, p => p = gcRead D opts m q ∧ (∃ o' k', q = .op o' k') ∧ AllOps ReadOnly q
  | .atK m U, p => p = gcK D m U
  | .sweepB U b bs n, p => p = gcSweepB U b bs n
  | .sweepU U h hs errs nb, p => p = gcSweepU U h hs errs nb
  | .unl, p => AllOps Unl p

def BFacts : BSt → Store → Prog Stats → Prop
  | .l1, s, _ | .basis, s, _ | .idl _, s, _ | .done, s, _ => CI H s
  | .mkdir _ n, s, _ | .mkdirX _ n, s, _ => CI H s ∧ ∀ b, isBand s b → b < n
  | .mkI _ n, s, _ | .head _ n, s, _ => CI H s ∧ Top n s ∧ EmptyBand s n
  | .l2 _ n, s, _ => CI H s ∧ Top n s ∧ (BandOpen s n [] ∨ ¬ isBand s n)
  | .crit n, s, p => NoDupKeys s ∧ Top n s ∧ s.get? (.bandTail n) = none ∧ CI H (p.solo s).2

def GFacts : GSt → Store → Prop
  | .b1, _ | .b2, _ | .atN, _ | .unl, _ => True
  | .tc b, s => AtLeast (some b) s
  | .lc m, s | .w m, s => AtLeast m s
  | .read m q, s => AtLeast m s ∧ Locked s ∧ (¬ Doomed s m → ∀ U, (q.solo s).1 = .ok U → SafeU D U s)
  | .atK m U, s => AtLeast m s ∧ Locked s ∧ (¬ Doomed s m → SafeU D U s)
  | .sweepB U b bs _, s => Locked s ∧ SafeU (b :: bs) U s
  | .sweepU _ h hs _ _, s => Locked s ∧ SafeU [] (h :: hs) s

end

/-- How the two positions constrain each other, in terms of the five things it depends on. -/
structure CrossAt (act : Option Nat) (crit : Bool) (chk : Option (Option Nat)) (pre sweep : Bool) (s : Store) : Prop where
  /-- `band_is_closed` passed and no newer band is visible: `backup` has no unfinished band -/
  quiet : ∀ m, chk = some m → ¬ Doomed s m → act = none
  /-- nothing has been removed yet: the unfinished band is there -/
  there : ∀ n, act = some n → pre = true → isBand s n
  /-- mutual exclusion -/
  excl : sweep = true → crit = false

/-- A move between positions that agree on these five keeps `Cross` by evaluation. -/
abbrev Cross (β : BSt) (γ : GSt) (s : Store) : Prop :=
  CrossAt β.act β.isCrit γ.chk γ.preSweep γ.sweeping s

section
variable (H : Str → Str) (o : BackupOpts) (src : List SrcEntry) (D : List Nat) (opts : DeleteOpts)

def J (s : Store) (pA : Prog Stats) (pB : Prog DeleteStats) : Prop :=
  ∃ β γ, β.prog H o src pA ∧ γ.prog D opts pB ∧ BFacts H β s pA ∧ GFacts D γ s ∧ Cross β γ s ∧ NoDupKeys s

end

theorem NoDupKeys_of_bfacts {H : Str → Str} {β : BSt} {s : Store} {p : Prog Stats} (h : BFacts H β s p) :
    NoDupKeys s := by
  cases β <;> first | exact h.nodup | exact h.1.nodup | exact h.1

theorem tail_none_of_act {H : Str → Str} {β : BSt} {s : Store} {p : Prog Stats} (h : BFacts H β s p) {n : Nat}
    (ha : β.act = some n) (hb : isBand s n) : s.get? (.bandTail n) = none := by
  cases β <;> cases ha
  case mkI | head => exact h.2.2.tail
  case l2 => exact h.2.2.elim (·.tail) (absurd hb)
  case crit => exact h.2.2.1

theorem top_of_act {H : Str → Str} {β : BSt} {s : Store} {p : Prog Stats} (h : BFacts H β s p) {n : Nat}
    (ha : β.act = some n) : Top n s := by
  cases β <;> cases ha <;> exact h.2.1

theorem ci_of_not_crit {H : Str → Str} {β : BSt} {s : Store} {p : Prog Stats} (h : BFacts H β s p)
    (hc : β.isCrit = false) : CI H s := by
  cases β <;> first | exact h | exact h.1 | cases hc

theorem not_crit_of_act_none {β : BSt} (h : β.act = none) : β.isCrit = false := by
  cases β <;> first | rfl | (simp [BSt.act] at h)

theorem Doomed.mono {s s' : Store} {m : Option Nat} (h : Doomed s m) (hb : ∀ b, isBand s b → isBand s' b) :
    Doomed s' m := by
  obtain ⟨b, hb1, hb2⟩ := h
  exact ⟨b, hb _ hb1, hb2⟩

theorem Cross.store {β : BSt} {γ : GSt} {s s' : Store} (h : Cross β γ s) (hb : ∀ b, isBand s' b ↔ isBand s b) :
    Cross β γ s' :=
  ⟨fun m hm hd => h.quiet m hm fun hd' => hd (hd'.mono fun b hb' => (hb b).2 hb'),
   fun n hn hp => (hb n).2 (h.there n hn hp), h.excl⟩

theorem Cross.idle {β : BSt} (γ : GSt) (s : Store) (h : β.act = none) : Cross β γ s :=
  ⟨fun _ _ _ => h, fun _ hn => (by rw [h] at hn; cases hn), fun _ => not_crit_of_act_none h⟩

theorem Cross.past {β : BSt} {γ : GSt} (s : Store) (h1 : γ.chk = none) (h2 : γ.preSweep = false)
    (h3 : γ.sweeping = true → β.isCrit = false) : Cross β γ s :=
  ⟨fun m hm => (by rw [h1] at hm; cases hm), fun _ _ hp => (by rw [h2] at hp; cases hp), h3⟩

theorem AtLeast.mono {s s' : Store} {m : Option Nat} (h : AtLeast m s) (hb : ∀ b, isBand s b → isBand s' b) :
    AtLeast m s' := by
  intro a ha
  obtain ⟨b, hb1, hb2⟩ := h a ha
  exact ⟨b, hb _ hb1, hb2⟩

theorem not_doomed_of_max {s : Store} (hn : NoDupKeys s) : ¬ Doomed s (maxNat? (bandIdsOf s)) := by
  rintro ⟨b, hb1, hb2⟩
  have hmem : b ∈ bandIdsOf s := (mem_bandIdsOf_iff_get? hn).2 hb1
  cases hm : maxNat? (bandIdsOf s) with
  | none => rw [maxNat?_none hm] at hmem; cases hmem
  | some a =>
    rw [hm] at hb2
    have := maxNat?_ge hm b hmem
    simp only [Above] at hb2
    omega

theorem atLeast_max {s : Store} (hn : NoDupKeys s) : AtLeast (maxNat? (bandIdsOf s)) s := by
  intro a ha
  exact ⟨a, (mem_bandIdsOf_iff_get? hn).1 (maxNat?_mem ha), Nat.le_refl _⟩

theorem below_next {s : Store} (hn : NoDupKeys s) : ∀ b, isBand s b → b < nextId (maxNat? (bandIdsOf s)) := by
  intro b hb
  have hmem : b ∈ bandIdsOf s := (mem_bandIdsOf_iff_get? hn).2 hb
  cases hm : maxNat? (bandIdsOf s) with
  | none => rw [maxNat?_none hm] at hmem; cases hmem
  | some a =>
    have := maxNat?_ge hm b hmem
    simp only [nextId]
    omega

end Conserve.Race
