import ConserveModel.Proofs.FsBasic
import ConserveModel.Proofs.WalkConvex
/-
Path resolution over "clean" paths.  One step of `walk` by what is at the current node and at its
child; then: if no intermediate component is a symlink, a successful walk ends at the literal path and
went through directories (at a FILE it fails with ENOTDIR); through existing directories it succeeds
given enough steps, and a missing intermediate directory gives ENOENT.
-/
namespace Conserve

def NoneOrDir (a : Option FNode) : Prop := ∀ x, a = some x → x.kind = .dir

theorem NoneOrDir.of_eqMod {a b : Option FNode} (h : EqMod a b) (ha : NoneOrDir a) : NoneOrDir b := by
  intro y hy
  cases a with
  | none => rw [(h.none_iff).1 rfl] at hy; cases hy
  | some x =>
    obtain ⟨y', hy', hk, _⟩ := h.some_left rfl
    rw [hy] at hy'; cases hy'
    rw [hk]; exact ha x rfl

def NotLink (a : Option FNode) : Prop := ∀ x, a = some x → x.kind ≠ .symlink

theorem NoneOrDir.notLink {a : Option FNode} (h : NoneOrDir a) : NotLink a := by
  intro x hx; rw [h x hx]; decide

theorem NotLink.of_eqMod {a b : Option FNode} (h : EqMod a b) (ha : NotLink a) : NotLink b := by
  intro y hy
  cases a with
  | none => rw [(h.none_iff).1 rfl] at hy; cases hy
  | some x =>
    obtain ⟨y', hy', hk, _⟩ := h.some_left rfl
    rw [hy] at hy'; cases hy'
    rw [hk]; exact ha x rfl

theorem goodName_ne {c : Str} (h : goodName c = true) : c ≠ [] ∧ c ≠ [dot] ∧ c ≠ [dot, dot] := by
  have := (goodName_iff c).1 h
  exact ⟨this.1, this.2.2.2.1, this.2.2.2.2⟩

section
variable {fs : Fs} {follow : Bool} {fuel links : Nat} {cur : Path} {c : Str} {rest : List Str}
  {x y : FNode}

theorem walk_none (hn : fs.node cur = none) :
    walk fs follow (fuel + 1) links cur (c :: rest) = .error .ENOENT := by
  simp only [walk, hn]

theorem walk_not_dir (hn : fs.node cur = some x) (hk : x.kind ≠ .dir) :
    walk fs follow (fuel + 1) links cur (c :: rest) = .error .ENOTDIR := by
  simp only [walk, hn, hk, ne_eq, not_false_eq_true, if_true]

theorem walk_empty (hn : fs.node cur = some x) (hk : x.kind = .dir) :
    walk fs follow (fuel + 1) links cur ([] :: rest) = walk fs follow fuel links cur rest := by
  simp only [walk, hn, hk, ne_eq, not_true_eq_false, if_false, true_or, if_true]

theorem walk_good_none (hg : goodName c = true) (hn : fs.node cur = some x) (hk : x.kind = .dir)
    (hy : fs.node (cur ++ [c]) = none) :
    walk fs follow (fuel + 1) links cur (c :: rest) =
      if rest.isEmpty then .ok (cur ++ [c]) else .error .ENOENT := by
  obtain ⟨h1, h2, h3⟩ := goodName_ne hg
  simp only [walk, hn, hk, hy, h1, h2, h3, ne_eq, not_true_eq_false, if_false, or_self]

theorem walk_good_step (hg : goodName c = true) (hn : fs.node cur = some x) (hk : x.kind = .dir)
    (hy : fs.node (cur ++ [c]) = some y) (hl : y.kind = .symlink → rest = [] ∧ follow = false) :
    walk fs follow (fuel + 1) links cur (c :: rest) = walk fs follow fuel links (cur ++ [c]) rest := by
  obtain ⟨h1, h2, h3⟩ := goodName_ne hg
  have hnot : ¬ (y.kind = .symlink ∧ ¬ (rest.isEmpty = true ∧ follow = false)) :=
    fun ⟨hs, hne⟩ => hne ⟨by rw [(hl hs).1]; rfl, (hl hs).2⟩
  simp only [walk, hn, hk, hy, h1, h2, h3, ne_eq, not_true_eq_false, if_false, or_self, if_neg hnot]

theorem walk_ok_dir {fuel : Nat} {p : Path} (h : walk fs follow fuel links cur (c :: rest) = .ok p) :
    ∃ x, fs.node cur = some x ∧ x.kind = .dir := by
  cases fuel with
  | zero => simp [walk] at h
  | succ fuel =>
    cases hn : fs.node cur with
    | none => rw [walk_none hn] at h; cases h
    | some x =>
      by_cases hk : x.kind = .dir
      · exact ⟨x, rfl, hk⟩
      · rw [walk_not_dir hn hk] at h; cases h

end

/-- Trailing empty components: `dest/`. -/
theorem walk_trail (fs : Fs) (follow : Bool) : ∀ (trail : List Str) (fuel links : Nat) (cur p : Path),
    (∀ c ∈ trail, c = []) → walk fs follow fuel links cur trail = .ok p → p = cur := by
  intro trail
  induction trail with
  | nil =>
    intro fuel links cur p _ h
    cases fuel with
    | zero => simp [walk] at h
    | succ fuel => simp only [walk, Except.ok.injEq] at h; exact h.symm
  | cons c t ih =>
    intro fuel links cur p ht h
    obtain ⟨x, hn, hk⟩ := walk_ok_dir h
    cases fuel with
    | zero => simp [walk] at h
    | succ fuel =>
      rw [ht c List.mem_cons_self, walk_empty hn hk] at h
      exact ih fuel links cur p (fun d hd => ht d (List.mem_cons_of_mem _ hd)) h

/-- The hypotheses of the lemmas below about `c :: cs'`, handed on to `cs'` from `cur ++ [c]`. -/
theorem prefixes_tail (P : Path → Prop) {cur : Path} {c : Str} {cs' : List Str}
    (h : ∀ pre, pre <+: c :: cs' → pre ≠ [] → pre ≠ c :: cs' → P (cur ++ pre)) :
    ∀ pre, pre <+: cs' → pre ≠ [] → pre ≠ cs' → P (cur ++ [c] ++ pre) := by
  intro pre hp _ hne
  have := h (c :: pre) (List.cons_prefix_cons.2 ⟨rfl, hp⟩) (List.cons_ne_nil _ _)
    (fun e => hne (List.cons.inj e).2)
  simpa using this

theorem walk_clean (fs : Fs) (follow : Bool) :
    ∀ (fuel links : Nat) (cur : Path) (cs trail : List Str),
      (∀ c ∈ cs, goodName c = true) → (∀ c ∈ trail, c = []) →
      (∀ pre, pre <+: cs → pre ≠ [] → pre ≠ cs → NotLink (fs.node (cur ++ pre))) →
      ((follow = false ∧ trail = []) ∨ NotLink (fs.node (cur ++ cs))) →
      ∀ p, walk fs follow fuel links cur (cs ++ trail) = .ok p →
        p = cur ++ cs ∧ ∀ pre, pre <+: cs → pre ≠ cs → fs.isDir (cur ++ pre) = true := by
  intro fuel
  induction fuel with
  | zero => intro links cur cs trail _ _ _ _ p h; simp [walk] at h
  | succ fuel ih =>
    intro links cur cs trail hg ht hpre hfin p h
    cases cs with
    | nil =>
      rw [List.append_nil, walk_trail fs follow trail _ links cur p ht h]
      exact ⟨rfl, fun pre hp hne => absurd (List.prefix_nil.1 hp) hne⟩
    | cons c cs' =>
      obtain ⟨x, hn, hk⟩ := walk_ok_dir h
      have hgc := hg c List.mem_cons_self
      have hdirs : (∀ pre, pre <+: cs' → pre ≠ cs' → fs.isDir (cur ++ [c] ++ pre) = true) →
          ∀ pre, pre <+: c :: cs' → pre ≠ c :: cs' → fs.isDir (cur ++ pre) = true := by
        intro hd pre hp hne
        rcases List.prefix_cons_iff.1 hp with rfl | ⟨t, rfl, ht'⟩
        · rw [List.append_nil]; exact Fs.isDir_iff.2 ⟨x, hn, hk⟩
        · simpa using hd t ht' (fun e => hne (by rw [e]))
      rw [List.cons_append] at h
      cases hy : fs.node (cur ++ [c]) with
      | none =>
        rw [walk_good_none hgc hn hk hy] at h
        split at h
        · rename_i he
          cases h
          have : cs' = [] := (List.append_eq_nil_iff.1 (List.isEmpty_iff.1 he)).1
          subst this
          exact ⟨rfl, hdirs fun pre hp hne => absurd (List.prefix_nil.1 hp) hne⟩
        · cases h
      | some y =>
        have hl : y.kind = .symlink → cs' ++ trail = [] ∧ follow = false := by
          intro hs
          by_cases hcs : cs' = []
          · subst hcs
            rcases hfin with ⟨hf, htr⟩ | hf
            · exact ⟨by rw [htr]; rfl, hf⟩
            · exact absurd hs (hf y hy)
          · exact absurd hs (hpre [c] (by simp) (by simp) (by simp [hcs]) y hy)
        rw [walk_good_step hgc hn hk hy hl] at h
        obtain ⟨e, hd⟩ := ih links (cur ++ [c]) cs' trail (fun d hd => hg d (List.mem_cons_of_mem _ hd)) ht
          (prefixes_tail (fun q => NotLink (fs.node q)) hpre) (by simpa using hfin) p h
        exact ⟨by rw [e, List.append_assoc]; rfl, hdirs hd⟩

theorem walk_dirs_ne_enoent (fs : Fs) (follow : Bool) :
    ∀ (fuel links : Nat) (cur : Path) (cs : List Str), (∀ c ∈ cs, goodName c = true) →
      (∀ pre, pre <+: cs → fs.isDir (cur ++ pre) = true) →
      walk fs follow fuel links cur cs ≠ .error .ENOENT := by
  intro fuel
  induction fuel with
  | zero => intro links cur cs _ _ h; simp [walk] at h
  | succ fuel ih =>
    intro links cur cs hg hd
    cases cs with
    | nil => intro h; simp [walk] at h
    | cons c cs' =>
      obtain ⟨x, hn, hk⟩ := Fs.isDir_iff.1 (by simpa using hd [] List.nil_prefix)
      obtain ⟨y, hy, hyk⟩ := Fs.isDir_iff.1 (hd [c] (by simp))
      rw [walk_good_step (hg c List.mem_cons_self) hn hk hy (fun hs => by rw [hyk] at hs; cases hs)]
      exact ih links (cur ++ [c]) cs' (fun d hd' => hg d (List.mem_cons_of_mem _ hd'))
        (fun pre hp => by simpa using hd (c :: pre) (List.cons_prefix_cons.2 ⟨rfl, hp⟩))

theorem walk_clean_ok (fs : Fs) (follow : Bool) :
    ∀ (fuel links : Nat) (cur : Path) (cs : List Str), cs.length < fuel →
      (∀ c ∈ cs, goodName c = true) → (cs ≠ [] → fs.isDir cur = true) →
      (∀ pre, pre <+: cs → pre ≠ [] → pre ≠ cs → fs.isDir (cur ++ pre) = true) →
      (follow = false ∨ NotLink (fs.node (cur ++ cs))) →
      walk fs follow fuel links cur cs = .ok (cur ++ cs) := by
  intro fuel
  induction fuel with
  | zero => intro links cur cs h; exact absurd h (Nat.not_lt_zero _)
  | succ fuel ih =>
    intro links cur cs hlen hg hcur hpre hfin
    cases cs with
    | nil => simp [walk]
    | cons c cs' =>
      obtain ⟨x, hn, hk⟩ := Fs.isDir_iff.1 (hcur (List.cons_ne_nil _ _))
      have hgc := hg c List.mem_cons_self
      have hstep : cs' ≠ [] → fs.isDir (cur ++ [c]) = true :=
        fun hne => hpre [c] (by simp) (by simp) (by simp [hne])
      cases hy : fs.node (cur ++ [c]) with
      | none =>
        have hcs : cs' = [] := Classical.byContradiction fun hcs => by
          have := hstep hcs
          simp [Fs.isDir, hy] at this
        subst hcs
        rw [walk_good_none hgc hn hk hy]
        rfl
      | some y =>
        have hl : y.kind = .symlink → cs' = [] ∧ follow = false := by
          intro hs
          by_cases hcs : cs' = []
          · subst hcs
            exact ⟨rfl, hfin.resolve_right fun hf => hf y hy hs⟩
          · have := hstep hcs
            simp [Fs.isDir, hy, hs] at this
        rw [walk_good_step hgc hn hk hy hl,
          ih links (cur ++ [c]) cs' (by simpa using hlen) (fun d hd => hg d (List.mem_cons_of_mem _ hd))
            hstep (prefixes_tail (fun q => fs.isDir q = true) hpre) (by simpa using hfin), List.append_assoc]
        rfl

theorem walk_clean_missing (fs : Fs) (follow : Bool) :
    ∀ (fuel links : Nat) (cur : Path) (cs : List Str), cs.length < fuel →
      (∀ c ∈ cs, goodName c = true) → fs.isDir cur = true →
      (∀ pre, pre <+: cs → pre ≠ [] → pre ≠ cs → NoneOrDir (fs.node (cur ++ pre))) →
      (∃ pre, pre <+: cs ∧ pre ≠ [] ∧ pre ≠ cs ∧ fs.node (cur ++ pre) = none) →
      walk fs follow fuel links cur cs = .error .ENOENT := by
  intro fuel
  induction fuel with
  | zero => intro links cur cs h; exact absurd h (Nat.not_lt_zero _)
  | succ fuel ih =>
    intro links cur cs hlen hg hcur hpre ⟨pre, hp, hpne, hpcs, hpn⟩
    obtain ⟨x, hn, hk⟩ := Fs.isDir_iff.1 hcur
    cases cs with
    | nil => exact absurd (List.prefix_nil.1 hp) hpne
    | cons c cs' =>
      -- the missing prefix starts with `c` and is shorter than the path
      rcases List.prefix_cons_iff.1 hp with rfl | ⟨pre', rfl, hp'⟩
      · exact absurd rfl hpne
      have hcs' : cs' ≠ [] := fun e => hpcs (by rw [e] at hp' ⊢; rw [List.prefix_nil.1 hp'])
      have hgc := hg c List.mem_cons_self
      cases hy : fs.node (cur ++ [c]) with
      | none => rw [walk_good_none hgc hn hk hy, if_neg (by simp [hcs'])]
      | some y =>
        have hyd : y.kind = .dir := hpre [c] (by simp) (by simp) (by simp [hcs']) y hy
        rw [walk_good_step hgc hn hk hy (fun hs => by rw [hyd] at hs; cases hs)]
        have hpre'ne : pre' ≠ [] := fun e => by rw [e, hy] at hpn; cases hpn
        exact ih links (cur ++ [c]) cs' (by simpa using hlen)
          (fun d hd => hg d (List.mem_cons_of_mem _ hd)) (Fs.isDir_iff.2 ⟨y, hy, hyd⟩)
          (prefixes_tail (fun q => NoneOrDir (fs.node q)) hpre)
          ⟨pre', hp', hpre'ne, fun e => hpcs (by rw [e]), by simpa using hpn⟩

end Conserve
