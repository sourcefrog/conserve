import ConserveModel.Proofs.RaceLock
import ConserveModel.Proofs.RaceBackup
/-
C06 on the full model — which operations `backup` issues after its second look at the gc lock:
`AllOps CritOp0 (critBody …)` for everything before the tail write, hence `AllOps CritOp (crit …)`,
and a band tail write is its last operation (`TailLast`).
No property statements here.
-/
namespace Conserve
open Prog Conserve.Conf Conserve.Inv

def isTailWrite : Op → Prop
  | .write (.bandTail _) _ _ => True
  | _ => False

def CritOp0 (o : Op) : Prop := CritOp o ∧ ¬ isTailWrite o

theorem Rd.crit0 {K : Key → Prop} (hk : ∀ k, K k → k ≠ .gcLock ∧ k ≠ .root) {o : Op} (h : Rd K o) : CritOp0 o := by
  cases o <;> first | exact absurd h id | simp [CritOp0, CritOp, isTailWrite, hk _ h]

theorem Key.crit_of_inside {k : Key} (h : k.inBlocks ∨ k.inBand) : k ≠ .gcLock ∧ k ≠ .root :=
  ⟨by rintro rfl; exact h.elim id id, by rintro rfl; exact h.elim id id⟩

theorem basisListing_crit (basis : Option Nat) : AllOps CritOp0 (basisListing basis) := by
  cases basis with
  | none => exact .ret _
  | some b => exact (listEntries_fp b _ _).mono fun _ => Rd.crit0 fun _ hk => Key.crit_of_inside (.inr hk)

theorem BlockWr.crit0 {H : Str → Str} {o : Op} (h : BlockWr H o) : CritOp0 o := by
  cases h <;> simp [CritOp0, CritOp, isTailWrite]

theorem IndexWr.crit0 {b : Nat} {o : Op} (h : IndexWr b o) : CritOp0 o := by
  cases h <;> simp [CritOp0, CritOp, isTailWrite]

theorem WrOp.crit0 {H : Str → Str} {o : Op} : WrOp H o → CritOp0 o :=
  WrOp.elim (fun _ => BlockWr.crit0) (fun _ _ => IndexWr.crit0) o

/-- After every write of a band tail the program is finished, whatever the response. -/
inductive TailLast {α : Type} : Prog α → Prop
  | ret (a : α) : TailLast (.ret a)
  | fail (e : Err) : TailLast (.fail e)
  | panic (s : String) : TailLast (.panic s)
  | emit (ev : Event) {k : Prog α} : TailLast k → TailLast (.emit ev k)
  | op {o : Op} {k : Resp → Prog α} : (∀ r, TailLast (k r)) → (isTailWrite o → ∀ r, (k r).Done) → TailLast (.op o k)

theorem TailLast.of_allOps {α : Type} {p : Prog α} (hp : AllOps (fun o => ¬ isTailWrite o) p) : TailLast p := by
  induction hp with
  | ret a => exact .ret a
  | fail e => exact .fail e
  | panic s => exact .panic s
  | emit ev _ ih => exact .emit ev ih
  | op ho _ ih => exact .op ih (fun hw => absurd hw ho)

theorem TailLast.bind {α β : Type} {p : Prog α} {f : α → Prog β}
    (hp : AllOps (fun o => ¬ isTailWrite o) p) (hf : ∀ a, TailLast (f a)) : TailLast (p.bind f) := by
  induction hp with
  | ret a => exact hf a
  | fail e => exact .fail e
  | panic s => exact .panic s
  | emit ev _ ih => exact .emit ev ih
  | op ho _ ih => exact .op ih (fun hw => absurd hw ho)

theorem TailLast.strip {α : Type} {p : Prog α} (h : TailLast p) : TailLast p.strip := by
  induction h with
  | ret a => exact .ret a
  | fail e => exact .fail e
  | panic s => exact .panic s
  | emit ev _ ih => exact ih
  | op hk hg _ => exact .op hk hg


section
variable (H : Str → Str) (o : BackupOpts) (src : List SrcEntry)

/-- Everything of `backupMain` before the tail. -/
def mainBody (x : Nat × List Str × List IndexEntry) : Prog Writer :=
  (backupLoop H o { band := x.1, exists_ := x.2.1 } (mergeTrees x.2.2 src)).bind fun w =>
  (flushGroup H w).bind fun w => finishHunk w

def mainTail (w : Writer) : Prog Stats :=
  .op (.write (.bandTail w.band) (.tail (some w.hunksWritten)) .createNew) (onUnit (.ret w.stats))

theorem backupMain_split (x : Nat × List Str × List IndexEntry) :
    backupMain H o src x = (mainBody H o src x).bind mainTail := by
  simp only [backupMain, mainBody, bandClose, Prog.bind_assoc, performUnit_bind]
  rfl

theorem mainBody_crit (x : Nat × List Str × List IndexEntry) : AllOps CritOp0 (mainBody H o src x) :=
  .bind ((backupLoop_fp H o _ _).mono fun _ => WrOp.crit0) fun w =>
    .bind ((flushGroup_fp H w).mono fun _ => WrOp.crit0) fun w =>
      (finishHunk_fp w).mono fun _ => IndexWr.crit0

theorem mainTail_crit (w : Writer) : AllOps CritOp (mainTail w) := by
  unfold mainTail
  refine .op (by simp [CritOp]) fun r => ?_
  cases r <;> first | exact .ret _ | exact .fail _

theorem mainTail_tailLast (w : Writer) : TailLast (mainTail w) := by
  unfold mainTail
  refine .op (fun r => ?_) (fun _ r => ?_)
  · cases r <;> first | exact .ret _ | exact .fail _
  · cases r <;> trivial

/-- Everything of `crit` before the tail. -/
def critBody (basis : Option Nat) (n : Nat) : Prog Writer :=
  listBlocks.bind fun blocks => (basisListing basis).bind fun be => mainBody H o src (n, blocks, be)

theorem crit_split (basis : Option Nat) (n : Nat) :
    crit H o src basis n = (critBody H o src basis n).bind mainTail := by
  simp only [crit, critBody, backupMain_split, Prog.bind_assoc]

theorem critBody_crit (basis : Option Nat) (n : Nat) : AllOps CritOp0 (critBody H o src basis n) :=
  .bind (listBlocks_fp.mono fun _ => Rd.crit0 fun _ hk => Key.crit_of_inside (.inl hk)) fun _ => .bind (basisListing_crit basis) fun _ => mainBody_crit H o src _

theorem crit_crit (basis : Option Nat) (n : Nat) : AllOps CritOp (crit H o src basis n) := by
  rw [crit_split]
  exact AllOps.bind ((critBody_crit H o src basis n).mono fun _ h => h.1) fun w => mainTail_crit w

theorem crit_tailLast (basis : Option Nat) (n : Nat) : TailLast (crit H o src basis n) := by
  rw [crit_split]
  exact TailLast.bind ((critBody_crit H o src basis n).mono fun _ h => h.2) fun w => mainTail_tailLast w

end

end Conserve
