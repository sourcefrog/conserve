import ConserveModel.Proofs.BackupBlock
import ConserveModel.Proofs.Footprint
/-
The block level of `backup` — `store_or_deduplicate`, the combiner, `store_file_content`,
`copy_file`, `copy_entry` — specified once, for every writer invariant.

What such a function can put into the store is its footprint (`X_fp : AllOps (BlockWr H) …`,
Proofs/Footprint.lean): a block sub-directory, a block under the hash of its content.  Every
store invariant of the development is kept by these in every world, so no invariant appears here.
What it returns is described by a relation on the returned value alone (`Stored`, `Flushed`,
`Pushed`, `ChunksStored`, `Copied`): which writer comes back, and that the hashes it has recorded
are in the writer's `exists` set.  The one fact that looks at the world is that every hash of the
`exists` set names an intact block (`ExistsOK`): `Carries` says it passes from the writer a
function is given to the writer it returns.  With `H` injective that is all a writer invariant
needs of the store (`blockContent_of_exists`, `readBack_chunks`); each invariant then has one lemma
per relation, about the invariant alone.  No property statements here.
-/
namespace Conserve.Blk
open Conserve Conserve.Inv Prog

section
variable (H : Str → Str)

/-- `p` is run by writer `wr`.  In EVERY world the value it returns satisfies `R`; and in every
world that honours `CreateNew`, if every hash of `wr.exists_` names an intact block at the start,
every hash of the `exists` set of the writer returned does at the end.  Nothing is asked of the
store. -/
def Carries (wr : Writer) {β : Type} (p : Prog (Writer × β)) (R : Writer × β → Prop) : Prop :=
  ∀ w x, (p.run w).1 = .ok x →
    R x ∧ (w.enforceCreateNew = true → ExistsOK H w.store wr.exists_ → ExistsOK H (p.run w).2.store x.1.exists_)

namespace Carries
variable {H} {wr : Writer} {β γ : Type}

theorem ret {x : Writer × β} {R : Writer × β → Prop} (hr : R x) (hex : ∀ h ∈ x.1.exists_, h ∈ wr.exists_) :
    Carries H wr (.ret x) R :=
  fun _ _ hx => by cases hx; exact ⟨hr, fun _ h a ha => h a (hex a ha)⟩

theorem fail {e : Err} {R : Writer × β → Prop} : Carries H wr (.fail e : Prog (Writer × β)) R :=
  fun _ _ hx => nomatch hx

theorem panic {m : String} {R : Writer × β → Prop} : Carries H wr (.panic m : Prog (Writer × β)) R :=
  fun _ _ hx => nomatch hx

theorem bind {p : Prog (Writer × β)} {f : Writer × β → Prog (Writer × γ)} {R1 : Writer × β → Prop}
    {R : Writer × γ → Prop} (hp : Carries H wr p R1) (hf : ∀ x, R1 x → Carries H x.1 (f x) R) :
    Carries H wr (p.bind f) R := by
  intro w y hy
  have hen := Prog.run_enforce p w
  have h1 := hp w
  rw [Prog.run_bind] at hy ⊢
  cases hrun : p.run w with
  | mk out w1 =>
    rw [hrun] at hy hen h1
    cases out with
    | ok x =>
      obtain ⟨r1, e1⟩ := h1 x rfl
      obtain ⟨r2, e2⟩ := hf x r1 w1 y hy
      exact ⟨r2, fun he hx => e2 (hen.trans he) (e1 he hx)⟩
    | err e => cases hy
    | panic m => cases hy

theorem mono {p : Prog (Writer × β)} {R R' : Writer × β → Prop} (hp : Carries H wr p R)
    (h : ∀ x, R x → R' x) : Carries H wr p R' :=
  fun w x hx => ⟨h x (hp w x hx).1, (hp w x hx).2⟩

/-- The half that holds in every world (it is `Conf.RetSpec p R`). -/
theorem returns {p : Prog (Writer × β)} {R : Writer × β → Prop} (hp : Carries H wr p R) (w : World)
    (x : Writer × β) (hx : (p.run w).1 = .ok x) : R x := (hp w x hx).1

end Carries

/-! ### What an `exists` set all of whose hashes name intact blocks says of the store -/

variable {H}

theorem blockContent_of_exists (hinj : Function.Injective H) {s : Store} {ex : List Str} {d : Str}
    (hex : ExistsOK H s ex) (hd : H d ∈ ex) : blockContent H s (H d) = some d := by
  obtain ⟨c, hc⟩ := hex _ hd
  rw [hc, hinj ((blockContent_eq_some H).mp hc).2]

theorem readBack_single {s : Store} {buf : Str} {start len : Nat}
    (hb : blockContent H s (H buf) = some buf) (hle : start + len ≤ buf.length) :
    readBack H s [{ hash := H buf, start := start, len := len }] = some ((buf.drop start).take len) := by
  simp [readBack, readAddrPure, hb, sliceOf, hle]

variable (H)

/-- The address `store_file_content` records for a chunk: the whole block. -/
def chunkAddr (c : Str) : Addr := { hash := H c, start := 0, len := c.length }

variable {H}

theorem readBack_chunks (hinj : Function.Injective H) {s : Store} {ex : List Str} (hex : ExistsOK H s ex) :
    ∀ cs : List Str, (∀ c ∈ cs, H c ∈ ex) → readBack H s (cs.map (chunkAddr H)) = some cs.flatten
  | [], _ => by simp [readBack]
  | c :: cs, h => by
    have h1 := readBack_single (start := 0) (len := c.length)
      (blockContent_of_exists hinj hex (h c (List.mem_cons_self ..))) (by simp)
    simp only [List.drop_zero, List.take_length] at h1
    have := readBack_append H h1 (readBack_chunks hinj hex cs fun c' hc' => h c' (List.mem_cons_of_mem _ hc'))
    simpa [chunkAddr] using this

variable (H)

/-! ### `BlockDir::store_or_deduplicate`: the one proof that looks at `World.exec` -/

/-- What `store_or_deduplicate` returns: the writer as it was and an error; or the hash of the
data, now in the `exists` set, which has not lost a hash. -/
def Stored (wr : Writer) (data : Str) (x : Writer × Except Err Str) : Prop :=
  (∃ e, x = (wr, .error e)) ∨
  ∃ ex st, x = ({ wr with exists_ := ex, stats := st }, .ok (H data)) ∧ H data ∈ ex ∧ ∀ h ∈ wr.exists_, h ∈ ex

/-- Errors are values, so it always returns. -/
theorem storeOrDedup_run (wr : Writer) (data : Str) (w : World) :
    ∃ x w', (storeOrDedup H wr data).run w = (.ok x, w') ∧ Stored H wr data x ∧
      (w.enforceCreateNew = true → ExistsOK H w.store wr.exists_ → ExistsOK H w'.store x.1.exists_) := by
  unfold storeOrDedup
  by_cases hc : wr.exists_.contains (H data) = true
  · simp only [hc, if_true, Prog.pure_def, Prog.bind_def, Prog.run_ret]
    exact ⟨_, w, rfl, Or.inr ⟨_, _, rfl, by simpa using hc, fun _ h => h⟩, fun _ h => h⟩
  · simp only [hc, Bool.false_eq_true, ↓reduceIte, Prog.pure_def, Prog.bind_def, perform, Prog.op_bind,
      Prog.ret_bind, Prog.run_op]
    have f1 : w.enforceCreateNew = true →
        (w.exec (.createDir (.blockDir ((H data).take subdirNameChars)))).1.enforceCreateNew = true ∧
        Extends w.store (w.exec (.createDir (.blockDir ((H data).take subdirNameChars)))).1.store :=
      fun he => ⟨by simpa using he, w.exec_extends _ he trivial⟩
    generalize (w.exec (.createDir (.blockDir ((H data).take subdirNameChars)))) = x1 at f1
    obtain ⟨w1, r1⟩ := x1
    -- every way of giving up: nothing recorded
    have hfail : ∀ {w' : World} (e : ErrKind), (w.enforceCreateNew = true → Extends w.store w'.store) →
        ∃ x w'', (Prog.ret (wr, (Except.error (Err.transport e) : Except Err Str))).run w' = (.ok x, w'') ∧
          Stored H wr data x ∧
          (w.enforceCreateNew = true → ExistsOK H w.store wr.exists_ → ExistsOK H w''.store x.1.exists_) :=
      fun e f => ⟨_, _, rfl, Or.inl ⟨_, rfl⟩, fun he h => h.mono (f he)⟩
    split
    · exact hfail _ (fun he => (f1 he).2)
    · simp only [Prog.run_op]
      have f2 : w1.enforceCreateNew = true →
          Extends w1.store (w1.exec (.write (.block (H data)) (.blockData data) .createNew)).1.store :=
        fun he => w1.exec_extends _ he rfl
      have hu := w1.inv_exec_write_unit (.block (H data)) (.blockData data)
      generalize (w1.exec (.write (.block (H data)) (.blockData data) .createNew)) = x2 at f2 hu
      obtain ⟨w2, r2⟩ := x2
      have f12 : w.enforceCreateNew = true → Extends w.store w2.store :=
        fun he => (f1 he).2.trans (f2 (f1 he).1)
      cases r2 with
      | unit =>
        refine ⟨_, w2, rfl, Or.inr ⟨_, _, rfl, List.mem_cons_self .., fun _ h => List.mem_cons_of_mem _ h⟩,
          fun he hex h hh => ?_⟩
        rcases List.mem_cons.mp hh with rfl | hh
        · exact ⟨data, (blockContent_eq_some H).mpr ⟨hu rfl, rfl⟩⟩
        · exact (hex.mono (f12 he)) h hh
      | _ => exact hfail _ f12

theorem storeOrDedup_carries (wr : Writer) (data : Str) :
    Carries H wr (storeOrDedup H wr data) (Stored H wr data) := by
  intro w a ha
  obtain ⟨x, w', hrun, hs, hex⟩ := storeOrDedup_run H wr data w
  rw [hrun] at ha ⊢
  cases ha
  exact ⟨hs, hex⟩

/-! ### `FileCombiner` -/

/-- A queued small file with its address in the combined block `h`. -/
def fillAddr (h : Str) : Nat × Nat × IndexEntry → IndexEntry :=
  fun (start, len, e) => { e with addrs := [{ hash := h, start := start, len := len }] }

/-- What `FileCombiner::flush` returns.  `idle`: nothing queued.  `failed`: the store failed and
exactly the writer given comes back, buffer and queue as they were (the repair of D5).  `done`: the
queue has moved to `finished` with addresses into the block of the buffer, whose hash is in the
`exists` set. -/
inductive Flushed (wr : Writer) : Writer × Except Err Unit → Prop
  | idle : wr.queue = [] → Flushed wr (wr, .ok ())
  | failed (e : Err) : Flushed wr (wr, .error e)
  | done (ex : List Str) (st : Stats) : H wr.buf ∈ ex →
      Flushed wr ({ wr with exists_ := ex, stats := st, buf := [], queue := [],
                            finished := wr.finished ++ wr.queue.map (fillAddr (H wr.buf)) }, .ok ())

theorem combinerFlush_carries (wr : Writer) : Carries H wr (combinerFlush H wr) (Flushed H wr) := by
  unfold combinerFlush
  simp only [Prog.bind_def, Prog.pure_def]
  split
  · rename_i hq
    exact Carries.ret (.idle (by simpa using hq)) (fun _ h => h)
  · refine Carries.bind (storeOrDedup_carries H { wr with buf := [] } wr.buf) ?_
    rintro ⟨w1, r⟩ (⟨e, hx⟩ | ⟨ex, st, hx, hmem, -⟩)
    · cases hx
      exact Carries.ret (.failed e) (fun _ h => h)
    · cases hx
      exact Carries.ret (.done ex _ hmem) (fun _ h => h)

/-- The writer with one more small file in the combiner. -/
def queued (o : BackupOpts) (sf : SrcEntry) (wr : Writer) : Writer :=
  { wr with buf := wr.buf ++ sf.content.take sf.size,
            queue := wr.queue ++ [(wr.buf.length, (sf.content.take sf.size).length, metaOf o sf)],
            stats := { wr.stats with smallCombinedFiles := wr.stats.smallCombinedFiles + 1 } }

/-- What `FileCombiner::push_file` returns.  `empty`: nothing was read, the entry is finished at
once without an address.  `queued`: the bytes joined the buffer.  `flushed`: and the buffer, now
full, was flushed. -/
inductive Pushed (o : BackupOpts) (sf : SrcEntry) (wr : Writer) : Writer × Except Err Unit → Prop
  | empty (st : Stats) : sf.content.take sf.size = [] →
      Pushed o sf wr ({ wr with finished := wr.finished ++ [metaOf o sf], stats := st }, .ok ())
  | queued : Pushed o sf wr (queued o sf wr, .ok ())
  | flushed {x : Writer × Except Err Unit} : Flushed H (queued o sf wr) x → Pushed o sf wr x

theorem combinerPush_carries (o : BackupOpts) (wr : Writer) (sf : SrcEntry) :
    Carries H wr (combinerPush H o wr sf) (Pushed H o sf wr) := by
  unfold combinerPush
  simp only [metadataFrom_eq, Prog.pure_def]
  split
  · rename_i hd
    exact Carries.ret (.empty _ (by simpa using hd)) (fun _ h => h)
  · split
    · exact (combinerFlush_carries H (queued o sf wr)).mono fun _ h => .flushed h
    · exact Carries.ret .queued (fun _ h => h)

/-! ### `store_file_content` -/

/-- What storing the chunks `cs` returns: of the writer only the `exists` set, which has not lost
a hash, and the statistics have changed; on success the addresses are those of the chunks, one
whole block each, and the hashes of all chunks are in the `exists` set. -/
def ChunksStored (wr : Writer) (cs : List Str) (acc : List Addr) (x : Writer × Except Err (List Addr)) : Prop :=
  ∃ ex st, x.1 = { wr with exists_ := ex, stats := st } ∧ (∀ h ∈ wr.exists_, h ∈ ex) ∧
    ∀ addrs, x.2 = .ok addrs → addrs = acc ++ cs.map (chunkAddr H) ∧ ∀ c ∈ cs, H c ∈ ex

theorem storeChunks_carries (cs : List Str) : ∀ (wr : Writer) (acc : List Addr),
    Carries H wr (storeChunks H wr cs acc) (ChunksStored H wr cs acc) := by
  induction cs with
  | nil =>
    intro wr acc
    exact Carries.ret ⟨wr.exists_, wr.stats, rfl, fun _ h => h, fun addrs h => by cases h; simp⟩ (fun _ h => h)
  | cons c cs ih =>
    intro wr acc
    unfold storeChunks
    simp only [Prog.bind_def, Prog.pure_def]
    refine Carries.bind (storeOrDedup_carries H wr c) ?_
    rintro ⟨w1, r⟩ (⟨e, hx⟩ | ⟨ex, st, hx, hmem, hsub⟩)
    · cases hx
      exact Carries.ret ⟨wr.exists_, wr.stats, rfl, fun _ h => h, fun _ h => nomatch h⟩ (fun _ h => h)
    · cases hx
      refine (ih _ _).mono ?_
      rintro x ⟨ex', st', hx', hsub', hok⟩
      refine ⟨ex', st', hx', fun h hh => hsub' h (hsub h hh), fun addrs ha => ?_⟩
      obtain ⟨h1, h2⟩ := hok addrs ha
      refine ⟨by simp [h1, chunkAddr], ?_⟩
      intro c' hc'
      rcases List.mem_cons.mp hc' with rfl | hc'
      · exact hsub' _ hmem
      · exact h2 c' hc'

theorem storeFileContent_carries (o : BackupOpts) (wr : Writer) (sf : SrcEntry) :
    Carries H wr (storeFileContent H o wr sf) (ChunksStored H wr (chunks o.maxBlockSize sf.content) []) := by
  unfold storeFileContent
  simp only [Prog.bind_def, Prog.pure_def]
  refine Carries.bind (storeChunks_carries H _ wr []) ?_
  rintro ⟨w1, r⟩ ⟨ex, st, hx, hsub, hok⟩
  simp only at hx
  subst hx
  cases r with
  | error e => exact Carries.ret ⟨ex, st, rfl, hsub, fun _ h => nomatch h⟩ (fun _ h => h)
  | ok addrs => exact Carries.ret ⟨ex, _, rfl, hsub, fun a h => by cases h; exact hok addrs rfl⟩ (fun _ h => h)

/-! ### `copy_file`, `copy_entry` -/

/-- What `copy_entry` returns.  `skipped`: unknown kind, nothing recorded.  `plain`: a directory,
a symlink or a file of size zero, recorded without addresses.  `reused`: a file unchanged since the
basis entry, recorded with the basis addresses, all of whose blocks are in the `exists` set.
`small`: through the combiner.  `failed` / `large`: through `store_file_content`, which gave up, or
stored every chunk. -/
inductive Copied (o : BackupOpts) (sf : SrcEntry) (basis : Option IndexEntry) (wr : Writer) :
    Writer × Except Err (Option ChangeKind) → Prop
  | skipped (st : Stats) : Copied o sf basis wr ({ wr with stats := st }, .ok none)
  | plain (st : Stats) (r : Option ChangeKind) : sf.kind ≠ .unknown → (sf.kind = .file → sf.size = 0) →
      Copied o sf basis wr ({ wr with pending := wr.pending ++ [metaOf o sf], stats := st }, .ok r)
  | reused (b : IndexEntry) (st : Stats) (ck : ChangeKind) : sf.kind = .file → basis = some b →
      heuristicallyUnchanged sf b = some true → b.addrs.all (fun a => wr.exists_.contains a.hash) = true →
      Copied o sf basis wr
        ({ wr with pending := wr.pending ++ [{ metaOf o sf with addrs := b.addrs }], stats := st }, .ok (some ck))
  | small (st : Stats) (x : Writer × Except Err Unit) (r : Except Err (Option ChangeKind)) : sf.kind = .file →
      Pushed H o sf { wr with stats := st } x → Copied o sf basis wr (x.1, r)
  | failed (ex : List Str) (st : Stats) (e : Err) : (∀ h ∈ wr.exists_, h ∈ ex) →
      Copied o sf basis wr ({ wr with exists_ := ex, stats := st }, .error e)
  | large (ex : List Str) (st : Stats) (ck : ChangeKind) : sf.kind = .file → (∀ h ∈ wr.exists_, h ∈ ex) →
      (∀ c ∈ chunks o.maxBlockSize sf.content, H c ∈ ex) →
      Copied o sf basis wr
        ({ wr with exists_ := ex, stats := st,
                   pending := wr.pending ++ [{ metaOf o sf with
                     addrs := (chunks o.maxBlockSize sf.content).map (chunkAddr H) }] }, .ok (some ck))

theorem copyFileStore_carries (o : BackupOpts) (wr : Writer) (st : Stats) (ck : ChangeKind) (sf : SrcEntry)
    (basis : Option IndexEntry) (hk : sf.kind = .file) :
    Carries H wr (copyFileStore H o { wr with stats := st } ck sf) (Copied H o sf basis wr) := by
  unfold copyFileStore
  simp only [metadataFrom_eq, Prog.pure_def, Prog.bind_def]
  split
  · rename_i hz
    exact Carries.ret (.plain _ _ (by simp [hk]) fun _ => hz) (fun _ h => h)
  · split
    · refine Carries.bind (combinerPush_carries H o { wr with stats := st } sf) ?_
      rintro ⟨w1, r⟩ hp
      cases r with
      | error e => exact Carries.ret (.small st _ _ hk hp) (fun _ h => h)
      | ok u => exact Carries.ret (.small st _ _ hk hp) (fun _ h => h)
    · refine Carries.bind (storeFileContent_carries H o { wr with stats := st } sf) ?_
      rintro ⟨w1, r⟩ ⟨ex, st', hx, hsub, hok⟩
      simp only at hx
      subst hx
      cases r with
      | error e => exact Carries.ret (.failed ex st' e hsub) (fun _ h => h)
      | ok addrs =>
        obtain ⟨rfl, hall⟩ := hok addrs rfl
        exact Carries.ret (.large ex st' ck hk hsub hall) (fun _ h => h)

theorem copyFile_carries (o : BackupOpts) (wr : Writer) (basis : Option IndexEntry) (sf : SrcEntry)
    (hk : sf.kind = .file) : Carries H wr (copyFile H o wr basis sf) (Copied H o sf basis wr) := by
  rcases copyFile_cases (H := H) o wr basis sf with ⟨st, ck, -, h⟩ | ⟨_, m, -, -, h⟩ | ⟨b, st, ck, hb, hh, hall, -, h⟩ <;> rw [h]
  · exact copyFileStore_carries H o wr st ck sf basis hk
  · exact Carries.panic
  · exact Carries.ret (.reused b st ck hk hb hh hall) (fun _ h => h)

theorem copyEntry_carries (o : BackupOpts) (wr : Writer) (basis : Option IndexEntry) (sf : SrcEntry) :
    Carries H wr (copyEntry H o wr basis sf) (Copied H o sf basis wr) := by
  unfold copyEntry
  simp only [metadataFrom_eq, Prog.pure_def]
  cases hk : sf.kind with
  | file => exact copyFile_carries H o wr basis sf hk
  | dir => exact Carries.ret (.plain _ _ (by simp [hk]) fun h => by simp [hk] at h) (fun _ h => h)
  | symlink => exact Carries.ret (.plain _ _ (by simp [hk]) fun h => by simp [hk] at h) (fun _ h => h)
  | unknown => exact Carries.ret (.skipped _) (fun _ h => h)

end

/-! ### A block-level function in C04's logic -/

section
variable {H : Str → Str} {src : List SrcEntry} {s0 : Store}

theorem _root_.Conserve.BlockWr.opOK {o : Op} (h : BlockWr H o) (s : Store) : OpOK H src s o := by
  cases h with
  | dir d => exact OpOK.createDir s fun _ h => nomatch h
  | blk d => exact OpOK.writeBlock s d

theorem _root_.Conserve.Inv.Sat.of_allOps {α : Type} {p : Prog α}
    (hp : Prog.AllOps (fun o => ∀ s, OpOK H src s o) p) {w : World} (hw : WOK H src s0 w) :
    Sat H src s0 p w (fun _ _ => True) := by
  induction hp generalizing w with
  | ret a => exact Sat.ret hw trivial
  | fail e => exact Sat.fail hw
  | panic s => exact Sat.panic hw
  | emit ev _ ih => exact Sat.emit (ih (Frame.events hw ev).wok)
  | op ho _ ih => exact Sat.op hw (ho _) (fun r => ih r (Frame.exec hw (ho _)).wok)

/-- The frame from the footprint, the postcondition from `Carries`. -/
theorem _root_.Conserve.Inv.Sat.of_block {β : Type} {p : Prog (Writer × β)} (hfp : AllOps (BlockWr H) p)
    {wr : Writer} {R : Writer × β → Prop} (hp : Carries H wr p R) {w : World} (hw : WOK H src s0 w)
    (hex : ExistsOK H w.store wr.exists_) {Q : Writer × β → World → Prop}
    (hq : ∀ x w', Frame H src s0 w w' → R x → ExistsOK H w'.store x.1.exists_ → Q x w') :
    Sat H src s0 p w Q :=
  have hs := Sat.of_allOps (hfp.mono fun _ ho s => ho.opOK s) hw
  ⟨hs.1, fun x hx => hq x _ hs.1 (hp w x hx).1 ((hp w x hx).2 hw.enforce hex)⟩

end

end Conserve.Blk
