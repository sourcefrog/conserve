import ConserveModel.Proofs.FrameStep
/-
`NoDupKeys`: the association list holds each key at most once.  Every operation preserves it, so
it holds of every store reachable from one that has it (e.g. from `[]`).  With it, `get?` and
list membership agree, which ties `bandIdsOf` (a scan of the list) to `get?`.
-/
namespace Conserve
open Prog

/-- Each key occurs at most once in the association list. -/
def Store.NoDupKeys (s : Store) : Prop := (s.map Prod.fst).Nodup

theorem Store.noDupKeys_nil : Store.NoDupKeys [] := List.nodup_nil

theorem Store.get?_iff_mem {s : Store} (hs : s.NoDupKeys) {k : Key} {v : FileVal} :
    s.get? k = some v ↔ (k, v) ∈ s := ⟨Store.mem_of_get?, Store.get?_of_mem_nodup hs⟩

theorem Store.NoDupKeys.filter {s : Store} (hs : s.NoDupKeys) (p : Key × FileVal → Bool) :
    Store.NoDupKeys (List.filter p s) := by
  unfold Store.NoDupKeys at hs ⊢
  exact hs.sublist ((List.filter_sublist).map _)

theorem Store.NoDupKeys.erase {s : Store} (hs : s.NoDupKeys) (k : Key) : (s.erase k).NoDupKeys := hs.filter _

theorem Store.NoDupKeys.eraseTree {s : Store} (hs : s.NoDupKeys) (k : Key) : (s.eraseTree k).NoDupKeys := hs.filter _

theorem Store.NoDupKeys.put {s : Store} (hs : s.NoDupKeys) (k : Key) (v : FileVal) : (s.put k v).NoDupKeys := by
  have he := hs.erase k
  unfold Store.NoDupKeys at he ⊢
  simp only [Store.put, List.map_append, List.map_cons, List.map_nil]
  refine List.nodup_append.mpr ⟨he, by simp, ?_⟩
  intro a ha b hb
  simp only [List.mem_singleton] at hb
  subst hb
  obtain ⟨⟨k', v'⟩, hin, rfl⟩ := List.mem_map.mp ha
  simp only [Store.erase, List.mem_filter, bne_iff_ne, ne_eq] at hin
  exact hin.2

theorem applyOp_noDupKeys (e : Bool) {s : Store} (hs : s.NoDupKeys) (o : Op) : (applyOp e s o).1.NoDupKeys :=
  applyOp_store_inv e s o (fun k v _ => hs.put k v) (fun k _ => hs.erase k) (fun k _ => hs.eraseTree k) hs

theorem World.exec_noDupKeys (w : World) (o : Op) (hs : w.store.NoDupKeys) : (w.exec o).1.store.NoDupKeys :=
  w.exec_store_inv o (fun k v _ => hs.put k v) (fun k _ => hs.erase k) (fun k _ => hs.eraseTree k) hs

theorem Prog.run_noDupKeys {α : Type} (p : Prog α) (w : World) (hs : w.store.NoDupKeys) :
    (p.run w).2.store.NoDupKeys := by
  induction p generalizing w with
  | ret a => exact hs
  | fail e => exact hs
  | panic s => exact hs
  | emit ev k ih => exact ih { w with events := ev :: w.events } hs
  | op o k ih => rw [Prog.run_op]; exact ih _ _ (World.exec_noDupKeys w o hs)

theorem mem_bandIdsOf_iff_get? {s : Store} (hs : s.NoDupKeys) {b : Nat} :
    b ∈ bandIdsOf s ↔ s.get? (.bandDir b) = some .dir := by
  rw [mem_bandIdsOf', Store.get?_iff_mem hs]

end Conserve
