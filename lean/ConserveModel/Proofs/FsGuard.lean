import ConserveModel.Proofs.FsTop
import ConserveModel.Proofs.ProgLemmas
import ConserveModel.Props.C11Walk
import ConserveModel.Props.C12
/-
The guard of `restore()` (commit 7db24bb): nothing is restored below a symlink restored earlier
in the same listing.  What `restoreEntries` returns therefore satisfies `ConfinableL` whenever
the listing has valid, strictly increasing apaths — for complete and for stitched listings.
-/
namespace Conserve
open Prog

variable {Z : Prop}

/-- Every value the program can return satisfies `Q` (in every world, with any faults). -/
inductive Prog.Post {α : Type} (Q : α → Prop) : Prog α → Prop
  | ret {a : α} : Q a → Post Q (.ret a)
  | fail (e : Err) : Post Q (.fail e)
  | panic (s : String) : Post Q (.panic s)
  | emit (ev : Event) {k : Prog α} : Post Q k → Post Q (.emit ev k)
  | op {o : Op} {k : Resp → Prog α} : (∀ r, Post Q (k r)) → Post Q (.op o k)

theorem Prog.Post.trivial {α : Type} (p : Prog α) : Prog.Post (fun _ => True) p := by
  induction p with
  | ret a => exact .ret True.intro
  | fail e => exact .fail e
  | panic s => exact .panic s
  | emit ev k ih => exact .emit ev ih
  | op o k ih => exact .op ih

/-- No node is below one of `syms` or below a symlink node that precedes it. -/
def guardedFrom : List Str → List RNode → Prop
  | _, [] => True
  | syms, n :: rest =>
    belowSymlink syms n.apath = false ∧
      guardedFrom (if n.kind = .symlink then n.apath :: syms else syms) rest

def nodeKey (n : RNode) : Str × Kind := (n.apath, n.kind)
def entryKey (e : IndexEntry) : Str × Kind := (e.apath, e.kind)

/-- The nodes are guarded, and they are (by apath and kind) a sub-list of the listing. -/
def GuardedOut (syms : List Str) (es : List IndexEntry) (nodes : List RNode) : Prop :=
  guardedFrom syms nodes ∧ (nodes.map nodeKey).Sublist (es.map entryKey)

section
variable (H : Str → Str)

theorem getBlockContent_tree (h : Str) : Tree (fun _ => True) Z (fun _ => True) (getBlockContent H h) := by
  unfold getBlockContent
  refine .bind (.perform trivial) fun r _ => ?_
  repeat' split
  all_goals exact .ret trivial

theorem readAddress_tree (a : Addr) : Tree (fun _ => True) Z (fun _ => True) (readAddress H a) := by
  unfold readAddress
  refine .bind (getBlockContent_tree H _) fun r _ => ?_
  repeat' split
  all_goals exact .ret trivial

theorem readContent_tree (as : List Addr) (acc : Str) :
    Tree (fun _ => True) Z (fun _ => True) (readContent H as acc) := by
  induction as generalizing acc with
  | nil => exact .ret trivial
  | cons a as ih =>
    unfold readContent
    refine .bind (readAddress_tree H a) fun r _ => ?_
    split
    · exact .ret trivial
    · exact ih _

/-- The per-entry loop of restore, walked once: what it returns is guarded, and its only panic is
`IndexEntry::mtime()` on a time that is out of range (which `IndexEntry::check` excludes). -/
theorem restoreEntries_tree : ∀ (es : List IndexEntry) (syms : List Str),
    (∀ e ∈ es, entryTimeNs e.mtime e.mtimeNanos = none → Z) →
    Tree (fun _ => True) Z (GuardedOut syms es) (restoreEntries H syms es) := by
  intro es
  induction es with
  | nil => intro syms _; exact .ret ⟨True.intro, List.Sublist.slnil⟩
  | cons e es ih =>
    intro syms hz
    have ih := fun syms => ih syms fun x hx => hz x (List.mem_cons_of_mem _ hx)
    have hz := hz e (List.mem_cons_self ..)
    have skip : ∀ nodes, GuardedOut syms es nodes → GuardedOut syms (e :: es) nodes :=
      fun nodes h => ⟨h.1, h.2.cons _⟩
    unfold restoreEntries
    split
    · exact .emit _ ((ih syms).imp skip)
    · rename_i hguard
      have hg : belowSymlink syms e.apath = false := by
        cases h : belowSymlink syms e.apath with
        | false => rfl
        | true => exact absurd h hguard
      -- a node made from `e`, not a symlink, in front of guarded nodes
      have keep : ∀ (n : RNode) (rest : List RNode), n.apath = e.apath → n.kind = e.kind →
          e.kind ≠ .symlink → GuardedOut syms es rest → GuardedOut syms (e :: es) (n :: rest) := by
        intro n rest ha hk hns h
        refine ⟨⟨by rw [ha]; exact hg, ?_⟩, ?_⟩
        · rw [if_neg (by rw [hk]; exact hns)]; exact h.1
        · simp only [List.map_cons]
          have : nodeKey n = entryKey e := by simp [nodeKey, entryKey, ha, hk]
          rw [this]; exact h.2.cons_cons _
      split
      · rename_i hk
        split
        · exact .panic _ (hz ‹_›)
        · exact .bind (ih syms) fun rest h =>
            .ret (keep _ rest rfl rfl (by rw [hk]; decide) h)
      · rename_i hk
        refine .bind (readContent_tree H _ _) ?_
        rintro ⟨bytes, bad⟩ -
        simp only []
        split
        · refine .bind (.report _) fun _ _ => ?_
          exact .bind (ih syms) fun rest h =>
            .ret (keep _ rest rfl rfl (by rw [hk]; decide) h)
        · split
          · exact .panic _ (hz ‹_›)
          · exact .bind (ih syms) fun rest h =>
              .ret (keep _ rest rfl rfl (by rw [hk]; decide) h)
      · rename_i hk
        split
        · exact .emit _ ((ih syms).imp skip)
        · split
          · exact .panic _ (hz ‹_›)
          · refine .bind (ih (e.apath :: syms)) fun rest h => .ret ?_
            refine ⟨⟨hg, ?_⟩, ?_⟩
            · have : (RNode.ofEntry e).kind = .symlink := hk
              rw [if_pos this]; exact h.1
            · simp only [List.map_cons]
              exact h.2.cons_cons _
      · exact .emit _ ((ih syms).imp skip)

theorem restoreEntries_guarded {syms : List Str} {es : List IndexEntry} {w w' : World} {nodes : List RNode}
    (h : (restoreEntries H syms es).run w = (.ok nodes, w')) : GuardedOut syms es nodes :=
  (restoreEntries_tree H es syms fun _ _ _ => trivial).run (congrArg Prod.fst h)

end

theorem ancestor_lt {cs : List Str} {x : Str} {t : List Str} (h : GoodComps (cs ++ x :: t)) :
    apathCmp (pathOf cs) (pathOf (cs ++ x :: t)) = .lt := by
  by_cases hcs : cs = []
  · subst hcs
    exact C11.root_lt_pathOf h
  · obtain ⟨cs', y, rfl⟩ : ∃ cs' y, cs = cs' ++ [y] :=
      ⟨cs.dropLast, cs.getLast hcs, (List.dropLast_concat_getLast hcs).symm⟩
    have h2 : GoodComps (cs' ++ y :: x :: t) := by simpa using h
    have := apathCmp_child_deeper (cs := cs') (x := y) (y := y) (z := x) (t := t)
      (by
        intro c hc
        apply h2 c
        rcases List.mem_append.1 hc with h' | h'
        · exact List.mem_append_left _ h'
        · exact List.mem_append_right _ (by simpa using Or.inl (List.mem_singleton.1 h')))
      h2
    simpa using this

theorem belowSymlink_of_mem {syms : List Str} {p a : Str} (hp : p ∈ syms) (hv : isValid p = true)
    (ha : isValid a = true) (hroot : components p ≠ []) (hpre : components p <+: components a)
    (hne : components p ≠ components a) : belowSymlink syms a = true := by
  unfold belowSymlink
  refine List.any_eq_true.2 ⟨p, hp, ?_⟩
  have h1 : p ≠ [slash] := fun e => hroot (by rw [e]; rfl)
  have h2 : p ≠ a := fun e => hne (by rw [e])
  have h3 : isPrefixOfImpl p a = true := by
    rw [C12.prefix_iff_ancestor p a hv ha]
    exact List.isPrefixOf_iff_prefix.2 hpre
  simp [h1, h2, h3]

theorem belowSymlink_mono {l l' : List Str} {a : Str} (hsub : ∀ s ∈ l, s ∈ l')
    (h : belowSymlink l' a = false) : belowSymlink l a = false := by
  cases hb : belowSymlink l a with
  | false => rfl
  | true =>
    unfold belowSymlink at hb
    obtain ⟨p, hp, hc⟩ := List.any_eq_true.1 hb
    have : belowSymlink l' a = true := List.any_eq_true.2 ⟨p, hsub p hp, hc⟩
    rw [h] at this; cases this

theorem guardedFrom_split : ∀ (pre : List RNode) (syms : List Str) (n : RNode) (post : List RNode),
    guardedFrom syms (pre ++ n :: post) →
    ∀ s, (s ∈ syms ∨ ∃ m ∈ pre, m.kind = .symlink ∧ m.apath = s) → belowSymlink [s] n.apath = false := by
  intro pre
  induction pre with
  | nil =>
    intro syms n post h s hs
    rcases hs with hs | ⟨m, hm, _⟩
    · exact belowSymlink_mono (fun x hx => by rw [List.mem_singleton.1 hx]; exact hs) h.1
    · cases hm
  | cons a pre ih =>
    intro syms n post h s hs
    refine ih _ n post h.2 s ?_
    rcases hs with hs | ⟨m, hm, hk, e⟩
    · left
      by_cases hk : a.kind = .symlink
      · rw [if_pos hk]; exact List.mem_cons_of_mem _ hs
      · rw [if_neg hk]; exact hs
    · rcases List.mem_cons.1 hm with rfl | hm
      · left; rw [if_pos hk, ← e]; exact List.mem_cons_self
      · exact Or.inr ⟨m, hm, hk, e⟩

theorem guardedFrom_at {syms : List Str} {pre post : List RNode} {m n : RNode}
    (h : guardedFrom syms (pre ++ n :: post)) (hm : m ∈ pre) (hk : m.kind = .symlink)
    (hvm : isValid m.apath = true) (hvn : isValid n.apath = true) (hroot : comps m ≠ [])
    (hpre : comps m <+: comps n) : comps m = comps n := by
  apply Classical.byContradiction
  intro hne
  have h1 := guardedFrom_split pre syms n post h m.apath (Or.inr ⟨m, hm, hk, rfl⟩)
  have h2 := belowSymlink_of_mem (syms := [m.apath]) List.mem_cons_self hvm hvn hroot hpre hne
  rw [h1] at h2; cases h2

theorem pairwise_of_forall_split {α : Type} {R : α → α → Prop} : ∀ {l : List α},
    (∀ pre n post, l = pre ++ n :: post → ∀ m ∈ pre, R m n) → l.Pairwise R
  | [], _ => List.Pairwise.nil
  | m :: rest, h =>
    List.pairwise_cons.2 ⟨fun n hn => by
      obtain ⟨pre, post, e⟩ := List.append_of_mem hn
      exact h (m :: pre) n post (by rw [e]; rfl) m List.mem_cons_self,
    pairwise_of_forall_split fun pre n post e m' hm' =>
      h (m :: pre) n post (by rw [e]; rfl) m' (List.mem_cons_of_mem _ hm')⟩

theorem guardedFrom_no_later_below (nodes : List RNode) (syms : List Str) (h : guardedFrom syms nodes)
    (hv : ∀ n ∈ nodes, isValid n.apath = true) :
    nodes.Pairwise fun m n => m.kind = .symlink → comps m ≠ [] → comps m <+: comps n →
      comps m = comps n :=
  pairwise_of_forall_split fun pre n post e m hm hk hroot hpre => by
    subst e
    exact guardedFrom_at h hm hk (hv m (List.mem_append_left _ hm))
      (hv n (List.mem_append_right _ List.mem_cons_self)) hroot hpre

theorem confinableL_of_guarded {nodes : List RNode} (hg : guardedFrom [] nodes)
    (hv : ∀ n ∈ nodes, isValid n.apath = true)
    (hs : nodes.Pairwise fun a b => apathCmp a.apath b.apath = .lt) : ConfinableL nodes := by
  refine ⟨hv, comps_distinct_of_sorted hv hs, ?_⟩
  intro m hm n hn hroot hpre hne hk
  -- `m` sorts before `n`, so it comes earlier in the list
  obtain ⟨t, ht⟩ := hpre
  have hlt : apathCmp m.apath n.apath = .lt := by
    obtain ⟨hgm, em⟩ := valid_eq_pathOf (hv m hm)
    obtain ⟨hgn, en⟩ := valid_eq_pathOf (hv n hn)
    cases t with
    | nil => exact absurd (by simpa using ht) hne
    | cons x t =>
      rw [em, en]
      show apathCmp (pathOf (comps m)) (pathOf (comps n)) = .lt
      rw [← ht]
      exact ancestor_lt (by rw [ht]; exact hgn)
  have hlater := guardedFrom_no_later_below nodes [] hg hv
  -- position of m and n
  have key : ∀ (l : List RNode), l.Pairwise (fun a b => apathCmp a.apath b.apath = .lt) →
      l.Pairwise (fun m n => m.kind = .symlink → comps m ≠ [] → comps m <+: comps n → comps m = comps n) →
      m ∈ l → n ∈ l → False := by
    intro l
    induction l with
    | nil => intro _ _ hm'; cases hm'
    | cons a l ih =>
      intro hs' hl' hm' hn'
      obtain ⟨hsa, hsl⟩ := List.pairwise_cons.1 hs'
      obtain ⟨hla, hll⟩ := List.pairwise_cons.1 hl'
      rcases List.mem_cons.1 hm' with em | hm'' <;> rcases List.mem_cons.1 hn' with en | hn''
      · rw [em, en] at hne; exact hne rfl
      · subst em
        exact hne (hla n hn'' hk hroot ⟨t, ht⟩)
      · subst en
        have := hsa m hm''
        exact C11.cmp_irrefl _ (C11.cmp_trans this hlt)
      · exact ih hsl hll hm'' hn''
  exact key nodes hs hlater hm hn

theorem GuardedOut.valid {syms : List Str} {es : List IndexEntry} {nodes : List RNode}
    (h : GuardedOut syms es nodes) (hv : ∀ e ∈ es, isValid e.apath = true) :
    ∀ n ∈ nodes, isValid n.apath = true := by
  intro n hn
  obtain ⟨e, he, hk⟩ := List.mem_map.1 (h.2.subset (List.mem_map.2 ⟨n, hn, rfl⟩))
  have : e.apath = n.apath := congrArg Prod.fst hk
  rw [← this]; exact hv e he

theorem guardedOut_confinableL {es : List IndexEntry} {nodes : List RNode}
    (hv : ∀ e ∈ es, isValid e.apath = true)
    (hs : es.Pairwise fun a b => apathCmp a.apath b.apath = .lt) (h : GuardedOut [] es nodes) :
    ConfinableL nodes := by
  have hv' := h.valid hv
  obtain ⟨hg, hsub⟩ := h
  have hs' : nodes.Pairwise fun a b => apathCmp a.apath b.apath = .lt := by
    have h1 : (es.map entryKey).Pairwise fun a b => apathCmp a.1 b.1 = .lt :=
      List.pairwise_map.2 hs
    have h2 := h1.sublist hsub
    exact List.pairwise_map.1 h2
  exact confinableL_of_guarded hg hv' hs'

end Conserve
