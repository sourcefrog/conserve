import ConserveModel.Proofs.ConformsLoop
/-
C13: how one source entry moves the loop invariant on, and the loop invariant as an instance of the
walk over the main part of `backup()` (`ciLoop`; the walk: Proofs/BackupLoop.lean).  No property statements here.
-/
namespace Conserve.Conf
open Conserve Conserve.Inv Prog

section
variable {H : Str → Str}

theorem LoopSt.step {o : BackupOpts} {sf : SrcEntry} {todo : List SrcEntry} {hs : List (List IndexEntry)}
    {s s1 : Store} {wr wr1 : Writer} (hst : LoopSt H (sf :: todo) hs s wr) (hsrc : SrcOK (sf :: todo))
    (hwr1 : W2 H s1 wr1) (hsame : NonBlockSame s s1) (hx : Extends s s1)
    (hstep : StepOf o sf wr wr1) : LoopSt H todo hs s1 wr1 := by
  obtain ⟨xs, hxs, hb⟩ := hstep
  exact ⟨hwr1, by rw [hb.band]; exact hst.band.same (hsame.bandKeys _), hst.hsok.mono hx,
    by rw [hst.len, hb.seq], by rw [hb.hw, hb.seq]; exact hst.count, hst.buf.step hsrc hxs hb.perm⟩

theorem LoopSt.setStats {todo : List SrcEntry} {hs : List (List IndexEntry)} {s : Store} {wr : Writer}
    (hst : LoopSt H todo hs s wr) (st : Stats) : LoopSt H todo hs s { wr with stats := st } :=
  ⟨hst.wok.setStats st, hst.band, hst.hsok, hst.len, hst.count, hst.buf⟩

/-- What `copy_entry` needs of the basis entry: a FILE entry's addresses resolve. -/
def MatchedAddr (H : Str → Str) (s : Store) (basis : Option IndexEntry) : Prop :=
  ∀ b, basis = some b → b.kind = .file → ∀ a ∈ b.addrs, (readAddrPure H s a).isSome = true

/-- C13 as an instance of the walk: the triple is `CSat`; the writer invariant is the loop invariant
`LoopSt` for some list of hunks written, with what is left of the source strictly increasing.  So
the archive conforms when `backup()` ends, whatever happened (and, every crash point being the end of
some world's run, at every point in between). -/
theorem ciLoop (hinj : Function.Injective H) (hlen : HashLen H) (o : BackupOpts) :
    LoopInvW H o (CFrame H) (fun todo w wr => SrcOK todo ∧ ∃ hs, LoopSt H todo hs w.store wr)
      (fun w basis _ => MatchedAddr H w.store basis) where
  frame := ⟨fun _ _ _ => CFrame.trans, fun h => CFrame.refl h.wok, fun ev h => ⟨h.wok.events ev, h.ext⟩⟩
  carry hr hm := fun b hb hk a ha => readAddrPure_isSome_mono H hr.ext (hm b hb hk a ha)
  events _ h := h
  setStats st := fun ⟨hsrc, hs, hst⟩ => ⟨hsrc, hs, hst.setStats st⟩
  copyEntry wr basis sf hw := fun ⟨hsrc, hs, hst⟩ hm =>
    (copyEntry_csat hinj hlen o wr basis sf _ hw.wok hst.wok hm).mono
      fun _ _ hf1 ⟨hwr1, hsame, hstep⟩ => ⟨hsrc.tail, hs, hst.step hsrc hwr1 hsame hf1.ext hstep⟩
  flushGroup wr hw := fun ⟨hsrc, hs, hst⟩ =>
    (flushGroup_csat hinj hlen wr _ _ hs hw.wok hst).mono fun _ _ _ ⟨hs2, hst2, _, _⟩ => ⟨hsrc, hs2, hst2⟩
  -- the tail records the number of hunks, which `LoopSt` counts
  close wr hw := fun ⟨_, hs, hst⟩ => by
    have hci := exec_write_tail hw.wok.ci hw.wok.enforce hst.band hst.hsok
    rw [hst.len, ← hst.count] at hci
    exact (CSat.performUnit hw.wok (createOnly_write _ _) hci).mono fun _ _ _ _ => trivial

end

end Conserve.Conf
