import ConserveModel.Proofs.ProtocolEffect
/-
The invariants of the protocol skeleton, group 5 (the backup's own band under one of
the safe orders of `c06_partial`): they hold at the
start and are preserved by both step functions.  The clauses are defined in Proofs/ProtocolInv.lean; how
preservation is proved is said there.  Also what groups 5 and 6 share: the preservation of
`SnapshotBody` and `NewSafeBody`, and `Spared`.
-/
namespace Conserve.Proto

theorem Inv5.start (c : Config) : Inv5 c c.start := by
  constructor <;>
    simp [Config.start, isNew, BPc.mkdirDone, Snapshot, NewSafe, LockedOut]

section
variable {c : Config} {p q : State}

/-- The backup does not count on block `g0`: its band does not refer to it, and if it needs it, it
does not believe it to exist. -/
structure Spared (p : State) (g0 : Nat) : Prop where
  band : ∀ b ∈ p.bands, isNew p b → g0 ∉ b.refs
  snapshot : p.b.pc = .blocks → g0 ∈ p.b.needed → g0 ∉ p.b.exists_

/-- The backup's `exists` set is what it saw listed plus what it wrote itself. -/
theorem SnapshotBody.presB (hs : StepB p q) (h : SnapshotBody p) : SnapshotBody q := by
  unfold SnapshotBody at *
  cases hs with
  | listBlocks => exact fun _ g _ hg => hg
  | block_rewrite hpc g0 rest _ _ hp =>
    exact fun _ g hg he => (List.mem_cons.mp he).elim (· ▸ hp) (h hpc g hg)
  | block_write hpc g0 rest _ _ _ =>
    exact fun _ g hg he => (List.mem_cons.mp he).elim (· ▸ List.mem_cons_self)
      fun he => List.mem_cons_of_mem _ (h hpc g hg he)
  | _ => frame_pc h

/-- The own band gets its references at `B.hunk`: all needed, none left to do, so known to `exists`. -/
theorem NewSafeBody.presB (hs : StepB p q) (hbel : Below p) (hh : Handled p) (hsn : SnapshotBody p)
    (h : NewSafeBody p) : NewSafeBody q := by
  intro b' hb' hn g hg
  apply hs.present_mono
  cases hs.own_band hbel hb' hn with
  | created _ hr _ => rw [hr] at hg; cases hg
  | same b hb hnb _ hr _ _ => exact h b hb hnb g (hr ▸ hg)
  | hunk b hb hnb hpc htodo _ hr _ =>
    rw [hr] at hg
    exact hsn hpc g hg ((hh hpc g hg).resolve_left (by simp [htodo]))
  | tail b hb hnb _ _ hr => exact h b hb hnb g (hr ▸ hg)

theorem SnapshotBody.presG (hs : StepG p q) (h : SnapshotBody p) (hsp : ∀ g0, RmBlock p q g0 → Spared p g0) :
    SnapshotBody q := by
  intro hpc g hg he
  rw [hs.b_eq] at hpc hg he
  exact (hs.present_kept (h hpc g hg he)).resolve_right fun hr => (hsp g hr).snapshot hpc hg he

theorem NewSafeBody.presG (hs : StepG p q) (h : NewSafeBody p) (hsp : ∀ g0, RmBlock p q g0 → Spared p g0) :
    NewSafeBody q := by
  intro b hb hn g hg
  have hn' := hs.isNew_iff.mp hn
  have hb' := hs.bands_sub hb
  exact (hs.present_kept (h b hb' hn' g hg)).resolve_right fun hr => (hsp g hr).band b hb' hn' hg

/-- Why a removal is harmless under each of the safe orders. -/
theorem RmBlock.spares {g0 : Nat} (hr : RmBlock p q g0) (hl : SafeLog c q.log) (h1 : Inv1 c p) (h2 : Inv2 c p)
    (h3 : Inv3 c p) (h4 : Inv4 c p) (h5 : Inv5 c p) : Spared p g0 := by
  obtain ⟨hpc, htb, hg0, hlog⟩ := hr
  rw [hlog] at hl
  have hu := h1.todoBlocks g0 hg0
  rcases h4.checkLemma (h1.sweepPassed hpc) with hw | ⟨hd, hcl⟩
  rotate_left
  · -- the backup had finished when gc looked at the newest band: gc kept what its band refers to
    refine ⟨fun b hb hn hg => ?_, fun hb => by rw [hd] at hb; cases hb⟩
    rcases hcl b hb hn with hin | hnu
    · rw [htb] at hin; cases hin
    · exact hnu g0 hg hu
  -- `check()` passed before `B.mkdir`
  have early (hm : p.b.pc.mkdirDone = false) : Spared p g0 :=
    ⟨fun b _ hn => (by rw [hn.1] at hm; cases hm), fun hb => by rw [hb] at hm; cases hm⟩
  rcases hl with hl | hl | hl | hl
  · rw [mkdirBeforeCheck_cons_of_ne _ (by simp), hw] at hl; cases hl
  · -- the backup saw the lock and refused
    rw [lockWriteBeforeLockCheck_cons_of_ne _ (by simp)] at hl
    apply early
    by_cases ha : p.b.pc = .lockCheck
    · rw [ha]; rfl
    by_cases hb : p.b.pc = .refused
    · rw [hb]; rfl
    have := h5.lockedOut hl ha hb
    rw [hpc] at this; cases this
  · -- `g0` is garbage, so not needed
    have hn : g0 ∉ p.b.needed := fun hn =>
      hl g0 (h1.needed ▸ hn) ⟨h4.windowUnref hw g0 hu, h3.unrefOld g0 hu⟩
    exact ⟨fun b hb hnb hg => hn ((h2.newBand b hb hnb).2.1 g0 hg), fun _ h => absurd h hn⟩
  · -- the backup has not listed the blocks yet
    have hnl : Ev.bListBlocks ∉ p.log := by simp [Ev.isRmBlock] at hl; exact hl.2
    have hpcs : ¬(p.b.pc = .blocks ∨ p.b.pc = .tail ∨ p.b.pc = .done) := fun h => hnl (h1.logListBlocks h)
    refine ⟨fun b hb hn hg => ?_, fun hb => absurd (.inl hb) hpcs⟩
    rcases (h2.newBand b hb hn).1 with hr | hr
    · rw [hr] at hg; cases hg
    · exact hpcs (.inr hr)

theorem Snapshot.presB (hs : StepB p q) (h : Inv5 c p) : Snapshot c q :=
  fun hl => SnapshotBody.presB hs (h.snapshot (hs.safeLog hl))

theorem Snapshot.presG (hs : StepG p q) (h1 : Inv1 c p) (h2 : Inv2 c p) (h3 : Inv3 c p) (h4 : Inv4 c p)
    (h : Inv5 c p) : Snapshot c q :=
  fun hl => SnapshotBody.presG hs (h.snapshot (hs.safeLog hl)) fun _ hr => hr.spares hl h1 h2 h3 h4 h

theorem NewSafe.presB (hs : StepB p q) (h2 : Inv2 c p) (h4 : Inv4 c p) (h : Inv5 c p) : NewSafe c q :=
  fun hl => have hl' := hs.safeLog hl
    NewSafeBody.presB hs h2.below h4.handled (h.snapshot hl') (h.newSafe hl')

theorem NewSafe.presG (hs : StepG p q) (h1 : Inv1 c p) (h2 : Inv2 c p) (h3 : Inv3 c p) (h4 : Inv4 c p)
    (h : Inv5 c p) : NewSafe c q :=
  fun hl => NewSafeBody.presG hs (h.newSafe (hs.safeLog hl)) fun _ hr => hr.spares hl h1 h2 h3 h4 h

/-- The backup passes `B.lockCheck` after `G.lockWrite` only if the lock is gone again. -/
theorem LockedOut.presB (hs : StepB p q) (h1 : Inv1 c p) (h : Inv5 c p) : LockedOut q := by
  have g3 := h.lockedOut
  unfold LockedOut at *
  cases hs with
  | lockCheck_refused => exact fun _ _ h => absurd rfl h
  | lockCheck hpc hl =>
    intro hlw _ _
    have : Ev.gLockWrite ∈ p.log := by simp at hlw; exact hlw.2
    rcases h1.logLockWrite this with hk | hf
    · rw [h1.lock hk] at hl; cases hl
    · exact hf
  | fin => exact g3
  | _ =>
    have hpc := ‹BSt.pc _ = _›
    exact fun hl _ _ => g3 ((lockWriteBeforeLockCheck_cons_of_ne _ (by nofun)).symm.trans hl)
      (by rw [hpc]; nofun) (by rw [hpc]; nofun)

theorem LockedOut.presG (hs : StepG p q) (h : Inv5 c p) : LockedOut q := by
  intro hl ha hb
  rw [hs.lockWriteBeforeLockCheck_eq] at hl; rw [hs.b_eq] at ha hb
  have := h.lockedOut hl ha hb
  obtain rfl := hs.eq_of_fin this
  exact this

theorem Inv5.presB (hs : StepB p q) (h1 : Inv1 c p) (h2 : Inv2 c p) (h4 : Inv4 c p) (h : Inv5 c p) : Inv5 c q :=
  ⟨Snapshot.presB hs h, NewSafe.presB hs h2 h4 h, LockedOut.presB hs h1 h⟩

theorem Inv5.presG (hs : StepG p q) (h1 : Inv1 c p) (h2 : Inv2 c p) (h3 : Inv3 c p) (h4 : Inv4 c p) (h : Inv5 c p) :
    Inv5 c q :=
  ⟨Snapshot.presG hs h1 h2 h3 h4 h, NewSafe.presG hs h1 h2 h3 h4 h, LockedOut.presG hs h⟩

end

end Conserve.Proto
