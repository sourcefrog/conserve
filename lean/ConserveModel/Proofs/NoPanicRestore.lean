import ConserveModel.Proofs.NoPanicRead
import ConserveModel.Proofs.FsGuard
/-
No panic in restore and validate (property C10): walked with any operation admitted (`O = ⊤`), the
readers' walks of Proofs/Footprint.lean put in.  No property statements here.
-/
namespace Conserve.NP
open Conserve Prog

variable {Z : Prop}

section
variable (H : Str → Str)

/-- The only panic of `restore` is the loop's, on a listed entry whose time is out of range; the listing
is usable. -/
theorem restore_tree (sel : BandSelection) (subtree : Str) (excl : Str → Bool) :
    Tree (fun _ => True) Z (fun _ => True) (restore H sel subtree excl) := by
  unfold restore
  refine .bind (resolveBandId_tree sel).top fun b _ => .bind (bandOpen_tree trivial) fun _ _ =>
    .bind listBlocks_tree.top fun _ _ => .bind (listEntries_tree b subtree excl).top fun es hes =>
      (restoreEntries_tree H es [] fun e he ht => ?_).imp fun _ _ => trivial
  obtain ⟨t, h⟩ := usable_time (hes e he)
  exact nomatch h.symm.trans ht

theorem validateBlocks_tree (hs : List Str) : Tree (fun _ => True) Z (fun _ => True) (validateBlocks H hs) := by
  induction hs with
  | nil => exact .ret trivial
  | cons h hs ih =>
    unfold validateBlocks
    refine .bind (getBlockContent_tree H h) fun r _ => ?_
    split
    · exact .bind ih fun _ _ => .ret trivial
    · exact .bind (.report _) fun _ _ => ih

end

theorem validateBands_tree (bs : List Nat) (m : List (Str × Nat)) :
    Tree (fun _ => True) Z (fun _ => True) (validateBands bs m) := by
  induction bs generalizing m with
  | nil => exact .ret trivial
  | cons b bs ih =>
    have skip : ∀ e, Tree (fun _ => True) Z (fun _ => True) ((logError e).bind fun _ => validateBands bs m) :=
      fun _ => .bind (.report _) fun _ _ => ih _
    -- `open_stored_tree`, after the directory check
    have listed : Tree (fun _ => True) Z (fun _ => True) ((bandOpen b).attempt.bind fun r =>
        match r with
        | .error e => (logError e).bind fun _ => validateBands bs m
        | .ok () => (listEntries b [slash] fun _ => false).bind fun es => validateBands bs (entryLens m es)) := by
      refine .bind (bandOpen_tree trivial).attempt fun r _ => ?_
      split
      · exact skip _
      · exact .bind (listEntries_tree b _ _).top fun _ _ => ih _
    unfold validateBands
    refine .bind (bandOpen_tree trivial).attempt fun r _ => ?_
    split
    · exact skip _
    · refine .bind (.perform trivial) fun r _ => ?_
      split
      · exact skip _
      · exact .ite (.bind (.report _) fun _ _ => listed) listed
      · exact skip _

theorem forIn_tree {α : Type} (xs : List α) (f : α → Unit → Prog (ForInStep Unit))
    (hf : ∀ a u, Tree (fun _ => True) Z (fun _ => True) (f a u)) :
    Tree (fun _ => True) Z (fun _ => True) (forIn xs () f) := by
  induction xs with
  | nil => exact .ret trivial
  | cons x xs ih =>
    rw [List.forIn_cons]
    refine .bind (hf x ()) fun r _ => ?_
    split
    · exact .ret trivial
    · exact ih

theorem validate_tree (H : Str → Str) (quick : Bool) :
    Tree (fun _ => True) Z (fun _ => True) (validate H quick) := by
  have note : ∀ e, Tree (fun _ => True) Z (fun _ => True)
      ((logError e).bind fun _ => Prog.ret (ForInStep.yield ())) := fun _ => .bind (.report _) fun _ _ => .ret trivial
  unfold validate
  simp only [Prog.bind_def, Prog.pure_def]
  refine .bind (.perform trivial) fun r _ => ?_
  split
  · exact .fail _
  refine .bind (listBandIds_tree trivial) fun bands _ => .bind (validateBands_tree _ _) fun referenced _ =>
    .bind listBlocks_tree.top fun present _ => ?_
  split
  · exact .bind (forIn_tree _ _ fun a u => .ite (note _) (.ret trivial)) fun _ _ => .ret trivial
  · refine .bind (validateBlocks_tree H _) fun lens _ => .bind (forIn_tree _ _ fun a u => ?_) fun _ _ => .ret trivial
    split
    · exact .ite (note _) (.ret trivial)
    · exact note _

end Conserve.NP
