import ConserveModel.Proofs.RunOps
import ConserveModel.Proofs.BackupEq
import ConserveModel.Gc
/-
Each function that `backup` and `delete_bands` are made of, walked once over every branch of its
program (`Prog.Tree O Z Q f`): the exact class `O` of storage operations it can issue whatever the
responses (its footprint), what it returns (`Q`: the index readers return only entries that pass
`IndexEntry::check`), and under which condition a `panic` leaf can be reached (a hypothesis `… → Z`;
`Z` is arbitrary where there is no such leaf).  `f_fp : AllOps O f` is `(f_tree ..).allOps`; that `f`
cannot panic is `(f_tree ..).safe` (Proofs/NoPanic*.lean).  Reads are described by the keys they look
at (`Rd K`), writes by small inductive classes with one constructor per shape of operation.  Every
coarser class a proof needs (`ReadOnly`, `WriterOp`, `BackupOp`, `FineOp`, …) follows by
`Prog.AllOps.mono` from an implication between classes of operations.  What a single run executes,
with knowledge of the values earlier steps returned, is `Prog.RunOps` (Proofs/RunOps.lean);
`AllOps.runOps` takes a footprint there.  No property statements here.
-/
namespace Conserve
open Prog

variable {Z : Prop}

theorem Prog.AllOps.logError {P : Op → Prop} (e : Err) : Prog.AllOps P (Prog.logError e) :=
  .emit _ (.ret ())

theorem Prog.AllOps.report {P : Op → Prop} (ev : Event) : Prog.AllOps P (Prog.report ev) :=
  .emit _ (.ret ())

theorem Prog.AllOps.attemptAll {α : Type} {P : Op → Prop} {p : Prog α}
    (hp : Prog.AllOps P p) : Prog.AllOps P p.attemptAll := by
  induction hp with
  | ret a => exact .ret _
  | fail e => exact .ret _
  | panic s => exact .ret _
  | emit ev _ ih => exact .emit ev ih
  | op ho _ ih => exact .op ho ih

theorem unwrapOr_tree {α : Type} {O : Op → Prop} {Q : α → Prop} {p : Prog α} (d : α) (h : Tree O Z Q p) :
    Tree O Z (fun _ => True) (unwrapOr p d) := by
  unfold unwrapOr
  refine .bind h.attempt fun r _ => ?_
  split <;> exact .ret trivial

theorem performUnit_tree {O : Op → Prop} {o : Op} (h : O o) : Tree O Z (fun _ => True) (performUnit o) := by
  unfold performUnit
  refine .bind (.perform h) fun r _ => ?_
  split <;> first | exact .ret trivial | exact .fail _

theorem performUnit_allOps {P : Op → Prop} {o : Op} (h : P o) : AllOps P (performUnit o) :=
  (performUnit_tree h).allOps

/-- A unit-returning operation with `?`, for any frame that admits the step it takes. -/
theorem Prog.Framed.performUnit {R : World → World → Prop} {o : Op} {w : World} (h1 : R w (w.exec o).1)
    (hr : R (w.exec o).1 (w.exec o).1) (ht : ∀ a b c, R a b → R b c → R a c) :
    Framed R (performUnit o) w (fun _ w' => w' = (w.exec o).1 ∧ (w.exec o).2 = .unit) := by
  unfold Conserve.performUnit Prog.perform
  simp only [Prog.bind_def, Prog.op_bind, Prog.ret_bind]
  refine .op h1 (fun r hr' => ?_) ht
  cases r <;> first | exact .ret hr ⟨rfl, hr'.symm⟩ | exact .fail hr

/-- A read (`read`, `listDir` or `metadata`) of a key in `K`. -/
def Rd (K : Key → Prop) : Op → Prop
  | .read k | .listDir k | .metadata k => K k
  | _ => False

/-- The keys inside a version's directory: what reading an index looks at. -/
def Key.inBand : Key → Prop
  | .bandHead _ | .bandTail _ | .indexDir _ | .hunkDir _ _ | .hunk _ _ => True
  | _ => False

/-- The block directory, its sub-directories and the blocks: what `listBlocks` looks at. -/
def Key.inBlocks : Key → Prop
  | .blockRoot | .blockDir _ | .block _ => True
  | _ => False

theorem Rd.readOnly {K : Key → Prop} {o : Op} (h : Rd K o) : ReadOnly o := by
  cases o <;> first | trivial | exact h

theorem Rd.mono {K K' : Key → Prop} (hk : ∀ k, K k → K' k) {o : Op} (h : Rd K o) : Rd K' o := by
  cases o <;> first | exact hk _ h | exact h

theorem Prog.AllOps.of_rd {α : Type} {K : Key → Prop} {P : Op → Prop} {p : Prog α} (hr : ∀ o, ReadOnly o → P o)
    (h : AllOps (Rd K) p) : AllOps P p :=
  h.mono fun _ h => hr _ h.readOnly

theorem Prog.Tree.of_rd {α : Type} {K : Key → Prop} {P : Op → Prop} {Q : α → Prop} {p : Prog α}
    (hr : ∀ o, ReadOnly o → P o) (h : Tree (Rd K) Z Q p) : Tree P Z Q p :=
  h.ops fun _ h => hr _ h.readOnly

theorem Prog.AllOps.rd_ro {α : Type} {K : Key → Prop} {p : Prog α} (h : AllOps (Rd K) p) : AllOps ReadOnly p :=
  h.of_rd fun _ h => h

/-! The readers that issue one operation, for any class that admits it. -/
section
variable {O : Op → Prop} {K : Key → Prop}

theorem isFile_tree {k : Key} (h : O (.metadata k)) : Tree O Z (fun _ => True) (isFile k) := by
  unfold isFile
  refine .bind (.perform h) fun r _ => ?_
  split <;> first | exact .ret trivial | exact .fail _

theorem isFile_fp {k : Key} (hk : K k) : AllOps (Rd K) (isFile k) := (isFile_tree hk).allOps

theorem archiveOpen_tree (h : O (.read .header)) : Tree O Z (fun _ => True) archiveOpen := by
  unfold archiveOpen
  refine .bind (.perform h) fun r _ => ?_
  split <;> first | exact .ret trivial | exact .fail _ | (split <;> first | exact .ret trivial | exact .fail _)

theorem listBandIds_tree (h : O (.listDir .root)) : Tree O Z (fun _ => True) listBandIds := by
  unfold listBandIds
  refine .bind (.perform h) fun r _ => ?_
  split <;> first | exact .ret trivial | exact .fail _

theorem listBandIds_fp (hk : K .root) : AllOps (Rd K) listBandIds := (listBandIds_tree hk).allOps

theorem lastBandId_tree (h : O (.listDir .root)) : Tree O Z (fun _ => True) lastBandId :=
  .bind (listBandIds_tree h) fun _ _ => .ret trivial

theorem lastBandId_fp (hk : K .root) : AllOps (Rd K) lastBandId := (lastBandId_tree hk).allOps

theorem gcLockListed_tree (h : O (.listDir .root)) : Tree O Z (fun _ => True) gcLockListed := by
  unfold gcLockListed
  refine .bind (.perform h) fun r _ => ?_
  split <;> first | exact .ret trivial | exact .fail _

theorem gcLockCheck_tree (h : O (.listDir .root)) (held : Option Nat) :
    Tree O Z (fun _ => True) (gcLockCheck held) := by
  unfold gcLockCheck
  refine .bind (lastBandId_tree h) fun r _ => ?_
  split <;> first | exact .ret trivial | exact .fail _

theorem gcLockCheck_fp (hk : K .root) (held : Option Nat) : AllOps (Rd K) (gcLockCheck held) :=
  (gcLockCheck_tree hk held).allOps

theorem bandOpen_tree {b : Nat} (h : O (.read (.bandHead b))) : Tree O Z (fun _ => True) (bandOpen b) := by
  unfold bandOpen
  refine .bind (.perform h) fun r _ => ?_
  repeat' split
  all_goals first | exact .ret trivial | exact .fail _

theorem bandOpen_fp {b : Nat} (hk : K (.bandHead b)) : AllOps (Rd K) (bandOpen b) := (bandOpen_tree hk).allOps

end

theorem listBlocks_go_tree (ps acc : List Str) :
    Tree (Rd Key.inBlocks) Z (fun _ => True) (listBlocks.go ps acc) := by
  induction ps generalizing acc with
  | nil => exact .ret trivial
  | cons p ps ih =>
    unfold listBlocks.go
    refine .bind (.perform trivial) fun r _ => ?_
    split <;> first | exact ih _ | exact .fail _

theorem listBlocks_tree : Tree (Rd Key.inBlocks) Z (fun _ => True) listBlocks := by
  unfold listBlocks
  refine .bind (.perform trivial) fun r _ => ?_
  split <;> first | exact listBlocks_go_tree _ _ | exact .fail _

theorem listBlocks_fp : AllOps (Rd Key.inBlocks) listBlocks := listBlocks_tree.allOps

theorem hunksAvailable_go_tree (b : Nat) (ds acc : List Nat) :
    Tree (Rd Key.inBand) Z (fun _ => True) (hunksAvailable.go b ds acc) := by
  induction ds generalizing acc with
  | nil => exact .ret trivial
  | cons d ds ih =>
    unfold hunksAvailable.go
    refine .bind (.perform trivial) fun r _ => ?_
    split <;> first | exact ih _ | exact .fail _

theorem hunksAvailable_tree (b : Nat) : Tree (Rd Key.inBand) Z (fun _ => True) (hunksAvailable b) := by
  unfold hunksAvailable
  refine .bind (.perform trivial) fun r _ => ?_
  split <;> first | exact hunksAvailable_go_tree _ _ _ | exact .fail _

theorem hunksAvailable_fp (b : Nat) : AllOps (Rd Key.inBand) (hunksAvailable b) := (hunksAvailable_tree b).allOps

theorem iterAvailableHunks_tree (hz : Z) (b : Nat) :
    Tree (Rd Key.inBand) Z (fun _ => True) (iterAvailableHunks b) := by
  unfold iterAvailableHunks
  refine .bind (hunksAvailable_tree b).attempt fun r _ => ?_
  split <;> first | exact .ret trivial | exact .panic _ hz

theorem iterAvailableHunks_fp (b : Nat) : AllOps (Rd Key.inBand) (iterAvailableHunks b) :=
  (iterAvailableHunks_tree trivial b).allOps

namespace NP

/-- Every entry passes `IndexEntry::check`. -/
def AllUsable (es : List IndexEntry) : Prop := ∀ e ∈ es, entryUsable e = true

theorem AllUsable.nil : AllUsable [] := fun _ h => nomatch h

theorem AllUsable.append {xs ys : List IndexEntry} (hx : AllUsable xs) (hy : AllUsable ys) :
    AllUsable (xs ++ ys) := fun e he => by
  rcases List.mem_append.mp he with h | h
  · exact hx e h
  · exact hy e h

theorem AllUsable.sub {xs ys : List IndexEntry} (hy : AllUsable ys) (h : ∀ e ∈ xs, e ∈ ys) :
    AllUsable xs := fun e he => hy e (h e he)

theorem allUsable_iff (es : List IndexEntry) : AllUsable es ↔ es.all entryUsable = true := by
  simp [AllUsable, List.all_eq_true]

theorem usable_valid {e : IndexEntry} (h : entryUsable e = true) : isValid e.apath = true := by
  simp only [entryUsable, Bool.and_eq_true] at h
  exact h.1.1.1.1

theorem usable_time {e : IndexEntry} (h : entryUsable e = true) :
    ∃ t, entryTimeNs e.mtime e.mtimeNanos = some t := by
  simp only [entryUsable, Bool.and_eq_true] at h
  exact Option.isSome_iff_exists.mp h.1.1.1.2

end NP

open NP in
/-- `IndexRead::read_hunk` returns only entries that pass `IndexEntry::check` — whatever the
storage answers. -/
theorem readHunk_tree (b n : Nat) :
    Tree (Rd Key.inBand) Z (fun r => ∀ es, r = some es → AllUsable es) (readHunk b n) := by
  unfold readHunk
  refine .bind (.perform trivial) fun r _ => ?_
  split
  · exact .ret fun _ h => nomatch h
  · exact .fail _
  · split
    · rename_i hall
      exact .ret fun _ h => Option.some.inj h ▸ (allUsable_iff _).mpr hall
    · exact .fail _
  · exact .ret fun _ h => Option.some.inj h ▸ AllUsable.nil
  · exact .fail _
  · exact .fail _

theorem readHunk_fp (b n : Nat) : AllOps (Rd Key.inBand) (readHunk b n) := (readHunk_tree b n).allOps

open NP in
theorem readHunks_tree (b : Nat) (ns : List Nat) (after last : Option Str) :
    Tree (Rd Key.inBand) Z (fun r => AllUsable r.1) (readHunks b ns after last) := by
  induction ns generalizing after last with
  | nil => exact .ret AllUsable.nil
  | cons n rest ih =>
    have hcat : ∀ {part : List IndexEntry} {a l}, AllUsable part → Tree (Rd Key.inBand) Z (fun r => AllUsable r.1)
        ((readHunks b rest a l).bind fun x => Prog.ret (part ++ x.1, x.2)) :=
      fun hp => .bind (ih _ _) fun _ hx => .ret (hp.append hx)
    unfold readHunks
    simp only [Prog.bind_def, Prog.pure_def, logError, Prog.emit_bind, Prog.ret_bind]
    refine .bind (readHunk_tree b n).attempt fun r hr => ?_
    -- every branch ends, logs and goes on, goes on, or goes on and prepends
    split
    · exact .ret AllUsable.nil
    · exact .emit _ (ih _ _)
    · rename_i es
      have hes : AllUsable es := hr _ rfl es rfl
      split
      · exact .ite (ih _ _) (.ite (hcat hes) (hcat (hes.sub fun e he => (List.dropWhile_sublist _).subset he)))
      · exact .ite (ih _ _) (hcat hes)

theorem hunkLengths_go_tree (b : Nat) (ds : List Nat) (acc : List (Nat × Bool)) :
    Tree (Rd Key.inBand) Z (fun _ => True) (hunkLengths.go b ds acc) := by
  induction ds generalizing acc with
  | nil => exact .ret trivial
  | cons d ds ih =>
    unfold hunkLengths.go
    refine .bind (.perform trivial) fun r _ => ?_
    split <;> first | exact ih _ | exact .fail _

theorem hunkLengths_tree (b : Nat) : Tree (Rd Key.inBand) Z (fun _ => True) (hunkLengths b) := by
  unfold hunkLengths
  refine .bind (.perform trivial) fun r _ => ?_
  split <;> first | exact hunkLengths_go_tree _ _ _ | exact .fail _

theorem checkIndexHunks_tree (b : Nat) : Tree (Rd Key.inBand) Z (fun _ => True) (checkIndexHunks b) := by
  unfold checkIndexHunks
  simp only [Prog.bind_def, Prog.pure_def, Prog.fail_bind, Prog.ret_bind]
  refine .bind (hunkLengths_tree b) fun hunks _ => ?_
  split
  · exact .fail _
  · refine .bind (.perform trivial) fun r _ => ?_
    repeat' split
    all_goals first | exact .ret trivial | exact .fail _

open NP in
theorem readBand_tree (b : Nat) (last : Option Str) :
    Tree (Rd Key.inBand) Z (fun r => AllUsable r.1) (readBand b last) := by
  unfold readBand
  simp only [Prog.bind_def, Prog.pure_def, logError, Prog.emit_bind, Prog.ret_bind]
  refine .bind (bandOpen_tree trivial).attempt fun r _ => ?_
  split
  · exact .emit _ (.ret AllUsable.nil)
  · refine .bind (hunksAvailable_tree b).attempt fun r _ => ?_
    split
    · exact .emit _ (.ret AllUsable.nil)
    · refine .bind (checkIndexHunks_tree b).attempt fun r _ => ?_
      split
      · exact .emit _ (readHunks_tree _ _ _ _)
      · exact readHunks_tree _ _ _ _

theorem readBand_fp (b : Nat) (last : Option Str) : AllOps (Rd Key.inBand) (readBand b last) :=
  (readBand_tree b last).allOps

open NP in
theorem stitchDown_tree (b : Nat) (last : Option Str) : Tree (Rd Key.inBand) Z AllUsable (stitchDown b last) := by
  induction b generalizing last with
  | zero => exact .ret AllUsable.nil
  | succ b ih =>
    unfold stitchDown
    simp only [Prog.bind_def, Prog.pure_def]
    refine .bind (unwrapOr_tree _ (isFile_tree trivial)) fun r _ => ?_
    split
    · refine .bind (readBand_tree b last) fun x hx => .bind (unwrapOr_tree _ (isFile_tree trivial)) fun r _ => ?_
      split
      · exact .ret hx
      · exact .bind (ih _) fun _ hm => .ret (hx.append hm)
    · refine .bind (unwrapOr_tree _ (isFile_tree trivial)) fun r _ => ?_
      split
      · exact .bind (.report _) fun _ _ => ih _
      · exact ih _

theorem stitchDown_fp (b : Nat) (last : Option Str) : AllOps (Rd Key.inBand) (stitchDown b last) :=
  (stitchDown_tree b last).allOps

open NP in
theorem stitchAll_tree (b : Nat) : Tree (Rd Key.inBand) Z AllUsable (stitchAll b) := by
  unfold stitchAll
  refine .bind (readBand_tree b none) fun x hx => .bind (unwrapOr_tree _ (isFile_tree trivial)) fun r _ => ?_
  split
  · exact .ret hx
  · exact .bind (stitchDown_tree _ _) fun _ hm => .ret (hx.append hm)

theorem stitchAll_fp (b : Nat) : AllOps (Rd Key.inBand) (stitchAll b) := (stitchAll_tree b).allOps

/-- The exclusion filter's only panic is `Exclude::matches`' `assert!(is_valid)`. -/
theorem filterEntries_tree {O : Op → Prop} (subtree : Str) (excl : Str → Bool) (es : List IndexEntry)
    (hz : ∀ e ∈ es, isValid e.apath = false → Z) :
    Tree O Z (fun r => ∀ e ∈ r, e ∈ es) (filterEntries subtree excl es) := by
  induction es with
  | nil => exact .ret fun _ h => h
  | cons e es ih =>
    have ih' : Tree O Z (fun r => ∀ x ∈ r, x ∈ e :: es) (filterEntries subtree excl es) :=
      (ih fun x hx => hz x (List.mem_cons_of_mem _ hx)).imp fun r hr x hx => List.mem_cons_of_mem _ (hr x hx)
    unfold filterEntries
    split
    · exact ih'
    · split
      · rename_i hv
        exact .panic _ (hz e (List.mem_cons_self ..) (by simpa using hv))
      · split
        · exact ih'
        · exact .bind ih' fun _ hr => .ret fun x hx =>
            (List.mem_cons.mp hx).elim (· ▸ List.mem_cons_self ..) (hr x)

open NP in
/-- The listing is usable, so the filter's assertion holds of every entry it sees. -/
theorem listEntries_tree (b : Nat) (subtree : Str) (excl : Str → Bool) :
    Tree (Rd Key.inBand) Z AllUsable (listEntries b subtree excl) :=
  .bind (stitchAll_tree b) fun es hes =>
    (filterEntries_tree subtree excl es fun e he hv => nomatch hv.symm.trans (usable_valid (hes e he))).imp
      fun _ hr => hes.sub hr

theorem listEntries_fp (b : Nat) (subtree : Str) (excl : Str → Bool) :
    AllOps (Rd Key.inBand) (listEntries b subtree excl) := (listEntries_tree b subtree excl).allOps

open NP in
theorem bandHunkEntries_tree (strict : Bool) (b : Nat) (ns : List Nat) :
    Tree (Rd Key.inBand) Z AllUsable (bandHunkEntries strict b ns) := by
  induction ns with
  | nil => exact .ret AllUsable.nil
  | cons n ns ih =>
    unfold bandHunkEntries
    refine .bind (readHunk_tree b n).attempt fun r hr => ?_
    split
    · split <;> first | exact .fail _ | exact .ret AllUsable.nil
    · split <;> first | exact .fail _ | exact ih
    · exact .bind ih fun _ hm => .ret ((hr _ rfl _ rfl).append hm)

theorem bandHunkEntries_fp (strict : Bool) (b : Nat) (ns : List Nat) :
    AllOps (Rd Key.inBand) (bandHunkEntries strict b ns) := (bandHunkEntries_tree strict b ns).allOps

/-- The only panic is `iter_available_hunks`' `expect`, which the strict code does not call. -/
theorem referencedBlocks_tree {strict : Bool} (hz : strict = false → Z) (bs : List Nat) :
    Tree (Rd Key.inBand) Z (fun _ => True) (referencedBlocks strict bs) := by
  induction bs with
  | nil => exact .ret trivial
  | cons b bs ih =>
    have rest : ∀ hunks, Tree (Rd Key.inBand) Z (fun _ => True) ((bandHunkEntries strict b hunks).bind fun es =>
        (referencedBlocks strict bs).bind fun more =>
          .ret (dedupStr ((es.flatMap fun e => e.addrs.map (·.hash)) ++ more))) :=
      fun hunks => .bind (bandHunkEntries_tree strict b hunks) fun _ _ => .bind ih fun _ _ => .ret trivial
    unfold referencedBlocks
    simp only [Prog.bind_def, Prog.pure_def]
    refine .bind (bandOpen_tree trivial) fun _ _ => ?_
    split
    · exact .bind (hunksAvailable_tree b) fun hunks _ => rest hunks
    · rename_i hs
      exact .bind (iterAvailableHunks_tree (hz (Bool.eq_false_iff.mpr hs)) b) fun hunks _ => rest hunks

theorem referencedBlocks_fp (strict : Bool) (bs : List Nat) :
    AllOps (Rd Key.inBand) (referencedBlocks strict bs) := (referencedBlocks_tree (fun _ => trivial) bs).allOps

theorem deleteBody_measure_tree (hs : List Str) :
    Tree (Rd Key.inBlocks) Z (fun _ => True) (deleteBody.measure hs) := by
  induction hs with
  | nil => exact .ret trivial
  | cons h hs ih =>
    unfold deleteBody.measure
    refine .bind (.perform trivial) fun r _ => ?_
    split <;> first | exact ih | exact .fail _

theorem deleteBody_measure_fp (hs : List Str) : AllOps (Rd Key.inBlocks) (deleteBody.measure hs) :=
  (deleteBody_measure_tree hs).allOps

/-- Footprint of the block store (`storeOrDedup` and everything built on it, up to `copyEntry`):
it never reads; it creates the sub-directory named by a hash and writes a block under the hash of
its content. -/
inductive BlockWr (H : Str → Str) : Op → Prop
  | dir (d : Str) : BlockWr H (.createDir (.blockDir ((H d).take subdirNameChars)))
  | blk (d : Str) : BlockWr H (.write (.block (H d)) (.blockData d) .createNew)

/-- `BlockWr` with what is known of the bytes a block holds. -/
inductive BlockWrOf (H : Str → Str) (D : Str → Prop) : Op → Prop
  | dir (d : Str) : BlockWrOf H D (.createDir (.blockDir ((H d).take subdirNameChars)))
  | blk (d : Str) : D d → BlockWrOf H D (.write (.block (H d)) (.blockData d) .createNew)

theorem BlockWrOf.mono {H : Str → Str} {D D' : Str → Prop} (h : ∀ d, D d → D' d) {o : Op}
    (ho : BlockWrOf H D o) : BlockWrOf H D' o := by
  cases ho with
  | dir d => exact .dir d
  | blk d hd => exact .blk d (h d hd)

theorem BlockWrOf.blockWr {H : Str → Str} {D : Str → Prop} {o : Op} (ho : BlockWrOf H D o) : BlockWr H o := by
  cases ho with
  | dir d => exact .dir d
  | blk d _ => exact .blk d

/-- The blocks `copy_entry` writes for `s` by a writer whose buffer is `buf`: the buffer with the
bytes of `s` appended, or a chunk of `s`. -/
def CopyData (o : BackupOpts) (buf : Str) (s : SrcEntry) (d : Str) : Prop :=
  d = buf ++ s.content.take s.size ∨ d ∈ chunks o.maxBlockSize s.content

/-- Footprint of `finishHunk` for a writer of band `b`: a hunk sub-directory, a hunk. -/
inductive IndexWr (b : Nat) : Op → Prop
  | dir (d : Nat) : IndexWr b (.createDir (.hunkDir b d))
  | hunk (n : Nat) (es : List IndexEntry) : IndexWr b (.write (.hunk b n) (.hunk es) .createNew)

/-- Footprint of `finishHunk w` with the data: the sub-directory of hunk `w.sequence`, and that hunk
holding the pending entries in path order. -/
inductive HunkWr (w : Writer) : Op → Prop
  | dir : HunkWr w (.createDir (.hunkDir w.band (w.sequence / hunksPerSubdir)))
  | hunk : HunkWr w (.write (.hunk w.band w.sequence)
      (.hunk (w.pending.mergeSort fun a b => apathLe a.apath b.apath)) .createNew)

theorem HunkWr.indexWr {w : Writer} {o : Op} (h : HunkWr w o) : IndexWr w.band o := by
  cases h <;> constructor

/-- What `finishHunk w` returns. -/
inductive Finished (w : Writer) : Writer → Prop
  | idle : w.pending = [] → Finished w w
  | wrote : w.pending ≠ [] →
      Finished w { w with pending := [], sequence := w.sequence + 1, hunksWritten := w.hunksWritten + 1 }

/-- Footprint of the main loop of `backup` (`flushGroup`, `backupLoop`): block store and index writer. -/
def WrOp (H : Str → Str) (o : Op) : Prop := BlockWr H o ∨ ∃ b, IndexWr b o

theorem BlockWr.writerOp {H : Str → Str} {o : Op} (h : BlockWr H o) : WriterOp o := by
  cases h <;> simp [WriterOp, BackupOp, isHeadWrite, isBandDirCreate]

theorem IndexWr.writerOp {b : Nat} {o : Op} (h : IndexWr b o) : WriterOp o := by
  cases h <;> simp [WriterOp, BackupOp, isHeadWrite, isBandDirCreate]

theorem WrOp.elim {H : Str → Str} {P : Op → Prop} (hb : ∀ o, BlockWr H o → P o)
    (hi : ∀ b o, IndexWr b o → P o) (o : Op) (h : WrOp H o) : P o := by
  rcases h with h | ⟨b, h⟩
  · exact hb o h
  · exact hi b o h

theorem WrOp.writerOp {H : Str → Str} {o : Op} : WrOp H o → WriterOp o :=
  WrOp.elim (fun _ => BlockWr.writerOp) (fun _ _ => IndexWr.writerOp) o

/-- Footprint of `bandCreate` for the id `b` it picks: the directory, the index directory, the head. -/
inductive BandNew (b : Nat) : Op → Prop
  | dir : BandNew b (.createDir (.bandDir b))
  | index : BandNew b (.createDir (.indexDir b))
  | head : BandNew b (.write (.bandHead b) (.head .ok []) .createNew)

/-- Footprint of `backup`: it looks at the lock file, lists the archive directory and the blocks and
reads the basis index; it creates one band, stores blocks and hunks, and writes one band tail. -/
inductive BackupFp (H : Str → Str) : Op → Prop
  | rd {o : Op} : Rd (fun k => k = .gcLock ∨ k = .root ∨ k.inBlocks ∨ k.inBand) o → BackupFp H o
  | new {b : Nat} {o : Op} : BandNew b o → BackupFp H o
  | wr {o : Op} : WrOp H o → BackupFp H o
  | tail (b n : Nat) : BackupFp H (.write (.bandTail b) (.tail (some n)) .createNew)

theorem bandCreate_tree {P : Op → Prop} (hr : ∀ o, Rd (· = .root) o → P o) (hn : ∀ b o, BandNew b o → P o) :
    Tree P Z (fun _ => True) bandCreate := by
  unfold bandCreate
  simp only [Prog.bind_def, Prog.pure_def]
  exact .bind (lastBandId_tree (hr _ rfl)) fun _ _ =>
    .bind (performUnit_tree (hn _ _ .dir)) fun _ _ =>
      .bind (performUnit_tree (hn _ _ .index)) fun _ _ =>
        .bind (performUnit_tree (hn _ _ .head)) fun _ _ => .ret trivial

theorem bandCreate_fp {P : Op → Prop} (hr : ∀ o, Rd (· = .root) o → P o) (hn : ∀ b o, BandNew b o → P o) :
    AllOps P bandCreate := (bandCreate_tree hr hn).allOps

section
variable (H : Str → Str)

open Conserve.Inv in
theorem storeOrDedup_tree (w : Writer) (data : Str) :
    Tree (BlockWrOf H (· = data)) Z (fun _ => True) (storeOrDedup H w data) := by
  unfold storeOrDedup
  simp only [Prog.bind_def, Prog.pure_def]
  split
  · exact .ret trivial
  · refine .bind (.perform (.dir data)) fun r _ => ?_
    split
    · exact .ret trivial
    · refine .bind (.perform (.blk data rfl)) fun r _ => ?_
      split <;> exact .ret trivial

theorem combinerFlush_tree (w : Writer) : Tree (BlockWrOf H (· = w.buf)) Z (fun _ => True) (combinerFlush H w) := by
  unfold combinerFlush
  simp only [Prog.bind_def, Prog.pure_def]
  split
  · exact .ret trivial
  · refine .bind (storeOrDedup_tree H _ _) fun r _ => ?_
    split <;> exact .ret trivial

theorem combinerFlush_fpOf (w : Writer) : AllOps (BlockWrOf H (· = w.buf)) (combinerFlush H w) :=
  (combinerFlush_tree H w).allOps

open Conserve.Inv in
theorem combinerPush_tree (o : BackupOpts) (w : Writer) (s : SrcEntry) :
    Tree (BlockWrOf H (· = w.buf ++ s.content.take s.size)) Z (fun _ => True) (combinerPush H o w s) := by
  unfold combinerPush
  simp only [metadataFrom_eq, Prog.pure_def]
  split
  · exact .ret trivial
  · split
    · exact (combinerFlush_tree H _).ops fun _ h => h
    · exact .ret trivial

theorem storeChunks_tree (cs : List Str) : ∀ (w : Writer) (acc : List Addr),
    Tree (BlockWrOf H (· ∈ cs)) Z (fun _ => True) (storeChunks H w cs acc) := by
  induction cs with
  | nil => intro w acc; exact .ret trivial
  | cons c cs ih =>
    intro w acc
    unfold storeChunks
    simp only [Prog.bind_def, Prog.pure_def]
    refine .bind ((storeOrDedup_tree H _ _).ops fun _ => BlockWrOf.mono fun d hd => hd ▸ List.mem_cons_self ..) fun r _ => ?_
    split
    · exact .ret trivial
    · exact (ih _ _).ops fun _ => BlockWrOf.mono fun d hd => List.mem_cons_of_mem _ hd

theorem storeFileContent_tree (o : BackupOpts) (w : Writer) (s : SrcEntry) :
    Tree (BlockWrOf H (· ∈ chunks o.maxBlockSize s.content)) Z (fun _ => True) (storeFileContent H o w s) := by
  unfold storeFileContent
  simp only [Prog.bind_def, Prog.pure_def]
  refine .bind (storeChunks_tree H _ _ _) fun r _ => ?_
  split <;> exact .ret trivial

open Conserve.Inv in
theorem copyFileStore_tree (o : BackupOpts) (w : Writer) (ck : ChangeKind) (s : SrcEntry) :
    Tree (BlockWrOf H (CopyData o w.buf s)) Z (fun _ => True) (copyFileStore H o w ck s) := by
  unfold copyFileStore
  simp only [metadataFrom_eq, Prog.pure_def, Prog.bind_def]
  split
  · exact .ret trivial
  · split
    · refine .bind ((combinerPush_tree H o w s).ops fun _ => BlockWrOf.mono fun _ => .inl) fun r _ => ?_
      split <;> exact .ret trivial
    · refine .bind ((storeFileContent_tree H o w s).ops fun _ => BlockWrOf.mono fun _ => .inr) fun r _ => ?_
      split <;> exact .ret trivial

open Conserve.Inv in
/-- `copyFile` decides without touching storage; only pushing to the combiner and storing the
content issue operations.  Its one panic is `IndexEntry::mtime()` on a basis entry whose stored time
is out of range. -/
theorem copyFile_tree (o : BackupOpts) (w : Writer) (basis : Option IndexEntry) (s : SrcEntry)
    (hz : ∀ b, basis = some b → heuristicallyUnchanged s b = none → Z) :
    Tree (BlockWrOf H (CopyData o w.buf s)) Z (fun _ => True) (copyFile H o w basis s) := by
  rcases copyFile_cases (H := H) o w basis s with ⟨st, ck, -, h⟩ | ⟨b, m, hb, hu, h⟩ | ⟨b, st, ck, -, -, -, -, h⟩ <;> rw [h]
  · exact copyFileStore_tree H o { w with stats := st } ck s
  · exact .panic _ (hz b hb hu)
  · exact .ret trivial

open Conserve.Inv in
/-- Only for a file does `copy_entry` write at all. -/
theorem copyEntry_tree (o : BackupOpts) (w : Writer) (basis : Option IndexEntry) (s : SrcEntry)
    (hz : ∀ b, basis = some b → heuristicallyUnchanged s b = none → Z) :
    Tree (BlockWrOf H fun d => s.kind = .file ∧ CopyData o w.buf s d) Z (fun _ => True) (copyEntry H o w basis s) := by
  unfold copyEntry
  simp only [metadataFrom_eq, Prog.pure_def]
  cases hk : s.kind with
  | file => exact (copyFile_tree H o w basis s hz).ops fun _ => BlockWrOf.mono fun _ hd => ⟨rfl, hd⟩
  | _ => exact .ret trivial

theorem copyEntry_fpOf (o : BackupOpts) (w : Writer) (basis : Option IndexEntry) (s : SrcEntry) :
    AllOps (BlockWrOf H fun d => s.kind = .file ∧ CopyData o w.buf s d) (copyEntry H o w basis s) :=
  (copyEntry_tree H o w basis s fun _ _ _ => trivial).allOps

theorem combinerFlush_fp (w : Writer) : AllOps (BlockWr H) (combinerFlush H w) :=
  (combinerFlush_fpOf H w).mono fun _ => BlockWrOf.blockWr

theorem copyEntry_fp (o : BackupOpts) (w : Writer) (basis : Option IndexEntry) (s : SrcEntry) :
    AllOps (BlockWr H) (copyEntry H o w basis s) :=
  (copyEntry_fpOf H o w basis s).mono fun _ => BlockWrOf.blockWr

theorem finishHunk_tree (w : Writer) : Tree (HunkWr w) Z (Finished w) (finishHunk w) := by
  unfold finishHunk
  simp only [Prog.bind_def, Prog.pure_def]
  split
  · rename_i he
    exact .ret (.idle (List.isEmpty_iff.mp he))
  · rename_i he
    have hp : w.pending ≠ [] := fun h => he (List.isEmpty_iff.mpr h)
    split
    · exact .bind (performUnit_tree .dir) fun _ _ => .bind (performUnit_tree .hunk) fun _ _ => .ret (.wrote hp)
    · exact .bind (performUnit_tree .hunk) fun _ _ => .ret (.wrote hp)

theorem finishHunk_fp (w : Writer) : AllOps (IndexWr w.band) (finishHunk w) :=
  (finishHunk_tree w).allOps.mono fun _ => HunkWr.indexWr

theorem flushGroup_tree (w : Writer) : Tree (WrOp H) Z (fun _ => True) (flushGroup H w) := by
  unfold flushGroup
  simp only [Prog.bind_def]
  refine .bind ((combinerFlush_tree H w).ops fun _ h => .inl h.blockWr) fun r _ => ?_
  split
  · exact .fail _
  · exact (finishHunk_tree _).mono (fun _ h => .inr ⟨_, h.indexWr⟩) fun _ _ => trivial

theorem flushGroup_fp (w : Writer) : AllOps (WrOp H) (flushGroup H w) := (flushGroup_tree H w).allOps

/-- The loop panics only where `copyFile` does: on a matched basis entry whose time is out of range. -/
theorem backupLoop_tree (o : BackupOpts) (w : Writer) (ms : List Matched)
    (hz : ∀ b s, .both b s ∈ ms → heuristicallyUnchanged s b = none → Z) :
    Tree (WrOp H) Z (fun _ => True) (backupLoop H o w ms) := by
  induction ms generalizing w with
  | nil => exact .ret trivial
  | cons m ms ih =>
    have ih := fun w => ih w fun b s hm => hz b s (List.mem_cons_of_mem _ hm)
    cases m with
    | left b => exact .bind (.report _) fun _ _ => ih _
    | right s | both b s =>
      simp only [backupLoop, Prog.bind_def, Prog.pure_def]
      refine .bind ((copyEntry_tree H o w _ s fun b' hb' => hz b' s (by cases hb' <;> exact List.mem_cons_self ..)).ops
        fun _ h => .inl h.blockWr) fun x _ => ?_
      split
      · exact .bind (.report _) fun _ _ => ih _
      · split
        · refine .bind (.report _) fun _ _ => ?_
          split
          · exact .bind (flushGroup_tree H _) fun _ _ => ih _
          · exact ih _
        · split
          · exact .bind (flushGroup_tree H _) fun _ _ => ih _
          · exact ih _

theorem backupLoop_fp (o : BackupOpts) (w : Writer) (ms : List Matched) :
    AllOps (WrOp H) (backupLoop H o w ms) := (backupLoop_tree H o w ms fun _ _ _ _ => trivial).allOps

theorem backupFinish_tree (w : Writer) : Tree (BackupFp H) Z (fun _ => True)
    ((flushGroup H w).bind fun w => (finishHunk w).bind fun w =>
      (bandClose w.band w.hunksWritten).bind fun _ => Prog.ret w.stats) :=
  .bind ((flushGroup_tree H w).ops fun _ => .wr) fun w _ =>
    .bind ((finishHunk_tree w).ops fun _ h => .wr (.inr ⟨_, h.indexWr⟩)) fun _ _ =>
      .bind (performUnit_tree (.tail _ _)) fun _ _ => .ret trivial

/-- `backup` panics only where its loop does, on a basis entry of the stitched listing, which is usable. -/
theorem backup_tree (o : BackupOpts) (src : List SrcEntry)
    (hz : ∀ basis, NP.AllUsable basis → ∀ b s, .both b s ∈ mergeTrees basis src →
      heuristicallyUnchanged s b = none → Z) :
    Tree (BackupFp H) Z (fun _ => True) (backup H o src) := by
  unfold backup
  simp only [Prog.bind_def, Prog.pure_def, Prog.fail_bind, Prog.ret_bind]
  refine .bind (isFile_tree (.rd (.inl rfl))) fun locked _ => ?_
  split
  · exact .fail _
  refine .bind (lastBandId_tree (.rd (.inr (.inl rfl)))) fun basisBand _ =>
    .bind (bandCreate_tree (fun _ h => .rd (h.mono fun _ => .inr ∘ .inl)) fun _ _ => .new) fun band _ =>
      .bind (gcLockListed_tree (.rd (.inr (.inl rfl)))) fun locked _ => ?_
  split
  · exact .fail _
  refine .bind (listBlocks_tree.ops fun _ h => .rd (h.mono fun _ => .inr ∘ .inr ∘ .inl)) fun blocks _ => ?_
  split
  · exact .bind ((listEntries_tree _ _ _).ops fun _ h => .rd (h.mono fun _ => .inr ∘ .inr ∘ .inr)) fun basis hb =>
      .bind ((backupLoop_tree H o _ _ (hz basis hb)).ops fun _ => .wr) fun w _ => backupFinish_tree H w
  · exact .bind ((backupLoop_tree H o _ _ (hz [] NP.AllUsable.nil)).ops fun _ => .wr) fun w _ => backupFinish_tree H w

theorem backup_fp (o : BackupOpts) (src : List SrcEntry) : AllOps (BackupFp H) (backup H o src) :=
  (backup_tree H o src fun _ _ _ _ _ _ => trivial).allOps

end

section
variable {P : Op → Prop}

theorem gcLockNew_tree (hr : ∀ o, ReadOnly o → P o) (hl : P (.write .gcLock .lock .createNew)) :
    Tree P Z (fun _ => True) gcLockNew := by
  have tail : ∀ last : Option Nat, Tree P Z (fun _ => True) ((unwrapOr (isFile .gcLock) true).bind fun l =>
      if l = true then .fail .gcLockHeld
      else (performUnit (.write .gcLock .lock .createNew)).bind fun _ => .ret last) := by
    intro last
    refine .bind (unwrapOr_tree _ (isFile_tree (hr _ trivial))) fun l _ => ?_
    split
    · exact .fail _
    · exact .bind (performUnit_tree hl) fun _ _ => .ret trivial
  unfold gcLockNew
  simp only [Prog.bind_def, Prog.pure_def, Prog.fail_bind]
  refine .bind (lastBandId_tree (hr _ trivial)) fun last _ => ?_
  split
  · refine .bind (isFile_tree (hr _ trivial)) fun c _ => ?_
    split
    · exact .fail _
    · exact tail _
  · exact tail _

theorem gcBreakLock_tree (hr : ∀ o, ReadOnly o → P o) (hl : P (.write .gcLock .lock .createNew))
    (hu : P (.removeFile .gcLock)) : Tree P Z (fun _ => True) gcBreakLock := by
  unfold gcBreakLock
  simp only [Prog.bind_def]
  refine .bind (isFile_tree (hr _ trivial)) fun c _ => ?_
  split
  · exact .bind (performUnit_tree hu) fun _ _ => gcLockNew_tree hr hl
  · exact gcLockNew_tree hr hl

theorem gcLockDrop_tree (hu : P (.removeFile .gcLock)) : Tree P Z (fun _ => True) gcLockDrop :=
  .bind (.perform hu) fun _ _ => .ret trivial

theorem gcLockDrop_fp (hu : P (.removeFile .gcLock)) : AllOps P gcLockDrop := (gcLockDrop_tree hu).allOps

theorem gcLockReleaseOnError_tree (hu : P (.removeFile .gcLock)) : Tree P Z (fun _ => True) gcLockReleaseOnError := by
  unfold gcLockReleaseOnError
  refine .bind (.perform hu) fun r _ => ?_
  split
  · exact .ret trivial
  · exact gcLockDrop_tree hu

theorem gcLockReleaseOnError_fp (hu : P (.removeFile .gcLock)) : AllOps P gcLockReleaseOnError :=
  (gcLockReleaseOnError_tree hu).allOps

theorem bandDelete_tree {b : Nat} (h : P (.removeDirAll (.bandDir b))) : Tree P Z (fun _ => True) (bandDelete b) := by
  unfold bandDelete
  refine .bind (.perform h) fun r _ => ?_
  split <;> first | exact .ret trivial | exact .fail _

theorem delBands_tree (bs : List Nat) (n : Nat) (h : ∀ b ∈ bs, P (.removeDirAll (.bandDir b))) :
    Tree P Z (fun _ => True) (deleteBody.delBands bs n) := by
  induction bs generalizing n with
  | nil => exact .ret trivial
  | cons b bs ih =>
    exact .bind (bandDelete_tree (h b (List.mem_cons_self ..))) fun _ _ =>
      ih _ fun b' hb' => h b' (List.mem_cons_of_mem _ hb')

theorem delBands_fp (bs : List Nat) (n : Nat) (h : ∀ b ∈ bs, P (.removeDirAll (.bandDir b))) :
    AllOps P (deleteBody.delBands bs n) := (delBands_tree bs n h).allOps

theorem delBlocks_tree (hs : List Str) (errs : Nat) (h : ∀ x ∈ hs, P (.removeFile (.block x))) :
    Tree P Z (fun _ => True) (deleteBody.delBlocks hs errs) := by
  induction hs generalizing errs with
  | nil => exact .ret trivial
  | cons x hs ih =>
    have ih' := fun n => ih n fun x' hx' => h x' (List.mem_cons_of_mem _ hx')
    unfold deleteBody.delBlocks
    refine .bind (.perform (h x (List.mem_cons_self ..))) fun r _ => ?_
    split
    · exact ih' _
    · exact ih' _

theorem delBlocks_fp (hs : List Str) (errs : Nat) (h : ∀ x ∈ hs, P (.removeFile (.block x))) :
    AllOps P (deleteBody.delBlocks hs errs) := (delBlocks_tree hs errs h).allOps

end

/-! ### `delete_bands` = take the lock; run the body; give the lock back -/

/-- Taking the lock, the way `delete_bands` does. -/
def acquire (o : DeleteOpts) : Prog (Option Nat) := if o.breakLock then gcBreakLock else gcLockNew

/-- `delete_bands` once the lock is held. -/
def withLock (strict : Bool) (D : List Nat) (o : DeleteOpts) (held : Option Nat) : Prog DeleteStats :=
  (deleteBody strict D o held).attemptAll.bind fun r =>
    match r with
    | .ok st => .ret st
    | .err e => gcLockReleaseOnError.bind fun _ => .fail e
    | .panic site => gcLockDrop.bind fun _ => .panic site

theorem deleteBands_eq (strict : Bool) (D : List Nat) (o : DeleteOpts) :
    deleteBands strict D o = (acquire o).bind (withLock strict D o) := by
  simp only [deleteBands, bind_def, pure_def, acquire]
  cases o.breakLock <;> rfl

/-- Footprint of `deleteBands _ D _`: it reads; it writes and removes the lock file; it removes the
directories of the versions in `D`, and blocks (those satisfying `Q`).  `GcOp [] fun _ => False` is
the footprint of the parts that only handle the lock. -/
inductive GcOp (D : List Nat) (Q : Str → Prop) : Op → Prop
  | rd {o : Op} : ReadOnly o → GcOp D Q o
  | lock : GcOp D Q (.write .gcLock .lock .createNew)
  | unlock : GcOp D Q (.removeFile .gcLock)
  | band {b : Nat} : b ∈ D → GcOp D Q (.removeDirAll (.bandDir b))
  | block {h : Str} : Q h → GcOp D Q (.removeFile (.block h))

theorem GcOp.mono {D : List Nat} {Q Q' : Str → Prop} (hQ : ∀ h, Q h → Q' h) {o : Op} (h : GcOp D Q o) :
    GcOp D Q' o := by
  cases h with
  | rd h => exact .rd h
  | lock => exact .lock
  | unlock => exact .unlock
  | band h => exact .band h
  | block h => exact .block (hQ _ h)

theorem GcOp.of_lockOnly {D : List Nat} {Q : Str → Prop} {o : Op} (h : GcOp [] (fun _ => False) o) :
    GcOp D Q o := by
  cases h with
  | rd h => exact .rd h
  | lock => exact .lock
  | unlock => exact .unlock
  | band h => cases h
  | block h => exact h.elim

theorem acquire_tree (o : DeleteOpts) : Tree (GcOp [] fun _ => False) Z (fun _ => True) (acquire o) := by
  unfold acquire
  split
  · exact gcBreakLock_tree (fun _ => .rd) .lock .unlock
  · exact gcLockNew_tree (fun _ => .rd) .lock

theorem acquire_fp (o : DeleteOpts) : AllOps (GcOp [] fun _ => False) (acquire o) := (acquire_tree o).allOps

/-- What `withLock` does with the outcome of the body: a panic of the body is raised again. -/
theorem withLock_tail_tree (r : Outcome DeleteStats) (hz : ∀ site, r = .panic site → Z) :
    Tree (GcOp [] fun _ => False) Z (fun _ => True) (match r with
      | .ok st => (.ret st : Prog DeleteStats)
      | .err e => gcLockReleaseOnError.bind fun _ => .fail e
      | .panic site => gcLockDrop.bind fun _ => .panic site) := by
  cases r with
  | ok st => exact .ret trivial
  | err e => exact .bind (gcLockReleaseOnError_tree .unlock) fun _ _ => .fail _
  | panic site => exact .bind (gcLockDrop_tree .unlock) fun _ _ => .panic _ (hz _ rfl)

theorem withLock_tail_fp (r : Outcome DeleteStats) :
    AllOps (GcOp [] fun _ => False) (match r with
      | .ok st => (.ret st : Prog DeleteStats)
      | .err e => gcLockReleaseOnError.bind fun _ => .fail e
      | .panic site => gcLockDrop.bind fun _ => .panic site) :=
  (withLock_tail_tree r fun _ _ => trivial).allOps

/-- `deleteBody` = list the versions; collect the blocks the kept ones reference; list the blocks
present; then a tail that removes only blocks that were listed as present and not collected as
referenced (besides the requested versions' directories and the lock). -/
theorem deleteBody_tail_tree (strict : Bool) (D : List Nat) (o : DeleteOpts) (held : Option Nat) :
    ∃ tail : List Str → List Str → Prog DeleteStats,
      deleteBody strict D o held = (listBandIds.bind fun all =>
        (referencedBlocks strict (all.filter fun b => !D.contains b)).bind fun referenced =>
          listBlocks.bind fun present => tail referenced present) ∧
      ∀ referenced present,
        Tree (GcOp D (fun h => h ∈ present ∧ h ∉ referenced)) Z (fun _ => True) (tail referenced present) := by
  refine ⟨?tail, ?eq, ?ops⟩
  case eq =>
    unfold deleteBody
    simp only [Prog.bind_def, Prog.pure_def, Prog.ret_bind]
    rfl
  case ops =>
    intro referenced present
    have unref : ∀ x ∈ (present.filter fun h => !referenced.contains h).mergeSort strLe,
        x ∈ present ∧ x ∉ referenced := by
      intro x hx
      simpa using List.mem_mergeSort.mp hx
    refine .bind ((deleteBody_measure_tree _).of_rd fun _ => .rd) fun _ _ => ?_
    split
    · exact .bind (performUnit_tree .unlock) fun _ _ => .ret trivial
    · exact .bind (gcLockCheck_tree (.rd trivial) held) fun _ _ =>
        .bind (delBands_tree D 0 fun _ hb => .band hb) fun _ _ =>
          .bind (delBlocks_tree _ 0 fun x hx => .block (unref x hx)) fun _ _ =>
            .bind (performUnit_tree .unlock) fun _ _ => .ret trivial

theorem deleteBody_tail_fp (strict : Bool) (D : List Nat) (o : DeleteOpts) (held : Option Nat) :
    ∃ tail : List Str → List Str → Prog DeleteStats,
      deleteBody strict D o held = (listBandIds.bind fun all =>
        (referencedBlocks strict (all.filter fun b => !D.contains b)).bind fun referenced =>
          listBlocks.bind fun present => tail referenced present) ∧
      ∀ referenced present,
        AllOps (GcOp D (fun h => h ∈ present ∧ h ∉ referenced)) (tail referenced present) :=
  have ⟨tail, heq, hops⟩ := deleteBody_tail_tree strict D o held
  ⟨tail, heq, fun referenced present => (hops referenced present).allOps⟩

theorem deleteBody_tree {strict : Bool} (hz : strict = false → Z) (D : List Nat) (o : DeleteOpts)
    (held : Option Nat) : Tree (GcOp D fun _ => True) Z (fun _ => True) (deleteBody strict D o held) := by
  obtain ⟨tail, heq, hops⟩ := deleteBody_tail_tree (Z := Z) strict D o held
  rw [heq]
  exact .bind (listBandIds_tree (.rd trivial)) fun _ _ =>
    .bind ((referencedBlocks_tree hz _).of_rd fun _ => .rd) fun referenced _ =>
      .bind (listBlocks_tree.of_rd fun _ => .rd) fun present _ =>
        (hops referenced present).ops fun _ h => h.mono fun _ _ => trivial

theorem deleteBands_tree {strict : Bool} (hz : strict = false → Z) (D : List Nat) (o : DeleteOpts) :
    Tree (GcOp D fun _ => True) Z (fun _ => True) (deleteBands strict D o) := by
  rw [deleteBands_eq]
  exact .bind ((acquire_tree o).ops fun _ => GcOp.of_lockOnly) fun held _ =>
    .bind (deleteBody_tree hz D o held).attemptAll fun r hr =>
      (withLock_tail_tree r fun _ h => by subst h; exact hr).ops fun _ => GcOp.of_lockOnly

theorem deleteBands_fp (strict : Bool) (D : List Nat) (o : DeleteOpts) :
    AllOps (GcOp D fun _ => True) (deleteBands strict D o) := (deleteBands_tree (fun _ => trivial) D o).allOps

end Conserve
