import ConserveModel.Proofs.StitchRun
import ConserveModel.Props.C11
/-
The skip-ahead logic of `IndexHunkIter::next` on sorted hunks: whatever the alignment of hunk
boundaries with the resume path, reading a band after `a` yields exactly the band's entries
that sort after `a`.  Pure list reasoning.
-/
namespace Conserve

def eLt (x y : IndexEntry) : Prop := apathCmp x.apath y.apath = .lt

abbrev SortedE (es : List IndexEntry) : Prop := es.Pairwise eLt

theorem apathLe_iff (x a : Str) : apathLe x a = true ↔ apathCmp a x ≠ .lt := by
  unfold apathLe
  rw [C11.cmp_swap x a]; cases apathCmp a x <;> simp [Ordering.swap]

theorem sortsAfter_some (a : Str) (e : IndexEntry) :
    sortsAfter (some a) e = true ↔ apathCmp a e.apath = .lt := by
  simp [sortsAfter, apathCmp_gt_iff]

theorem sortsAfter_some_eq (a : Str) (e : IndexEntry) :
    sortsAfter (some a) e = !apathLe e.apath a := by
  simp only [sortsAfter, apathLe]; generalize apathCmp e.apath a = o; cases o <;> rfl

theorem filter_sortsAfter_none (es : List IndexEntry) : es.filter (sortsAfter none) = es :=
  List.filter_eq_self.mpr fun _ _ => rfl

theorem sortsAfter_of_eLt {last : Option Str} {x y : IndexEntry} (h : sortsAfter last x = true)
    (hxy : eLt x y) : sortsAfter last y = true := by
  cases last with
  | none => rfl
  | some a => rw [sortsAfter_some] at *; exact C11.cmp_trans h hxy

theorem not_sortsAfter_of_eLt {a : Str} {x y : IndexEntry} (h : sortsAfter (some a) y = false)
    (hxy : eLt x y) : sortsAfter (some a) x = false := by
  cases hx : sortsAfter (some a) x with
  | false => rfl
  | true => rw [sortsAfter_of_eLt hx hxy] at h; cases h

theorem trimAfter_eq_filter (a : Str) {es : List IndexEntry} (hs : SortedE es) :
    trimAfter a es = es.filter (sortsAfter (some a)) := by
  induction es with
  | nil => rfl
  | cons e rest ih =>
    obtain ⟨h1, h2⟩ := List.pairwise_cons.mp hs
    unfold trimAfter
    rw [List.dropWhile_cons, List.filter_cons]
    by_cases hle : apathLe e.apath a = true
    · have : sortsAfter (some a) e = false := by rw [sortsAfter_some_eq, hle]; rfl
      simp only [hle, this, if_true]
      exact ih h2
    · have hsa : sortsAfter (some a) e = true := by
        rw [sortsAfter_some_eq]; simpa using hle
      simp only [hle, hsa, if_true]
      have : rest.filter (sortsAfter (some a)) = rest :=
        List.filter_eq_self.mpr fun y hy => sortsAfter_of_eLt hsa (h1 y hy)
      rw [this]; rfl

theorem getLast?_mem_or_lt {es : List IndexEntry} (hs : SortedE es) {l : IndexEntry}
    (hl : es.getLast? = some l) : ∀ x ∈ es, x = l ∨ eLt x l := by
  obtain ⟨ys, rfl⟩ := List.getLast?_eq_some_iff.mp hl
  intro x hx
  rcases List.mem_append.mp hx with hx | hx
  · exact Or.inr ((List.pairwise_append.mp hs).2.2 x hx l (by simp))
  · exact Or.inl (by simpa using hx)

theorem filter_of_allBefore {a : Str} {es : List IndexEntry} (hs : SortedE es)
    (h : hunkAllBefore a es = true) : es.filter (sortsAfter (some a)) = [] := by
  unfold hunkAllBefore at h
  split at h
  · rename_i l hl
    have hl' : sortsAfter (some a) l = false := by rw [sortsAfter_some_eq, h]; rfl
    rw [List.filter_eq_nil_iff]
    intro e he
    rcases getLast?_mem_or_lt hs hl e he with rfl | hlt
    · simp [hl']
    · simp [not_sortsAfter_of_eLt hl' hlt]
  · cases h

theorem filter_of_allAfter {a : Str} {es : List IndexEntry} (hs : SortedE es)
    (h : hunkAllAfter a es = true) :
    es ≠ [] ∧ ∀ y, (∀ x ∈ es, eLt x y) ∨ y ∈ es → sortsAfter (some a) y = true := by
  unfold hunkAllAfter at h
  split at h
  · rename_i f hf
    cases es with
    | nil => simp at hf
    | cons f' tl =>
      simp only [List.head?_cons, Option.some.injEq] at hf; subst hf
      have hfa : sortsAfter (some a) f' = true := by simpa [sortsAfter] using h
      refine ⟨by simp, ?_⟩
      intro y hy
      rcases hy with hy | hy
      · exact sortsAfter_of_eLt hfa (hy f' (by simp))
      · rcases List.mem_cons.mp hy with rfl | hy
        · exact hfa
        · exact sortsAfter_of_eLt hfa ((List.pairwise_cons.mp hs).1 y hy)
  · cases h

theorem lastOr_nil (l : Option Str) : lastOr [] l = l := rfl

theorem lastOr_append (xs ys : List IndexEntry) (l : Option Str) :
    lastOr (xs ++ ys) l = lastOr ys (lastOr xs l) := by
  unfold lastOr
  rw [List.getLast?_append]
  cases ys.getLast? <;> simp

theorem lastApath?_eq_lastOr {es : List IndexEntry} (h : es ≠ []) (l : Option Str) :
    lastApath? es = lastOr es l := by
  unfold lastApath? lastOr
  cases hg : es.getLast? with
  | none => exact absurd (List.getLast?_eq_none_iff.mp hg) h
  | some x => rfl

def decodedOf (s : Store) (b : Nat) (ns : List Nat) : List IndexEntry :=
  (ns.filterMap (usableHunk s b)).flatten

theorem readHunkP_file {s : Store} {b n : Nat} {v : FileVal} (hg : s.get? (.hunk b n) = some v)
    (hv : v.isDir = false) :
    (∃ es, readHunkP s b n = .ok (some es) ∧ usableHunk s b n = some es ∧ hunkError s b n = none) ∨
    (∃ e, readHunkP s b n = .error e ∧ usableHunk s b n = none ∧ hunkError s b n = some e) := by
  unfold readHunkP usableHunk hunkError
  rw [hg]
  cases v with
  | hunk es => by_cases hu : es.all entryUsable = true <;> simp [hu]
  | dir => cases hv
  | _ => simp

theorem decodedOf_cons_some {s : Store} {b n : Nat} {es : List IndexEntry} (h : usableHunk s b n = some es)
    (rest : List Nat) : decodedOf s b (n :: rest) = es ++ decodedOf s b rest := by
  simp [decodedOf, h]

theorem decodedOf_cons_none {s : Store} {b n : Nat} (h : usableHunk s b n = none)
    (rest : List Nat) : decodedOf s b (n :: rest) = decodedOf s b rest := by
  simp [decodedOf, h]

/-- On a sorted band, whatever the hunk boundaries, exactly the entries after the resume path are
returned.  Without a resume path every hunk is taken; with one, the three cases of
`IndexHunkIter::next`: whole hunk skipped, whole hunk taken and the search switched off, hunk
straddling the path trimmed. -/
theorem readHunksP_eq (s : Store) (b : Nat) (ns : List Nat)
    (hp : ∀ n ∈ ns, ∃ v, s.get? (.hunk b n) = some v ∧ v.isDir = false) (hs : SortedE (decodedOf s b ns))
    (after last : Option Str) :
    readHunksP s b ns after last =
      ((decodedOf s b ns).filter (sortsAfter after),
        lastOr ((decodedOf s b ns).filter (sortsAfter after)) last) := by
  induction ns generalizing after last with
  | nil => rfl
  | cons n rest ih =>
    have hp' := fun m hm => hp m (List.mem_cons_of_mem n hm)
    unfold readHunksP
    obtain ⟨v, hg, hv⟩ := hp n (List.mem_cons_self ..)
    rcases readHunkP_file hg hv with ⟨es, h, hd, -⟩ | ⟨e, h, hd, -⟩
    · rw [decodedOf_cons_some hd] at hs ⊢
      obtain ⟨hs1, hs2, hs3⟩ := List.pairwise_append.mp hs
      have ih' := ih hp' hs2
      rw [h]
      simp only [List.filter_append, lastOr_append]
      cases after with
      | none =>
        simp only [filter_sortsAfter_none, ih' none]
        by_cases hemp : es.isEmpty = true
        · obtain rfl : es = [] := List.isEmpty_iff.mp hemp
          simp [lastOr_nil]
        · have hne : es ≠ [] := fun h => hemp (List.isEmpty_iff.mpr h)
          simp only [hemp]
          rw [lastApath?_eq_lastOr hne last]
          rfl
      | some a =>
        by_cases hc1 : hunkAllBefore a es = true
        · simp only [hc1, if_true, filter_of_allBefore hs1 hc1, List.nil_append, lastOr_nil]
          exact ih' (some a) last
        · by_cases hc2 : hunkAllAfter a es = true
          · obtain ⟨hne, hall⟩ := filter_of_allAfter hs1 hc2
            have e1 : es.filter (sortsAfter (some a)) = es :=
              List.filter_eq_self.mpr fun y hy => hall y (Or.inr hy)
            have e2 : (decodedOf s b rest).filter (sortsAfter (some a)) = decodedOf s b rest :=
              List.filter_eq_self.mpr fun y hy => hall y (Or.inl fun x hx => hs3 x hx y hy)
            simp only [hc1, hc2, if_true, e1, e2, ih' none, filter_sortsAfter_none]
            rw [lastApath?_eq_lastOr hne last]
            simp
          · simp only [hc1, hc2, ih' (some a), trimAfter_eq_filter a hs1]
            simp
    · rw [decodedOf_cons_none hd] at hs ⊢
      rw [h]
      exact ih hp' hs after last

end Conserve
