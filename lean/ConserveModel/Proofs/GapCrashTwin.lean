import ConserveModel.Proofs.CrashRestore
/-
`backup` split into everything before the tail write and the tail write itself, for the gap of C03r: the
tail write is the LAST thing `backup` does, so the micro-states of `backup` (`Prog.storeAt_bind`) are those of
the part before it, then a zero-length tail, then the final store (`crashed_eq`).
No property statements here.
-/
set_option linter.unusedSimpArgs false
namespace Conserve.Crash
open Conserve Conserve.Exact Conserve.Inv Prog

theorem allOps_of_bind {α β : Type} {P : Op → Prop} {p : Prog α} {f : α → Prog β}
    (h : Prog.AllOps P (p.bind f)) : Prog.AllOps P p := by
  induction p with
  | ret a => exact .ret a
  | fail e => exact .fail e
  | panic s => exact .panic s
  | emit ev k ih =>
    cases h with
    | emit _ hk => exact .emit ev (ih hk)
  | op o k ih =>
    cases h with
    | op ho hk => exact .op ho fun r => ih r (hk r)

/-- Everything `backup` does before `Band::close`. -/
def backupBefore (H : Str → Str) (o : BackupOpts) (src : List SrcEntry) : Prog Writer :=
  Inv.backupPrelude.bind (backupBody H o src)

theorem backup_eq_before_close (H : Str → Str) (o : BackupOpts) (src : List SrcEntry) :
    backup H o src = (backupBefore H o src).bind backupClose := by
  rw [Inv.backup_eq]
  unfold backupBefore backupBody backupClose Inv.backupMain
  simp only [Prog.bind_assoc]

theorem backupBefore_createOnly (H : Str → Str) (o : BackupOpts) (src : List SrcEntry) :
    Prog.AllOps CreateOnly (backupBefore H o src) :=
  allOps_of_bind (backup_eq_before_close H o src ▸ backup_createOnly H o src)

variable {H : Str → Str} {o : BackupOpts}

theorem backupBefore_runs (hlen : ∀ d, subdirNameChars ≤ (H d).length) (hmax : 0 < o.maxBlockSize)
    {src : List SrcEntry} {s : Store} (hsrc : SrcGood src) (hg : ArchiveGood H src s) :
    ∃ s2 wr2 hs evs, RunsAt (backupBefore H o src) s (.ok wr2) s2 evs ∧
      wr2.band = newBandOf s ∧ wr2.hunksWritten = hs.length ∧ s2.get? (.bandTail (newBandOf s)) = none ∧
      s2.parentOk (.bandTail (newBandOf s)) = true ∧
      Final H o (newBandOf s) s (s2.put (.bandTail (newBandOf s)) (.tail (some hs.length))) hs src := by
  obtain ⟨hr1, hbasis, hl⟩ := backupPrelude_runs (o := o) hlen hg
  obtain ⟨s2, wr2, hs, evs, hr2, h1, h2, _, _, h3, h4, h5⟩ :=
    backupBody_runs hmax (newBandOf s, blockNamesOf (withNewBand s), basisListing s) hl hsrc.entryGood hbasis
      hsrc.sorted hsrc.bytes
  exact ⟨s2, wr2, hs, evs, RunsAt.bind0 hr1 hr2, h1, h2, h3, h4, h5⟩

/-- The micro-states of the tail write from a store without the tail: nothing yet, a zero-length
tail, the tail. -/
theorem backupClose_storeAt {wr : Writer} {s2 : Store} (hpar : s2.parentOk (.bandTail wr.band) = true)
    (hnone : s2.get? (.bandTail wr.band) = none) (n : Nat) :
    (backupClose wr).storeAt true s2 n =
      if n = 0 then s2 else if n = 1 then s2.put (.bandTail wr.band) .empty
      else s2.put (.bandTail wr.band) (.tail (some wr.hunksWritten)) := by
  have happ : applyOp true s2 (.write (.bandTail wr.band) (.tail (some wr.hunksWritten)) .createNew) =
      (s2.put (.bandTail wr.band) (.tail (some wr.hunksWritten)), .unit) := by
    simp [applyOp, hpar, hnone]
  unfold backupClose bandClose performUnit
  simp only [Prog.bind_def, Prog.perform, Prog.op_bind, Prog.ret_bind, Prog.storeAt, happ, Op.microSteps, Op.key]
  by_cases h0 : n = 0
  · simp [h0]
  by_cases h1 : n = 1
  · simp [h1]
  · rw [if_neg h0, if_neg h0, if_neg (by omega), if_neg h1]; rfl

/-- **The store a backup killed at micro-step `j` leaves**, `N` the micro-steps the fault-free run makes
before `Band::close`: a micro-state of the part before the tail write (which has no tail), then a
zero-length tail (`j = N + 1`), then the store of the uninterrupted run. -/
theorem crashed_eq (hlen : ∀ d, subdirNameChars ≤ (H d).length) (hmax : 0 < o.maxBlockSize)
    {src : List SrcEntry} {s : Store} (hsrc : SrcGood src) (hg : ArchiveGood H src s) :
    ∃ (s2 : Store) (c N : Nat), s2.get? (.bandTail (newBandOf s)) = none ∧
      ((backup H o src).run (World.clean s)).2.store = s2.put (.bandTail (newBandOf s)) (.tail (some c)) ∧
      ∀ j, ((backup H o src).run { store := s, crashAt := some j }).2.store =
        (if j ≤ N then (backupBefore H o src).storeAt true s j
        else if j = N + 1 then s2.put (.bandTail (newBandOf s)) .empty
        else s2.put (.bandTail (newBandOf s)) (.tail (some c))) ∧
      Extends ((backupBefore H o src).storeAt true s j) s2 := by
  obtain ⟨s2, wr2, hs, evs, hr, hband, hhw, hnone, hpar, _⟩ := backupBefore_runs (o := o) hlen hmax hsrc hg
  have he := runsAt_iff.1 hr
  have hx := Prog.storeAt_extends (backupBefore_createOnly H o src) s
  have hcl := backupClose_storeAt (wr := wr2) (by rw [hband]; exact hpar) (by rw [hband]; exact hnone)
  rw [hband, hhw] at hcl
  rw [he] at hx
  refine ⟨s2, hs.length, (backupBefore H o src).evalSteps true s, hnone, ?_, fun j => ⟨?_, hx j⟩⟩
  · have hclose : RunsAt (backupClose wr2) s2 (.ok wr2.stats)
        (s2.put (.bandTail (newBandOf s)) (.tail (some hs.length))) [] := by
      unfold backupClose
      rw [hband, hhw]
      exact RunsAt.bind0 (a := ()) (RunsAt.performUnit_write hpar (Or.inl hnone)) (RunsAt.ret _ _)
    rw [backup_eq_before_close]
    exact (RunsAt.bind_r0 hr hclose).clean.2.1
  · rw [killed_store, backup_eq_before_close, Prog.storeAt_bind, he]
    split
    · rfl
    · show (backupClose wr2).storeAt true s2 _ = _
      rw [hcl, if_neg (by omega)]
      split
      · rw [if_pos (by omega)]
      · rw [if_neg (by omega)]

end Conserve.Crash
