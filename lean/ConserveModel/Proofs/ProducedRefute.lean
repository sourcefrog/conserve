import ConserveModel.Props.C09
import ConserveModel.Props.C01a
/-
C09 (first sentence): why `C09.Produced` has to be restricted.  A fault-free, complete first backup
of a one-entry source whose entry `IndexEntry::check` rejects (a time jiff cannot represent, a path
that is not a valid apath) leaves an archive with a readable head on which `validate` reports
`invalidMetadata` (`bad_entry_reported`).  The run is described with C01a's `Final` (which does not
need the entry to be usable).  No property statements here.
-/
namespace Conserve.Rng
open Conserve Conserve.Inv Conserve.Exact Prog

variable {H : Str → Str}

theorem initArchive_storeOK (H : Str → Str) : StoreOK H C09.initArchive := StoreOK.of_checks (by rfl)

theorem initArchive_noBands : Inv.NoBands C09.initArchive := C04.Example.archive_noBands

theorem initArchive_good (H : Str → Str) (src : List SrcEntry) : ArchiveGood H src C09.initArchive :=
  ArchiveGood.of_noBands (initArchive_storeOK H) initArchive_noBands (by decide) src

theorem initArchive_archWF : ArchWF C09.initArchive := by decide +kernel

/-- **`bad_entry_reported`.**  Back up — fault-free, to completion, default options — the one-entry
source `[sf]`, `sf` a directory entry whose index entry `IndexEntry::check` rejects, into the empty
archive.  Every version directory of the result has a readable head, and `validate` (full and quick)
emits an event. -/
theorem bad_entry_reported (hlen : ∀ d, subdirNameChars ≤ (H d).length) (sf : SrcEntry) (hk : sf.kind = .dir)
    (hsz : sf.size < 18446744073709551616) (hbad : entryUsable (Inv.metaOf {} sf) = false) :
    AllHeadsReadable ((backup H {} [sf]).run (World.clean C09.initArchive)).2.store ∧
    ∀ quick, ((validate H quick).run (World.clean
      ((backup H {} [sf]).run (World.clean C09.initArchive)).2.store)).2.events ≠ [] := by
  have hg := initArchive_good H [sf]
  obtain ⟨hr1, hbasis, hl⟩ := backupPrelude_runs (o := {}) hlen hg
  obtain ⟨s', hs, evs, stats, hr2, _, _, hf⟩ :=
    backupMain_runs (o := {}) (src := [sf]) (by decide)
      (newBandOf C09.initArchive, blockNamesOf (withNewBand C09.initArchive), basisListing C09.initArchive) hl
      (by
        intro x hx
        simp only [List.mem_singleton] at hx
        subst hx
        exact ⟨(by rw [hk]; exact fun h => nomatch h), fun h => (by rw [hk] at h; cases h)⟩)
      hbasis (by simp) (by simpa [totalSize] using hsz)
  have hrun : RunsAt (backup H {} [sf]) C09.initArchive (.ok stats) s' evs := by
    rw [Inv.backup_eq]
    exact RunsAt.bind0 hr1 hr2
  obtain ⟨_, hstore, _⟩ := hrun.clean
  rw [hstore]
  have hnb : newBandOf C09.initArchive = 0 := C01a.newBandOf_noBands (initArchive_storeOK H) initArchive_noBands
  rw [hnb] at hf
  -- every recorded entry is `metaOf sf`, which is unusable
  have hall : ∀ x ∈ hs.flatten, entryUsable x = false := by
    intro x hx
    have h1 : strip x ∈ hs.flatten.map strip := List.mem_map.mpr ⟨x, hx, rfl⟩
    rw [hf.shape] at h1
    simp only [List.map_cons, List.map_nil, List.mem_singleton] at h1
    have hxk : x.kind ≠ .file := by
      have : x.kind = sf.kind := by
        have := congrArg IndexEntry.kind h1
        simpa [Inv.metaOf] using this
      rw [this, hk]; exact fun h => nomatch h
    have hxa : x.addrs = [] := hf.hsNonfile x hx hxk
    have : x = Inv.metaOf {} sf := by
      rw [← h1]
      cases x
      simp only [strip] at hxa ⊢
      simp_all
    rw [this]; exact hbad
  have hne : hs.flatten ≠ [] := by
    intro h0
    have := congrArg List.length hf.shape
    simp [h0] at this
  -- the listing side: nothing usable, so well-formed for listing
  have hown : ownEntries s' 0 = [] := by
    rw [List.eq_nil_iff_forall_not_mem]
    intro x hx
    unfold ownEntries at hx
    obtain ⟨es, hes, hxe⟩ := List.mem_flatten.mp hx
    obtain ⟨n, _, hn⟩ := List.mem_filterMap.mp hes
    simp only [usableHunk, hf.hunk] at hn
    cases hsn : hs[n]? with
    | none => simp [hsn] at hn
    | some es' =>
      simp only [hsn, Option.map_some] at hn
      split at hn
      · rename_i hu
        have hes' : es' = es := Option.some.inj hn
        subst hes'
        have hmem : x ∈ hs.flatten := List.mem_flatten.mpr ⟨es', List.mem_of_getElem? hsn, hxe⟩
        have := (List.all_eq_true.mp hu) x hxe
        rw [hall x hmem] at this
        cases this
      · cases hn
  have hwf : ArchWF s' := archWF_frame initArchive_archWF hf.st hf.frame (by rw [hown]; rfl)
  have hok : ArchOK s' := ⟨hwf, hf.st.root, hf.st.blockRoot⟩
  have hband : (0 : Nat) ∈ bandIdsOf s' := (Exact.mem_bandIdsOf hf.st).2 hf.bandDir
  constructor
  · -- heads
    intro b hb
    by_cases hb0 : b = 0
    · subst hb0; exact final_readable hf
    · have hdir := (Exact.mem_bandIdsOf hf.st).1 hb
      rw [hf.frame _ (by simp [newKey, Key.isUnder, Key.parent, isBlockish, hb0])] at hdir
      have := Store.mem_of_get? hdir
      simp [C09.initArchive] at this
  · -- validate speaks
    intro quick
    rw [(C09.validate_spec H hok quick).2.2]
    -- a hunk with an unusable entry
    obtain ⟨x, hx⟩ := List.exists_mem_of_ne_nil _ hne
    obtain ⟨es, hes, hxe⟩ := List.mem_flatten.mp hx
    obtain ⟨n, hn, hget⟩ := List.getElem_of_mem hes
    have hnum : n ∈ hunkNumsOf s' 0 := by rw [final_hunkNums hf]; exact List.mem_range.mpr hn
    have hherr : hunkError s' 0 n = some .invalidMetadata := by
      have hnot : es.all entryUsable = false := by
        rw [List.all_eq_false]
        exact ⟨x, hxe, by rw [hall x hx]; simp⟩
      simp [hunkError, hf.hunk, List.getElem?_eq_getElem hn, hget, hnot]
    have hbe : Err.invalidMetadata ∈ bandErrors s' 0 := by
      simp only [bandErrors, final_readable hf, if_true, List.mem_append, List.mem_filterMap]
      exact Or.inr ⟨n, hnum, hherr⟩
    have hle : Err.invalidMetadata ∈ listErrors s' 0 := by
      unfold listErrors
      exact List.mem_append_left _ hbe
    have hhead : headError s' 0 = none := by simp [headError, hf.head]
    have hve : Err.invalidMetadata ∈ validateErrors H quick s' := by
      unfold validateErrors
      rw [List.mem_append]
      left
      rw [List.mem_flatMap]
      exact ⟨0, hband, by simp [bandValidateErrors, hhead, hle]⟩
    intro h0
    have : (validateErrors H quick s') = [] := by
      simpa using h0
    rw [this] at hve
    cases hve

end Conserve.Rng
