import ConserveModel.Proofs.CrashPrefix
import ConserveModel.Proofs.FaultRestore
import ConserveModel.Proofs.ProducedArchive
import ConserveModel.Proofs.ProducedLock
import ConserveModel.Props.C02h
import ConserveModel.Props.C04r
/-
The archive a backup killed at any micro-step leaves (no injected faults), described through the
archive the uninterrupted run leaves (`Exact.Summary`) and the prefix relation of Proofs/CrashPrefix.lean:
the new version's hunks are an initial segment of the complete run's hunks, hence record a prefix of
the source; the archive is good again once the new version's head is readable.
No property statements here.
-/
set_option linter.unusedSimpArgs false
namespace Conserve.Crash
open Conserve Conserve.Exact Conserve.Inv Conserve.Conf Conserve.Fault Conserve.Hist Conserve.Rng Prog

variable {H : Str → Str} {o : BackupOpts}

/-- A good archive (C01a's `ArchiveGood`, C13's `CI`, stored values in range) whose newest version
directory `p` holds a complete version. -/
structure CrashStart (H : Str → Str) (src : List SrcEntry) (s : Store) (p : Nat) : Prop where
  good : ArchiveGood H src s
  ci : CI H s
  inRange : entriesInRange s = true
  newest : maxNat? (bandIdsOf s) = some p
  complete : isComplete s p = true

theorem CrashStart.new_eq {src : List SrcEntry} {s : Store} {p : Nat} (h : CrashStart H src s p) :
    newBandOf s = p + 1 := by
  simp [newBandOf, nextBandId, h.newest]

theorem CrashStart.mem {src : List SrcEntry} {s : Store} {p : Nat} (h : CrashStart H src s p) :
    p ∈ bandIdsOf s := maxNat?_mem h.newest

/-- The store a backup killed before micro-step `j` leaves. -/
abbrev crashed (H : Str → Str) (o : BackupOpts) (src : List SrcEntry) (s : Store) (j : Nat) : Store :=
  ((backup H o src).run { store := s, crashAt := some j }).2.store

section crashed
variable {src : List SrcEntry} {s sF : Store} {hs : List (List IndexEntry)} {stats : Stats} {evs : List Event}

theorem crashed_prefix (h : Summary H o src s sF hs stats evs) (j : Nat) : Extends (crashed H o src s j) sF := by
  have := crash_prefix (backup_createOnly H o src) s j
  rwa [h.runs.clean.2.1] at this

theorem crashed_extends (s : Store) (j : Nat) : Extends s (crashed H o src s j) :=
  Prog.run_extends (backup_createOnly H o src) { store := s, crashAt := some j } rfl

theorem crashed_old_key (h : Summary H o src s sF hs stats evs) (j : Nat) {k : Key} {v : FileVal}
    (hk : newKey (newBandOf s) k = false) (hv : (crashed H o src s j).get? k = some v) (hne : v ≠ .empty) :
    s.get? k = some v := by
  have := (crashed_prefix h j).keeps hv hne
  rwa [h.final.frame k hk] at this

theorem crashed_bandIds (h : Summary H o src s sF hs stats evs) (hst : StoreOK H s) (j : Nat) {b : Nat}
    (hnd : NoDupKeys (crashed H o src s j)) (hb : b ∈ bandIdsOf (crashed H o src s j)) (hne : b ≠ newBandOf s) :
    b ∈ bandIdsOf s := by
  have hg : (crashed H o src s j).get? (.bandDir b) = some .dir :=
    Store.get?_of_mem_nodup hnd (mem_bandIdsOf'.1 hb)
  have := crashed_old_key h j (k := .bandDir b) (by simp [newKey, Key.isUnder, Key.parent, Exact.isBlockish, hne]) hg
    (by simp)
  exact (Exact.mem_bandIdsOf hst).2 this

theorem crashed_bandSame (hst : StoreOK H s) (j : Nat) {b : Nat} (hb : b ∈ bandIdsOf s) :
    BandSame s (crashed H o src s j) b :=
  backup_bandSame H o src { store := s, crashAt := some j } ((Exact.mem_bandIdsOf hst).1 hb)

end crashed

/-- **`ArchiveGood` of the archive a killed backup leaves**, for the same source, provided the new
version's head is readable (the crash point lies after the head write) — or no directory was created
for it at all. -/
theorem crashed_archiveGood (hinj : Function.Injective H) (hlen : HashLen H) {src : List SrcEntry} {s : Store}
    {p : Nat} (ho : 0 < o.maxBlockSize) (hsrc : SrcGood src) (hsw : C13.SrcSortedWeak src)
    (hst : CrashStart H src s p) (j : Nat)
    (hhead : newBandOf s ∈ bandIdsOf (crashed H o src s j) → bandReadable (crashed H o src s j) (newBandOf s) = true) :
    ArchiveGood H src (crashed H o src s j) := by
  obtain ⟨sF, hs, stats, evs, h⟩ := backup_summary (o := o) hinj (fun d => hlen d) ho hsrc hst.good
  have hg := hst.good
  have hci' : CI H (crashed H o src s j) :=
    C13.backup_ci_all_worlds (w := { store := s, crashAt := some j }) hinj hlen hsw rfl hst.ci
  refine archiveGood_of_ci hci' ?_ ?_ ?_ ?_ ?_ ?_
  · intro b hb
    by_cases hne : b = newBandOf s
    · subst hne; exact hhead hb
    · have hbs := crashed_bandIds h hg.st j hci'.nodup hb hne
      rw [bandReadable_same (crashed_bandSame hg.st j hbs)]
      exact (hg.bands b hbs).1
  · exact C09p.backup_keeps_inRange o (C09p.srcInRange_of_srcGood hsrc) { store := s, crashAt := some j } hst.inRange
  · exact backup_kindsOK H o src { store := s, crashAt := some j } hg.st.kinds
  · exact (backup_irs H o (C09p.srcInRange_of_srcGood hsrc) { store := s, crashAt := some j }
      ⟨hst.inRange, hg.st.small⟩).2
  · rw [crashed, backup_lock_same]; exact hg.noLock
  · exact heuristic_after_backup hinj ho hsrc rfl hg.st.noDup hg.st.blocks hg.noDangling hg.heuristic

theorem take_flatten_prefix {α : Type} (hs : List (List α)) (m : Nat) : (hs.take m).flatten <+: hs.flatten := by
  conv => rhs; rw [← List.take_append_drop m hs, List.flatten_append]
  exact List.prefix_append _ _

section shape
variable {src : List SrcEntry} {s sF : Store} {hs : List (List IndexEntry)} {stats : Stats} {evs : List Event}

/-- A hunk file of the new version in the killed run's store is a hunk of the complete run, or the
zero-length leftover of the killed write. -/
theorem crashed_hunk (h : Summary H o src s sF hs stats evs) (j k : Nat) {v : FileVal}
    (hv : (crashed H o src s j).get? (.hunk (newBandOf s) k) = some v) :
    (∃ es, v = .hunk es ∧ hs[k]? = some es) ∨ v = .empty := by
  rcases crashed_prefix h j _ _ hv with hF | ⟨he, _⟩
  · left
    rw [h.final.hunk k] at hF
    cases hk : hs[k]? with
    | none => simp [hk] at hF
    | some es => simp only [hk, Option.map_some, Option.some.injEq] at hF; exact ⟨es, hF.symm, rfl⟩
  · exact Or.inr he

theorem crashed_own (h : Summary H o src s sF hs stats evs) (j : Nat) (hci' : CI H (crashed H o src s j)) :
    ∃ m, ownEntries (crashed H o src s j) (newBandOf s) = (hs.take m).flatten := by
  have hnd := hci'.nodup
  -- usable hunks of the killed store that decode are hunks of the complete run
  have husable : ∀ k es, (crashed H o src s j).get? (.hunk (newBandOf s) k) = some (.hunk es) →
      usableHunk (crashed H o src s j) (newBandOf s) k = hs[k]? := by
    intro k es hg
    rcases crashed_hunk h j k hg with ⟨es', he, hk⟩ | he
    · cases he
      have hall : es.all entryUsable = true := by
        rw [List.all_eq_true]
        intro e he
        exact h.usable e (List.mem_flatten.mpr ⟨es, List.mem_of_getElem? hk, he⟩)
      simp [usableHunk, hg, hall, hk]
    · cases he
  by_cases hb : newBandOf s ∈ bandIdsOf (crashed H o src s j)
  · have ok := bandOK_of_conforms (((Conf.conforms_iff H).1 hci'.conf).2.2.2.2 _ hb)
    obtain ⟨L, hrange⟩ : ∃ L, hunkNumsOf (crashed H o src s j) (newBandOf s) = List.range L := ⟨_, ok.range⟩
    have hvals := ok.vals
    rw [hrange, List.length_range] at hvals
    cases L with
    | zero => exact ⟨0, by simp [ownEntries, hrange]⟩
    | succ L' =>
      have hdec : ∀ k, k < L' → ∃ es, (crashed H o src s j).get? (.hunk (newBandOf s) k) = some (.hunk es) := by
        intro k hk
        rcases hvals k (List.mem_range.mpr (by omega)) with hd | ⟨_, _, hl⟩
        · exact hd
        · omega
      have hfirst : (List.range L').filterMap (usableHunk (crashed H o src s j) (newBandOf s)) = hs.take L' := by
        rw [← filterMap_range_getElem?]
        apply filterMap_congr'
        intro k hk
        obtain ⟨es, hg⟩ := hdec k (List.mem_range.mp hk)
        exact husable k es hg
      unfold ownEntries
      rw [hrange, List.range_succ, List.filterMap_append, hfirst]
      rcases hvals L' (List.mem_range.mpr (by omega)) with ⟨es, hg⟩ | ⟨hg, _, _⟩
      · refine ⟨L' + 1, ?_⟩
        rw [List.take_add_one, List.filterMap_cons, List.filterMap_nil, husable L' es hg]
        cases hs[L']? <;> simp
      · exact ⟨L', by simp [usableHunk, hg]⟩
  · have : hunkNumsOf (crashed H o src s j) (newBandOf s) = [] := by
      rw [List.eq_nil_iff_forall_not_mem]
      intro k hk
      obtain ⟨v, hg, _⟩ := (mem_hunkNumsOf_get? hnd).1 hk
      exact hb (bandDir_of_hunk hci'.dirs hg)
    exact ⟨0, by simp [ownEntries, this]⟩

theorem crashed_band (h : Summary H o src s sF hs stats evs) (j : Nat) (hci' : CI H (crashed H o src s j)) :
    ∃ m, bandEntries (crashed H o src s j) (newBandOf s) = (hs.take m).flatten := by
  unfold bandEntries
  split
  · exact crashed_own h j hci'
  · exact ⟨0, by simp⟩

theorem crashed_records (hinj : Function.Injective H) (ho : 0 < o.maxBlockSize) (hsrc : SrcGood src)
    (hg : ArchiveGood H src s) (h : Summary H o src s sF hs stats evs) (j : Nat)
    (hci' : CI H (crashed H o src s j)) :
    ∃ pre, pre <+: src ∧
      Paired (Records H o (crashed H o src s j)) pre (bandEntries (crashed H o src s j) (newBandOf s)) := by
  obtain ⟨m, hm⟩ := crashed_band h j hci'
  have hpre : bandEntries (crashed H o src s j) (newBandOf s) <+: hs.flatten := hm ▸ take_flatten_prefix hs m
  generalize hown : bandEntries (crashed H o src s j) (newBandOf s) = own at hpre hm
  have htake : own = hs.flatten.take own.length := List.prefix_iff_eq_take.mp hpre
  refine ⟨src.take own.length, List.take_prefix _ _, ?_⟩
  have hmap : (src.take own.length).map (Inv.metaOf o) = own.map strip := by
    rw [List.map_take, ← h.final.shape, ← List.map_take, ← htake]
  have hset : C04.Setting H o src { store := s, crashAt := some j } :=
    C04.Setting.of_store hinj ho hsrc.wf rfl hg.st.noDup hg.st.blocks hg.noDangling hg.heuristic
  refine (paired_of_map_eq hmap).imp_mem ?_
  intro sf hsf e he hmeta
  have hsf' : sf ∈ src := List.mem_of_mem_take hsf
  have hk : e.kind = sf.kind := congrArg IndexEntry.kind hmeta.symm
  have heF : e ∈ hs.flatten := hpre.subset he
  refine ⟨hmeta.symm, ?_, fun hnf => h.final.hsNonfile e heF (by rw [hk]; exact hnf)⟩
  intro hfile
  have heown : e ∈ ownEntries (crashed H o src s j) (newBandOf s) := by
    rw [← hown] at he
    unfold bandEntries at he
    split at he
    · exact he
    · cases he
  obtain ⟨n, _, es, hu, hee⟩ := mem_ownEntries heown
  have hh := (usableHunk_mem hu hee).1
  have h0 : hunkAt s (newBandOf s) n = none := by
    simp [hunkAt, fresh_under_new hg.st (k := .hunk (newBandOf s) n) (isUnder_bandDir_iff.2 rfl)]
  obtain ⟨sf2, hsf2, hap, _, hrb⟩ := C04.faults_recorded_content hset (newBandOf s) n es h0 hh e hee (hk.trans hfile)
  have hap' : sf2.apath = sf.apath := hap.trans (congrArg IndexEntry.apath hmeta.symm)
  rw [hsrc.inj sf2 hsf2 sf hsf' hap'] at hrb
  exact hrb

end shape



/-- **The stitching rule on the killed run's store**: the new version's own entries, then — unless the
tail file already exists — the entries of the previous (complete, newest) version that sort after the
last path the new version recorded. -/
theorem crashed_listSpec {src : List SrcEntry} {s : Store} {p : Nat} (hst : CrashStart H src s p) (j : Nat) :
    listSpec (crashed H o src s j) (newBandOf s) =
      bandEntries (crashed H o src s j) (newBandOf s) ++
        (if isComplete (crashed H o src s j) (newBandOf s) then []
         else (listSpec s p).filter (sortsAfter (lastOr (bandEntries (crashed H o src s j) (newBandOf s)) none))) := by
  have hg := hst.good
  have hnd' : NoDupKeys (crashed H o src s j) := Prog.run_noDupKeys _ { store := s, crashAt := some j } hg.st.noDup
  have hsame := crashed_bandSame (H := H) (o := o) (src := src) hg.st j hst.mem
  have hn := hg.st.uniqueKeys
  have hn' : UniqueKeys (crashed H o src s j) := (uniqueKeys_iff_nodup _).2 hnd'
  have hpres : bandPresent (crashed H o src s j) p = true := by
    rw [bandPresent_same hsame]; exact bandPresent_of_readable (hg.bands p hst.mem).1
  have hcomp : isComplete (crashed H o src s j) p = true := by rw [isComplete_same hsame]; exact hst.complete
  have hold : listSpec s p = bandEntries s p := by simp [listSpec, hst.complete]
  rw [hold]
  unfold listSpec
  refine congrArg _ ?_
  split
  · rfl
  · rw [hst.new_eq]
    simp only [contSpec, hpres, hcomp, if_true, List.append_nil, bandEntries_same hn hn' hsame]

end Conserve.Crash
