import ConserveModel.Proofs.JsonStruct
/-
For Props/C13j.lean: whatever the parser accepts, on ARBITRARY input, is a value the Rust types can hold
(`parseAddr_wf`, `parseEntry_wf`).  The member loop keeps an invariant of its state (`parseMembersF_inv`):
every member seen so far is in range (`AddrAccWf`, `EntryAccWf`).
-/
namespace Conserve.Json
open Conserve

theorem parseStrBody_valid {f : Nat} {s v r : Str} (h : parseStrBody f s = some (v, r)) : validUtf8 v = true := by
  unfold parseStrBody at h
  split at h
  · cases h
  · split at h
    · cases h; assumption
    · cases h

theorem parseStr_valid {f : Nat} {s v r : Str} (h : parseStr f s = some (v, r)) : validUtf8 v = true := by
  unfold parseStr at h
  split at h
  · cases h
  · split at h
    · exact parseStrBody_valid h
    · cases h

theorem parseOptStr_valid {f : Nat} {s r : Str} {v : Option Str} (h : parseOptStr f s = some (v, r)) :
    wfOptStr v = true := by
  unfold parseOptStr at h
  split at h
  · cases h
  · split at h
    · simp at h
      obtain ⟨_, rfl⟩ := h; rfl
    · split at h
      · simp at h
        obtain ⟨a, ha, rfl⟩ := h
        exact parseStrBody_valid ha
      · cases h

theorem parseUnsigned_lt {bound : Nat} {s r : Str} {v : Nat} (h : parseUnsigned bound s = some (v, r)) : v < bound := by
  unfold parseUnsigned at h
  split at h
  · cases h
  · split at h
    · cases h; assumption
    · cases h

theorem parseI64_range {s r : Str} {v : Int} (h : parseI64 s = some (v, r)) :
    -9223372036854775808 ≤ v ∧ v < 9223372036854775808 := by
  unfold parseI64 at h
  split at h
  · cases h
  · split at h
    · split at h
      · cases h
      · split at h
        · cases h
        · cases h; omega
    · split at h
      · cases h
      · split at h
        · cases h; omega
        · cases h

theorem parseOptU32_wf {s r : Str} {v : Option Nat} (h : parseOptU32 s = some (v, r)) : wfOptU32 v = true := by
  unfold parseOptU32 at h
  split at h
  · cases h
  · split at h
    · simp at h
      obtain ⟨_, rfl⟩ := h; rfl
    · simp at h
      obtain ⟨a, ha, rfl⟩ := h
      simp [wfOptU32, u32Bound, parseUnsigned_lt ha]

theorem isLowerHex_toLowerHex {c : Nat} (h : isHex c = true) : isLowerHex (toLowerHex c) = true := by
  simp [isHex, isLowerHex] at h
  unfold toLowerHex
  split
  · simp [isLowerHex]; omega
  · simp [isLowerHex]; omega

theorem parseHash_wf {s h r : Str} (hp : parseHash s = some (h, r)) : wfHash h = true := by
  unfold parseHash at hp
  split at hp
  · split at hp
    · cases hp
    · split at hp
      · rename_i h0 r' _ hcond
        cases hp
        simp only [wfHash, List.length_map, hcond.1, beq_self_eq_true, Bool.true_and]
        rw [List.all_eq_true] at hcond ⊢
        intro c hc
        obtain ⟨c0, hc0, rfl⟩ := List.mem_map.mp hc
        exact isLowerHex_toLowerHex (hcond.2 c0 hc0)
      · cases hp
  · cases hp

theorem parseMembersF_inv {σ : Type} {field : Nat → σ → Str → Str → Option (σ × Str)} {P : σ → Prop}
    (hfield : ∀ f acc k s acc' r, P acc → field f acc k s = some (acc', r) → P acc') :
    ∀ {F : Nat} {first : Bool} {acc : σ} {s : Str} {acc' : σ} {r : Str},
      P acc → parseMembersF field F first acc s = some (acc', r) → P acc' := by
  intro F
  induction F with
  | zero => intro first acc s acc' r _ h; simp [parseMembersF] at h
  | succ f ih =>
    intro first acc s acc' r hP h
    simp only [parseMembersF] at h
    split at h
    · cases h
    · split at h
      · cases h; exact hP
      · split at h
        · cases h
        · split at h
          · cases h
          · split at h
            · split at h
              · cases h
              · rename_i hfld
                exact ih (hfield _ _ _ _ _ _ hP hfld) h
            · cases h

theorem parseSeqF_all {α : Type} {elem : Nat → Str → Option (α × Str)} {Q : α → Prop}
    (helem : ∀ f s x r, elem f s = some (x, r) → Q x) :
    ∀ {F : Nat} {first : Bool} {s : Str} {xs : List α} {r : Str},
      parseSeqF elem F first s = some (xs, r) → ∀ x ∈ xs, Q x := by
  intro F
  induction F with
  | zero => intro first s xs r h; simp [parseSeqF] at h
  | succ f ih =>
    intro first s xs r h
    -- an element and the rest of the array, wherever the element starts
    have cons : ∀ {s' r' : Str} {x : α} {xs' : List α}, elem f s' = some (x, r') →
        parseSeqF elem f false r' = some (xs', r) → ∀ y ∈ x :: xs', Q y := by
      intro s' r' x xs' he hrec y hy
      rcases List.mem_cons.mp hy with rfl | hy
      · exact helem _ _ _ _ he
      · exact ih hrec y hy
    simp only [parseSeqF] at h
    split at h
    · cases h
    · split at h
      · cases h; simp
      · split at h
        · split at h
          · cases h
          · rename_i he
            split at h
            · cases h
            · rename_i hrec
              cases h
              exact cons he hrec
        · split at h
          · split at h
            · cases h
            · split at h
              · cases h
              · split at h
                · cases h
                · rename_i he
                  split at h
                  · cases h
                  · rename_i hrec
                    cases h
                    exact cons he hrec
          · cases h

theorem parseArray_all {α : Type} (elem : Nat → Str → Option (α × Str)) (Q : α → Prop)
    (helem : ∀ f s x r, elem f s = some (x, r) → Q x) {F : Nat} {s r : Str} {xs : List α}
    (h : parseArray elem F s = some (xs, r)) : ∀ x ∈ xs, Q x := by
  unfold parseArray at h
  split at h
  · exact parseSeqF_all helem h
  · cases h

structure AddrAccWf (acc : AddrAcc) : Prop where
  hash : ∀ h, acc.hash = some h → wfHash h = true
  start : ∀ n, acc.start = some n → n < u64Bound
  len : ∀ n, acc.len = some n → n < u64Bound

theorem AddrAccWf_init : AddrAccWf {} := by
  constructor <;> intro x hx <;> cases hx

/-- A known member, `if seen then none else (parse s).map …`, leads to a state with property `P` if
every value its parser can return does. -/
theorem guard_map_inv {γ σ : Type} {P : σ → Prop} {c : Bool} {p : Option γ} {m : γ → σ × Str} {a : σ} {r : Str}
    (h : (if c = true then none else p.map m) = some (a, r)) (hP : ∀ x, p = some x → P (m x).1) : P a := by
  cases c with
  | true => cases h
  | false =>
    cases p with
    | none => cases h
    | some x =>
      have e : m x = (a, r) := Option.some.inj h
      have := hP x rfl
      rwa [e] at this

theorem forall_eq_some {β : Type} {Q : β → Prop} {v : β} (h : Q v) : ∀ x, some v = some x → Q x := by
  intro x hx; cases hx; exact h

theorem getD_of {β : Type} {Q : β → Prop} {o : Option β} (h : ∀ v, o = some v → Q v) {d : β} (hd : Q d) :
    Q (o.getD d) := by
  cases o with
  | none => exact hd
  | some v => exact h v rfl

theorem addrField_wf (f : Nat) (acc : AddrAcc) (k s : Str) (acc' : AddrAcc) (r : Str)
    (hacc : AddrAccWf acc) (h : addrField f acc k s = some (acc', r)) : AddrAccWf acc' := by
  unfold addrField at h
  by_cases hk : k = kHash
  · rw [if_pos hk] at h
    exact guard_map_inv h fun _ hp => { hacc with hash := forall_eq_some (parseHash_wf hp) }
  rw [if_neg hk] at h
  clear hk
  by_cases hk : k = kStart
  · rw [if_pos hk] at h
    exact guard_map_inv h fun _ hp => { hacc with start := forall_eq_some (parseUnsigned_lt hp) }
  rw [if_neg hk] at h
  clear hk
  by_cases hk : k = kLen
  · rw [if_pos hk] at h
    exact guard_map_inv h fun _ hp => { hacc with len := forall_eq_some (parseUnsigned_lt hp) }
  rw [if_neg hk] at h
  obtain ⟨r', _, hm⟩ := Option.map_eq_some_iff.mp h
  cases hm
  exact hacc

theorem parseAddr_wf {f : Nat} {s r : Str} {a : Addr} (h : parseAddr f s = some (a, r)) : wfAddr a = true := by
  unfold parseAddr at h
  split at h
  · -- object form
    split at h
    · cases h
    · rename_i acc r' hm
      have hwf : AddrAccWf acc :=
        parseMembersF_inv addrField_wf AddrAccWf_init hm
      obtain ⟨a', hfin, ha⟩ := Option.map_eq_some_iff.mp h
      cases ha
      unfold AddrAcc.finish at hfin
      split at hfin
      · rename_i hh l hhash hlen
        cases hfin
        simp [wfAddr, hwf.hash _ hhash, hwf.len _ hlen, getD_of hwf.start (d := 0) (by decide)]
      · cases hfin
  · -- tuple form
    unfold parseAddrTuple at h
    split at h
    · cases h
    · rename_i hh r1 hhash
      split at h
      · split at h
        · cases h
        · rename_i st r3 hst
          split at h
          · split at h
            · cases h
            · rename_i l r5 hl
              split at h
              · cases h
                simp [wfAddr, parseHash_wf hhash, parseUnsigned_lt hst, parseUnsigned_lt hl]
              · cases h
          · cases h
      · cases h
  · cases h

structure EntryAccWf (acc : EntryAcc) : Prop where
  apath : ∀ v, acc.apath = some v → validUtf8 v = true
  mtime : ∀ v, acc.mtime = some v → -9223372036854775808 ≤ v ∧ v < 9223372036854775808
  unixMode : ∀ v, acc.unixMode = some v → wfOptU32 v = true
  user : ∀ v, acc.user = some v → wfOptStr v = true
  group : ∀ v, acc.group = some v → wfOptStr v = true
  mtimeNanos : ∀ v, acc.mtimeNanos = some v → v < u32Bound
  addrs : ∀ v, acc.addrs = some v → v.all wfAddr = true
  target : ∀ v, acc.target = some v → wfOptStr v = true

theorem EntryAccWf_init : EntryAccWf {} := by
  constructor <;> intro x hx <;> cases hx

theorem entryField_wf (f : Nat) (acc : EntryAcc) (k s : Str) (acc' : EntryAcc) (r : Str)
    (hacc : EntryAccWf acc) (h : entryField f acc k s = some (acc', r)) : EntryAccWf acc' := by
  unfold entryField at h
  by_cases hk : k = kApath
  · rw [if_pos hk] at h
    exact guard_map_inv h fun _ hp => { hacc with apath := forall_eq_some (parseStr_valid hp) }
  rw [if_neg hk] at h
  clear hk
  by_cases hk : k = kKind
  · rw [if_pos hk] at h
    exact guard_map_inv h fun _ _ => { hacc with }
  rw [if_neg hk] at h
  clear hk
  by_cases hk : k = kMtime
  · rw [if_pos hk] at h
    exact guard_map_inv h fun _ hp => { hacc with mtime := forall_eq_some (parseI64_range hp) }
  rw [if_neg hk] at h
  clear hk
  by_cases hk : k = kUnixMode
  · rw [if_pos hk] at h
    exact guard_map_inv h fun _ hp => { hacc with unixMode := forall_eq_some (parseOptU32_wf hp) }
  rw [if_neg hk] at h
  clear hk
  by_cases hk : k = kMtimeNanos
  · rw [if_pos hk] at h
    exact guard_map_inv h fun _ hp => { hacc with mtimeNanos := forall_eq_some (parseUnsigned_lt hp) }
  rw [if_neg hk] at h
  clear hk
  by_cases hk : k = kAddrs
  · rw [if_pos hk] at h
    exact guard_map_inv h fun _ hp => { hacc with addrs := forall_eq_some (List.all_eq_true.mpr (parseArray_all parseAddr _ (fun _ _ _ _ h => parseAddr_wf h) hp)) }
  rw [if_neg hk] at h
  clear hk
  by_cases hk : k = kTarget
  · rw [if_pos hk] at h
    exact guard_map_inv h fun _ hp => { hacc with target := forall_eq_some (parseOptStr_valid hp) }
  rw [if_neg hk] at h
  clear hk
  by_cases hk : k = kUser
  · rw [if_pos hk] at h
    exact guard_map_inv h fun _ hp => { hacc with user := forall_eq_some (parseOptStr_valid hp) }
  rw [if_neg hk] at h
  clear hk
  by_cases hk : k = kGroup
  · rw [if_pos hk] at h
    exact guard_map_inv h fun _ hp => { hacc with group := forall_eq_some (parseOptStr_valid hp) }
  rw [if_neg hk] at h
  clear hk
  obtain ⟨r', _, hm⟩ := Option.map_eq_some_iff.mp h
  cases hm
  exact hacc

theorem parseEntry_wf {f : Nat} {s r : Str} {e : IndexEntry} (h : parseEntry f s = some (e, r)) : wfEntry e = true := by
  unfold parseEntry at h
  split at h
  · split at h
    · cases h
    · rename_i acc r' hm
      have hwf : EntryAccWf acc :=
        parseMembersF_inv entryField_wf EntryAccWf_init hm
      obtain ⟨e', hfin, he⟩ := Option.map_eq_some_iff.mp h
      cases he
      unfold EntryAcc.finish at hfin
      split at hfin
      · rename_i a k hap hk
        cases hfin
        have hm := getD_of hwf.mtime (d := 0) ⟨by decide, by decide⟩
        simp only [wfEntry, Bool.and_eq_true, decide_eq_true_eq]
        exact ⟨⟨⟨⟨⟨⟨⟨⟨hwf.apath _ hap, hm.1⟩, hm.2⟩, getD_of hwf.mtimeNanos (by decide)⟩, getD_of hwf.unixMode rfl⟩,
          getD_of hwf.user rfl⟩, getD_of hwf.group rfl⟩, getD_of hwf.addrs rfl⟩, getD_of hwf.target rfl⟩
      · cases hfin
  · cases h

end Conserve.Json
