import ConserveModel.Proofs.ProtocolEffect
/-
The invariants of the protocol skeleton, group 1 (local facts): they hold at the start and are
preserved by both step functions.  The clauses are defined in Proofs/ProtocolInv.lean; how preservation is
proved is said there.
-/
namespace Conserve.Proto

theorem Inv1.start (c : Config) : Inv1 c c.start := by
  constructor <;> simp [Config.start, GPc.locked, BPc.mkdirDone, mkdirBeforeCheck]

section
variable {c : Config} {p q : State}

theorem Inv1.presB (hs : StepB p q) (h : Inv1 c p) : Inv1 c q := by
  -- the clauses in the order of the structure; a step of the backup leaves `g` alone
  have hg := hs.g_eq
  have mono := hs.mkdirDone_mono
  have new := hs.mkdirDone_new
  constructor
  · exact hs.needed_eq.trans h.needed
  · rw [hg]; exact h.del
  · exact hs.recheck_eq.trans h.recheck
  · rw [hg]; exact h.todoBlocks
  · rw [hg]; exact h.todoBands
  · rw [hg]; exact h.todoEmpty
  · rw [hg]; exact h.passed
  · rw [hg]; exact h.sweepPassed
  · rw [hg, hs.lock_eq]; exact h.lock
  · have a := h.logMkdir
    cases hs with
    | mkdir_exists | mkdir => exact fun _ => rfl
    | fin => exact a
    | _ => exact fun hin => mono (a ((List.mem_cons.mp hin).resolve_left nofun))
  · have a := h.mkdirLogged
    cases hs with
    | mkdir_exists | mkdir => exact fun _ => List.mem_cons_self
    | fin => exact a
    | _ =>
      have hpc := ‹BSt.pc _ = _›
      exact fun hm => List.mem_cons_of_mem _ (a ((new hm).resolve_right (by rw [hpc]; nofun)))
  · rw [hg, hs.mkdirBeforeCheck_eq]; exact h.logCheck
  · have a := h.logListBlocks
    cases hs with
    | listBlocks => exact fun _ => List.mem_cons_self
    | block_dedup hpc | block_rewrite hpc | block_write hpc | hunk hpc | tail hpc =>
      exact fun _ => List.mem_cons_of_mem _ (a (by simp [hpc]))
    | fin => exact a
    | _ => exact fun h => by rcases h with h | h | h <;> cases h
  · rw [hg, hs.mem_log_iff rfl]; exact h.logLockWrite

theorem Inv1.presG (hs : StepG p q) (h : Inv1 c p) : Inv1 c q := by
  have np := h.notPassed
  constructor
  · rw [hs.b_eq]; exact h.needed
  · exact hs.del_eq.trans h.del
  · rw [hs.b_eq]; exact h.recheck
  · have a := h.todoBlocks
    cases hs with
    | listBlocks hpc => exact fun g hg => by rw [(h.todoEmpty (np (.inr hpc))).1] at hg; cases hg
    | check => exact fun g hg => hg
    | rmBlock _ _ g0 rest ht => exact fun g hg => a g (ht ▸ List.mem_cons_of_mem _ hg)
    | _ => exact a
  · have a := h.todoBands
    cases hs with
    | check => exact fun i hi => h.del ▸ hi
    | rmBand _ b rest ht _ => exact fun i hi => a i (ht ▸ List.mem_cons_of_mem _ hi)
    | _ => exact a
  · have a := h.todoEmpty
    cases hs with
    | check => exact nofun
    | rmBand _ b rest ht _ => exact fun hp => by have := (a hp).2; rw [ht] at this; cases this
    | rmBlock _ _ g rest ht => exact fun hp => by have := (a hp).1; rw [ht] at this; cases this
    | _ => exact a
  · have a : p.g.passed = true → p.g.pc.late = true := fun hp => GPc.late_iff.mpr (h.passed hp)
    have mono := hs.late_mono
    refine fun hp => GPc.late_iff.mp ?_
    revert hp
    cases hs with
    | check => exact fun _ => rfl
    | _ => exact fun hp => mono (a hp)
  · have a := h.sweepPassed
    cases hs with
    | check => exact fun _ => rfl
    | _ => frame_pc a
  · have a := h.lock
    cases hs with
    | lockWrite => exact fun _ => rfl
    | _ => frame_pc a
  · rw [hs.b_eq, hs.mem_log_iff rfl]; exact h.logMkdir
  · rw [hs.b_eq, hs.mem_log_iff rfl]; exact h.mkdirLogged
  · have a : mkdirBeforeCheck p.log = false → p.g.pc.late = true := fun hw => GPc.late_iff.mpr (h.logCheck hw)
    have mono := hs.late_mono
    refine fun hw => GPc.late_iff.mp ?_
    revert hw
    cases hs with
    | check | check_abort => exact fun _ => rfl
    | fin => exact a
    | _ => exact fun hw => mono (a ((mkdirBeforeCheck_cons_of_ne _ (by nofun)).symm.trans hw))
  · rw [hs.b_eq, hs.mem_log_iff rfl]; exact h.logListBlocks
  · have a := h.logLockWrite
    have mono := hs.lockedOrFin_mono
    cases hs with
    | lockWrite => exact fun _ => .inl rfl
    | lockWrite_refused => exact fun _ => .inr rfl
    | fin => exact a
    | _ => exact fun hin => mono (a ((List.mem_cons.mp hin).resolve_left nofun))

end

end Conserve.Proto
