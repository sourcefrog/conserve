import ConserveModel.Proofs.BackupLoop
import ConserveModel.Proofs.FrameOps
/-
The pieces of `backup()` outside its main loop: `Band::create` / `Band::close` issue only admissible
operations (which keep the invariant: `Sat.of_allOps`, Proofs/BlockSpec.lean).
-/
namespace Conserve.Inv
open Conserve Prog

section
variable {H : Str → Str} {src : List SrcEntry} {s0 : Store}

/-- Add a fact about the returned value proved directly on `run`. -/
theorem Sat.and_run {α : Type} {p : Prog α} {w : World} {Q Q' : α → World → Prop}
    (hp : Sat H src s0 p w Q) (h : ∀ a, (p.run w).1 = .ok a → Q' a (p.run w).2) :
    Sat H src s0 p w (fun a w' => Q a w' ∧ Q' a w') :=
  ⟨hp.1, fun a ha => ⟨hp.2 a ha, h a ha⟩⟩

theorem bandCreate_fine : Prog.AllOps (fun o => ∀ s, OpOK H src s o) bandCreate :=
  bandCreate_fp (fun _ ho _ => OpOK.readOnly _ ho.readOnly.not_mutating) fun _ _ hn s => by
    cases hn
    · exact OpOK.createDir s fun _ h => nomatch h
    · exact OpOK.createDir s fun _ h => nomatch h
    · exact OpOK.writeOther s _ (fun _ h => nomatch h) (fun _ _ h => nomatch h)

theorem bandClose_fine (b n : Nat) : Prog.AllOps (fun o => ∀ s, OpOK H src s o) (bandClose b n) :=
  performUnit_allOps fun s => OpOK.writeOther s _ (fun _ h => nomatch h) (fun _ _ h => nomatch h)

end

/-- The archive has no band directory entries at all. -/
def NoBands (s : Store) : Prop := ∀ kv ∈ s, ∀ b, kv.1 ≠ .bandDir b

end Conserve.Inv
