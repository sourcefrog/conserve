import ConserveModel.Props.C11
/-
Helper lemmas for C12 and C15: byte-level prefix test = whole-component ancestry, for valid paths.
-/
namespace Conserve

theorem splitSlash_append_slash (x y : Str) :
    splitSlash (x ++ slash :: y) = splitSlash x ++ splitSlash y := by
  induction x with
  | nil => simp [splitSlash]
  | cons c x ih =>
    simp only [List.cons_append]
    by_cases hc : c = slash
    · rw [splitSlash, if_pos hc, ih, splitSlash, if_pos hc]; rfl
    · rw [splitSlash, if_neg hc, ih, splitSlash, if_neg hc]
      cases hx : splitSlash x with
      | nil => exact absurd hx (splitSlash_ne_nil x)
      | cons p ps => rfl

theorem joinSlash_append {P Q : List Str} (hP : P ≠ []) (hQ : Q ≠ []) :
    joinSlash (P ++ Q) = joinSlash P ++ slash :: joinSlash Q := by
  induction P with
  | nil => exact absurd rfl hP
  | cons p ps ih =>
    cases ps with
    | nil =>
      cases Q with
      | nil => exact absurd rfl hQ
      | cons q qs => simp [joinSlash]
    | cons p2 ps =>
      have := ih (by simp)
      simp only [List.cons_append] at this ⊢
      rw [joinSlash_cons_cons, this, joinSlash_cons_cons]
      simp

theorem splitSlash_prefix_iff (x z : Str) :
    (splitSlash x).isPrefixOf (splitSlash z) = true ↔ z = x ∨ ∃ y, z = x ++ slash :: y := by
  rw [List.isPrefixOf_iff_prefix]
  constructor
  · rintro ⟨Q, hQ⟩
    cases Q with
    | nil =>
      left
      rw [List.append_nil] at hQ
      exact (splitSlash_injective hQ).symm
    | cons q qs =>
      right
      refine ⟨joinSlash (q :: qs), ?_⟩
      have h1 := joinSlash_append (splitSlash_ne_nil x) (List.cons_ne_nil q qs)
      rw [hQ, joinSlash_splitSlash, joinSlash_splitSlash] at h1
      exact h1
  · rintro (h | ⟨y, h⟩)
    · rw [h]; exact List.prefix_refl _
    · rw [h, splitSlash_append_slash]; exact List.prefix_append _ _

/-- The byte-level test of the repaired `is_prefix_of`, for a subtree not ending in a slash. -/
theorem isPrefixOfImpl_iff (s a : Str) (hs : s.getLast? ≠ some slash) :
    isPrefixOfImpl s a = true ↔ a = s ∨ ∃ y, a = s ++ slash :: y := by
  unfold isPrefixOfImpl
  constructor
  · intro h
    split at h
    · exact absurd h (by simp)
    · split at h
      · left; exact (eq_of_beq h).symm
      · rename_i h1 h2
        right
        simp only [Bool.and_eq_true, Bool.or_eq_true, beq_iff_eq] at h
        obtain ⟨hp, hl | hn⟩ := h
        · exact absurd hl hs
        · rw [List.isPrefixOf_iff_prefix] at hp
          obtain ⟨t, rfl⟩ := hp
          cases t with
          | nil => simp at h2
          | cons c t =>
            simp at hn
            exact ⟨t, by rw [hn]⟩
  · rintro (h | ⟨y, h⟩)
    · subst h; simp
    · subst h; simp

theorem getLast?_slash_split (rs : Str) (h : rs.getLast? = some slash) : [] ∈ splitSlash rs := by
  obtain ⟨x, rfl⟩ : ∃ x, rs = x ++ [slash] := by
    rw [List.getLast?_eq_some_iff] at h
    exact h
  rw [splitSlash_append_slash]
  simp [splitSlash]

theorem components_cons (rs : Str) (h : rs ≠ []) : components (slash :: rs) = splitSlash rs := by
  unfold components
  cases rs with
  | nil => exact absurd rfl h
  | cons c cs => simp

theorem isAncestorOrSelf_cons_iff {rs : Str} (ra : Str) (hrs : rs ≠ []) :
    isAncestorOrSelf (slash :: rs) (slash :: ra) = true ↔
      slash :: ra = slash :: rs ∨ ∃ y, slash :: ra = (slash :: rs) ++ slash :: y := by
  unfold isAncestorOrSelf
  rw [components_cons rs hrs]
  by_cases hra : ra = []
  · subst hra
    obtain ⟨p, ps, hsp⟩ := List.exists_cons_of_ne_nil (splitSlash_ne_nil rs)
    simp [hsp, components, hrs]
  · rw [components_cons ra hra, splitSlash_prefix_iff]
    simp

theorem valid_shape {a : Str} (ha : isValid a = true) : ∃ rs, a = slash :: rs := by
  have h := ((C11.valid_iff_spec a).mp ha).1
  cases a with
  | nil => cases h
  | cons c rs => exact ⟨rs, by rw [Option.some.inj h]⟩

/-- A valid path other than the root does not end in '/'. -/
theorem valid_getLast {s : Str} (hs : isValid s = true) (hne : s ≠ [slash]) :
    s.getLast? ≠ some slash := by
  obtain ⟨rs, rfl⟩ := valid_shape hs
  have hrs : rs ≠ [] := fun e => hne (by rw [e])
  intro h
  have h' : rs.getLast? = some slash := by
    cases rs with
    | nil => exact absurd rfl hrs
    | cons r rs => simpa [List.getLast?_cons_cons] using h
  rcases ((C11.valid_iff_spec _).mp hs).2 with e | hc
  · exact hne e
  · rw [components_cons rs hrs] at hc
    exact (hc [] (getLast?_slash_split rs h')).1 rfl

/-- Below a valid path other than the root, ancestry by whole components is "self, or followed by
'/' and more" on bytes. -/
theorem ancestor_iff_bytes {s a : Str} (hs : isValid s = true) (ha : isValid a = true)
    (hne : s ≠ [slash]) : isAncestorOrSelf s a = true ↔ (a = s ∨ ∃ y, a = s ++ slash :: y) := by
  obtain ⟨rs, rfl⟩ := valid_shape hs
  obtain ⟨ra, rfl⟩ := valid_shape ha
  exact isAncestorOrSelf_cons_iff ra fun e => hne (by rw [e])

end Conserve
