import ConserveModel.Proofs.FsTree
/-
Modes of restored files (C01 c): with the order owner-then-mode a file whose turn reports no error
ends with exactly the stored mode, and nothing restore does later (other turns, the deferrals)
changes it.
-/
namespace Conserve

theorem Fs.chmod_ok {fs fs1 : Fs} {path : List Str} {m : Nat} (h : fs.chmod path m = (fs1, .ok ())) :
    ∃ p x, fs.resolve true path = .ok p ∧ fs.node p = some x ∧
      fs1 = fs.set p { x with mode := m % 0o10000 } := by
  rw [Fs.chmod_eq] at h
  rcases Fs.onPath_eq h with ⟨e, _, he⟩ | ⟨p, hr, hk⟩
  · cases he
  · obtain ⟨x, hx, e⟩ := Fs.updateAt_ok hk
    exact ⟨p, x, hr, hx, e⟩

theorem errIf_eq_nil {w : RWhat} {a : Str} {e : Option Errno} (h : errIf w a e = []) : e = none := by
  cases e with
  | none => rfl
  | some e => simp [errIf] at h

theorem restoreFileFs_mode {uidOf gidOf : Str → Option Nat} {fs : Fs} {D : Path}
    {cs trail : List Str} {n : RNode} {m : Nat} (hc : Ctx fs D cs trail)
    (hf : NotLink (fs.node (D ++ cs)))
    (herr : (restoreFileFs uidOf gidOf false fs (D ++ cs ++ trail) n).2 = [])
    (hcomp : n.complete = true) (hm : n.unixMode = some m) (hlt : m < 0o10000) :
    ∃ x, (restoreFileFs uidOf gidOf false fs (D ++ cs ++ trail) n).1.node (D ++ cs) = some x ∧
      x.kind = .file ∧ x.mode = m := by
  rcases hcr : fs.create (D ++ cs ++ trail) with ⟨fs1, r⟩
  cases r with
  | error e =>
    unfold restoreFileFs at herr
    rw [hcr] at herr
    cases herr
  | ok h =>
    obtain ⟨rfl, -, L3, x3, hx3, hk3⟩ := restoreFileFs_written (n := n) hc hf hcr
    rw [restoreFileFs_complete hcr hcomp] at herr ⊢
    simp only [Bool.false_eq_true, if_false] at herr ⊢
    -- after the owner is set the file is still there; `chmod` succeeded, so it set the mode
    have L34 := setOwnerFs_local (k := .file) (uidOf := uidOf) (gidOf := gidOf) (n := n) (L3.ctx hc)
    have L4 := L3.trans L34
    obtain ⟨x4, hx4, hk4⟩ := L34.self x3 hx3
    have hperm := errIf_eq_nil (List.append_eq_nil_iff.1 herr).2
    unfold setPermsFs at hperm ⊢
    rw [hm] at hperm ⊢
    dsimp only at hperm ⊢
    rcases hch : Fs.chmod _ (D ++ cs ++ trail) m with ⟨fs5, rr⟩
    rw [hch] at hperm
    cases rr with
    | error e => cases hperm
    | ok u =>
      obtain ⟨p, x, hres, hnode, rfl⟩ := Fs.chmod_ok hch
      have hp := (L4.ctx hc).res true (L4.notLink (by decide) hf) p hres
      subst hp
      rw [hx4] at hnode
      cases hnode
      exact ⟨{ x4 with mode := m % 0o10000 }, by rw [Fs.node_set, if_pos rfl], hk4.trans hk3,
        Nat.mod_eq_of_lt hlt⟩

section
variable {uidOf gidOf : Str → Option Nat} {D : Path} {m : Nat}

/-- The turn of a file entry that reports no error leaves the file with its mode, and no later turn touches it. -/
theorem restoreLoopFs_file_turn {fs : Fs} {n : RNode} {rest : List RNode} (R : Ready D fs (n :: rest))
    (hp : ∀ n' ∈ rest, NotBelowNonDir n n') (hk : n.kind = .file) (hcomp : n.complete = true)
    (hm : n.unixMode = some m) (hlt : m < 0o10000)
    (herr : (restoreFileFs uidOf gidOf false fs (joinDest D n.apath) n).2 = []) :
    ∃ x, (restoreLoopFs uidOf gidOf false D fs (n :: rest)).1.node (D ++ comps n) = some x ∧
      x.kind = .file ∧ x.mode = m := by
  have hvn := R.valid n List.mem_cons_self
  have hfull := R.clean n List.mem_cons_self
  have e1 : (restoreNodeFs uidOf gidOf false D fs n).1 =
      (restoreFileFs uidOf gidOf false fs (joinDest D n.apath) n).1 := by
    unfold restoreNodeFs; rw [hk]
  rw [joinDest_comps D hvn] at herr e1
  obtain ⟨x, hx, hxk, hxm⟩ := restoreFileFs_mode (ctx_of_cleanL R.dest hvn hfull)
    (hfull _ (List.prefix_refl _)) herr hcomp hm hlt
  rw [← e1] at hx
  have hst := (restoreLoopFs_grows (uidOf := uidOf) (gidOf := gidOf) (old := false) rest _
    (R.tail uidOf gidOf false)).1.stable
    (comps n) fun ⟨n', hn', hpre⟩ => hp n' hn' (by rw [hk]; decide) hpre
  obtain ⟨y, hy, hyk, hym, _⟩ := hst.some_left hx
  exact ⟨y, hy, hyk.trans hxk, hym.trans hxm⟩

theorem restoreLoopFs_mode :
    ∀ (rest : List RNode) (fs : Fs), Ready D fs rest → rest.Pairwise NotBelowNonDir →
      (restoreLoopFs uidOf gidOf false D fs rest).2.1 = [] →
      ∀ n ∈ rest, n.kind = .file → n.complete = true → n.unixMode = some m → m < 0o10000 →
        ∃ x, (restoreLoopFs uidOf gidOf false D fs rest).1.node (D ++ comps n) = some x ∧
          x.kind = .file ∧ x.mode = m := by
  intro rest
  induction rest with
  | nil => intro _ _ _ _ n hn; cases hn
  | cons n0 rest ih =>
    intro fs R hp herr n hn hk hcomp hm hlt
    simp only [restoreLoopFs] at herr
    obtain ⟨herr0, herr1⟩ := List.append_eq_nil_iff.1 herr
    rcases List.mem_cons.1 hn with rfl | hn'
    · refine restoreLoopFs_file_turn R (List.pairwise_cons.1 hp).1 hk hcomp hm hlt ?_
      have e2 : (restoreNodeFs uidOf gidOf false D fs n).2.1 =
          (restoreFileFs uidOf gidOf false fs (joinDest D n.apath) n).2 := by
        unfold restoreNodeFs; rw [hk]
      rw [← e2]; exact herr0
    · simp only [restoreLoopFs]
      exact ih _ (R.tail uidOf gidOf false) (List.pairwise_cons.1 hp).2 herr1 n hn' hk hcomp hm hlt

/-- The deferrals act at directory entries only. -/
theorem applyDeferralsFs_keeps_file {old : Bool} {fs0 : Fs} {nodes : List RNode} (hC : Confinable nodes)
    (R : Ready D fs0 nodes) {n : RNode} (hn : n ∈ nodes) (hk : n.kind = .file) :
    EqMod ((restoreLoopFs uidOf gidOf old D fs0 nodes).1.node (D ++ comps n))
      ((restoreBodyFs uidOf gidOf old D fs0 nodes).1.node (D ++ comps n)) := by
  obtain ⟨G, hdefs⟩ := restoreLoopFs_grows (uidOf := uidOf) (gidOf := gidOf) (old := old) nodes fs0 R
  refine (applyDeferralsFs_grows (uidOf := uidOf) (gidOf := gidOf) _ _ (G.destOk R.dest) hdefs).stable
    (comps n) fun ⟨d, hd, e⟩ => ?_
  obtain ⟨hm', hk', _⟩ := restoreLoopFs_deferrals (uidOf := uidOf) (gidOf := gidOf) (old := old) (D := D)
    nodes fs0 d hd
  rw [← eq_of_pairwise_ne_key hC.distinct hn hm' e, hk] at hk'
  cases hk'

/-- The whole restore, new order, into an empty or absent destination, no error reported:
every complete file entry with a stored mode ends with exactly that mode. -/
theorem restoreToFs_mode {fs : Fs} {nodes : List RNode}
    (hC : Confinable nodes) (hwf : fs.wf = true) (hP : DestPlain fs D)
    (hres : (restoreToFs fs D false nodes uidOf gidOf false).2 = ([], none)) :
    ∀ n ∈ nodes, n.kind = .file → n.complete = true → n.unixMode = some m → m < 0o10000 →
      ∃ x, (restoreToFs fs D false nodes uidOf gidOf false).1.node (D ++ comps n) = some x ∧
        x.kind = .file ∧ x.mode = m := by
  intro n hn hk hcomp hm hlt
  obtain ⟨fs0, _, hstop | ⟨⟨hD0, he⟩, hrun⟩⟩ := restoreToFs_cases (uidOf := uidOf) (gidOf := gidOf)
    (old := false) nodes hwf hP
  · rw [hres] at hstop
    exact absurd rfl hstop.2
  · have R := Ready.of_empty hD0 he hC.valid hC.toL.notBelowLink
    rw [hrun] at hres ⊢
    obtain ⟨herr0, _⟩ := List.append_eq_nil_iff.1 (Prod.mk.inj hres).1
    obtain ⟨x, hx, hxk, hxm⟩ := restoreLoopFs_mode nodes fs0 R hC.notBelowNonDir herr0 n hn hk hcomp hm hlt
    obtain ⟨y, hy, hyk, hym, _⟩ := (applyDeferralsFs_keeps_file hC R hn hk).some_left hx
    exact ⟨y, hy, hyk.trans hxk, hym.trans hxm⟩

end

end Conserve
