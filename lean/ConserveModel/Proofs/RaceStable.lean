import ConserveModel.Proofs.RaceInv
/-
C06 on the full model — what each actor knows survives the other's operations: `BFacts` under the
operations of `delete_bands` (lock file only; a band directory removed; an unreferenced block
removed), `GFacts` under the operations of `backup`.  No property statements here.
-/
namespace Conserve.Race
open Conserve Prog Conserve.Conf Conserve.Inv

variable {H : Str → Str}

theorem solo_noDupKeys {α : Type} (p : Prog α) {s : Store} (hn : NoDupKeys s) : NoDupKeys (p.solo s).2 :=
  (p.run_clean_eq_solo s).2 ▸ Prog.run_noDupKeys p (World.clean s) hn

theorem LockEq.frameOff {s s' : Store} (h : LockEq s s') : FrameOff (fun k => k = Key.gcLock) s s' :=
  fun _ hk => (h.get? hk).symm

theorem LockEq.ci {s s' : Store} (h : LockEq s s') (hci : CI H s) (hn' : NoDupKeys s') : CI H s' :=
  hci.of_lock_frame hn' (LockEq.frameOff h)

theorem LockEq.isBand {s s' : Store} (h : LockEq s s') (b : Nat) : isBand s' b ↔ isBand s b := by
  unfold Race.isBand; rw [h.get? (by simp)]

theorem LockEq.bandKeys {s s' : Store} (h : LockEq s s') (b : Nat) : BandKeysSame b s s' :=
  ⟨fun _ => (h.get? (by simp)).symm, (h.get? (by simp)).symm, (h.get? (by simp)).symm⟩

/-- What may have happened to the keys of band `n`: nothing, or the whole band is gone. -/
def BandFate (n : Nat) (s s' : Store) : Prop := BandKeysSame n s s' ∨ (¬ isBand s' n ∧ EmptyBand s' n)

section
variable (o : BackupOpts) (src : List SrcEntry)

/-- `BFacts` outside the critical part, under a change that keeps `CI`, creates no band directory,
and leaves each band's files alone or removes the band. -/
theorem BFacts.stable {β : BSt} {s s' : Store} {p : Prog Stats} (h : BFacts H β s p) (hc : β.isCrit = false)
    (hci : CI H s') (hb : ∀ x, isBand s' x → isBand s x) (hf : ∀ n, BandFate n s s') : BFacts H β s' p := by
  cases β <;> simp only [BFacts] at h ⊢
  case crit n => simp [BSt.isCrit] at hc
  case l1 | basis | idl | done => exact hci
  case mkdir bs n | mkdirX bs n => exact ⟨hci, fun b hb' => h.2 b (hb b hb')⟩
  case mkI bs n | head bs n =>
    refine ⟨hci, fun b hb' => h.2.1 b (hb b hb'), ?_⟩
    rcases hf n with hs | hg
    · exact h.2.2.same hs
    · exact hg.2
  case l2 bs n =>
    refine ⟨hci, fun b hb' => h.2.1 b (hb b hb'), ?_⟩
    rcases hf n with hs | hg
    · rcases h.2.2 with ho | hn
      · exact Or.inl (ho.same hs)
      · exact Or.inr fun hb' => hn (hb n hb')
    · exact Or.inr hg.1

theorem BFacts.lock {β : BSt} {s s' : Store} {p : Prog Stats} (h : BFacts H β s p) (hp : β.prog H o src p)
    (hl : LockEq s s') (hn' : NoDupKeys s') : BFacts H β s' p := by
  by_cases hc : β.isCrit = false
  · exact h.stable hc (LockEq.ci hl (ci_of_not_crit h hc) hn') (fun x hx => (LockEq.isBand hl x).1 hx)
      (fun n => Or.inl (LockEq.bandKeys hl n))
  · cases β <;> simp [BSt.isCrit] at hc
    rename_i n
    simp only [BFacts] at h ⊢
    obtain ⟨_, h2, h3, h4⟩ := h
    refine ⟨hn', fun b hb' => h2 b ((LockEq.isBand hl b).1 hb'), by rw [← hl.get? (by simp)]; exact h3, ?_⟩
    obtain ⟨_, hfin⟩ := LockEq.solo hp.1 hl
    exact LockEq.ci hfin h4 (solo_noDupKeys p hn')

end

theorem eraseTree_get?_other {s : Store} {b : Nat} {k : Key} (hk : Key.isUnder (.bandDir b) k = false) :
    (s.eraseTree (.bandDir b)).get? k = s.get? k := by
  rw [Store.get?_eraseTree]; simp [hk]

theorem eraseTree_get?_under {s : Store} {b : Nat} {k : Key} (hk : Key.isUnder (.bandDir b) k = true) :
    (s.eraseTree (.bandDir b)).get? k = none := by
  rw [Store.get?_eraseTree]; simp [hk]

theorem eraseTree_isBand {s : Store} {b x : Nat} (h : isBand (s.eraseTree (.bandDir b)) x) : isBand s x ∧ x ≠ b := by
  unfold isBand at h
  rw [Store.get?_eraseTree, isUnder_bandDir_bandDir] at h
  by_cases hx : x = b
  · simp [hx] at h
  · simp only [beq_iff_eq, hx, if_false] at h
    exact ⟨h, hx⟩

theorem eraseTree_bandFate (s : Store) (b n : Nat) : BandFate n s (s.eraseTree (.bandDir b)) := by
  by_cases hn : n = b
  · subst hn
    refine Or.inr ⟨fun h => (eraseTree_isBand h).2 rfl, ⟨fun i => ?_, ?_, ?_⟩⟩
    · exact eraseTree_get?_under (isUnder_bandDir_iff.2 rfl)
    · exact eraseTree_get?_under (isUnder_bandDir_iff.2 rfl)
    · exact eraseTree_get?_under (isUnder_bandDir_iff.2 rfl)
  · refine Or.inl ⟨fun i => ?_, ?_, ?_⟩
    · exact eraseTree_get?_other (isUnder_bandDir_other (isUnder_bandDir_iff.2 rfl) hn)
    · exact eraseTree_get?_other (isUnder_bandDir_other (isUnder_bandDir_iff.2 rfl) hn)
    · exact eraseTree_get?_other (isUnder_bandDir_other (isUnder_bandDir_iff.2 rfl) hn)

theorem BFacts.eraseTree {β : BSt} {s : Store} {p : Prog Stats} (h : BFacts H β s p) (hc : β.isCrit = false) (b : Nat) :
    BFacts H β (s.eraseTree (.bandDir b)) p :=
  h.stable hc ((ci_of_not_crit h hc).eraseTree_band b) (fun _ hx => (eraseTree_isBand hx).1)
    (fun n => eraseTree_bandFate s b n)

theorem BFacts.eraseBlock {β : BSt} {s : Store} {p : Prog Stats} (h : BFacts H β s p) (hc : β.isCrit = false)
    {hh : Str} (hci : CI H (s.erase (.block hh))) : BFacts H β (s.erase (.block hh)) p :=
  h.stable hc hci (fun x hx => by unfold isBand at hx ⊢; rwa [Store.get?_erase_ne _ (by simp)] at hx)
    (fun n => Or.inl ⟨fun i => Store.get?_erase_ne _ (by simp), Store.get?_erase_ne _ (by simp),
      Store.get?_erase_ne _ (by simp)⟩)

theorem _root_.Conserve.SafeU.of_same {Dr : List Nat} {U : List Str} {s s' : Store} (h : SafeU Dr U s)
    (hd : ∀ b, s'.get? (.bandDir b) = some .dir → s.get? (.bandDir b) = some .dir)
    (hh : ∀ b n, s'.get? (.bandDir b) = some .dir → s'.get? (.hunk b n) = s.get? (.hunk b n)) : SafeU Dr U s' := by
  intro b hb hbD n es hes
  rw [hh b n hb] at hes
  exact h b (hd b hb) hbD n es hes

theorem _root_.Conserve.SafeU.lock {Dr : List Nat} {U : List Str} {s s' : Store} (h : SafeU Dr U s) (hl : LockEq s s') :
    SafeU Dr U s' :=
  h.of_same (fun b hb => by rwa [hl.get? (by simp)]) (fun b n _ => (hl.get? (by simp)).symm)

theorem _root_.Conserve.SafeU.eraseTree {b : Nat} {bs : List Nat} {U : List Str} {s : Store} (h : SafeU (b :: bs) U s) :
    SafeU bs U (s.eraseTree (.bandDir b)) := by
  intro x hx hxD n es hes
  obtain ⟨hx1, hxb⟩ := eraseTree_isBand hx
  rw [eraseTree_get?_other (isUnder_bandDir_other (isUnder_bandDir_iff.2 rfl) hxb)] at hes
  exact h x hx1 (by simp [hxb, hxD]) n es hes

theorem _root_.Conserve.SafeU.put {Dr : List Nat} {U : List Str} {s : Store} (h : SafeU Dr U s) {k : Key} (v : FileVal)
    (hk : ∀ b n, k ≠ .hunk b n) (hb : ∀ b, k = .bandDir b → ∀ n, s.get? (.hunk b n) = none) :
    SafeU Dr U (s.put k v) := by
  intro b hbd hbD n es hes
  rw [Store.get?_put, if_neg (fun e => hk b n e.symm)] at hes
  rw [Store.get?_put] at hbd
  split at hbd
  · rename_i e
    rw [hb b e.symm n] at hes
    cases hes
  · exact h b hbd hbD n es hes

section
variable (D : List Nat)

/-- `GFacts` under a change that removes no band directory and leaves the lock file alone, provided
that (a) once `band_is_closed` has passed the change makes a newer band visible (or is no change),
and (b) while sweeping it keeps `SafeU`. -/
theorem GFacts.stable {γ : GSt} {s s' : Store} (h : GFacts D γ s)
    (hb : ∀ b, isBand s b → isBand s' b) (hl : s'.get? .gcLock = s.get? .gcLock)
    (hq : ∀ m, γ.chk = some m → Doomed s' m)
    (hs : γ.sweeping = true → ∀ Dr U, SafeU Dr U s → SafeU Dr U s') : GFacts D γ s' := by
  cases γ <;> simp only [GFacts] at h ⊢
  case tc b => exact h.mono hb
  case lc m | w m => exact h.mono hb
  case read m q => exact ⟨h.1.mono hb, by unfold Locked; rw [hl]; exact h.2.1, fun hd => absurd (hq m rfl) hd⟩
  case atK m U => exact ⟨h.1.mono hb, by unfold Locked; rw [hl]; exact h.2.1, fun hd => absurd (hq m rfl) hd⟩
  case sweepB U b bs n => exact ⟨by unfold Locked; rw [hl]; exact h.1, hs rfl _ _ h.2⟩
  case sweepU U x xs e nb => exact ⟨by unfold Locked; rw [hl]; exact h.1, hs rfl _ _ h.2⟩

end

end Conserve.Race
