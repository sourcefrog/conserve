import ConserveModel.Proofs.NoPanicBackup
/-
The index reader with the hunk reader as a parameter, so that the code before the repair of D9
(entries used as decoded, without `IndexEntry::check`) can be run next to the repaired code.
`listEntriesW readHunk = listEntries` shows the parametrised copy IS the model.
No property statements here.
-/
namespace Conserve.NP
open Conserve Prog

/-- `IndexRead::read_hunk` before the repair: whatever decodes is returned. -/
def readHunkUnchecked (b n : Nat) : Prog (Option (List IndexEntry)) := do
  match ← perform (.read (.hunk b n)) with
  | .err .notFound => pure none
  | .err e => .fail (.transport e)
  | .val (.hunk es) => pure (some es)
  | .val .empty => pure (some [])
  | .val _ => .fail .json
  | _ => .fail (.transport .other)

section
variable (rd : Nat → Nat → Prog (Option (List IndexEntry)))

/-- `readHunks` (IndexRead.lean) over the reader `rd`. -/
def readHunksW (b : Nat) : List Nat → Option Str → Option Str → Prog (List IndexEntry × Option Str)
  | [], _, last => pure ([], last)
  | n :: rest, after, last => do
    match ← (rd b n).attempt with
    | .ok none => pure ([], last)
    | .error e =>
      logError e
      readHunksW b rest after last
    | .ok (some es) =>
      match after with
      | some a =>
        if (match es.getLast? with | some (l : IndexEntry) => apathLe l.apath a | none => false) then
          readHunksW b rest after last
        else if (match es.head? with | some (f : IndexEntry) => apathCmp f.apath a == Ordering.gt | none => false) then
          let (more, last') ← readHunksW b rest none (es.getLast?.map (fun (l : IndexEntry) => l.apath))
          pure (es ++ more, last')
        else
          let part := trimAfter a es
          let last1 := match part.getLast? with | some (l : IndexEntry) => some l.apath | none => last
          let (more, last') ← readHunksW b rest after last1
          pure (part ++ more, last')
      | none =>
        if es.isEmpty then readHunksW b rest none last
        else
          let (more, last') ← readHunksW b rest none (es.getLast?.map (fun (l : IndexEntry) => l.apath))
          pure (es ++ more, last')

def readBandW (b : Nat) (last : Option Str) : Prog (List IndexEntry × Option Str) := do
  match ← (bandOpen b).attempt with
  | .error e =>
    logError e
    pure ([], last)
  | .ok () =>
    match ← (hunksAvailable b).attempt with
    | .error e =>
      logError e
      pure ([], last)
    | .ok hunks =>
      match ← (checkIndexHunks b).attempt with
      | .error e => logError e
      | .ok () => pure ()
      readHunksW rd b hunks last last

def stitchDownW : Nat → Option Str → Prog (List IndexEntry)
  | 0, _ => pure []
  | b + 1, last => do
    if ← unwrapOr (bandExists b) false then
      let (es, last') ← readBandW rd b last
      if ← unwrapOr (bandIsClosed b) false then pure es
      else
        let more ← stitchDownW b last'
        pure (es ++ more)
    else
      if ← unwrapOr (isFile (.hunk b 0)) false then logError (.bandHeadMissing b)
      stitchDownW b last

def stitchAllW (b : Nat) : Prog (List IndexEntry) := do
  let (es, last) ← readBandW rd b none
  if ← unwrapOr (bandIsClosed b) false then pure es
  else
    let more ← stitchDownW rd b last
    pure (es ++ more)

def listEntriesW (b : Nat) (subtree : Str) (excl : Str → Bool) : Prog (List IndexEntry) := do
  filterEntries subtree excl (← stitchAllW rd b)

def restoreW (H : Str → Str) (b : Nat) (subtree : Str) (excl : Str → Bool) : Prog (List RNode) := do
  bandOpen b
  let _ ← listBlocks
  let es ← listEntriesW rd b subtree excl
  restoreEntries H [] es

end

theorem readHunksW_checked (b : Nat) (ns : List Nat) (after last : Option Str) :
    readHunksW readHunk b ns after last = readHunks b ns after last := by
  induction ns generalizing after last with
  | nil => rfl
  | cons n rest ih =>
    unfold readHunksW readHunks
    simp only [ih]
    rfl

theorem readBandW_checked (b : Nat) (last : Option Str) : readBandW readHunk b last = readBand b last := by
  unfold readBandW readBand
  simp only [readHunksW_checked]
  rfl

theorem stitchDownW_checked (b : Nat) (last : Option Str) :
    stitchDownW readHunk b last = stitchDown b last := by
  induction b generalizing last with
  | zero => rfl
  | succ b ih =>
    unfold stitchDownW stitchDown
    simp only [ih, readBandW_checked]

theorem stitchAllW_checked (b : Nat) : stitchAllW readHunk b = stitchAll b := by
  unfold stitchAllW stitchAll
  simp only [stitchDownW_checked, readBandW_checked]

theorem listEntriesW_checked (b : Nat) (subtree : Str) (excl : Str → Bool) :
    listEntriesW readHunk b subtree excl = listEntries b subtree excl := by
  unfold listEntriesW listEntries
  simp only [stitchAllW_checked]

theorem restoreW_checked (H : Str → Str) (b : Nat) (subtree : Str) (excl : Str → Bool) :
    restoreW readHunk H b subtree excl = restore H (.specified b) subtree excl := by
  unfold restoreW restore resolveBandId
  simp only [listEntriesW_checked]
  rfl

def panicSite? {α : Type} : Outcome α → Option String
  | .panic s => some s
  | _ => none

theorem panicSite?_eq_some {α : Type} {o : Outcome α} {site : String} :
    panicSite? o = some site ↔ o = .panic site := by
  cases o <;> simp [panicSite?]

def errOf? {α : Type} : Outcome α → Option Err
  | .err e => some e
  | _ => none

theorem errOf?_eq_some {α : Type} {o : Outcome α} {e : Err} : errOf? o = some e ↔ o = .err e := by
  cases o <;> simp [errOf?]

def okOf? {α : Type} : Outcome α → Option α
  | .ok a => some a
  | _ => none

theorem okOf?_eq_some {α : Type} {o : Outcome α} {a : α} : okOf? o = some a ↔ o = .ok a := by
  cases o <;> simp [okOf?]

/-- A one-version archive whose only hunk holds the single entry `e`. -/
def oneEntryStore (e : IndexEntry) : Store :=
  [ (.root, .dir), (.header, .header [48, 46, 54]), (.blockRoot, .dir),
    (.bandDir 0, .dir), (.bandHead 0, .head .ok []), (.indexDir 0, .dir),
    (.hunkDir 0 0, .dir), (.hunk 0 0, .hunk [e]), (.bandTail 0, .tail (some 1)) ]

/-- A directory entry as conserve writes it. -/
def dirEntry (p : Str) : IndexEntry :=
  { apath := p, kind := .dir, mtime := 0, mtimeNanos := 0, unixMode := some 493,
    user := none, group := none, addrs := [], target := none }

end Conserve.NP
