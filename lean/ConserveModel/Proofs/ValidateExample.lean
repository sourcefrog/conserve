import ConserveModel.Proofs.ValidateSilent
/-
Concrete archives for the non-vacuity examples and the witnesses of Props/C09.lean
(hash function: the identity, so block `[1,2,3]` holds the bytes `[1,2,3]`).

`sortNat` is `List.mergeSort` (well-founded recursion the kernel does not unfold), so the band
ids and hunk numbers of each store are computed once by hand, like in Props/C08.lean.
-/
set_option linter.unusedSimpArgs false
namespace Conserve.C09Ex
open Conserve

def eRoot : IndexEntry :=
  { apath := [47], kind := .dir, mtime := 0, mtimeNanos := 0, unixMode := none, user := none,
    group := none, addrs := [], target := none }
/-- `/a`: three bytes in block `[1,2,3]`. -/
def eA : IndexEntry :=
  { apath := [47, 97], kind := .file, mtime := 0, mtimeNanos := 0, unixMode := none, user := none,
    group := none, addrs := [{ hash := [1, 2, 3], start := 0, len := 3 }], target := none }
/-- `/b`: an empty file. -/
def eB : IndexEntry :=
  { apath := [47, 98], kind := .file, mtime := 0, mtimeNanos := 0, unixMode := none, user := none,
    group := none, addrs := [], target := none }

/-- One complete version with three hunks (`/`, `/a`, `/b`) and one block. -/
def ex : Store :=
  [(.root, .dir), (.header, .header [48, 46, 54]), (.blockRoot, .dir),
   (.blockDir [1, 2, 3], .dir), (.block [1, 2, 3], .blockData [1, 2, 3]),
   (.bandDir 0, .dir), (.bandHead 0, .head .ok []), (.indexDir 0, .dir), (.hunkDir 0 0, .dir),
   (.hunk 0 0, .hunk [eRoot]), (.hunk 0 1, .hunk [eA]), (.hunk 0 2, .hunk [eB]),
   (.bandTail 0, .tail (some 3))]

/-- `ex` after deleting hunk 1 of 3. -/
def exDel : Store := ex.erase (.hunk 0 1)

/-- One INCOMPLETE version (no tail) with two hunks (`/`, `/a`). -/
def exOpen : Store :=
  [(.root, .dir), (.header, .header [48, 46, 54]), (.blockRoot, .dir),
   (.blockDir [1, 2, 3], .dir), (.block [1, 2, 3], .blockData [1, 2, 3]),
   (.bandDir 0, .dir), (.bandHead 0, .head .ok []), (.indexDir 0, .dir), (.hunkDir 0 0, .dir),
   (.hunk 0 0, .hunk [eRoot]), (.hunk 0 1, .hunk [eA])]

/-- `exOpen` after losing its last hunk. -/
def exOpenDel : Store := exOpen.erase (.hunk 0 1)

theorem bandIds_zero {s : Store} (h : s.filterMap bandSel = [0]) : bandIdsOf s = [0] := by
  rw [bandIdsOf_eq, h]; exact sortNat_of_sorted (by decide)

theorem nums_of {s : Store} {b : Nat} {l : List Nat} (h : s.filterMap (hunkSel b) = l)
    (hs : l.Pairwise (· ≤ ·)) : hunkNumsOf s b = l := by
  rw [hunkNumsOf_eq, h]; exact sortNat_of_sorted hs

theorem ex_bandIds : bandIdsOf ex = [0] := bandIds_zero (by decide +kernel)
theorem exDel_bandIds : bandIdsOf exDel = [0] := bandIds_zero (by decide +kernel)
theorem exOpen_bandIds : bandIdsOf exOpen = [0] := bandIds_zero (by decide +kernel)
theorem exOpenDel_bandIds : bandIdsOf exOpenDel = [0] := bandIds_zero (by decide +kernel)

theorem ex_nums : hunkNumsOf ex 0 = [0, 1, 2] := nums_of (by decide +kernel) (by decide)
theorem exDel_nums : hunkNumsOf exDel 0 = [0, 2] := nums_of (by decide +kernel) (by decide)
theorem exOpen_nums : hunkNumsOf exOpen 0 = [0, 1] := nums_of (by decide +kernel) (by decide)
theorem exOpenDel_nums : hunkNumsOf exOpenDel 0 = [0] := nums_of (by decide +kernel) (by decide)

theorem good_of {s : Store} (hids : bandIdsOf s = [0])
    (h1 : (s.get? .header == some (.header [48, 46, 54]) && s.get? .root == some .dir &&
      s.get? .blockRoot == some .dir && blocksConform id s) = true)
    (h2 : (bandConforms id s 0) = true)
    (h3 : keysNodup s = true) (h4 : treeShaped s = true) (h5 : bandReadable s 0 = true)
    (h6 : entriesInRange s = true) : Good id s := by
  refine ⟨?_, h3, h4, ?_, h6⟩
  · unfold Conforms
    rw [hids, h1]
    simp [h2]
  · intro b hb
    rw [hids] at hb
    simp only [List.mem_singleton] at hb
    subst hb
    exact h5

theorem ex_good : Good id ex :=
  good_of ex_bandIds (by decide +kernel)
    (by rw [bandConforms_unfold]; simp only [ex_nums]; decide +kernel)
    (by decide +kernel) (by decide +kernel) (by decide +kernel) (by decide +kernel)

theorem exOpen_good : Good id exOpen :=
  good_of exOpen_bandIds (by decide +kernel)
    (by rw [bandConforms_unfold]; simp only [exOpen_nums]; decide +kernel)
    (by decide +kernel) (by decide +kernel) (by decide +kernel) (by decide +kernel)

theorem exOpenDel_good : Good id exOpenDel :=
  good_of exOpenDel_bandIds (by decide +kernel)
    (by rw [bandConforms_unfold]; simp only [exOpenDel_nums]; decide +kernel)
    (by decide +kernel) (by decide +kernel) (by decide +kernel) (by decide +kernel)

theorem exDel_damaged : DamagedAt (.hunk 0 1) none ex exDel :=
  DamagedAt.erase ex_good.nodup ⟨.hunk [eA], by decide +kernel, rfl⟩

theorem exOpenDel_damaged : DamagedAt (.hunk 0 1) none exOpen exOpenDel :=
  DamagedAt.erase exOpen_good.nodup ⟨.hunk [eA], by decide +kernel, rfl⟩

theorem listSpec_single {s : Store} {nums : List Nat} (hnums : hunkNumsOf s 0 = nums)
    (hr : bandReadable s 0 = true) :
    listSpec s 0 = (nums.filterMap (usableHunk s 0)).flatten ++
      (if isComplete s 0 then [] else contSpec s 0 (lastOr (nums.filterMap (usableHunk s 0)).flatten none)) := by
  simp only [listSpec, bandEntries, hr, if_true, ownEntries, hnums]

theorem ex_list : listSpec ex 0 = [eRoot, eA, eB] := by
  rw [listSpec_single ex_nums (by decide +kernel)]; decide +kernel
theorem exDel_list : listSpec exDel 0 = [eRoot, eB] := by
  rw [listSpec_single exDel_nums (by decide +kernel)]; decide +kernel
theorem exOpen_list : listSpec exOpen 0 = [eRoot, eA] := by
  rw [listSpec_single exOpen_nums (by decide +kernel)]; decide +kernel
theorem exOpenDel_list : listSpec exOpenDel 0 = [eRoot] := by
  rw [listSpec_single exOpenDel_nums (by decide +kernel)]; decide +kernel

/-- Block `[1,2,3]` is referenced (by `/a` of version 0). -/
theorem ex_referenced : Referenced ex [1, 2, 3] :=
  ⟨0, by rw [ex_bandIds]; simp, eA, by rw [ex_list]; simp, rfl, _, List.mem_singleton.mpr rfl, rfl⟩

theorem exDel_wf : ArchWF exDel :=
  exDel_damaged.archWF (by simp) ex_good.archWF

theorem exDel_silent (quick : Bool) :
    ((validateSilent id quick).run (World.clean exDel)).2.events = [] := by
  have hread : readHunksP exDel 0 [0, 2] none none = ([eRoot, eB], some [47, 98]) := by decide +kernel
  rw [run_validateSilent_one id quick 0 (hs := [0, 2]) exDel_damaged.uniqueKeys' (by decide +kernel)
    (by decide +kernel) exDel_bandIds rfl
    (by rw [hunksAvailableP_eq exDel_wf (by decide +kernel), exDel_nums]) (by decide +kernel)
    (by rw [hread]; decide +kernel)]
  rw [hread]
  have hl : entryLens [] [eRoot, eB] = [] := by decide +kernel
  simp only [tailErrors, hl, List.filterMap_nil, List.append_nil]
  rw [present_ok_of_nonblock_damage ex_good exDel_damaged (by simp)]
  cases quick <;> rfl

end Conserve.C09Ex
