import ConserveModel.Proofs.ExactHunk
/-
The main loop of `backup()` on a fault-free world, walked once (`backupLoop_rule`): for any invariant
`W todo s wr` of store and writer (`todo`: the source entries still to come) that `copy_entry` and
`flush_group` keep while they succeed silently, and any predicate on the operations issued (`RunsT`).
It is the fault-free, total counterpart of `Inv.backupLoop_framed` (Proofs/BackupLoop.lean, all worlds,
partial).  Its instances: the exact description of the loop (`backupLoop_runs`, invariant `LInv`, below),
mere success for an arbitrary source (Proofs/GapTotal.lean), the run that writes no block
(Proofs/ExactUnchanged.lean).  No property statements here.
-/
namespace Conserve.Exact
open Conserve Prog

variable {H : Str → Str} {o : BackupOpts}

/-- `RunsAt`, and every operation the run issues satisfies `P`. -/
def RunsT {α : Type} (P : Op → Prop) (p : Prog α) (s : Store) (out : Outcome α) (s' : Store)
    (ev : List Event) : Prop :=
  RunsAt p s out s' ev ∧ ∀ e ∈ p.evalTrace true s, P e.op

theorem RunsT.runsAt {α : Type} {P : Op → Prop} {p : Prog α} {s s' : Store} {out : Outcome α}
    {ev : List Event} (h : RunsT P p s out s' ev) : RunsAt p s out s' ev := h.1

theorem RunsAt.toT {α : Type} {p : Prog α} {s s' : Store} {out : Outcome α} {ev : List Event}
    (h : RunsAt p s out s' ev) : RunsT (fun _ => True) p s out s' ev := ⟨h, fun _ _ => trivial⟩

theorem RunsT.of_allOps {α : Type} {P : Op → Prop} {p : Prog α} {s s' : Store} {out : Outcome α}
    {ev : List Event} (h : RunsAt p s out s' ev) (ha : Prog.AllOps P p) : RunsT P p s out s' ev :=
  ⟨h, ha.evalTrace true s⟩

theorem RunsT.ret {α : Type} {P : Op → Prop} (a : α) (s : Store) : RunsT P (.ret a) s (.ok a) s [] :=
  ⟨RunsAt.ret a s, fun _ h => nomatch (h : _ ∈ [])⟩

theorem RunsT.bind {α β : Type} {P : Op → Prop} {p : Prog α} {f : α → Prog β} {s s1 s2 : Store} {a : α}
    {e1 e2 : List Event} {out : Outcome β} (hp : RunsT P p s (.ok a) s1 e1)
    (hf : RunsT P (f a) s1 out s2 e2) : RunsT P (p.bind f) s out s2 (e2 ++ e1) := by
  refine ⟨RunsAt.bind hp.1 hf.1, fun e he => ?_⟩
  rw [evalTrace_bind, runsAt_iff.1 hp.1] at he
  exact (List.mem_append.mp he).elim (hf.2 e) (hp.2 e)

theorem RunsT.bind0 {α β : Type} {P : Op → Prop} {p : Prog α} {f : α → Prog β} {s s1 s2 : Store} {a : α}
    {e2 : List Event} {out : Outcome β} (hp : RunsT P p s (.ok a) s1 [])
    (hf : RunsT P (f a) s1 out s2 e2) : RunsT P (p.bind f) s out s2 e2 := by
  simpa using RunsT.bind hp hf

theorem RunsT.bind_r0 {α β : Type} {P : Op → Prop} {p : Prog α} {f : α → Prog β} {s s1 s2 : Store} {a : α}
    {e1 : List Event} {out : Outcome β} (hp : RunsT P p s (.ok a) s1 e1)
    (hf : RunsT P (f a) s1 out s2 []) : RunsT P (p.bind f) s out s2 e1 := by
  simpa using RunsT.bind hp hf

theorem RunsT.emit {α : Type} {P : Op → Prop} {s : Store} {ev : Event} {k : Prog α} {out : Outcome α}
    {s' : Store} {evs : List Event} (hk : RunsT P k s out s' evs) : RunsT P (.emit ev k) s out s' (evs ++ [ev]) :=
  ⟨RunsAt.emit hk.1, hk.2⟩

/-- **The main loop of `backup()`**: a deleted path is reported; a source entry `sf`, alone or with the
basis entry of its path (`M basis sf`: what `copy_entry` needs of the pair), goes through `copy_entry`,
which succeeds silently and takes `W (sf :: todo)` to `W todo`; its change is reported; a flush keeps
`W todo`.  Then the loop returns, `W []` holds, and only changes were reported. -/
theorem backupLoop_rule {P : Op → Prop} {W : List SrcEntry → Store → Writer → Prop}
    {M : Option IndexEntry → SrcEntry → Prop}
    (hentry : ∀ {todo s wr basis sf}, W (sf :: todo) s wr → M basis sf →
      ∃ s1 wr1 ch, RunsT P (copyEntry H o wr basis sf) s (.ok (wr1, .ok ch)) s1 [] ∧ W todo s1 wr1)
    (hflush : ∀ {todo s wr}, W todo s wr → ∃ s1 wr1, RunsT P (flushGroup H wr) s (.ok wr1) s1 [] ∧ W todo s1 wr1) :
    ∀ (ms : List Matched) (s : Store) (wr : Writer), W (Inv.srcOf ms) s wr → (∀ m ∈ ms, m.All M) →
      ∃ s' wr' evs, RunsT P (backupLoop H o wr ms) s (.ok wr') s' evs ∧ W [] s' wr' ∧ NoErrorEvents evs := by
  intro ms
  induction ms with
  | nil =>
    intro s wr hw _
    rw [backupLoop]
    exact ⟨s, wr, [], RunsT.ret _ _, hw, NoErrorEvents.nil⟩
  | cons m rest ih =>
    intro s wr hw hms
    have ih := fun s wr hw => ih s wr hw fun m hm => hms m (List.mem_cons_of_mem _ hm)
    have entry : ∀ basis sf, W (sf :: Inv.srcOf rest) s wr → M basis sf →
        ∃ s' wr' evs, RunsT P ((copyEntry H o wr basis sf).bind (Inv.loopCont H o sf rest)) s (.ok wr') s' evs ∧
          W [] s' wr' ∧ NoErrorEvents evs := by
      intro basis sf hw hm
      obtain ⟨s1, wr1, ch, hr1, hw1⟩ := hentry hw hm
      -- flush if due, then the rest of the list
      have hrest : ∃ s' wr' evs, RunsT P
          ((if wr1.pending.length + wr1.queue.length ≥ o.maxEntriesPerHunk then flushGroup H wr1
              else Prog.ret wr1).bind fun w => backupLoop H o w rest) s1 (.ok wr') s' evs ∧
            W [] s' wr' ∧ NoErrorEvents evs := by
        split
        · obtain ⟨s2, wr2, hr2, hw2⟩ := hflush hw1
          obtain ⟨s', wr', evs, hr, h⟩ := ih s2 wr2 hw2
          exact ⟨s', wr', evs, RunsT.bind0 hr2 hr, h⟩
        · obtain ⟨s', wr', evs, hr, h⟩ := ih s1 wr1 hw1
          exact ⟨s', wr', evs, RunsT.bind0 (RunsT.ret wr1 s1) hr, h⟩
      obtain ⟨s', wr', evs, hr, hw', hne⟩ := hrest
      cases ch with
      | none => exact ⟨s', wr', evs, RunsT.bind0 hr1 (by simpa [Inv.loopCont] using hr), hw', hne⟩
      | some ck =>
        refine ⟨s', wr', evs ++ [.change sf.apath ck], RunsT.bind0 hr1 ?_, hw', hne.append (.change _ _)⟩
        simp only [Inv.loopCont, report, Prog.emit_bind, Prog.ret_bind]
        exact RunsT.emit hr
    cases m with
    | left b =>
      obtain ⟨s', wr', evs, hr, hw', hne⟩ := ih s wr hw
      refine ⟨s', wr', evs ++ [.change b.apath .deleted], ?_, hw', hne.append (.change _ _)⟩
      rw [Inv.backupLoop_left]
      simp only [report, Prog.emit_bind, Prog.ret_bind]
      exact RunsT.emit hr
    | right sf => rw [Inv.backupLoop_right]; exact entry none sf hw (hms _ (List.mem_cons_self ..))
    | both b sf => rw [Inv.backupLoop_both]; exact entry (some b) sf hw (hms _ (List.mem_cons_self ..))

/-- The loop invariant `LInv` with what is assumed of the entries still to come; `all` is the whole source. -/
def LTodo (H : Str → Str) (o : BackupOpts) (nb : Nat) (s0 : Store) (all todo : List SrcEntry) (s : Store)
    (wr : Writer) : Prop :=
  ∃ hs pre grp bytes, LInv H o nb s0 s wr hs pre grp bytes ∧ pre ++ grp ++ todo = all ∧
    ((grp ++ todo).map (·.apath)).Pairwise (fun a b => apathCmp a b = .lt) ∧
    bytes + totalSize todo < 18446744073709551616 ∧ ∀ sf ∈ todo, EntryGood sf

/-- The basis entry, if there is one, has a representable time (it passed `IndexEntry::check`). -/
def BasisTimed (basis : Option IndexEntry) (_ : SrcEntry) : Prop :=
  ∀ b, basis = some b → (entryTimeNs b.mtime b.mtimeNanos).isSome = true

variable {nb : Nat} {s0 : Store}

theorem backupLoop_runs (hmax : 0 < o.maxBlockSize) (ms : List Matched) (s : Store) (wr : Writer)
    (hw : LTodo H o nb s0 all (Inv.srcOf ms) s wr) (hms : ∀ m ∈ ms, m.All BasisTimed) :
    ∃ s' wr' evs, RunsAt (backupLoop H o wr ms) s (.ok wr') s' evs ∧ LTodo H o nb s0 all [] s' wr' ∧
      NoErrorEvents evs := by
  obtain ⟨s', wr', evs, hr, h⟩ := backupLoop_rule (H := H) (o := o) (P := fun _ => True) (W := LTodo H o nb s0 all)
    (fun {todo s wr basis sf} ⟨hs, pre, grp, bytes, hl, heq, hso, hb, hsrc⟩ hm => by
      obtain ⟨hkind, hwf⟩ := hsrc sf (List.mem_cons_self ..)
      simp only [totalSize_cons] at hb
      obtain ⟨s1, wr1, ch, hr1, hb1, hk1⟩ := copyEntry_runs hl.b basis sf hkind hwf hmax (by omega) hm
      exact ⟨s1, wr1, ch, hr1.toT, hs, pre, grp ++ [sf], _, hl.step hb1 hk1, by simpa using heq,
        by simpa using hso, by omega, fun x hx => hsrc x (List.mem_cons_of_mem _ hx)⟩)
    (fun {todo s wr} ⟨hs, pre, grp, bytes, hl, heq, hso, hb, hsrc⟩ => by
      rw [List.map_append] at hso
      obtain ⟨s1, wr1, hs1, hr1, hl1, _⟩ := flushGroup_runs hl (by omega) (List.pairwise_append.mp hso).1
      exact ⟨s1, wr1, hr1.toT, hs1, pre ++ grp, [], bytes, hl1, by simpa using heq,
        by simpa using (List.pairwise_append.mp hso).2.1, hb, hsrc⟩)
    ms s wr hw hms
  exact ⟨s', wr', evs, hr.runsAt, h⟩

end Conserve.Exact
