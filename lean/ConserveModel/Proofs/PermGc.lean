import ConserveModel.Proofs.PermBackup
/-
Helper lemmas for C17: `delete_bands`, `restore` and `validate` are insensitive to the order of
the listings they receive.  Their parts that never list (`getBlockContent`, `readContent`,
`restoreEntries`, `validateBlocks`, `deleteBody.measure`) are followed along their definitions with
`ProgEquiv.afterOp`; the removal loops come from their footprints by `ProgEquiv.of_allOps`.
-/
namespace Conserve
open Prog

theorem bandHunkEntries_equiv (strict : Bool) (b : Nat) (ns : List Nat) :
    ProgEquiv Eq (bandHunkEntries strict b ns) (bandHunkEntries strict b ns) := by
  induction ns with
  | nil => exact .ret rfl
  | cons n rest ih =>
    unfold bandHunkEntries
    apply ProgEquiv.bindEq (readHunk_equiv b n).attemptEq; intro a
    split
    · exact .ite (.fail _) (.ret rfl)
    · exact .ite (.fail _) ih
    · exact ProgEquiv.bindEq ih fun _ => .ret rfl

theorem referencedBlocks_equiv (strict : Bool) (bs : List Nat) :
    ProgEquiv Eq (referencedBlocks strict bs) (referencedBlocks strict bs) := by
  induction bs with
  | nil => exact .ret rfl
  | cons b bs ih =>
    unfold referencedBlocks
    apply ProgEquiv.bindEq (bandOpen_equiv b); intro _
    simp only []
    split
    · apply ProgEquiv.bindEq (hunksAvailable_equiv b); intro hunks
      apply ProgEquiv.bindEq (bandHunkEntries_equiv _ b hunks); intro es
      exact ProgEquiv.bindEq ih (fun _ => .ret rfl)
    · apply ProgEquiv.bindEq (iterAvailableHunks_equiv b); intro hunks
      apply ProgEquiv.bindEq (bandHunkEntries_equiv _ b hunks); intro es
      exact ProgEquiv.bindEq ih (fun _ => .ret rfl)

theorem deleteBody_measure_equiv (hs : List Str) :
    ProgEquiv Eq (deleteBody.measure hs) (deleteBody.measure hs) := by
  induction hs with
  | nil => exact .ret rfl
  | cons h hs ih =>
    unfold deleteBody.measure
    refine .afterOp _ fun _ => ?_
    split
    · exact ih
    · pe_leaf
    · pe_leaf

theorem deleteBody_equiv (strict : Bool) (D : List Nat) (o : DeleteOpts) (held : Option Nat) :
    ProgEquiv Eq (deleteBody strict D o held) (deleteBody strict D o held) := by
  unfold deleteBody
  simp only []
  apply ProgEquiv.bindEq listBandIds_equiv; intro all
  apply ProgEquiv.bindEq (referencedBlocks_equiv strict _); intro referenced
  apply ProgEquiv.bind listBlocks_equiv; intro present present' hp
  have hu : (present'.filter fun h => !referenced.contains h).mergeSort strLe =
      (present.filter fun h => !referenced.contains h).mergeSort strLe :=
    mergeSort_strLe_eq_of_perm (hp.symm.filter _)
  simp only [hu]
  apply ProgEquiv.bindEq (deleteBody_measure_equiv _); intro _
  split
  · apply ProgEquiv.bindEq (.ret rfl); intro stats
    apply ProgEquiv.bindEq gcLockRelease_equiv; intro _
    exact .ret rfl
  · apply ProgEquiv.bindEq (gcLockCheck_equiv held); intro _
    apply ProgEquiv.bindEq (.of_allOps (delBands_fp D 0 fun _ _ => nofun)); intro nb
    apply ProgEquiv.bindEq (.of_allOps (delBlocks_fp _ 0 fun _ _ => nofun)); intro errs
    apply ProgEquiv.bindEq (.ret rfl); intro stats
    apply ProgEquiv.bindEq gcLockRelease_equiv; intro _
    exact .ret rfl

/-- **`delete_bands` is insensitive to the order of every listing.**  The unreferenced blocks
are removed in name order (the model's stand-in for the iteration order of the hash set). -/
theorem deleteBands_equiv (strict : Bool) (D : List Nat) (o : DeleteOpts) :
    ProgEquiv Eq (deleteBands strict D o) (deleteBands strict D o) := by
  unfold deleteBands
  extract_lets locked
  have hlocked : ∀ held, ProgEquiv Eq (locked held) (locked held) := by
    intro held
    apply ProgEquiv.bindEq (deleteBody_equiv strict D o held).attemptAllEq; intro r
    split
    · pe_leaf
    · exact ProgEquiv.bindEq (.of_allOps (gcLockReleaseOnError_fp nofun)) fun _ => .fail _
    · exact ProgEquiv.bindEq (.of_allOps (gcLockDrop_fp nofun)) fun _ => .panic _
  exact .ite (ProgEquiv.bindEq gcBreakLock_equiv hlocked) (ProgEquiv.bindEq gcLockNew_equiv hlocked)


section
variable (H : Str → Str)

theorem getBlockContent_equiv (h : Str) : ProgEquiv Eq (getBlockContent H h) (getBlockContent H h) := by
  unfold getBlockContent
  refine .afterOp _ fun _ => ?_
  -- one match on the response; its only branching arm is the hash test
  split <;> first | pe_leaf | exact .ite (.ret rfl) (.ret rfl)

theorem readAddress_equiv (a : Addr) : ProgEquiv Eq (readAddress H a) (readAddress H a) := by
  unfold readAddress
  apply ProgEquiv.bindEq (getBlockContent_equiv H _); intro r
  split
  · pe_leaf
  · exact .ite (.ret rfl) (.ret rfl)

theorem readContent_equiv (as : List Addr) (acc : Str) :
    ProgEquiv Eq (readContent H as acc) (readContent H as acc) := by
  induction as generalizing acc with
  | nil => exact .ret rfl
  | cons a as ih =>
    unfold readContent
    apply ProgEquiv.bindEq (readAddress_equiv H a); intro r
    split
    · pe_leaf
    · exact ih _

theorem restoreEntries_equiv (syms : List Str) (es : List IndexEntry) :
    ProgEquiv Eq (restoreEntries H syms es) (restoreEntries H syms es) := by
  induction es generalizing syms with
  | nil => exact .ret rfl
  | cons e es ih =>
    unfold restoreEntries
    split
    · exact .emit _ (ih _)
    · split
      · split
        · pe_leaf
        · exact ProgEquiv.bindEq (ih _) fun _ => .ret rfl
      · apply ProgEquiv.bindEq (readContent_equiv H _ _); rintro ⟨bytes, bad⟩
        simp only []
        split
        · exact ProgEquiv.logError_then _ (ProgEquiv.bindEq (ih _) fun _ => .ret rfl)
        · split
          · pe_leaf
          · exact ProgEquiv.bindEq (ih _) fun _ => .ret rfl
      · split
        · exact .emit _ (ih _)
        · split
          · pe_leaf
          · exact ProgEquiv.bindEq (ih _) fun _ => .ret rfl
      · exact .emit _ (ih _)

/-- **`restore` is insensitive to the order of every listing**: it restores the same nodes with
the same content and reports the same problems. -/
theorem restore_equiv (sel : BandSelection) (subtree : Str) (excl : Str → Bool) :
    ProgEquiv Eq (restore H sel subtree excl) (restore H sel subtree excl) := by
  unfold restore
  apply ProgEquiv.bindEq (resolveBandId_equiv sel); intro b
  apply ProgEquiv.bindEq (bandOpen_equiv b); intro _
  apply ProgEquiv.bind listBlocks_equiv; intro _ _ _
  apply ProgEquiv.bindEq (listEntries_equiv b subtree excl); intro es
  exact restoreEntries_equiv H [] es

end

/-- `validate_bands`: the only use of the listing of `bNNNN/` is "does it contain BANDHEAD". -/
theorem validateBands_equiv (bs : List Nat) (m : List (Str × Nat)) :
    ProgEquiv Eq (validateBands bs m) (validateBands bs m) := by
  induction bs generalizing m with
  | nil => exact .ret rfl
  | cons b bs ih =>
    unfold validateBands
    extract_lets reopen
    have hreopen : ProgEquiv Eq (reopen ()) (reopen ()) := by
      apply ProgEquiv.bindEq (bandOpen_equiv b).attemptEq; intro a
      split
      · exact ProgEquiv.logError_then _ (ih _)
      · exact ProgEquiv.bindEq (listEntries_equiv _ _ _) fun _ => ih _
    apply ProgEquiv.bindEq (bandOpen_equiv b).attemptEq; intro a
    split
    · exact ProgEquiv.logError_then _ (ih _)
    · refine .afterListDir _ (fun _ _ hp _ => ?_) fun r hr => ?_
      · simp only [hp.any_eq]
        exact .ite (ProgEquiv.logError_then _ hreopen) hreopen
      · split
        · exact ProgEquiv.logError_then _ (ih _)
        · exact absurd rfl (hr _)
        · exact ProgEquiv.logError_then _ (ih _)

theorem forIn_equiv {α β : Type} (xs : List α) {f g : α → β → Prog (ForInStep β)}
    (h : ∀ a b, ProgEquiv Eq (f a b) (g a b)) (b : β) : ProgEquiv Eq (forIn xs b f) (forIn xs b g) := by
  induction xs generalizing b with
  | nil => exact .ret rfl
  | cons a as ih =>
    rw [List.forIn_cons, List.forIn_cons]
    apply ProgEquiv.bindEq (h a b); intro r
    split
    · exact .ret rfl
    · exact ih _

section
variable (H : Str → Str)

theorem validateBlocks_equiv (hs : List Str) : ProgEquiv Eq (validateBlocks H hs) (validateBlocks H hs) := by
  induction hs with
  | nil => exact .ret rfl
  | cons h hs ih =>
    unfold validateBlocks
    apply ProgEquiv.bindEq (getBlockContent_equiv H h); intro r
    split
    · exact ProgEquiv.bindEq ih fun _ => .ret rfl
    · exact ProgEquiv.logError_then _ ih

/-- **`validate` is insensitive to the order of every listing.** -/
theorem validate_equiv (quick : Bool) : ProgEquiv Eq (validate H quick) (validate H quick) := by
  unfold validate
  extract_lets check
  have hcheck : ProgEquiv Eq (check ()) (check ()) := by
    apply ProgEquiv.bindEq listBandIds_equiv; intro bands
    apply ProgEquiv.bindEq (validateBands_equiv _ _); intro referenced
    apply ProgEquiv.bind listBlocks_equiv; intro present present' hp
    simp only [hp.contains_eq, mergeSort_strLe_eq_of_perm hp]
    refine .ite ?_ ?_
    · refine ProgEquiv.bindEq (forIn_equiv _ ?_ _) fun _ => .ret rfl
      rintro ⟨h, n⟩ b
      exact .ite (ProgEquiv.logError_then _ (.ret rfl)) (.ret rfl)
    · apply ProgEquiv.bindEq (validateBlocks_equiv H _); intro lens
      refine ProgEquiv.bindEq (forIn_equiv _ ?_ _) fun _ => .ret rfl
      rintro ⟨h, n⟩ b
      simp only []
      split
      · exact .ite (ProgEquiv.logError_then _ (.ret rfl)) (.ret rfl)
      · exact ProgEquiv.logError_then _ (.ret rfl)
  -- the listing of the archive directory is only tested for an error
  refine .afterListDir _ (fun _ _ _ _ => hcheck) fun r _ => ?_
  split
  · exact .fail _
  · exact hcheck
end

end Conserve
