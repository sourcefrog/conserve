import ConserveModel.Proofs.BackupHunk
/-
The main part of `backup()` — the loop over the merged listings, then `BackupWriter::finish` — walked
once, in all worlds, for any triple `Prog.Framed R` and any writer invariant the functions it calls keep
(`LoopInvW`, `backupLoop_framed`, `backupMain_framed`).  The invariants of the development are its
instances.  No property statements here.
-/
namespace Conserve.Inv
open Conserve Prog

section
variable {H : Str → Str} {src : List SrcEntry} {s0 : Store}

/-- What the loop does after `copy_entry` returned: log or report, maybe flush the group, go on. -/
def loopCont (H : Str → Str) (o : BackupOpts) (s : SrcEntry) (rest : List Matched) :
    Writer × Except Err (Option ChangeKind) → Prog Writer
  | (w, .error e) =>
    (logError e).bind fun _ =>
      backupLoop H o { w with stats := { w.stats with errors := w.stats.errors + 1 } } rest
  | (w, .ok ch) =>
    (match ch with
      | some ck => report (.change s.apath ck)
      | none => Prog.ret ()).bind fun _ =>
    (if w.pending.length + w.queue.length ≥ o.maxEntriesPerHunk then flushGroup H w else Prog.ret w).bind fun w =>
    backupLoop H o w rest

theorem backupLoop_left (o : BackupOpts) (w : Writer) (b : IndexEntry) (rest : List Matched) :
    backupLoop H o w (.left b :: rest) =
      (report (.change b.apath .deleted)).bind fun _ => backupLoop H o w rest := by
  rw [backupLoop]; rfl

theorem backupLoop_right (o : BackupOpts) (w : Writer) (s : SrcEntry) (rest : List Matched) :
    backupLoop H o w (.right s :: rest) = (copyEntry H o w none s).bind (loopCont H o s rest) := by
  rw [backupLoop]
  · simp only [Prog.bind_def]
    congr 1
    funext x
    obtain ⟨w', r⟩ := x
    cases r with
    | error e => rfl
    | ok ch =>
      by_cases hc : w'.pending.length + w'.queue.length ≥ o.maxEntriesPerHunk <;>
        cases ch <;> simp [loopCont, hc]

theorem backupLoop_both (o : BackupOpts) (w : Writer) (b : IndexEntry) (s : SrcEntry) (rest : List Matched) :
    backupLoop H o w (.both b s :: rest) = (copyEntry H o w (some b) s).bind (loopCont H o s rest) := by
  rw [backupLoop]
  · simp only [Prog.bind_def]
    congr 1
    funext x
    obtain ⟨w', r⟩ := x
    cases r with
    | error e => rfl
    | ok ch =>
      by_cases hc : w'.pending.length + w'.queue.length ≥ o.maxEntriesPerHunk <;>
        cases ch <;> simp [loopCont, hc]

/-- The source entries a merged list still holds, in order. -/
def srcOf : List Matched → List SrcEntry
  | [] => []
  | .left _ :: r => srcOf r
  | .right s :: r => s :: srcOf r
  | .both _ s :: r => s :: srcOf r

theorem srcOf_map_right (ss : List SrcEntry) : srcOf (ss.map .right) = ss := by
  induction ss with
  | nil => rfl
  | cons s ss ih => simp [srcOf, ih]

theorem srcOf_map_left (bs : List IndexEntry) : srcOf (bs.map .left) = [] := by
  induction bs with
  | nil => rfl
  | cons b bs ih => simp [srcOf, ih]

theorem srcOf_mergeTrees (bs : List IndexEntry) (ss : List SrcEntry) : srcOf (mergeTrees bs ss) = ss := by
  fun_induction mergeTrees bs ss with
  | case1 ss => exact srcOf_map_right ss
  | case2 bs _ => exact srcOf_map_left bs
  | case3 b bs x ss hcmp ih => simp [srcOf, ih]
  | case4 b bs x ss hcmp ih => simp [srcOf, ih]
  | case5 b bs x ss hcmp ih => simp [srcOf, ih]

theorem mergeTrees_mem (bs : List IndexEntry) (ss : List SrcEntry) : ∀ m ∈ mergeTrees bs ss,
    match m with
    | .left b => b ∈ bs
    | .right x => x ∈ ss
    | .both b x => b ∈ bs ∧ x ∈ ss ∧ apathCmp b.apath x.apath = .eq := by
  fun_induction mergeTrees bs ss with
  | case1 ss =>
    intro m h
    obtain ⟨x, hx, rfl⟩ := List.mem_map.mp h
    exact hx
  | case2 bs _ =>
    intro m h
    obtain ⟨x, hx, rfl⟩ := List.mem_map.mp h
    exact hx
  | case3 b bs x ss hcmp ih =>
    intro m h
    rcases List.mem_cons.mp h with rfl | h
    · exact ⟨List.mem_cons_self, List.mem_cons_self, hcmp⟩
    · have := ih m h
      cases m with
      | left _ => exact List.mem_cons_of_mem _ this
      | right _ => exact List.mem_cons_of_mem _ this
      | both _ _ => exact ⟨List.mem_cons_of_mem _ this.1, List.mem_cons_of_mem _ this.2.1, this.2.2⟩
  | case4 b bs x ss hcmp ih =>
    intro m h
    rcases List.mem_cons.mp h with rfl | h
    · exact List.mem_cons_self
    · have := ih m h
      cases m with
      | left _ => exact List.mem_cons_of_mem _ this
      | right _ => exact this
      | both _ _ => exact ⟨List.mem_cons_of_mem _ this.1, this.2⟩
  | case5 b bs x ss hcmp ih =>
    intro m h
    rcases List.mem_cons.mp h with rfl | h
    · exact List.mem_cons_self
    · have := ih m h
      cases m with
      | left _ => exact this
      | right _ => exact List.mem_cons_of_mem _ this
      | both _ _ => exact ⟨this.1, List.mem_cons_of_mem _ this.2.1, this.2.2⟩

/-- `M basis sf` of the source entry of a merged pair and the basis entry `copy_entry` is given with it. -/
def _root_.Conserve.Matched.All (M : Option IndexEntry → SrcEntry → Prop) : Matched → Prop
  | .left _ => True
  | .right sf => M none sf
  | .both b sf => M (some b) sf

theorem mergeTrees_all {M : Option IndexEntry → SrcEntry → Prop} (bs : List IndexEntry) (ss : List SrcEntry)
    (h : ∀ basis, ∀ sf ∈ ss, (∀ b, basis = some b → b ∈ bs ∧ apathCmp b.apath sf.apath = .eq) → M basis sf) :
    ∀ m ∈ mergeTrees bs ss, m.All M := by
  intro m hm
  cases m with
  | left b => trivial
  | right sf => exact h none sf (mergeTrees_mem bs ss _ hm) (fun _ hb => nomatch hb)
  | both b sf =>
    have hmem := mergeTrees_mem bs ss _ hm
    exact h (some b) sf hmem.2.1 fun _ hb => Option.some.inj hb ▸ ⟨hmem.1, hmem.2.2⟩

end

/-- `backup()` after its prelude returned the new band's id, the names of the blocks present and the
basis listing: the loop, then `BackupWriter::finish`. -/
def backupMain (H : Str → Str) (o : BackupOpts) (src : List SrcEntry) (x : Nat × List Str × List IndexEntry) :
    Prog Stats :=
  (backupLoop H o { band := x.1, exists_ := x.2.1 } (mergeTrees x.2.2 src)).bind fun w =>
  (flushGroup H w).bind fun w =>
  (finishHunk w).bind fun w =>
  (bandClose w.band w.hunksWritten).bind fun _ =>
  Prog.ret w.stats

theorem finishHunk_idle {wr : Writer} (h : wr.pending = []) : finishHunk wr = Prog.ret wr := by
  unfold finishHunk
  simp [h]

/-- `flush_group` ends with `finish_hunk`, so the `finish_hunk` that `BackupWriter::finish` calls next
finds nothing pending. -/
theorem flushGroup_pending (H : Str → Str) (wr : Writer) :
    Tree (fun _ => True) True (fun wr' : Writer => wr'.pending = []) (flushGroup H wr) := by
  unfold flushGroup
  simp only [Prog.bind_def]
  refine .bind ((combinerFlush_tree H wr).mono (fun _ _ => trivial) fun _ _ => trivial) fun x _ => ?_
  split
  · exact .fail _
  · exact (finishHunk_tree _).mono (fun _ _ => trivial) fun _ h => by cases h <;> first | assumption | rfl

/-! ### The walk over the main loop, for any triple `Prog.Framed R` and any writer invariant -/

/-- What a walk needs of the relation of `Prog.Framed`: it composes, its right end is a world to go on
from (`R w w`), and reporting an event is a step. -/
structure IsFrame (R : World → World → Prop) : Prop where
  trans : ∀ (a b c : World), R a b → R b c → R a c
  right : ∀ {a b : World}, R a b → R b b
  events : ∀ {w : World} (ev : Event), R w w → R w { w with events := ev :: w.events }

theorem IsFrame.emit {R : World → World → Prop} (F : IsFrame R) {α : Type} {ev : Event} {k : Prog α} {w : World}
    {Q : α → World → Prop} (hw : R w w) (hk : Framed R k { w with events := ev :: w.events } Q) :
    Framed R (.emit ev k) w Q :=
  ⟨F.trans _ _ _ (F.events ev hw) hk.1, hk.2⟩

section
variable (H : Str → Str)

/-- A triple `Framed R`, a writer invariant `W todo w wr` that may look at the world (`todo` = the source
entries still to come), and what `copy_entry` needs of a source entry and the basis entry it comes with,
`M w basis sf`, which survives a step of `R`; the functions the main part of `backup()` calls keep `W`. -/
structure LoopInvW (o : BackupOpts) (R : World → World → Prop) (W : List SrcEntry → World → Writer → Prop)
    (M : World → Option IndexEntry → SrcEntry → Prop) : Prop where
  frame : IsFrame R
  carry : ∀ {w w' : World} {basis : Option IndexEntry} {sf : SrcEntry}, R w w' → M w basis sf → M w' basis sf
  events : ∀ {todo : List SrcEntry} {w : World} {wr : Writer} (ev : Event), W todo w wr →
    W todo { w with events := ev :: w.events } wr
  setStats : ∀ {todo : List SrcEntry} {w : World} {wr : Writer} (st : Stats), W todo w wr →
    W todo w { wr with stats := st }
  copyEntry : ∀ {todo : List SrcEntry} {w : World} (wr : Writer) (basis : Option IndexEntry) (sf : SrcEntry),
    R w w → W (sf :: todo) w wr → M w basis sf →
    Framed R (copyEntry H o wr basis sf) w (fun x w' => W todo w' x.1)
  flushGroup : ∀ {todo : List SrcEntry} {w : World} (wr : Writer), R w w → W todo w wr →
    Framed R (flushGroup H wr) w (fun wr' w' => W todo w' wr')
  close : ∀ {w : World} (wr : Writer), R w w → W [] w wr →
    Framed R (bandClose wr.band wr.hunksWritten) w (fun _ _ => True)

variable {H} {o : BackupOpts} {R : World → World → Prop} {W : List SrcEntry → World → Writer → Prop}
  {M : World → Option IndexEntry → SrcEntry → Prop} (hW : LoopInvW H o R W M)
include hW

theorem LoopInvW.carryAll {w w' : World} {ms : List Matched} (hr : R w w') (hms : ∀ m ∈ ms, m.All (M w)) :
    ∀ m ∈ ms, m.All (M w') := by
  intro m hm
  have := hms m hm
  cases m with
  | left b => trivial
  | right sf => exact hW.carry hr this
  | both b sf => exact hW.carry hr this

theorem loopCont_framed (sf : SrcEntry) (rest : List Matched) {todo : List SrcEntry}
    (ih : ∀ wr w, R w w → W todo w wr → (∀ m ∈ rest, m.All (M w)) →
      Framed R (backupLoop H o wr rest) w (fun wr' w' => W [] w' wr'))
    (x : Writer × Except Err (Option ChangeKind)) (w : World) (hw : R w w) (hx : W todo w x.1)
    (hms : ∀ m ∈ rest, m.All (M w)) :
    Framed R (loopCont H o sf rest x) w (fun wr' w' => W [] w' wr') := by
  obtain ⟨wr, r⟩ := x
  have F := hW.frame
  -- after an event: a world to go on from, `W` and `M` as before
  have hev : ∀ (ev : Event) (k : Prog Writer) (wr : Writer), W todo w wr →
      (∀ w1, R w1 w1 → W todo w1 wr → (∀ m ∈ rest, m.All (M w1)) → Framed R k w1 (fun wr' w' => W [] w' wr')) →
      Framed R (.emit ev k) w (fun wr' w' => W [] w' wr') := fun ev k wr hwr hk =>
    F.emit hw (hk _ (F.right (F.events ev hw)) (hW.events ev hwr) (hW.carryAll (F.events ev hw) hms))
  cases r with
  | error e =>
    simp only [loopCont, logError, Prog.emit_bind, Prog.ret_bind]
    exact hev _ _ _ (hW.setStats _ hx) (ih _)
  | ok ch =>
    have hrest : ∀ w1 : World, R w1 w1 → W todo w1 wr → (∀ m ∈ rest, m.All (M w1)) →
        Framed R ((if wr.pending.length + wr.queue.length ≥ o.maxEntriesPerHunk then flushGroup H wr
            else Prog.ret wr).bind fun w => backupLoop H o w rest) w1 (fun wr' w' => W [] w' wr') := by
      intro w1 hw1 hx1 hms1
      refine Framed.bind ?_ F.trans
      split
      · exact (hW.flushGroup wr hw1 hx1).mono fun wr2 w2 hr2 hwr2 =>
          ih wr2 w2 (F.right hr2) hwr2 (hW.carryAll hr2 hms1)
      · exact Framed.ret hw1 (ih wr w1 hw1 hx1 hms1)
    cases ch with
    | none =>
      simp only [loopCont, Prog.ret_bind]
      exact hrest w hw hx hms
    | some ck =>
      simp only [loopCont, report, Prog.emit_bind, Prog.ret_bind]
      exact hev _ _ wr hx hrest

theorem backupLoop_framed (ms : List Matched) :
    ∀ (wr : Writer) (w : World), R w w → W (srcOf ms) w wr → (∀ m ∈ ms, m.All (M w)) →
      Framed R (backupLoop H o wr ms) w (fun wr' w' => W [] w' wr') := by
  have F := hW.frame
  induction ms with
  | nil =>
    intro wr w hw hwr _
    rw [backupLoop]
    exact Framed.ret hw hwr
  | cons m rest ih =>
    intro wr w hw hwr hms
    have hrest : ∀ m ∈ rest, m.All (M w) := fun m hm => hms m (List.mem_cons_of_mem _ hm)
    have hm := hms m (List.mem_cons_self ..)
    -- a source entry, with or without a basis entry: `copy_entry`, then the rest of the loop
    have step : ∀ (sf : SrcEntry) (basis : Option IndexEntry), W (sf :: srcOf rest) w wr → M w basis sf →
        Framed R ((copyEntry H o wr basis sf).bind (loopCont H o sf rest)) w (fun wr' w' => W [] w' wr') :=
      fun sf basis hwr hm => Framed.bind ((hW.copyEntry wr basis sf hw hwr hm).mono fun x w1 hr1 hx1 =>
        loopCont_framed hW sf rest ih x w1 (F.right hr1) hx1 (hW.carryAll hr1 hrest)) F.trans
    cases m with
    | left b =>
      rw [backupLoop_left]
      simp only [report, Prog.emit_bind, Prog.ret_bind]
      exact F.emit hw (ih wr _ (F.right (F.events _ hw)) (hW.events _ hwr) (hW.carryAll (F.events _ hw) hrest))
    | right sf =>
      rw [backupLoop_right]
      exact step sf none hwr hm
    | both b sf =>
      rw [backupLoop_both]
      exact step sf (some b) hwr hm

/-- The main part of `backup()`.  `hM`: what `copy_entry` needs holds of every source entry, taken alone or
with a basis entry of the same path. -/
theorem backupMain_framed {src : List SrcEntry} (x : Nat × List Str × List IndexEntry) (w : World) (hw : R w w)
    (hwr : W src w { band := x.1, exists_ := x.2.1 })
    (hM : ∀ basis, ∀ sf ∈ src, (∀ b, basis = some b → b ∈ x.2.2 ∧ apathCmp b.apath sf.apath = .eq) →
      M w basis sf) :
    Framed R (backupMain H o src x) w (fun _ _ => True) := by
  have F := hW.frame
  unfold backupMain
  refine Framed.bind ((backupLoop_framed hW _ _ w hw (by rw [srcOf_mergeTrees]; exact hwr)
    (mergeTrees_all _ _ hM)).mono fun wr1 w1 h1 hwr1 => ?_) F.trans
  refine Framed.bind (((hW.flushGroup wr1 (F.right h1) hwr1).and_run (Q' := fun wr' _ => wr'.pending = [])
    fun _ => (flushGroup_pending H wr1).run).mono
    fun wr2 w2 h2 ⟨hwr2, hp⟩ => ?_) F.trans
  rw [finishHunk_idle hp, Prog.ret_bind]
  exact Framed.bind ((hW.close wr2 (F.right h2) hwr2).mono fun _ _ h3 _ => Framed.ret (F.right h3) trivial)
    F.trans

end

end Conserve.Inv
