import ConserveModel.Proofs.FsLoop
/-
`restoreToFs` as a whole: the caller's obligations on the destination (`Fs.wf`, `DestPlain`), what
`ensure_dir_exists` and the emptiness test leave (`restoreToFs_cases`), and the refusal of a non-empty
destination.
-/
namespace Conserve

/-- Every node but the root has a parent directory (true of every real file system). -/
def Fs.wf (fs : Fs) : Bool := fs.nodes.all fun kv => kv.1 == [] || fs.isDir kv.1.dropLast

theorem Fs.node_mem {fs : Fs} {p : Path} {x : FNode} (h : fs.node p = some x) : (p, x) ∈ fs.nodes := by
  unfold Fs.node at h
  cases hf : fs.nodes.find? (fun kv => kv.1 == p) with
  | none => rw [hf] at h; cases h
  | some kv =>
    rw [hf] at h
    simp only [Option.map_some, Option.some.injEq] at h
    have h1 := List.mem_of_find?_eq_some hf
    have h2 := List.find?_some hf
    simp only [beq_iff_eq] at h2
    rw [← h2, ← h]; exact h1

theorem Fs.wf_parent {fs : Fs} (hwf : fs.wf = true) {p : Path} {x : FNode} (h : fs.node p = some x)
    (hp : p ≠ []) : fs.isDir p.dropLast = true := by
  have := List.all_eq_true.1 hwf _ (Fs.node_mem h)
  simpa [hp] using this

theorem Fs.hasChild_of_node {fs : Fs} {p : Path} {x : FNode} (h : fs.node p = some x) (hp : p ≠ []) :
    fs.hasChild p.dropLast = true := by
  unfold Fs.hasChild
  exact List.any_eq_true.2 ⟨_, Fs.node_mem h, by simp [hp]⟩

theorem no_descendants {fs : Fs} {D : Path} (hwf : fs.wf = true) (hch : ∀ c, fs.node (D ++ [c]) = none) :
    ∀ (n : Nat) (cs : List Str), cs.length = n → cs ≠ [] → fs.node (D ++ cs) = none := by
  intro n
  induction n with
  | zero => intro cs hl hne; exact absurd (List.eq_nil_of_length_eq_zero hl) hne
  | succ n ih =>
    intro cs hl hne
    obtain ⟨cs', c, rfl⟩ : ∃ cs' c, cs = cs' ++ [c] :=
      ⟨cs.dropLast, cs.getLast hne, (List.dropLast_concat_getLast hne).symm⟩
    by_cases hcs : cs' = []
    · subst hcs; exact hch c
    · cases hx : fs.node (D ++ (cs' ++ [c])) with
      | none => rfl
      | some x =>
        have := Fs.wf_parent hwf hx (by simp)
        rw [← List.append_assoc, List.dropLast_concat] at this
        have hnone := ih cs' (by simpa using hl) hcs
        simp [Fs.isDir, hnone] at this

/-- What the caller must guarantee about the destination path: real names, no symlink (or
file) among its proper prefixes, and the destination itself a directory or absent. -/
structure DestPlain (fs : Fs) (D : Path) : Prop where
  good : ∀ c ∈ D, goodName c = true
  dirs : ∀ pre, pre <+: D → pre ≠ D → fs.isDir pre = true
  self : NoneOrDir (fs.node D)

theorem DestPlain.res {fs : Fs} {D : Path} (hP : DestPlain fs D) (follow : Bool) :
    ∀ p, fs.resolve follow D = .ok p → p = D := by
  intro p h
  exact (walk_clean fs follow resolveFuel maxSymlinks [] D [] hP.good (fun _ hc => nomatch hc)
    (fun pre hp _ hne => (noneOrDir_of_isDir (hP.dirs pre hp hne)).notLink)
    (Or.inr hP.self.notLink) p (by rw [List.append_nil]; exact h)).1

theorem DestPlain.res_ok {fs : Fs} {D : Path} (hP : DestPlain fs D) (hlen : D.length < resolveFuel)
    (follow : Bool) : fs.resolve follow D = .ok D :=
  walk_clean_ok fs follow resolveFuel maxSymlinks [] D hlen hP.good
    (fun hne => hP.dirs [] List.nil_prefix (fun e => hne e.symm))
    (fun pre hp _ hne => hP.dirs pre hp hne) (Or.inr hP.self.notLink)

theorem Local.destPlain {fs fs' : Fs} {D : Path} (h : Local .dir fs fs' D) (hP : DestPlain fs D) :
    DestPlain fs' D := by
  refine ⟨hP.good, fun pre hp hne => h.kept.isDir (hP.dirs pre hp hne), fun x' hx' => ?_⟩
  cases hn : fs.node D with
  | none => exact h.created x' hn hx'
  | some x =>
    obtain ⟨y, hy, hky⟩ := h.self x hn
    rw [hx'] at hy; cases hy
    rw [hky]; exact hP.self x hn

theorem ensureDir_local {fs : Fs} {D : Path} (hP : DestPlain fs D) :
    Local .dir fs (fs.ensureDir D).1 D := by
  have L := Fs.mkdir_local (hP.res false)
  unfold Fs.ensureDir
  split
  · exact Local.refl _ _ _
  · exact L

theorem Fs.readDirEmpty_ok {fs : Fs} {D : Path} (hP : DestPlain fs D) {b : Bool}
    (h : fs.readDirEmpty D = .ok b) : fs.isDir D = true ∧ b = !fs.hasChild D := by
  unfold Fs.readDirEmpty at h
  cases hr : fs.resolve true D with
  | error e => rw [hr] at h; cases h
  | ok p =>
    have hp := hP.res true p hr
    subst hp
    rw [hr] at h
    dsimp only at h
    cases hn : fs.node p with
    | none => rw [hn] at h; cases h
    | some x =>
      rw [hn] at h
      dsimp only at h
      by_cases hk : x.kind = .dir
      · rw [if_pos hk] at h
        cases h
        exact ⟨Fs.isDir_iff.2 ⟨x, hn, hk⟩, rfl⟩
      · rw [if_neg hk] at h; cases h

theorem length_dropLast_lt {D : Path} (h : D ≠ []) : D.dropLast.length < D.length := by
  rw [List.length_dropLast]
  have := List.length_pos_iff.2 h
  omega

theorem ne_dest_append {D cs q : Path} (h : q.length ≤ D.length) (hcs : cs ≠ []) : D ++ cs ≠ q := by
  intro e
  have := congrArg List.length e
  have := List.length_pos_iff.2 hcs
  simp at *
  omega

/-- After `ensure_dir_exists` and a successful emptiness test the destination is there and holds nothing. -/
theorem dest_empty {fs fs0 : Fs} {D : Path} (hwf : fs.wf = true) (hP : DestPlain fs D)
    (L : Local .dir fs fs0 D) (hempty : fs0.readDirEmpty D = .ok true) :
    DestOk fs0 D ∧ ∀ cs, cs ≠ [] → fs0.node (D ++ cs) = none := by
  have hP0 := L.destPlain hP
  obtain ⟨hdir, hb⟩ := Fs.readDirEmpty_ok hP0 hempty
  have hnc : fs0.hasChild D = false := by
    cases h : fs0.hasChild D with
    | false => rfl
    | true => rw [h] at hb; cases hb
  have hframe : ∀ cs, cs ≠ [] → fs0.node (D ++ cs) = fs.node (D ++ cs) := fun cs hcs =>
    L.frame _ (ne_dest_append (Nat.le_refl _) hcs)
      (ne_dest_append (by rw [List.length_dropLast]; omega) hcs)
  have hch : ∀ c, fs.node (D ++ [c]) = none := by
    intro c
    rw [← hframe [c] (by simp)]
    cases hx : fs0.node (D ++ [c]) with
    | none => rfl
    | some x =>
      have := Fs.hasChild_of_node hx (by simp)
      rw [List.dropLast_concat, hnc] at this
      cases this
  refine ⟨⟨hP0.good, fun pre hp => ?_⟩, fun cs hcs => by
    rw [hframe cs hcs, no_descendants hwf hch cs.length cs rfl hcs]⟩
  by_cases he : pre = D
  · rw [he]; exact hdir
  · exact hP0.dirs pre hp he

theorem Local.outside_dest {fs fs0 : Fs} {D : Path} (L : Local .dir fs fs0 D) :
    ∀ q, ¬ D <+: q → (q ≠ D.dropLast ∨ fs.node D ≠ none) → fs0.node q = fs.node q := by
  intro q hq hor
  have hqD : q ≠ D := fun e => hq (e ▸ List.prefix_refl _)
  by_cases hd : q = D.dropLast
  · rcases hor with h | h
    · exact absurd hd h
    · subst hd
      exact (L.parent (fun e => hqD e)).2 h
  · exact L.frame q hqD hd

abbrev restoreBodyFs (uidOf gidOf : Str → Option Nat) (old : Bool) (D : Path) (fs0 : Fs)
    (nodes : List RNode) : Fs × List FsErr × Option RestoreError :=
  let r := restoreLoopFs uidOf gidOf old D fs0 nodes
  let r2 := applyDeferralsFs uidOf gidOf r.1 r.2.2
  (r2.1, r.2.1 ++ r2.2, none)

theorem restoreToFs_of_empty {uidOf gidOf : Str → Option Nat} {old : Bool} {fs fs0 : Fs} {D : Path}
    {nodes : List RNode} (he : fs.ensureDir D = (fs0, .ok ())) (hr : fs0.readDirEmpty D = .ok true) :
    restoreToFs fs D false nodes uidOf gidOf old =
      restoreBodyFs uidOf gidOf old D fs0 nodes := by
  unfold restoreToFs
  rw [he]
  dsimp only
  rw [hr]
  rfl

/-- `restoreToFs` stops after `ensure_dir_exists`, with an error of its own, or runs loop and
deferrals on a file system where the destination is there and empty. -/
theorem restoreToFs_cases {uidOf gidOf : Str → Option Nat} {old : Bool} {fs : Fs} {D : Path}
    (nodes : List RNode) (hwf : fs.wf = true) (hP : DestPlain fs D) :
    ∃ fs0, Local .dir fs fs0 D ∧
      (((restoreToFs fs D false nodes uidOf gidOf old).1 = fs0 ∧
          (restoreToFs fs D false nodes uidOf gidOf old).2.2 ≠ none) ∨
        ((DestOk fs0 D ∧ ∀ cs, cs ≠ [] → fs0.node (D ++ cs) = none) ∧
          restoreToFs fs D false nodes uidOf gidOf old =
            restoreBodyFs uidOf gidOf old D fs0 nodes)) := by
  have L := ensureDir_local hP
  rcases he : fs.ensureDir D with ⟨fs0, r⟩
  rw [he] at L
  refine ⟨fs0, L, ?_⟩
  by_cases hgo : r = .ok () ∧ fs0.readDirEmpty D = .ok true
  · exact Or.inr ⟨dest_empty hwf hP L hgo.2, restoreToFs_of_empty (hgo.1 ▸ he) hgo.2⟩
  · left
    unfold restoreToFs
    rw [he]
    cases r with
    | error e => exact ⟨rfl, by simp⟩
    | ok u =>
      dsimp only
      cases hr : fs0.readDirEmpty D with
      | error e => exact ⟨rfl, by simp⟩
      | ok empty =>
        cases empty with
        | false => exact ⟨rfl, by simp⟩
        | true => exact absurd ⟨rfl, hr⟩ hgo

theorem ensureDir_plain {fs : Fs} {D : Path} (hP : DestPlain fs D) (hlen : D.length < resolveFuel) :
    fs.ensureDir D =
      match fs.node D with
      | some _ => (fs, .ok ())
      | none => (fs.createAt D (.dir (maskMode 0o777 fs.umask + fs.parentSgid D.dropLast) fs.euid
          (fs.newGid D.dropLast) .now), .ok ()) := by
  unfold Fs.ensureDir
  rw [Fs.mkdir_eq, Fs.onPath_ok (hP.res_ok hlen false)]
  unfold Fs.newAt
  cases fs.node D <;> rfl

theorem readDirEmpty_plain {fs : Fs} {D : Path} (hP : DestPlain fs D) (hlen : D.length < resolveFuel)
    (hdir : fs.isDir D = true) : fs.readDirEmpty D = .ok (!fs.hasChild D) := by
  obtain ⟨x, hx, hk⟩ := Fs.isDir_iff.1 hdir
  unfold Fs.readDirEmpty
  rw [hP.res_ok hlen true]
  simp only [hx, hk, if_true]

/-- **Refusal**: an existing non-empty destination, no overwrite option: the error is
`DestinationNotEmpty` and the file system is untouched. -/
theorem restoreToFs_refuses {uidOf gidOf : Str → Option Nat} {old : Bool} {fs : Fs} {D : Path}
    {nodes : List RNode} (hP : DestPlain fs D) (hlen : D.length < resolveFuel)
    (hdir : fs.isDir D = true) (hne : fs.hasChild D = true) :
    restoreToFs fs D false nodes uidOf gidOf old = (fs, [], some .destinationNotEmpty) := by
  obtain ⟨x, hx, -⟩ := Fs.isDir_iff.1 hdir
  unfold restoreToFs
  rw [ensureDir_plain hP hlen, hx]
  dsimp only
  rw [readDirEmpty_plain hP hlen hdir, hne]
  rfl

end Conserve
