import ConserveModel.Glob
/-
Helper lemmas for C15, matcher side: `matchT` is concatenation of the single-token languages.
-/
namespace Conserve

theorem starTail_iff (f : Str → Bool) (s : Str) :
    starTail f s = true ↔ ∃ u t, s = u ++ t ∧ (∀ c ∈ u, c ≠ slash) ∧ f t = true := by
  induction s with
  | nil =>
    simp only [starTail]
    constructor
    · intro h; exact ⟨[], [], rfl, by simp, h⟩
    · rintro ⟨u, t, h, _, hf⟩
      obtain ⟨rfl, rfl⟩ := List.nil_eq_append_iff.mp h
      exact hf
  | cons c s ih =>
    simp only [starTail, Bool.or_eq_true, Bool.and_eq_true, bne_iff_ne, ne_eq]
    constructor
    · rintro (h | ⟨hc, h⟩)
      · exact ⟨[], c :: s, rfl, by simp, h⟩
      · obtain ⟨u, t, rfl, hu, hf⟩ := ih.mp h
        exact ⟨c :: u, t, rfl, List.forall_mem_cons.mpr ⟨hc, hu⟩, hf⟩
    · rintro ⟨u, t, h, hu, hf⟩
      cases u with
      | nil => cases h; exact .inl hf
      | cons d u =>
        cases h
        obtain ⟨hd, hu⟩ := List.forall_mem_cons.mp hu
        exact .inr ⟨hd, ih.mpr ⟨u, t, rfl, hu, hf⟩⟩

theorem anyTail_iff (f : Str → Bool) (s : Str) :
    anyTail f s = true ↔ ∃ u t, s = u ++ t ∧ f t = true := by
  induction s with
  | nil =>
    simp only [anyTail]
    constructor
    · intro h; exact ⟨[], [], rfl, h⟩
    · rintro ⟨u, t, h, hf⟩
      obtain ⟨rfl, rfl⟩ := List.nil_eq_append_iff.mp h
      exact hf
  | cons c s ih =>
    simp only [anyTail, Bool.or_eq_true]
    constructor
    · rintro (h | h)
      · exact ⟨[], c :: s, rfl, h⟩
      · obtain ⟨u, t, rfl, hf⟩ := ih.mp h
        exact ⟨c :: u, t, rfl, hf⟩
    · rintro ⟨u, t, h, hf⟩
      cases u with
      | nil => cases h; exact .inl hf
      | cons d u => cases h; exact .inr (ih.mpr ⟨u, t, rfl, hf⟩)

theorem afterSlash_iff (f : Str → Bool) (s : Str) :
    afterSlash f s = true ↔ ∃ u t, s = u ++ slash :: t ∧ f t = true := by
  induction s with
  | nil => simp [afterSlash]
  | cons c s ih =>
    simp only [afterSlash, Bool.or_eq_true, Bool.and_eq_true, beq_iff_eq]
    constructor
    · rintro (⟨rfl, h⟩ | h)
      · exact ⟨[], s, rfl, h⟩
      · obtain ⟨u, t, rfl, hf⟩ := ih.mp h
        exact ⟨c :: u, t, rfl, hf⟩
    · rintro ⟨u, t, h, hf⟩
      cases u with
      | nil => cases h; exact .inl ⟨rfl, hf⟩
      | cons d u => cases h; exact .inr (ih.mpr ⟨u, t, rfl, hf⟩)

/-- The language of one token: the strings matched by its regex fragment. -/
def TokLang : Tok → Str → Prop
  | .lit b, u => ∃ c, u = [c] ∧ c = b
  | .any, u => ∃ c, u = [c] ∧ c ≠ slash
  | .cls neg rs, u => ∃ c, u = [c] ∧ clsMatch neg rs c = true
  | .star, u => ∀ c ∈ u, c ≠ slash
  | .recPrefix, u => u = [] ∨ ∃ w, u = w ++ [slash]
  | .recSuffix, u => ∃ w, u = slash :: w
  | .recMid, u => u = [slash] ∨ ∃ w, u = slash :: (w ++ [slash])

theorem matchT_nil (s : Str) : matchT [] s = true ↔ s = [] := by
  simp [matchT]

theorem split_byte_iff (P : Nat → Prop) (Q : Str → Prop) (c : Nat) (s : Str) :
    (∃ u v, c :: s = u ++ v ∧ (∃ d, u = [d] ∧ P d) ∧ Q v) ↔ P c ∧ Q s := by
  constructor
  · rintro ⟨_, v, h, ⟨d, rfl, hd⟩, hv⟩
    cases h
    exact ⟨hd, hv⟩
  · rintro ⟨hc, hs⟩
    exact ⟨[c], s, rfl, ⟨c, rfl, hc⟩, hs⟩

theorem split_byte_nil (P : Nat → Prop) (Q : Str → Prop) :
    ¬ ∃ u v, ([] : Str) = u ++ v ∧ (∃ d, u = [d] ∧ P d) ∧ Q v := by
  rintro ⟨_, v, h, ⟨d, rfl, _⟩, _⟩
  cases h

theorem matchT_cons (t : Tok) (ts : List Tok) (s : Str) :
    matchT (t :: ts) s = true ↔ ∃ u v, s = u ++ v ∧ TokLang t u ∧ matchT ts v = true := by
  cases t with
  | lit b | any | cls neg rs =>
    cases s with
    | nil => simp only [matchT, TokLang, split_byte_nil, Bool.false_eq_true]
    | cons c s' =>
      simp only [matchT, TokLang, split_byte_iff, Bool.and_eq_true, beq_iff_eq, bne_iff_ne, ne_eq]
  | star =>
    simp only [matchT, TokLang]
    exact starTail_iff _ _
  | recPrefix =>
    simp only [matchT, TokLang, Bool.or_eq_true]
    constructor
    · rintro (h | h)
      · exact ⟨[], s, rfl, Or.inl rfl, h⟩
      · obtain ⟨w, t, rfl, hf⟩ := (afterSlash_iff _ _).mp h
        exact ⟨w ++ [slash], t, by simp, Or.inr ⟨w, rfl⟩, hf⟩
    · rintro ⟨u, v, rfl, (rfl | ⟨w, rfl⟩), hv⟩
      · left; simpa using hv
      · right; exact (afterSlash_iff _ _).mpr ⟨w, v, by simp, hv⟩
  | recSuffix =>
    cases s with
    | nil =>
      simp only [matchT, TokLang, Bool.false_eq_true, false_iff]
      rintro ⟨_, v, h, ⟨w, rfl⟩, _⟩
      cases h
    | cons c s' =>
      simp only [matchT, TokLang, Bool.and_eq_true, beq_iff_eq]
      constructor
      · rintro ⟨rfl, h⟩
        obtain ⟨w, t, rfl, hf⟩ := (anyTail_iff _ _).mp h
        exact ⟨slash :: w, t, rfl, ⟨w, rfl⟩, hf⟩
      · rintro ⟨u, v, h, ⟨w, rfl⟩, hv⟩
        cases h
        exact ⟨rfl, (anyTail_iff _ _).mpr ⟨w, v, rfl, hv⟩⟩
  | recMid =>
    cases s with
    | nil =>
      simp only [matchT, TokLang, Bool.false_eq_true, false_iff]
      rintro ⟨_, v, h, (rfl | ⟨w, rfl⟩), _⟩ <;> cases h
    | cons c s' =>
      simp only [matchT, TokLang, Bool.and_eq_true, beq_iff_eq, Bool.or_eq_true]
      constructor
      · rintro ⟨rfl, h | h⟩
        · exact ⟨[slash], s', rfl, Or.inl rfl, h⟩
        · obtain ⟨w, t, rfl, hf⟩ := (afterSlash_iff _ _).mp h
          exact ⟨slash :: (w ++ [slash]), t, by simp, Or.inr ⟨w, rfl⟩, hf⟩
      · rintro ⟨u, v, h, (rfl | ⟨w, rfl⟩), hv⟩
        · cases h
          exact ⟨rfl, Or.inl hv⟩
        · simp only [List.cons_append, List.append_assoc, List.nil_append, List.cons.injEq] at h
          obtain ⟨rfl, rfl⟩ := h
          exact ⟨rfl, Or.inr ((afterSlash_iff _ _).mpr ⟨w, v, rfl, hv⟩)⟩

theorem matchT_append (ts₁ ts₂ : List Tok) (s : Str) :
    matchT (ts₁ ++ ts₂) s = true ↔ ∃ u v, s = u ++ v ∧ matchT ts₁ u = true ∧ matchT ts₂ v = true := by
  induction ts₁ generalizing s with
  | nil =>
    simp only [List.nil_append, matchT_nil]
    constructor
    · intro h; exact ⟨[], s, rfl, rfl, h⟩
    · rintro ⟨u, v, rfl, rfl, h⟩; simpa using h
  | cons t ts ih =>
    rw [List.cons_append, matchT_cons]
    constructor
    · rintro ⟨u, v, rfl, ht, hv⟩
      obtain ⟨v₁, v₂, rfl, h1, h2⟩ := (ih v).mp hv
      exact ⟨u ++ v₁, v₂, by simp, (matchT_cons t ts _).mpr ⟨u, v₁, rfl, ht, h1⟩, h2⟩
    · rintro ⟨u, v, rfl, hu, hv⟩
      obtain ⟨u₁, u₂, rfl, ht, h2⟩ := (matchT_cons t ts u).mp hu
      exact ⟨u₁, u₂ ++ v, by simp, ht, (ih _).mpr ⟨u₂, v, rfl, h2, hv⟩⟩

theorem matchT_recSuffix (v : Str) : matchT [.recSuffix] v = true ↔ ∃ z, v = slash :: z := by
  rw [matchT_cons]
  constructor
  · rintro ⟨u, w, rfl, ⟨z, rfl⟩, hw⟩
    rw [matchT_nil] at hw; subst hw
    exact ⟨z, by simp⟩
  · rintro ⟨z, rfl⟩
    exact ⟨slash :: z, [], by simp, ⟨z, rfl⟩, by simp [matchT]⟩

/-- Token-level suffix rule: `ts` followed by `/.*` matches `x` iff `ts` matches a prefix of `x`
that is followed by a slash. -/
theorem matchT_snoc_recSuffix (ts : List Tok) (x : Str) :
    matchT (ts ++ [.recSuffix]) x = true ↔ ∃ y z, x = y ++ slash :: z ∧ matchT ts y = true := by
  rw [matchT_append]
  constructor
  · rintro ⟨u, v, rfl, hu, hv⟩
    obtain ⟨z, rfl⟩ := (matchT_recSuffix v).mp hv
    exact ⟨u, z, rfl, hu⟩
  · rintro ⟨y, z, rfl, hy⟩
    exact ⟨y, slash :: z, rfl, hy, (matchT_recSuffix _).mpr ⟨z, rfl⟩⟩

theorem matchToks_of_ne {ts : List Tok} (h : ts ≠ [.recPrefix]) (s : Str) :
    matchToks ts s = matchT ts s := by
  simp [matchToks, h]

theorem matchToks_recPrefix (s : Str) : matchToks [.recPrefix] s = true := by
  simp [matchToks]

theorem snoc_ne_recPrefix (ts : List Tok) : ts ++ [Tok.recSuffix] ≠ [.recPrefix] := by
  intro h
  cases ts with
  | nil => simp at h
  | cons t ts =>
    cases ts with
    | nil => simp at h
    | cons t2 ts => simp at h

theorem matchToks_snoc_recSuffix {ts : List Tok} (h : ts ≠ [.recPrefix]) (x : Str) :
    matchToks (ts ++ [.recSuffix]) x = true ↔ ∃ y z, x = y ++ slash :: z ∧ matchToks ts y = true := by
  rw [matchToks_of_ne (snoc_ne_recPrefix ts), matchT_snoc_recSuffix]
  simp only [matchToks_of_ne h]

theorem matchToks_recSuffix_closed (ts : List Tok) (a z : Str)
    (h : matchToks (ts ++ [.recSuffix]) a = true) :
    matchToks (ts ++ [.recSuffix]) (a ++ slash :: z) = true := by
  rw [matchToks_of_ne (snoc_ne_recPrefix ts)] at h ⊢
  rw [matchT_snoc_recSuffix] at h ⊢
  obtain ⟨y, w, rfl, hy⟩ := h
  exact ⟨y, w ++ slash :: z, by simp, hy⟩

end Conserve
