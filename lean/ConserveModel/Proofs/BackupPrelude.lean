import ConserveModel.Proofs.BackupBasis
import ConserveModel.Props.C11
/-
`backup()` as a whole in all worlds: its split into prelude and main part, and the final
invariant theorem `backup_sat`.  No property statements here.
-/
namespace Conserve.Inv
open Conserve Prog

/-- Everything `backup` does before its main loop: lock check, basis band, new band, second look
at the lock (in the listing of the archive directory), block listing, basis listing. -/
def backupPrelude : Prog (Nat × List Str × List IndexEntry) :=
  gcIsLocked.bind fun locked =>
    if locked = true then Prog.fail .gcLockHeld
    else lastBandId.bind fun basisBand => bandCreate.bind fun band =>
      gcLockListed.bind fun locked2 =>
      if locked2 = true then Prog.fail .gcLockHeld
      else listBlocks.bind fun blocks =>
      match basisBand with
      | some b => (listEntries b [slash] fun _ => false).bind fun basis => Prog.ret (band, blocks, basis)
      | none => Prog.ret (band, blocks, [])

/-- The prelude up to `Band::create`: the first look at the lock, the newest band. -/
def preludeHead : Prog (Option Nat) :=
  gcIsLocked.bind fun locked => if locked = true then Prog.fail .gcLockHeld else lastBandId

/-- The prelude after `Band::create`: the second look at the lock, the block listing, the basis listing. -/
def preludeTail (basisBand : Option Nat) (band : Nat) : Prog (Nat × List Str × List IndexEntry) :=
  gcLockListed.bind fun locked2 =>
    if locked2 = true then Prog.fail .gcLockHeld
    else listBlocks.bind fun blocks =>
    match basisBand with
    | some b => (listEntries b [slash] fun _ => false).bind fun basis => Prog.ret (band, blocks, basis)
    | none => Prog.ret (band, blocks, [])

/-- The prelude reads, creates the band, and reads. -/
theorem backupPrelude_eq :
    backupPrelude = preludeHead.bind fun basisBand => bandCreate.bind (preludeTail basisBand) := by
  unfold backupPrelude preludeHead
  rw [Prog.bind_assoc]
  congr 1; funext locked
  split <;> rfl

theorem preludeHead_ro : AllOps ReadOnly preludeHead :=
  .bind gcIsLocked_ro fun _ => by split; exact .fail _; exact lastBandId_ro

theorem preludeTail_ro (basisBand : Option Nat) (band : Nat) : AllOps ReadOnly (preludeTail basisBand band) := by
  refine .bind gcLockListed_ro fun _ => ?_
  split
  · exact .fail _
  refine .bind listBlocks_ro fun _ => ?_
  cases basisBand with
  | none => exact .ret _
  | some b => exact .bind (listEntries_ro b _ _) fun _ => .ret _

theorem preludeHead_spec (s : Store) : ROSpec s preludeHead (fun r => NoBands s → r = none) :=
  .bind (.of_ro gcIsLocked_ro) fun _ _ => .ite .fail (lastBandId_spec s)

/-- What the prelude returns, in terms of the store it ends in (which `Band::create` left): the id
`Band::create` returned; names of intact blocks, if the store's blocks are good; entries of hunks, none
if there was no band before. -/
theorem preludeTail_spec (H : Str → Str) (s : Store) (basisBand : Option Nat) (band : Nat) :
    ROSpec s (preludeTail basisBand band) (fun x => x.1 = band ∧
      (NoDupKeys s → BlocksGood H s → ExistsOK H s x.2.1) ∧ FromHunks s x.2.2 ∧ (basisBand = none → x.2.2 = [])) := by
  refine .bind (.of_ro gcLockListed_ro) fun _ _ => .ite .fail ?_
  have hblocks : ROSpec s listBlocks (fun blocks => NoDupKeys s → BlocksGood H s → ExistsOK H s blocks) :=
    fun w hw => ⟨(ROSpec.of_ro listBlocks_ro w hw).1, fun a ha hnd hbg => (listBlocks_spec hnd hbg w hw).2 a ha⟩
  refine .bind hblocks fun blocks hex => ?_
  cases basisBand with
  | none => exact .ret ⟨rfl, hex, FromHunks.nil _, fun _ => rfl⟩
  | some b => exact .bind (listEntries_spec s b _ _) fun basis hfh => .ret ⟨rfl, hex, hfh, nofun⟩

theorem backup_eq (H : Str → Str) (o : BackupOpts) (src : List SrcEntry) :
    backup H o src = backupPrelude.bind (backupMain H o src) := by
  unfold backup backupPrelude
  simp only [Prog.bind_def, Prog.pure_def, Prog.bind_assoc]
  congr 1; funext locked
  cases locked
  · simp only [Bool.false_eq_true, if_false, Prog.bind_assoc]
    congr 1; funext basisBand; congr 1; funext band; congr 1; funext locked2
    cases locked2
    · simp only [Bool.false_eq_true, if_false, Prog.bind_assoc]
      congr 1; funext blocks
      cases basisBand <;> simp [Prog.bind_assoc, backupMain]
    · simp
  · simp


section
variable {H : Str → Str} {src : List SrcEntry} {s0 : Store}

theorem Sat.of_roSpec {α : Type} {p : Prog α} {Q : α → Prop} {w : World} (hw : WOK H src s0 w)
    (hp : ROSpec w.store p Q) : Sat H src s0 p w (fun a w' => w'.store = w.store ∧ Q a) := by
  obtain ⟨hst, hq⟩ := hp w rfl
  exact ⟨⟨⟨(p.run_enforce w).trans hw.enforce, hst ▸ hw.good⟩, hst ▸ Extends.refl _⟩, fun a ha => ⟨hst, hq a ha⟩⟩

/-- The assumption `backup` makes when it reuses a basis entry's addresses, for a whole basis
listing: whenever a basis entry for the same path as a source file looks unchanged (kind, mtime,
size) and its blocks are all present, its addresses read back to the source file's content.
Stated for every later store so that it survives the run. -/
def BasisOK (H : Str → Str) (src : List SrcEntry) (s : Store) (basis : List IndexEntry) : Prop :=
  ∀ b ∈ basis, ∀ sf ∈ src, sf.kind = .file → b.apath = sf.apath → ∀ s', Extends s s' →
    heuristicallyUnchanged sf b = some true →
    (∀ a ∈ b.addrs, ∃ c, blockContent H s' a.hash = some c) →
    readBack H s' b.addrs = some (sf.content.take sf.size)

theorem BasisOK.nil (s : Store) : BasisOK H src s [] := fun _ h => nomatch h

theorem backupPrelude_sat (w : World) (hw : WOK H src s0 w) :
    Sat H src s0 backupPrelude w
      (fun x w1 => ExistsOK H w1.store x.2.1 ∧ (NoBands w.store → x.2.2 = []) ∧
        FromHunks w1.store x.2.2) := by
  rw [backupPrelude_eq]
  refine Sat.bind ((Sat.of_roSpec hw (preludeHead_spec _)).mono fun basisBand w1 hf1 ⟨hst1, hnone⟩ => ?_)
  refine Sat.bind ((Sat.of_allOps bandCreate_fine hf1.wok).mono fun band w2 hf2 _ => ?_)
  refine (Sat.of_roSpec hf2.wok (preludeTail_spec H _ basisBand band)).mono ?_
  rintro x w3 hf3 ⟨hst3, -, hex, hfh, hnil⟩
  rw [hst3]
  exact ⟨hex hf2.wok.good.noDup hf2.wok.good.blocks, fun hnb => hnil (hnone (hst1 ▸ hnb)), hfh⟩

/-- What `copy_entry` needs of a source entry and the basis entry it comes with: the source entry really
is one, and `BasisOK` of the pair. -/
def MatchedOK (H : Str → Str) (src : List SrcEntry) (s : Store) (basis : Option IndexEntry) (sf : SrcEntry) :
    Prop :=
  sf ∈ src ∧ ∀ b, basis = some b → ∀ s', Extends s s' → sf.kind = .file →
    heuristicallyUnchanged sf b = some true → (∀ a ∈ b.addrs, ∃ c, blockContent H s' a.hash = some c) →
    readBack H s' b.addrs = some (sf.content.take sf.size)

/-- C04 as an instance of the walk: the triple is `Sat`, the writer invariant `WriterOK` of the world's
store. -/
theorem goodLoop (hinj : Function.Injective H) (o : BackupOpts) (hmax : 0 < o.maxBlockSize) (hwf : SrcWF src) :
    LoopInvW H o (Frame H src s0) (fun _ w wr => WriterOK H src w.store wr)
      (fun w => MatchedOK H src w.store) where
  frame := ⟨fun _ _ _ => Frame.trans, fun h => Frame.refl h.wok, fun ev h => Frame.events h.wok ev⟩
  carry hr hm := ⟨hm.1, fun b hb s' hx => hm.2 b hb s' (hr.ext.trans hx)⟩
  events _ h := h
  setStats st h := h.setStats st
  copyEntry wr basis sf hw hwr hm :=
    copyEntry_spec hinj o hmax hwf wr basis sf _ hw.wok hwr (fun _ => hm.1) fun b hb => hm.2 b hb _ (Extends.refl _)
  flushGroup wr hw hwr := flushGroup_sat hinj wr _ hw.wok hwr
  close _ hw _ := (Sat.of_allOps (bandClose_fine _ _) hw.wok).mono fun _ _ _ _ => trivial

/-- The heuristic assumption for the basis listing the run itself computes in world `w`. -/
def HeuristicSound (H : Str → Str) (src : List SrcEntry) (w : World) : Prop :=
  ∀ band blocks basis w1, backupPrelude.run w = (.ok (band, blocks, basis), w1) →
    BasisOK H src w1.store basis

theorem backup_sat (hinj : Function.Injective H) (o : BackupOpts) (hmax : 0 < o.maxBlockSize)
    (hwf : SrcWF src) (w : World) (hw : WOK H src s0 w)
    (hb : NoBands w.store ∨ HeuristicSound H src w) :
    Sat H src s0 (backup H o src) w (fun _ _ => True) := by
  rw [backup_eq]
  apply Sat.bind
  have hrun : ∀ a, (backupPrelude.run w).1 = .ok a →
      (HeuristicSound H src w → BasisOK H src (backupPrelude.run w).2.store a.2.2) := by
    intro a ha hs
    obtain ⟨band, blocks, basis⟩ := a
    exact hs band blocks basis _ (Prod.ext ha rfl)
  refine ((backupPrelude_sat w hw).and_run
    (Q' := fun a w' => HeuristicSound H src w → BasisOK H src w'.store a.2.2) hrun).mono ?_
  intro x w1 hf1 ⟨⟨hex, hnil, _⟩, hbasis⟩
  have hb1 : BasisOK H src w1.store x.2.2 := by
    rcases hb with hb | hb
    · rw [hnil hb]; exact BasisOK.nil _
    · exact hbasis hb
  exact backupMain_framed (goodLoop hinj o hmax hwf) x w1 (Frame.refl hf1.wok)
    ⟨hex, fun _ h => (nomatch h), fun _ h => (nomatch h), fun _ h => (nomatch h)⟩
    fun _ sf hsf h => ⟨hsf, fun b hbs s' hx hkf =>
      hb1 b (h b hbs).1 sf hsf hkf ((C11.cmp_eq_iff _ _).mp (h b hbs).2) s' hx⟩

/-- The same assumption stated on the archive the backup starts from: every FILE entry of every
decodable hunk that has the path of a source file and looks unchanged (kind, mtime, size), and
whose blocks are all present, reads back to that source file's content. -/
def HeuristicSoundStore (H : Str → Str) (src : List SrcEntry) (s : Store) : Prop :=
  ∀ b n es, hunkAt s b n = some es → ∀ e ∈ es, ∀ sf ∈ src, sf.kind = .file → e.apath = sf.apath →
    heuristicallyUnchanged sf e = some true →
    (∀ a ∈ e.addrs, ∃ c, blockContent H s a.hash = some c) →
    readBack H s e.addrs = some (sf.content.take sf.size)

theorem heuristicallyUnchanged_kind {sf : SrcEntry} {b : IndexEntry}
    (h : heuristicallyUnchanged sf b = some true) : b.kind = sf.kind := by
  unfold heuristicallyUnchanged at h
  split at h
  · cases h
  · rename_i hk
    simpa using hk

/-- **The run-level assumption (`HeuristicSound`) for an archive that was DAMAGED** (world `w`) from one
(`s`) of which the store-level assumption holds: every decodable hunk of `w.store` is a hunk of `s`, `s`
had no dangling reference, and the block hash is injective.  The basis listing only contains entries of
hunks that were already there (the prelude writes no hunk with a file entry: the invariant instantiated
with an empty source).  A basis entry that looks unchanged and whose blocks are all present (in
`w.store` or re-created since) names blocks with the content they had in `s` — a block is determined by
its name — so it reads back as it did in `s`. -/
theorem heuristicSound_of_damaged (hinj : Function.Injective H) {s : Store} (w : World)
    (he : w.enforceCreateNew = true) (hnd : NoDupKeys w.store) (hbg : BlocksGood H w.store)
    (hhunks : ∀ b n es, hunkAt w.store b n = some es → hunkAt s b n = some es)
    (hd : NoDangling H s) (hs : HeuristicSoundStore H src s) : HeuristicSound H src w := by
  have hw0 : WOK H [] w.store w :=
    ⟨he, ⟨hnd, hbg, fun h => h, fun b n es h0 h1 => by rw [h0] at h1; cases h1⟩⟩
  obtain ⟨hf, hq⟩ := backupPrelude_sat w hw0
  intro band blocks basis w1 hrun
  rw [hrun] at hf hq
  obtain ⟨_, _, hfh⟩ := hq _ rfl
  intro b hb sf hsf hkf hap s' hx hh hall
  obtain ⟨b', n, hes, hhunk, hmem⟩ := hfh b hb
  have hbk : b.kind = .file := (heuristicallyUnchanged_kind hh).trans hkf
  cases h0 : hunkAt w.store b' n with
  | none =>
    obtain ⟨sf', hmem', _⟩ := hf.wok.good.newRec b' n hes h0 hhunk b hmem hbk
    cases hmem'
  | some hes0 =>
    have heq : hes0 = hes := by
      have := hunkAt_mono h0 hf.ext
      rw [hhunk] at this
      cases this; rfl
    subst heq
    have h0s := hhunks b' n hes0 h0
    have hprem : ∀ a ∈ b.addrs, ∃ c, blockContent H s a.hash = some c := fun a ha =>
      let ⟨c, hc, _⟩ := hd.content h0s hmem ha; ⟨c, hc⟩
    rw [← hs b' n hes0 h0s b hmem sf hsf hkf hap hh hprem]
    refine readBack_congr_content H _ fun a ha => ?_
    obtain ⟨c, hc⟩ := hprem a ha
    obtain ⟨c'', hc''⟩ := hall a ha
    have : c'' = c :=
      hinj (((blockContent_eq_some H).mp hc'').2.trans ((blockContent_eq_some H).mp hc).2.symm)
    rw [hc, hc'', this]

/-- The store-level assumption implies the run-level one. -/
theorem heuristicSound_of_store (hinj : Function.Injective H) (w : World) (he : w.enforceCreateNew = true)
    (hnd : NoDupKeys w.store) (hbg : BlocksGood H w.store) (hd : NoDangling H w.store)
    (hs : HeuristicSoundStore H src w.store) : HeuristicSound H src w :=
  heuristicSound_of_damaged hinj w he hnd hbg (fun _ _ _ h => h) hd hs

end

end Conserve.Inv
