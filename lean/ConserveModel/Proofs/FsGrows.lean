import ConserveModel.Proofs.FsWalk
/-
The destination directory `D`: when its own path is plain (every prefix a directory), paths
`D ++ cs` over clean components resolve to themselves, and local changes at such paths leave
everything outside `D` alone (`Grows`).
-/
namespace Conserve

structure DestOk (fs : Fs) (D : Path) : Prop where
  good : ∀ c ∈ D, goodName c = true
  dirs : ∀ pre, pre <+: D → fs.isDir pre = true

theorem noneOrDir_of_isDir {fs : Fs} {p : Path} (h : fs.isDir p = true) : NoneOrDir (fs.node p) := by
  obtain ⟨x, hx, hk⟩ := Fs.isDir_iff.1 h
  intro y hy; rw [hx] at hy; cases hy; exact hk

theorem DestOk.node_ne_none {fs : Fs} {D : Path} (hD : DestOk fs D) : fs.node D ≠ none := by
  obtain ⟨x, hx, _⟩ := Fs.isDir_iff.1 (hD.dirs D (List.prefix_refl _))
  rw [hx]; simp

theorem DestOk.kept {fs fs' : Fs} {D : Path} (hD : DestOk fs D) (hk : Kept fs fs') : DestOk fs' D :=
  ⟨hD.good, fun pre hp => hk.isDir (hD.dirs pre hp)⟩

/-- No proper prefix of `cs` below `D` is a symlink (files are allowed: resolution through them
fails with ENOTDIR and nothing happens). -/
def CleanTo (fs : Fs) (D : Path) (cs : List Str) : Prop :=
  ∀ pre, pre <+: cs → pre ≠ cs → NotLink (fs.node (D ++ pre))

def CleanFullL (fs : Fs) (D : Path) (cs : List Str) : Prop :=
  ∀ pre, pre <+: cs → NotLink (fs.node (D ++ pre))

def CleanFull (fs : Fs) (D : Path) (cs : List Str) : Prop :=
  ∀ pre, pre <+: cs → NoneOrDir (fs.node (D ++ pre))

theorem CleanFull.toL {fs : Fs} {D : Path} {cs : List Str} (h : CleanFull fs D cs) : CleanFullL fs D cs :=
  fun pre hp => (h pre hp).notLink

theorem CleanFullL.to {fs : Fs} {D : Path} {cs : List Str} (h : CleanFullL fs D cs) : CleanTo fs D cs :=
  fun pre hp _ => h pre hp

theorem CleanFull.to {fs : Fs} {D : Path} {cs : List Str} (h : CleanFull fs D cs) : CleanTo fs D cs :=
  h.toL.to

theorem CleanFull.prefix {fs : Fs} {D : Path} {cs pre : List Str} (h : CleanFull fs D cs)
    (hp : pre <+: cs) : CleanFull fs D pre :=
  fun q hq => h q (hq.trans hp)

theorem CleanFullL.prefix {fs : Fs} {D : Path} {cs pre : List Str} (h : CleanFullL fs D cs)
    (hp : pre <+: cs) : CleanFullL fs D pre :=
  fun q hq => h q (hq.trans hp)

theorem prefix_append_cases {D pre cs : List Str} (h : pre <+: D ++ cs) :
    pre <+: D ∨ ∃ pre', pre = D ++ pre' ∧ pre' <+: cs := by
  rcases List.prefix_or_prefix_of_prefix h (List.prefix_append D cs) with h1 | ⟨t, ht⟩
  · exact Or.inl h1
  · refine Or.inr ⟨t, ht.symm, ?_⟩
    rw [← ht] at h
    exact (List.prefix_append_right_inj D).1 h

theorem DestOk.good_append {fs : Fs} {D : Path} {cs : List Str} (hD : DestOk fs D)
    (hg : ∀ c ∈ cs, goodName c = true) : ∀ c ∈ D ++ cs, goodName c = true :=
  fun c hc => (List.mem_append.1 hc).elim (hD.good c) (hg c)

/-- The form the lemmas about `walk` started at the root ask for. -/
theorem DestOk.prefixes {Q : Path → Prop} {fs : Fs} {D : Path} {cs : List Str} (hD : DestOk fs D)
    (hdir : ∀ q, fs.isDir q = true → Q q) (hcs : ∀ pre, pre <+: cs → pre ≠ cs → Q (D ++ pre)) :
    ∀ pre, pre <+: D ++ cs → pre ≠ [] → pre ≠ D ++ cs → Q pre := by
  intro pre hp _ hne
  rcases prefix_append_cases hp with h1 | ⟨pre', rfl, h1⟩
  · exact hdir pre (hD.dirs pre h1)
  · exact hcs pre' h1 (fun e => hne (by rw [e]))

def HaveTo (fs : Fs) (D : Path) (cs : List Str) : Prop :=
  ∀ pre, pre <+: cs → pre ≠ cs → fs.isDir (D ++ pre) = true

theorem HaveTo.kept {fs fs' : Fs} {D : Path} {cs : List Str} (h : HaveTo fs D cs) (hk : Kept fs fs') :
    HaveTo fs' D cs :=
  fun pre hp hne => hk.isDir (h pre hp hne)

theorem resolve_clean {fs : Fs} {D : Path} {cs trail : List Str} {follow : Bool}
    (hD : DestOk fs D) (hg : ∀ c ∈ cs, goodName c = true) (ht : ∀ c ∈ trail, c = [])
    (hc : CleanTo fs D cs) (hfin : (follow = false ∧ trail = []) ∨ NotLink (fs.node (D ++ cs))) :
    ∀ p, fs.resolve follow (D ++ cs ++ trail) = .ok p → p = D ++ cs ∧ HaveTo fs D cs := by
  intro p h
  obtain ⟨e, hd⟩ := walk_clean fs follow resolveFuel maxSymlinks [] (D ++ cs) trail (hD.good_append hg) ht
    (hD.prefixes (fun _ h => (noneOrDir_of_isDir h).notLink) hc) hfin p h
  exact ⟨e, fun pre hp hne =>
    hd (D ++ pre) ((List.prefix_append_right_inj D).2 hp) (fun e => hne (List.append_cancel_left e))⟩

theorem resolve_dest_ne_enoent {fs : Fs} {D : Path} {follow : Bool} (hD : DestOk fs D) :
    fs.resolve follow D ≠ .error .ENOENT :=
  walk_dirs_ne_enoent fs follow resolveFuel maxSymlinks [] D hD.good hD.dirs

theorem Local.eqMod_of_ne {k : FKind} {fs fs' : Fs} {p q : Path} (h : Local k fs fs' p) (hq : q ≠ p) :
    EqMod (fs.node q) (fs'.node q) := by
  by_cases hd : q = p.dropLast
  · subst hd
    exact (h.parent (fun e => hq e)).1
  · exact EqMod.of_eq (h.frame q hq hd).symm

theorem Local.kept {k : FKind} {fs fs' : Fs} {p : Path} (h : Local k fs fs' p) : Kept fs fs' := by
  intro q x hx
  by_cases hq : q = p
  · subst hq; exact h.self x hx
  · obtain ⟨y, hy, hk, _⟩ := (h.eqMod_of_ne hq).some_left hx
    exact ⟨y, hy, hk⟩

/-- What a run of local changes below `D` does, seen from outside: `T` = the relative paths
aimed at, `N` = those where a non-directory may have been created. -/
structure Grows (D : Path) (T N : List Str → Prop) (fs fs' : Fs) : Prop where
  outside : ∀ q, ¬ D <+: q → fs'.node q = fs.node q
  kept : ∀ q x, fs.node q = some x → ∃ x', fs'.node q = some x' ∧ x'.kind = x.kind
  stable : ∀ cs, ¬ T cs → EqMod (fs.node (D ++ cs)) (fs'.node (D ++ cs))
  fresh : ∀ cs x, fs.node (D ++ cs) = none → fs'.node (D ++ cs) = some x → x.kind = .dir ∨ N cs

theorem Grows.refl (D : Path) (T N : List Str → Prop) (fs : Fs) : Grows D T N fs fs :=
  ⟨fun _ _ => rfl, fun _ x h => ⟨x, h, rfl⟩, fun _ _ => EqMod.refl _,
   fun _ x h1 h2 => by rw [h1] at h2; cases h2⟩

theorem Grows.mono {D : Path} {T N T' N' : List Str → Prop} {fs fs' : Fs} (h : Grows D T N fs fs')
    (hT : ∀ c, T c → T' c) (hN : ∀ c, N c → N' c) : Grows D T' N' fs fs' :=
  ⟨h.outside, h.kept, fun cs hc => h.stable cs (fun a => hc (hT cs a)),
   fun cs x a b => (h.fresh cs x a b).imp id (hN cs)⟩

theorem Grows.trans {D : Path} {T N : List Str → Prop} {fs fs1 fs2 : Fs}
    (h1 : Grows D T N fs fs1) (h2 : Grows D T N fs1 fs2) : Grows D T N fs fs2 := by
  refine ⟨fun q hq => (h2.outside q hq).trans (h1.outside q hq), fun q x hx => ?_,
    fun cs hc => (h1.stable cs hc).trans (h2.stable cs hc), fun cs x hn hs => ?_⟩
  · obtain ⟨x1, hx1, hk1⟩ := h1.kept q x hx
    obtain ⟨x2, hx2, hk2⟩ := h2.kept q x1 hx1
    exact ⟨x2, hx2, hk2.trans hk1⟩
  · cases hm : fs1.node (D ++ cs) with
    | none => exact h2.fresh cs x hm hs
    | some x1 =>
      obtain ⟨x2, hx2, hk2⟩ := h2.kept _ x1 hm
      rw [hs] at hx2; cases hx2
      rw [hk2]
      exact h1.fresh cs x1 hn hm

theorem dropLast_dest_append {D cs : List Str} (h : cs ≠ []) : (D ++ cs).dropLast = D ++ cs.dropLast :=
  List.dropLast_append_of_ne_nil h

theorem Local.grows {k : FKind} {fs fs' : Fs} {D : Path} {cs : List Str}
    (h : Local k fs fs' (D ++ cs)) (hD : fs.node D ≠ none) :
    Grows D (· = cs) (fun c => c = cs ∧ k ≠ .dir) fs fs' := by
  refine ⟨fun q hq => ?_, h.kept, fun cs' hc => ?_, fun cs' x hn hs => ?_⟩
  · have hqp : q ≠ D ++ cs := fun e => hq (e ▸ List.prefix_append D cs)
    by_cases hd : q = (D ++ cs).dropLast
    · by_cases hcs : cs = []
      · subst hcs
        rw [List.append_nil] at hd hqp h
        subst hd
        exact (h.parent (fun e => hqp e)).2 hD
      · rw [dropLast_dest_append hcs] at hd
        exact absurd (hd ▸ List.prefix_append D _) hq
    · exact h.frame q hqp hd
  · exact h.eqMod_of_ne (fun e => hc (List.append_cancel_left e))
  · by_cases he : cs' = cs
    · subst he
      have := h.created x hn hs
      by_cases hk : k = .dir
      · exact Or.inl (this.trans hk)
      · exact Or.inr ⟨rfl, hk⟩
    · have := (h.eqMod_of_ne (fun e => he (List.append_cancel_left e))).none_iff.1 hn
      rw [this] at hs; cases hs

theorem Grows.destOk {D : Path} {T N : List Str → Prop} {fs fs' : Fs} (h : Grows D T N fs fs')
    (hD : DestOk fs D) : DestOk fs' D :=
  hD.kept h.kept

end Conserve
