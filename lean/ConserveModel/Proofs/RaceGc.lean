import ConserveModel.Proofs.RaceProg
import ConserveModel.Proofs.ConformsDelete
import ConserveModel.Proofs.DeleteClean
import ConserveModel.Proofs.FrameDelete
/-
C06 on the full model — `delete_bands` (strict mode) cut at its storage operations: the residual
program at every point as an explicit term (`gcB1 … gcW`, `gcRead`, `gcK`, `gcSweepB`, `gcSweepU`),
with `deleteBands true D o = if breakLock then gcB1 else gcN`; what the reading part returns
(`readAll_safe`: the blocks it decides to remove are named by no hunk of a band outside `D`).
No property statements here.
-/
set_option linter.unusedSimpArgs false
namespace Conserve
open Prog Conf

def unrefL (refs present : List Str) : List Str := (present.filter fun h => !refs.contains h).mergeSort strLe

/-- Everything `delete_bands` reads while it holds the lock, up to and including the sizes of the
unreferenced blocks; returns the blocks it will remove. -/
def readAll (D : List Nat) : Prog (List Str) :=
  listBandIds.bind fun all =>
    (referencedBlocks true (all.filter fun b => !D.contains b)).bind fun refs =>
      listBlocks.bind fun present =>
        (deleteBody.measure (unrefL refs present)).bind fun _ => .ret (unrefL refs present)

def gcFin (st : DeleteStats) : Prog DeleteStats := gcLockRelease.bind fun _ => .ret st

def sweepBlocks (U Urest : List Str) (errs nb : Nat) : Prog DeleteStats :=
  (deleteBody.delBlocks Urest errs).bind fun errs =>
    gcFin { unreferencedBlockCount := U.length, deletedBandCount := nb,
            deletedBlockCount := U.length - errs, deletionErrors := errs }

def sweepBands (U : List Str) (Dr : List Nat) (n : Nat) : Prog DeleteStats :=
  (deleteBody.delBands Dr n).bind fun nb => sweepBlocks U U 0 nb

section
variable (D : List Nat) (o : DeleteOpts)

/-- `deleteBody` after the reading part. -/
def tailK (held : Option Nat) (U : List Str) : Prog DeleteStats :=
  if o.dryRun = true then gcFin { unreferencedBlockCount := U.length }
  else (gcLockCheck held).bind fun _ => sweepBands U D 0

theorem deleteBody_split (held : Option Nat) :
    deleteBody true D o held = (readAll D).bind (tailK D o held) := by
  rw [deleteBody_eq]
  simp only [readAll, bodyRest, tailK, sweepBands, sweepBlocks, gcFin, unrefL, Prog.bind_assoc, Prog.ret_bind]

end

/-- `withLock` around a body: catch everything, release the lock on the error paths. -/
def wl (x : Prog DeleteStats) : Prog DeleteStats :=
  x.attemptAll.bind fun r =>
    match r with
    | .ok st => .ret st
    | .err e => gcLockReleaseOnError.bind fun _ => .fail e
    | .panic site => gcLockDrop.bind fun _ => .panic site

theorem withLock_eq (D : List Nat) (o : DeleteOpts) (held : Option Nat) :
    withLock true D o held = wl (deleteBody true D o held) := rfl

@[simp] theorem wl_op (o : Op) (k : Resp → Prog DeleteStats) : wl (.op o k) = .op o (fun r => wl (k r)) := rfl
@[simp] theorem wl_emit (ev : Event) (k : Prog DeleteStats) : wl (.emit ev k) = .emit ev (wl k) := rfl
@[simp] theorem wl_ret (st : DeleteStats) : wl (.ret st) = .ret st := rfl
theorem wl_fail (e : Err) : wl (.fail e) = gcLockReleaseOnError.bind fun _ => .fail e := rfl
theorem wl_panic (m : String) : wl (.panic m) = gcLockDrop.bind fun _ => .panic m := rfl

def Unl (o : Op) : Prop := o = .removeFile .gcLock

theorem gcLockDrop_unl : AllOps Unl gcLockDrop := by
  unfold gcLockDrop perform
  simp only [Prog.bind_def, Prog.op_bind, Prog.ret_bind, Prog.pure_def]
  exact .op rfl fun _ => .ret _

theorem gcLockReleaseOnError_unl : AllOps Unl gcLockReleaseOnError := by
  unfold gcLockReleaseOnError perform
  simp only [Prog.bind_def, Prog.op_bind, Prog.ret_bind, Prog.pure_def]
  refine .op rfl fun r => ?_
  split
  · exact .ret _
  · exact gcLockDrop_unl

theorem wl_fail_unl (e : Err) : AllOps Unl (wl (.fail e)) := by
  rw [wl_fail]; exact AllOps.bind gcLockReleaseOnError_unl fun _ => .fail _

theorem wl_panic_unl (m : String) : AllOps Unl (wl (.panic m)) := by
  rw [wl_panic]; exact AllOps.bind gcLockDrop_unl fun _ => .panic _

theorem onUnit_allOps {α : Type} {P : Op → Prop} {k : Prog α} (hk : AllOps P k) (r : Resp) : AllOps P (onUnit k r) := by
  cases r <;> first | exact hk | exact .fail _

theorem wl_gcFin (st : DeleteStats) :
    wl (gcFin st) = .op (.removeFile .gcLock) fun r => wl (onUnit (.ret st) r) := by
  simp only [gcFin, gcLockRelease, performUnit_bind, wl_op]

theorem wl_onUnit_unl (st : DeleteStats) (r : Resp) : AllOps Unl (wl (onUnit (.ret st) r)) := by
  cases r <;> first | exact .ret _ | exact wl_fail_unl _

theorem wl_gcFin_unl (st : DeleteStats) : AllOps Unl (wl (gcFin st)) := by
  rw [wl_gcFin]; exact .op rfl fun r => wl_onUnit_unl st r

theorem wl_bind_strip {β : Type} (q : Prog β) (K : β → Prog DeleteStats) :
    (wl (q.bind K)).strip =
      match q.strip with
      | .ret a => (wl (K a)).strip
      | .fail e => (wl (.fail e)).strip
      | .panic m => (wl (.panic m)).strip
      | q' => wl (q'.bind K) := by
  induction q with
  | ret a => simp
  | fail e => simp
  | panic s => simp
  | emit ev k ih => simpa using ih
  | op o k _ => simp

section
variable (D : List Nat) (o : DeleteOpts)

/-- While the lock is held and the reading part is at `q`. -/
def gcRead (m : Option Nat) (q : Prog (List Str)) : Prog DeleteStats := wl (q.bind (tailK D o m))

/-- At the write of the lock file. -/
def gcW (m : Option Nat) : Prog DeleteStats :=
  .op (.write .gcLock .lock .createNew) (onUnit (gcRead D o m (readAll D)))

/-- At `is_file(GC_LOCK)` inside `GarbageCollectionLock::new`. -/
def gcLC (m : Option Nat) : Prog DeleteStats :=
  .op (.metadata .gcLock) (onFileOr true fun l => if l = true then .fail .gcLockHeld else gcW D o m)

/-- At `band_is_closed(newest)`. -/
def gcTC (b : Nat) : Prog DeleteStats :=
  .op (.metadata (.bandTail b)) (onFile fun c =>
    if (!c) = true then .fail (.deleteWithIncompleteBackup b) else gcLC D o (some b))

def gcAfterN : Option Nat → Prog DeleteStats
  | some b => gcTC D o b
  | none => gcLC D o none

/-- At `last_band_id` inside `GarbageCollectionLock::new`. -/
def gcN : Prog DeleteStats := .op (.listDir .root) (onIds fun ids => gcAfterN D o (maxNat? ids))

/-- `break_lock`: at the removal of the stale lock. -/
def gcB2 : Prog DeleteStats := .op (.removeFile .gcLock) (onUnit (gcN D o))

/-- `break_lock`: at `is_locked`. -/
def gcB1 : Prog DeleteStats :=
  .op (.metadata .gcLock) (onFile fun l => if l = true then gcB2 D o else gcN D o)

theorem lockTail_bind (m : Option Nat) : (lockTail m).bind (withLock true D o) = gcLC D o m := by
  simp only [lockTail, unwrapOr_isFile_bind, gcLC, Prog.op_bind, onFileOr_bind]
  congr 1; funext r; congr 1; funext l
  cases l
  · simp only [Bool.false_eq_true, if_false, Prog.bind_assoc, performUnit_bind, Prog.ret_bind, gcW, gcRead,
      withLock_eq, deleteBody_split, Prog.op_bind, onUnit_bind]
  · rfl

theorem gcLockNew_bind : gcLockNew.bind (withLock true D o) = gcN D o := by
  rw [gcLockNew_eq, Prog.bind_assoc, lastBandId_bind, gcN]
  congr 1; funext r
  cases r with
  | listing xs =>
    simp only [onIds]
    cases maxNat? (listingBandIds xs) with
    | none => exact lockTail_bind D o none
    | some b =>
      simp only [gcAfterN, gcTC, Prog.bind_assoc, bandIsClosed, isFile_bind, Prog.op_bind, onFile_bind]
      congr 1; funext r; congr 1; funext c
      cases c
      · rfl
      · simpa using lockTail_bind D o (some b)
  | _ => rfl

theorem gcBreakLock_bind : gcBreakLock.bind (withLock true D o) = gcB1 D o := by
  simp only [gcBreakLock, gcIsLocked, Prog.bind_def, Prog.pure_def, Prog.bind_assoc, isFile_bind, gcB1,
    Prog.op_bind, onFile_bind]
  congr 1; funext r; congr 1; funext l
  cases l
  · simpa using gcLockNew_bind D o
  · simp only [if_true, Prog.bind_assoc, performUnit_bind, gcB2, gcLockNew_bind, Prog.op_bind, onUnit_bind]

theorem deleteBands_start : deleteBands true D o = if o.breakLock = true then gcB1 D o else gcN D o := by
  rw [deleteBands_eq]
  unfold acquire
  split
  · exact gcBreakLock_bind D o
  · exact gcLockNew_bind D o

/-- At `check()`: the second `last_band_id`. -/
def gcK (m : Option Nat) (U : List Str) : Prog DeleteStats :=
  .op (.listDir .root) fun r => wl (onIds (fun ids =>
    if (maxNat? ids == m) = true then sweepBands U D 0 else .fail .gcLockHeldDuringBackup) r)

theorem wl_tailK (m : Option Nat) (U : List Str) :
    wl (tailK D o m U) =
      if o.dryRun = true then wl (gcFin { unreferencedBlockCount := U.length }) else gcK D m U := by
  unfold tailK
  split
  · rfl
  · simp only [gcLockCheck, Prog.bind_def, Prog.pure_def, Prog.bind_assoc, lastBandId_bind, Prog.op_bind, wl_op, gcK,
      onIds_bind, ite_bind, Prog.ret_bind, Prog.fail_bind]

end

/-- Sweeping: at the removal of band `b`. -/
def gcSweepB (U : List Str) (b : Nat) (bs : List Nat) (n : Nat) : Prog DeleteStats :=
  .op (.removeDirAll (.bandDir b)) fun r => wl (onRmBand b (sweepBands U bs (n + 1)) r)

theorem wl_sweepBands_cons (U : List Str) (b : Nat) (bs : List Nat) (n : Nat) :
    wl (sweepBands U (b :: bs) n) = gcSweepB U b bs n := by
  simp only [sweepBands, deleteBody.delBands, Prog.bind_def, Prog.bind_assoc, bandDelete_bind, Prog.op_bind,
    onRmBand_bind, wl_op, gcSweepB]

theorem wl_sweepBands_nil (U : List Str) (n : Nat) : wl (sweepBands U [] n) = wl (sweepBlocks U U 0 n) := by
  simp only [sweepBands, deleteBody.delBands, Prog.pure_def, Prog.ret_bind]

/-- Sweeping: at the removal of block `h`. -/
def gcSweepU (U : List Str) (h : Str) (hs : List Str) (errs nb : Nat) : Prog DeleteStats :=
  .op (.removeFile (.block h)) fun r =>
    match r with
    | .unit => wl (sweepBlocks U hs errs nb)
    | _ => wl (sweepBlocks U hs (errs + 1) nb)

theorem wl_sweepBlocks_cons (U : List Str) (h : Str) (hs : List Str) (errs nb : Nat) :
    wl (sweepBlocks U (h :: hs) errs nb) = gcSweepU U h hs errs nb := by
  simp only [sweepBlocks, deleteBody.delBlocks, perform, Prog.bind_def, Prog.op_bind, Prog.ret_bind, wl_op, gcSweepU]
  congr 1; funext r
  cases r <;> rfl

theorem wl_sweepBlocks_nil (U : List Str) (errs nb : Nat) :
    wl (sweepBlocks U [] errs nb) =
      wl (gcFin { unreferencedBlockCount := U.length, deletedBandCount := nb,
                  deletedBlockCount := U.length - errs, deletionErrors := errs }) := by
  simp only [sweepBlocks, deleteBody.delBlocks, Prog.pure_def, Prog.ret_bind]

def SafeU (Dr : List Nat) (U : List Str) (s : Store) : Prop :=
  ∀ b, s.get? (.bandDir b) = some .dir → b ∉ Dr → ∀ n es, s.get? (.hunk b n) = some (.hunk es) →
    ∀ e ∈ es, ∀ a ∈ e.addrs, a.hash ∉ U

theorem SafeU.of_cover {D : List Nat} {refs U : List Str} {s : Store} (h : RefsCover D refs s)
    (hU : ∀ x ∈ U, x ∉ refs) : SafeU D U s :=
  fun b hb hbD n es hes e he a ha hin => hU _ hin (h b hb hbD n es hes e he a ha)

theorem SafeU.mono {Dr : List Nat} {U U' : List Str} {s : Store} (h : SafeU Dr U s) (hU : ∀ x ∈ U', x ∈ U) :
    SafeU Dr U' s :=
  fun b hb hbD n es hes e he a ha hin => h b hb hbD n es hes e he a ha (hU _ hin)

theorem mem_unrefL {refs present : List Str} {x : Str} (h : x ∈ unrefL refs present) : x ∉ refs := by
  simp only [unrefL, List.mem_mergeSort, List.mem_filter, Bool.not_eq_true', List.contains_eq_mem,
    decide_eq_false_iff_not] at h
  exact h.2

variable {H : Str → Str}

theorem readAll_run_safe (D : List Nat) (w : World) (hI : CI H w.store) {U : List Str}
    (h : ((readAll D).run w).1 = .ok U) : SafeU D U w.store := by
  unfold readAll at h
  obtain ⟨all, w1, hall, hst1, h⟩ := run_bind_ok_readOnly listBandIds_ro h
  obtain ⟨refs, w2, hrefs, hst2, h⟩ := run_bind_ok_readOnly (referencedBlocks_ro true _) h
  obtain ⟨present, w3, _, _, h⟩ := run_bind_ok_readOnly listBlocks_ro h
  obtain ⟨_, w4, _, _, h⟩ := run_bind_ok_readOnly (deleteBody_measure_ro _) h
  simp only [Prog.run_ret, Outcome.ok.injEq] at h
  subst h
  have hall' : all = bandIdsOf w.store := listBandIds_sound (by rw [hall])
  have hcov : RefsCover D refs w.store := by
    intro b hbdir hbD n es hes e he a ha
    refine referencedBlocks_sound _ w1 refs (by rw [hrefs]) b ?_ ?_ n es (by rw [hst1]; simp [hunkAt, hes]) e he a ha
    · rw [List.mem_filter, hall']
      exact ⟨(mem_bandIdsOf_iff_get? hI.nodup).2 hbdir, by simpa using hbD⟩
    · intro n' v hv
      rw [hst1] at hv ⊢
      exact (hI.dirs.hunkTreeOk b n' v hv).1
  exact SafeU.of_cover hcov fun x hx => mem_unrefL hx

theorem readAll_safe (D : List Nat) {s : Store} (hI : CI H s) {U : List Str}
    (h : ((readAll D).solo s).1 = .ok U) : SafeU D U s :=
  readAll_run_safe (H := H) D (World.clean s) hI (((readAll D).run_clean_eq_solo s).1.trans h)

theorem readAll_ro (D : List Nat) : AllOps ReadOnly (readAll D) := by
  unfold readAll
  refine AllOps.bind listBandIds_ro fun all => AllOps.bind (referencedBlocks_ro true _) fun refs =>
    AllOps.bind listBlocks_ro fun present => AllOps.bind (deleteBody_measure_ro _) fun _ => .ret _

end Conserve
