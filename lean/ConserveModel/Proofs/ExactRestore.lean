import ConserveModel.Proofs.ExactStore
import ConserveModel.Proofs.RestoreLoop
import ConserveModel.Restore
/-
`restore()` up to the filesystem as a pure function of the store: what `get_block_content`,
`read_address`, the per-file content loop and the per-entry loop of `restore()` return in a
fault-free world (`getBlockP`, `readAddressP`, `readContentP`, `restoreP`: the loop with its `mtime`
panic leaves), and that the programs compute them (`restoreEntries_runs`).  On entries that pass
`IndexEntry::check` the loop is `NP.restoreP` of Proofs/RestoreLoop.lean (`restoreP_agree`), and what it
returns is read off that one: each node is `Fault.nodeOf` of its entry (the total form of
`Contain.nodeP`), and where nothing lies below a symlink the loop is a plain `map` (`restoreP_nodes`).
On any entries it depends on the store only through the content of the blocks they name
(`Hist.restoreP_content`).  No property statements here.
-/
namespace Conserve.Exact
open Conserve Prog

variable (H : Str → Str)

/-- `BlockDir::get_block_content` on a store. -/
def getBlockP (s : Store) (h : Str) : Except Err Str :=
  match s.get? (.block h) with
  | none => .error (.transport .notFound)
  | some .dir => .error (.transport .other)
  | some (.blockData c) => if H c = h then .ok c else .error (.blockCorrupt h)
  | some _ => .error .json

/-- `BlockDir::read_address` on a store. -/
def readAddressP (s : Store) (a : Addr) : Except Err Str :=
  match getBlockP H s a.hash with
  | .error e => .error e
  | .ok c => if a.start + a.len > c.length then .error (.blockTooShort a.hash)
             else .ok ((c.drop a.start).take a.len)

/-- The content loop of `restore_file` on a store. -/
def readContentP (s : Store) : List Addr → Str → Str × Option (Str × Err)
  | [], acc => (acc, none)
  | a :: as, acc =>
    match readAddressP H s a with
    | .error e => (acc, some (a.hash, e))
    | .ok bytes => readContentP s as (acc ++ bytes)

/-- The per-entry loop of `restore()` on a store: outcome and the events reported (newest first). -/
def restoreP (s : Store) : List Str → List IndexEntry → Outcome (List RNode) × List Event
  | _, [] => (.ok [], [])
  | syms, e :: es =>
    if belowSymlink syms e.apath then
      ((restoreP s syms es).1, (restoreP s syms es).2 ++ [.error .invalidMetadata])
    else
    match e.kind with
    | .dir =>
      match entryTimeNs e.mtime e.mtimeNanos with
      | none => (.panic "IndexEntry::mtime: Timestamp::new expect", [])
      | some _ => (Outcome.map (RNode.ofEntry e :: ·) (restoreP s syms es).1, (restoreP s syms es).2)
    | .file =>
      match (readContentP H s e.addrs []).2 with
      | some (h, _) =>
        (Outcome.map ({ RNode.ofEntry e with content := (readContentP H s e.addrs []).1, complete := false } :: ·)
            (restoreP s syms es).1,
          (restoreP s syms es).2 ++ [.error (.restoreFileBlock e.apath h)])
      | none =>
        match entryTimeNs e.mtime e.mtimeNanos with
        | none => (.panic "IndexEntry::mtime: Timestamp::new expect", [])
        | some _ =>
          (Outcome.map ({ RNode.ofEntry e with content := (readContentP H s e.addrs []).1 } :: ·)
              (restoreP s syms es).1, (restoreP s syms es).2)
    | .symlink =>
      match e.target with
      | none => ((restoreP s syms es).1, (restoreP s syms es).2 ++ [.error .invalidMetadata])
      | some _ =>
        match entryTimeNs e.mtime e.mtimeNanos with
        | none => (.panic "IndexEntry::mtime: Timestamp::new expect", [])
        | some _ =>
          (Outcome.map (RNode.ofEntry e :: ·) (restoreP s (e.apath :: syms) es).1,
            (restoreP s (e.apath :: syms) es).2)
    | .unknown => ((restoreP s syms es).1, (restoreP s syms es).2 ++ [.error .invalidMetadata])

variable {H}

theorem getBlockContent_runs (s : Store) (h : Str) :
    RunsAt (getBlockContent H h) s (.ok (getBlockP H s h)) s [] := by
  simp only [getBlockContent, perform, Prog.bind_def, Prog.op_bind, Prog.ret_bind, Prog.pure_def]
  refine RunsAt.op_ro rfl ?_
  simp only [roResp, readResp, getBlockP]
  cases hg : s.get? (.block h) with
  | none => exact RunsAt.ret _ _
  | some v =>
    cases v with
    | blockData c =>
      simp only
      split
      · exact RunsAt.ret _ _
      · exact RunsAt.ret _ _
    | _ => exact RunsAt.ret _ _

theorem readAddress_runs (s : Store) (a : Addr) :
    RunsAt (readAddress H a) s (.ok (readAddressP H s a)) s [] := by
  simp only [readAddress, Prog.bind_def, Prog.pure_def]
  refine RunsAt.bind0 (getBlockContent_runs s a.hash) ?_
  simp only [readAddressP]
  cases getBlockP H s a.hash with
  | error e => exact RunsAt.ret _ _
  | ok c =>
    simp only
    split
    · exact RunsAt.ret _ _
    · exact RunsAt.ret _ _

theorem readContent_runs (s : Store) (as : List Addr) :
    ∀ acc, RunsAt (readContent H as acc) s (.ok (readContentP H s as acc)) s [] := by
  induction as with
  | nil => intro acc; exact RunsAt.ret _ _
  | cons a as ih =>
    intro acc
    simp only [readContent, Prog.bind_def, Prog.pure_def]
    refine RunsAt.bind0 (readAddress_runs s a) ?_
    simp only [readContentP]
    cases readAddressP H s a with
    | error e => exact RunsAt.ret _ _
    | ok bytes => exact ih _

theorem RunsAt.bind_map {α β : Type} {p : Prog α} {f : α → β} {s s' : Store} {out : Outcome α}
    {ev : List Event} (hp : RunsAt p s out s' ev) :
    RunsAt (p.bind fun a => Prog.ret (f a)) s (Outcome.map f out) s' ev :=
  runsAt_iff.2 (by rw [Prog.eval_bind, runsAt_iff.1 hp]; cases out <;> simp [Prog.andThen, Outcome.map])

theorem RunsAt.panic {α : Type} (m : String) (s : Store) : RunsAt (.panic m : Prog α) s (.panic m) s [] :=
  runsAt_iff.2 rfl

theorem RunsAt.bind_panic {α β : Type} {p : Prog α} {f : α → Prog β} {s s1 : Store} {m : String}
    {e1 : List Event} (hp : RunsAt p s (.panic m) s1 e1) : RunsAt (p.bind f) s (.panic m) s1 e1 :=
  runsAt_iff.2 (by rw [Prog.eval_bind, runsAt_iff.1 hp, Prog.andThen])

theorem restoreEntries_runs (s : Store) (es : List IndexEntry) :
    ∀ syms, RunsAt (restoreEntries H syms es) s (restoreP H s syms es).1 s (restoreP H s syms es).2 := by
  induction es with
  | nil => intro syms; exact RunsAt.ret _ _
  | cons e es ih =>
    intro syms
    rw [restoreEntries]
    simp only [restoreP]
    by_cases hb : belowSymlink syms e.apath = true
    · simp only [hb, if_true, logError, Prog.bind_def, Prog.emit_bind, Prog.ret_bind]
      exact RunsAt.emit (ih syms)
    · simp only [hb, Bool.false_eq_true, if_false]
      cases hk : e.kind with
      | dir =>
        simp only
        cases entryTimeNs e.mtime e.mtimeNanos with
        | none => exact RunsAt.panic _ _
        | some t =>
          simp only [Prog.bind_def, Prog.pure_def]
          exact RunsAt.bind_map (ih syms)
      | file =>
        simp only [Prog.bind_def, Prog.pure_def]
        refine RunsAt.bind0 (readContent_runs s e.addrs []) ?_
        cases hbad : (readContentP H s e.addrs []).2 with
        | some p =>
          obtain ⟨h, er⟩ := p
          simp only [logError, Prog.emit_bind, Prog.ret_bind]
          exact RunsAt.emit (RunsAt.bind_map (ih syms))
        | none =>
          simp only []
          cases entryTimeNs e.mtime e.mtimeNanos with
          | none => exact RunsAt.panic _ _
          | some t => exact RunsAt.bind_map (ih syms)
      | symlink =>
        simp only
        cases e.target with
        | none =>
          simp only [logError, Prog.bind_def, Prog.emit_bind, Prog.ret_bind]
          exact RunsAt.emit (ih syms)
        | some tg =>
          simp only
          cases entryTimeNs e.mtime e.mtimeNanos with
          | none => exact RunsAt.panic _ _
          | some t =>
            simp only [Prog.bind_def, Prog.pure_def]
            exact RunsAt.bind_map (ih _)
      | unknown =>
        simp only [logError, Prog.bind_def, Prog.emit_bind, Prog.ret_bind]
        exact RunsAt.emit (ih syms)

end Conserve.Exact

/-! The loop of Proofs/RestoreLoop.lean (`NP.restoreP`, nodes and errors, no panic leaf) is this one on
entries that pass `IndexEntry::check`; what is proved about either carries over. -/
namespace Conserve.NP
open Conserve

variable {H : Str → Str}

theorem blockReadP_eq (s : Store) (h : Str) : blockReadP H s h = Exact.getBlockP H s h := by
  simp only [blockReadP, Exact.getBlockP, quietResp]
  cases s.get? (.block h) with
  | none => rfl
  | some v => cases v <;> rfl

theorem readAddressP_eq_exact (s : Store) (a : Addr) : readAddressP H s a = Exact.readAddressP H s a := by
  simp only [readAddressP, Exact.readAddressP, blockReadP_eq]
  cases Exact.getBlockP H s a.hash <;> rfl

theorem readContentP_eq (s : Store) (as : List Addr) (acc : Str) :
    readContentP H s as acc = Exact.readContentP H s as acc := by
  induction as generalizing acc with
  | nil => rfl
  | cons a as ih =>
    simp only [readContentP, Exact.readContentP, readAddressP_eq_exact]
    cases Exact.readAddressP H s a with
    | error e => rfl
    | ok bytes => exact ih _

/-- A usable entry has a representable time, so the `mtime` panic leaves are not taken: the loop
returns, with `NP.restoreP`'s nodes and reports. -/
theorem restoreP_agree (s : Store) : ∀ (es : List IndexEntry) (syms : List Str), AllUsable es →
    Exact.restoreP H s syms es = (.ok (restoreP H s syms es).1, evsOf (restoreP H s syms es).2) := by
  intro es
  induction es with
  | nil => intro _ _; rfl
  | cons e es ih =>
    intro syms hu
    obtain ⟨t, ht⟩ := usable_time (hu e (List.mem_cons_self ..))
    have ih' := fun syms' => ih syms' (hu.sub fun x hx => List.mem_cons_of_mem _ hx)
    simp only [Exact.restoreP, restoreP, ih', ht, ← readContentP_eq]
    split
    · simp [evsOf]
    · cases e.kind with
      | dir => simp [Exact.Outcome.map]
      | file =>
        rcases readContentP H s e.addrs [] with ⟨bytes, _ | ⟨h, er⟩⟩ <;> simp [Exact.Outcome.map, evsOf]
      | symlink => cases e.target <;> simp [Exact.Outcome.map, evsOf]
      | unknown => simp [evsOf]

end Conserve.NP

namespace Conserve.Exact
open Conserve

variable {H : Str → Str}

theorem readContentP_of_readBack {s : Store} {as : List Addr} {x : Str} (h : readBack H s as = some x)
    (acc : Str) : readContentP H s as acc = (acc ++ x, none) :=
  (NP.readContentP_eq s as acc).symm.trans (NP.readContentP_some H as acc h)

end Conserve.Exact

namespace Conserve.Hist
open Conserve Conserve.Exact

variable {H : Str → Str}

theorem readContentP_content {s s' : Store} {as : List Addr}
    (h : ∀ a ∈ as, blockContent H s' a.hash = blockContent H s a.hash) :
    ∀ acc, (readContentP H s' as acc).1 = (readContentP H s as acc).1 ∧
      (readContentP H s' as acc).2.map (·.1) = (readContentP H s as acc).2.map (·.1) := by
  induction as with
  | nil => intro acc; exact ⟨rfl, rfl⟩
  | cons a as ih =>
    intro acc
    have ha : (readAddressP H s' a).toOption = (readAddressP H s a).toOption := by
      rw [← NP.readAddressP_eq_exact, ← NP.readAddressP_eq_exact, NP.readAddressP_eq, NP.readAddressP_eq]
      simp only [readAddrPure, h a (List.mem_cons_self ..)]
    simp only [readContentP]
    cases h' : readAddressP H s' a with
    | error e' =>
      cases h0 : readAddressP H s a with
      | error e => exact ⟨rfl, rfl⟩
      | ok x => rw [h', h0] at ha; cases ha
    | ok x' =>
      cases h0 : readAddressP H s a with
      | error e => rw [h', h0] at ha; cases ha
      | ok x =>
        rw [h', h0] at ha
        cases ha
        exact ih (fun a' ha' => h a' (List.mem_cons_of_mem _ ha')) _

theorem restoreP_content {s s' : Store} {es : List IndexEntry}
    (h : ∀ e ∈ es, ∀ a ∈ e.addrs, blockContent H s' a.hash = blockContent H s a.hash) :
    ∀ syms, restoreP H s' syms es = restoreP H s syms es := by
  induction es with
  | nil => intro syms; rfl
  | cons e es ih =>
    intro syms
    have ih' := ih (fun e' he' => h e' (List.mem_cons_of_mem _ he'))
    obtain ⟨hc1, hc2⟩ := readContentP_content (H := H) (h e (List.mem_cons_self ..)) []
    simp only [restoreP, ih', hc1]
    split
    · rfl
    · cases e.kind with
      | file =>
        simp only
        -- only the hash of a failing block is used, and `hc2` says the two agree on it
        generalize (readContentP H s' e.addrs []).2 = p' at hc2 ⊢
        generalize (readContentP H s e.addrs []).2 = p at hc2 ⊢
        match p', p, hc2 with
        | none, none, _ => rfl
        | some (h1, _), some (h2, _), hc2 =>
          cases hc2
          rfl
        | none, some _, hc2 => cases hc2
        | some _, none, hc2 => cases hc2
      | _ => rfl

end Conserve.Hist

namespace Conserve.Fault
open Conserve Conserve.Exact Conserve.Contain

variable {H : Str → Str}

/-- What restore creates for entry `e`, reading its content from `s`. -/
def nodeOf (H : Str → Str) (s : Store) (e : IndexEntry) : RNode :=
  if e.kind = .file then
    { RNode.ofEntry e with content := (readContentP H s e.addrs []).1,
                           complete := (readContentP H s e.addrs []).2.isNone }
  else RNode.ofEntry e

/-- `nodeOf` is the total form of `Contain.nodeP`. -/
theorem nodeP_nodeOf {s : Store} {e : IndexEntry} {nd : RNode} (h : nodeP H s e = some nd) :
    nd = nodeOf H s e := by
  unfold nodeP at h
  unfold nodeOf
  rw [← NP.readContentP_eq]
  cases hk : e.kind with
  | dir => simp only [hk] at h; cases h; simp
  | file =>
    simp only [hk] at h
    rcases hc : NP.readContentP H s e.addrs [] with ⟨bytes, _ | p⟩ <;> rw [hc] at h <;> cases h <;>
      simp [RNode.ofEntry]
  | symlink => simp only [hk] at h; split at h <;> cases h; simp
  | unknown => simp only [hk] at h; cases h

/-- A usable entry whose content reads gets its node and no report. -/
theorem nodeP_good {s : Store} {e : IndexEntry} (hu : entryUsable e = true)
    (hrd : e.kind = .file → (readContentP H s e.addrs []).2 = none) :
    nodeP H s e = some (nodeOf H s e) ∧ errP H s e = none := by
  unfold nodeP errP nodeOf
  rw [← NP.readContentP_eq] at *
  cases hk : e.kind with
  | dir => simp
  | file =>
    have := hrd hk
    rcases hc : NP.readContentP H s e.addrs [] with ⟨bytes, _ | p⟩
    · simp [RNode.ofEntry]
    · rw [hc] at this; cases this
  | symlink =>
    have : e.target.isSome = true := by
      simp only [entryUsable, Bool.and_eq_true, Bool.or_eq_true, bne_iff_ne, ne_eq] at hu
      exact hu.1.2.resolve_left (fun h => h hk)
    simp [this]
  | unknown =>
    simp only [entryUsable, Bool.and_eq_true, bne_iff_ne, ne_eq] at hu
    exact absurd hk hu.1.1.2

theorem restoreP_ok {s : Store} (es : List IndexEntry) (syms : List Str)
    (hus : ∀ e ∈ es, entryUsable e = true) : ∃ nodes, (restoreP H s syms es).1 = .ok nodes :=
  ⟨_, by rw [NP.restoreP_agree s es syms hus]⟩

theorem restoreP_node_inv {s : Store} (es : List IndexEntry) (syms : List Str) (nodes : List RNode)
    (hus : ∀ e ∈ es, entryUsable e = true) (h : (restoreP H s syms es).1 = .ok nodes) :
    ∀ nd ∈ nodes, ∃ e ∈ es, nd = nodeOf H s e := by
  rw [NP.restoreP_agree s es syms hus] at h
  cases h
  intro nd hnd
  obtain ⟨e, he, hn⟩ := restoreP_node_from (H := H) s es syms nd hnd
  exact ⟨e, he, nodeP_nodeOf hn⟩

/-- Nothing in the list lies strictly below a symlink of the list (the root never counts). -/
def NoneBelowSymlink (es : List IndexEntry) : Prop :=
  ∀ a ∈ es, ∀ b ∈ es, a.kind = .symlink → a.apath ≠ [slash] → a.apath ≠ b.apath →
    isPrefixOfImpl a.apath b.apath = false

theorem NoneBelowSymlink.noSymlinkAbove {es : List IndexEntry} (h : NoneBelowSymlink es) :
    NP.NoSymlinkAbove [] es := by
  refine ⟨fun _ hp => (nomatch hp), fun a ha hk y hy => ?_⟩
  unfold NP.strictlyBelow
  by_cases h1 : a.apath = [slash]
  · simp [h1]
  · by_cases h2 : a.apath = y.apath
    · simp [h2]
    · simp [h a ha y hy hk h1 h2]

/-- Where nothing lies below a symlink and every entry is usable and readable, the loop is a `map` and
reports nothing. -/
theorem restoreP_nodes {s : Store} {es : List IndexEntry} (hall : NoneBelowSymlink es)
    (hus : ∀ e ∈ es, entryUsable e = true)
    (hrd : ∀ e ∈ es, e.kind = .file → (readContentP H s e.addrs []).2 = none) :
    restoreP H s [] es = (.ok (es.map (nodeOf H s)), []) := by
  rw [NP.restoreP_agree s es [] hus, restoreP_unshadowed s (unshadowed_of_noSymlinkAbove hall.noSymlinkAbove),
    filterMap_congr' fun e he => (nodeP_good (hus e he) (hrd e he)).1, List.filterMap_eq_map',
    List.filterMap_eq_nil_iff.mpr fun e he => (nodeP_good (hus e he) (hrd e he)).2]
  rfl

end Conserve.Fault
