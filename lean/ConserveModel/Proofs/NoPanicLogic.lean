import ConserveModel.Proofs.ProgLemmas
/-
A logic for "no panic leaf is reachable" (property C10).

`Safe Q p` is a purely syntactic judgement on the program tree: on EVERY branch — that is, for
every sequence of responses the storage could possibly give, whether or not any store produces
it — the program ends in `ret a` with `Q a`, or in `fail e`; never in `panic`.  Because it
quantifies over all responses it covers every store, every injected fault, every crash point
and the dead world at once (`Safe.ensures`, `Safe.noPanic`).  The programs themselves are walked with
`Prog.Tree` (Proofs/ProgLemmas.lean), of which `Safe Q` is the case "any operation, no panic"
(`Tree.safe`).  No property statements here.
-/
namespace Conserve.NP
open Conserve Prog

/-- No branch of the program ends in a panic, and every returned value satisfies `Q`. -/
inductive Safe {α : Type} (Q : α → Prop) : Prog α → Prop
  | ret {a : α} : Q a → Safe Q (.ret a)
  | fail (e : Err) : Safe Q (.fail e)
  | emit (ev : Event) {k : Prog α} : Safe Q k → Safe Q (.emit ev k)
  | op (o : Op) {k : Resp → Prog α} : (∀ r, Safe Q (k r)) → Safe Q (.op o k)

/-- Semantic reading, for every world: the outcome is a value with `Q`, or an error. -/
def Ensures {α : Type} (Q : α → Prop) (p : Prog α) : Prop :=
  ∀ w : World, match (p.run w).1 with
    | .ok a => Q a
    | .err _ => True
    | .panic _ => False

/-- The program does not panic, whatever the store holds, whatever faults are injected and
wherever the world crashes. -/
def NoPanic {α : Type} (p : Prog α) : Prop :=
  ∀ w : World, ∀ site, (p.run w).1 ≠ .panic site

namespace Safe
variable {α : Type}

theorem attempt {Q : α → Prop} {p : Prog α} (hp : Safe Q p) :
    Safe (fun r => ∀ a, r = .ok a → Q a) p.attempt := by
  induction hp with
  | ret ha => exact .ret (fun a h => by cases h; exact ha)
  | fail e => exact .ret (fun a h => nomatch h)
  | emit ev _ ih => exact .emit ev ih
  | op o _ ih => exact .op o ih

theorem ensures {Q : α → Prop} {p : Prog α} (hp : Safe Q p) : Ensures Q p := by
  intro w
  induction hp generalizing w with
  | ret ha => exact ha
  | fail e => exact trivial
  | emit ev _ ih => exact ih _
  | op o _ ih => exact ih _ _

end Safe

theorem _root_.Conserve.Prog.Tree.safe {α : Type} {O : Op → Prop} {Q : α → Prop} {p : Prog α}
    (hp : Prog.Tree O False Q p) : Safe Q p := by
  induction hp with
  | ret ha => exact .ret ha
  | fail e => exact .fail e
  | panic _ hz => exact hz.elim
  | emit ev _ ih => exact .emit ev ih
  | op _ _ ih => exact .op _ ih

theorem Ensures.noPanic {α : Type} {Q : α → Prop} {p : Prog α} (hp : Ensures Q p) : NoPanic p := by
  intro w site h
  have := hp w
  rw [h] at this
  exact this

theorem Safe.noPanic {α : Type} {Q : α → Prop} {p : Prog α} (hp : Safe Q p) : NoPanic p :=
  hp.ensures.noPanic

theorem noPanic_iff {α : Type} (p : Prog α) :
    NoPanic p ↔ ∀ w : World, (∃ a, (p.run w).1 = .ok a) ∨ (∃ e, (p.run w).1 = .err e) := by
  constructor
  · intro h w
    cases hr : (p.run w).1 with
    | ok a => exact .inl ⟨a, rfl⟩
    | err e => exact .inr ⟨e, rfl⟩
    | panic s => exact absurd hr (h w s)
  · intro h w site hs
    rcases h w with ⟨a, ha⟩ | ⟨e, he⟩
    · rw [ha] at hs; cases hs
    · rw [he] at hs; cases hs

theorem Safe.report (ev : Event) : Safe (fun _ => True) (report ev) := .emit _ (.ret trivial)

end Conserve.NP
