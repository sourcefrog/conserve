import ConserveModel.Proofs.WalkOrder
/-
Pruning excluded directories during the walk = filtering the full walk, for an exclusion
predicate closed under descendants below the root.
-/
namespace Conserve
open Std

theorem Forest.Below.unpruned {excl : Str → Bool} {f : Forest} {ap : Str} {n : Node} {ap' : Str}
    (h : Forest.Below excl f ap n ap') :
    Forest.Below (fun _ => false) f ap n ap' ∧ excl ap' = false := by
  induction h with
  | child hp => exact ⟨.child (mem_live.2 ⟨(mem_live.1 hp).1, rfl⟩), (mem_live.1 hp).2⟩
  | deeper hp hd _ ih => exact ⟨.deeper (mem_live.2 ⟨(mem_live.1 hp).1, rfl⟩) hd ih.1, ih.2⟩

/-- The predicate is only ever asked about children, so it need only be closed under descendants
of paths OTHER than the root (the pattern "/" excludes the root and nothing below it). -/
theorem Forest.Below.pruned {excl : Str → Bool}
    (hcl : ∀ a p, isValid a = true → isValid p = true → a ≠ [slash] → excl a = true → StrictDesc a p →
      excl p = true) {f : Forest} {ap : Str} {n : Node} {ap' : Str}
    (h : Forest.Below (fun _ => false) f ap n ap') (hex : excl ap' = false) :
    ∀ {cs}, GoodComps cs → f.WF = true → ap = pathOf cs → Forest.Below excl f ap n ap' := by
  induction h with
  | child hp => exact fun _ _ _ => .child (mem_live.2 ⟨(mem_live.1 hp).1, hex⟩)
  | @deeper f ap p n ap' hp hd hb ih =>
    rintro cs hcs hwf rfl
    have F := listingFacts excl hcs hwf
    have hp := (mem_live.1 hp).1
    have hg := hcs.append (.single (F.good p hp))
    obtain ⟨x, t, hxt, e⟩ := hb.path hg (F.wfKids p hp) (F.append p hp)
    refine .deeper (mem_live.2 ⟨hp, ?_⟩) hd (ih hex hg (F.wfKids p hp) (F.append p hp))
    -- an excluded directory would exclude everything below it
    cases hx : excl (apathAppend (pathOf cs) p.1) with
    | false => rfl
    | true =>
      rw [F.append p hp] at hx
      rw [e, hcl _ _ (pathOf_valid hg) (pathOf_valid (hg.append hxt)) (pathOf_cons_ne_root hg) hx
        ((strictDesc_pathOf_iff hg (hg.append hxt)).2 ⟨x, t, rfl⟩)] at hex
      cases hex

theorem walkBelow_prune (excl : Str → Bool)
    (hcl : ∀ a p, isValid a = true → isValid p = true → a ≠ [slash] → excl a = true → StrictDesc a p →
      excl p = true) (f : Forest) (cs : List Str) (hcs : GoodComps cs) (hwf : f.WF = true) :
    f.walkBelow excl (pathOf cs) =
      (f.walkBelow (fun _ => false) (pathOf cs)).filter (fun e => !excl e.apath) := by
  refine sorted_ext SrcEntry.apath (walkBelow_sorted excl f cs hcs hwf)
    ((walkBelow_sorted _ f cs hcs hwf).filter _) fun e => ?_
  simp only [List.mem_filter, Forest.mem_walkBelow, Bool.not_eq_true']
  constructor
  · rintro ⟨n, ap', h, rfl⟩
    exact ⟨⟨n, ap', h.unpruned.1, rfl⟩, by rw [Node.entry_apath]; exact h.unpruned.2⟩
  · rintro ⟨⟨n, ap', h, rfl⟩, hex⟩
    rw [Node.entry_apath] at hex
    exact ⟨n, ap', h.pruned hcl hex hcs hwf rfl, rfl⟩

end Conserve
