import ConserveModel.Proofs.PermArchive
import ConserveModel.Proofs.BackupEntry
/-
Helper lemmas for C17: `backup` is insensitive to the order of every listing it receives.

The only value derived from a listing that is not sorted before use is the set of present block
names (`Writer.exists_`, from `list_blocks`).  The writer consults it only through `contains` and
extends it with `::`, so two writers that differ by a permutation of `exists_` behave the same.
-/
namespace Conserve
open Prog

/-- Two writer states that are equal except that the set of known block names is listed in
another order. -/
def WriterEquiv (w w' : Writer) : Prop := ∃ ex', ex'.Perm w.exists_ ∧ w' = { w with exists_ := ex' }

theorem WriterEquiv.refl (w : Writer) : WriterEquiv w w := ⟨w.exists_, List.Perm.refl _, rfl⟩

/-- Writers equivalent, the value paired with them equal. -/
def WPair {α : Type} (p q : Writer × α) : Prop := WriterEquiv p.1 q.1 ∧ p.2 = q.2

theorem ProgEquiv.bindW {α γ δ : Type} {S : γ → δ → Prop} {p q : Prog (Writer × α)}
    {f : Writer × α → Prog γ} {g : Writer × α → Prog δ} (h : ProgEquiv WPair p q)
    (hfg : ∀ w w' a, WriterEquiv w w' → ProgEquiv S (f (w, a)) (g (w', a))) :
    ProgEquiv S (p >>= f) (q >>= g) :=
  h.bind fun (w, a) (w', _) ⟨hw, (ha : a = _)⟩ => ha ▸ hfg w w' a hw

section
variable (H : Str → Str)

theorem storeOrDedup_equiv {w w' : Writer} (hw : WriterEquiv w w') (data : Str) :
    ProgEquiv WPair (storeOrDedup H w data) (storeOrDedup H w' data) := by
  obtain ⟨ex', hp, rfl⟩ := hw
  unfold storeOrDedup
  simp only [hp.contains_eq]
  split
  · exact .ret ⟨⟨_, hp, rfl⟩, rfl⟩
  · refine .afterOp _ fun _ => ?_
    split
    · exact .ret ⟨⟨_, hp, rfl⟩, rfl⟩
    · refine .afterOp _ fun _ => ?_
      split
      · exact .ret ⟨⟨_, hp.cons _, rfl⟩, rfl⟩
      · exact .ret ⟨⟨_, hp, rfl⟩, rfl⟩
      · exact .ret ⟨⟨_, hp, rfl⟩, rfl⟩

theorem combinerFlush_equiv {w w' : Writer} (hw : WriterEquiv w w') :
    ProgEquiv WPair (combinerFlush H w) (combinerFlush H w') := by
  obtain ⟨ex', hp, rfl⟩ := hw
  unfold combinerFlush
  simp only []
  split
  · exact .ret ⟨⟨_, hp, rfl⟩, rfl⟩
  · refine (storeOrDedup_equiv H (w := { w with buf := [] }) ⟨ex', hp, rfl⟩ w.buf).bindW ?_
    rintro w₁ _ r ⟨ex₁, hp₁, rfl⟩
    simp only []
    split <;> exact .ret ⟨⟨_, hp₁, rfl⟩, rfl⟩

theorem combinerPush_equiv (o : BackupOpts) {w w' : Writer} (hw : WriterEquiv w w') (s : SrcEntry) :
    ProgEquiv WPair (combinerPush H o w s) (combinerPush H o w' s) := by
  obtain ⟨ex', hp, rfl⟩ := hw
  unfold combinerPush
  simp only []
  split
  · pe_leaf
  · split
    · exact .ret ⟨⟨_, hp, rfl⟩, rfl⟩
    · exact .ite (combinerFlush_equiv H ⟨_, hp, rfl⟩) (.ret ⟨⟨_, hp, rfl⟩, rfl⟩)

theorem storeChunks_equiv {w w' : Writer} (hw : WriterEquiv w w') (cs : List Str) (acc : List Addr) :
    ProgEquiv WPair (storeChunks H w cs acc) (storeChunks H w' cs acc) := by
  induction cs generalizing w w' acc with
  | nil =>
    unfold storeChunks
    exact .ret ⟨hw, rfl⟩
  | cons c cs ih =>
    unfold storeChunks
    refine (storeOrDedup_equiv H hw c).bindW fun w₁ w₂ r hw₁ => ?_
    simp only []
    split
    · exact .ret ⟨hw₁, rfl⟩
    · exact ih hw₁ _

theorem storeFileContent_equiv (o : BackupOpts) {w w' : Writer} (hw : WriterEquiv w w') (s : SrcEntry) :
    ProgEquiv WPair (storeFileContent H o w s) (storeFileContent H o w' s) := by
  unfold storeFileContent
  refine (storeChunks_equiv H hw _ _).bindW ?_
  rintro w₁ _ r ⟨ex₁, hp₁, rfl⟩
  simp only []
  split <;> exact .ret ⟨⟨_, hp₁, rfl⟩, rfl⟩

theorem copyFileStore_equiv (o : BackupOpts) {w w' : Writer} (hw : WriterEquiv w w') (ck : ChangeKind)
    (s : SrcEntry) : ProgEquiv WPair (Inv.copyFileStore H o w ck s) (Inv.copyFileStore H o w' ck s) := by
  unfold Inv.copyFileStore
  refine .ite ?_ (.ite ?_ ?_)
  · obtain ⟨ex', hp, rfl⟩ := hw
    split
    · pe_leaf
    · exact .ret ⟨⟨_, hp, rfl⟩, rfl⟩
  · refine (combinerPush_equiv H o hw s).bindW fun w₁ w₂ r hw₁ => ?_
    simp only []
    split <;> exact .ret ⟨hw₁, rfl⟩
  · refine (storeFileContent_equiv H o hw s).bindW ?_
    rintro w₁ _ r ⟨ex₁, hp₁, rfl⟩
    simp only []
    split
    · exact .ret ⟨⟨_, hp₁, rfl⟩, rfl⟩
    · split
      · pe_leaf
      · exact .ret ⟨⟨_, hp₁, rfl⟩, rfl⟩

/-- The decision between "unchanged" and "store" consults `exists_` only through `contains`, so it
comes out the same for both writers. -/
theorem copyFile_equiv (o : BackupOpts) {w w' : Writer} (hw : WriterEquiv w w') (basis : Option IndexEntry)
    (s : SrcEntry) : ProgEquiv WPair (copyFile H o w basis s) (copyFile H o w' basis s) := by
  obtain ⟨ex', hp, rfl⟩ := hw
  cases basis with
  | none =>
    rw [Inv.copyFile_none, Inv.copyFile_none]
    refine copyFileStore_equiv H o ?_ _ s
    exact ⟨_, hp, rfl⟩
  | some b =>
    cases hu : heuristicallyUnchanged s b with
    | none =>
      rw [Inv.copyFile_panic o _ b s hu, Inv.copyFile_panic o _ b s hu]
      exact .panic _
    | some c =>
      cases c with
      | false =>
        rw [Inv.copyFile_changed o _ b s hu, Inv.copyFile_changed o _ b s hu]
        refine copyFileStore_equiv H o ?_ _ s
        exact ⟨_, hp, rfl⟩
      | true =>
        cases hall : b.addrs.all fun a => w.exists_.contains a.hash with
        | false =>
          rw [Inv.copyFile_damaged o w b s hu hall,
            Inv.copyFile_damaged o _ b s hu (by simpa only [hp.contains_eq] using hall)]
          refine copyFileStore_equiv H o ?_ _ s
          exact ⟨_, hp, rfl⟩
        | true =>
          unfold copyFile
          simp only [hu, hp.contains_eq, hall, if_true]
          cases metadataFrom o s with
          | none => exact .panic _
          | some ie => exact .ret ⟨⟨_, hp, rfl⟩, rfl⟩

theorem copyEntry_equiv (o : BackupOpts) {w w' : Writer} (hw : WriterEquiv w w') (basis : Option IndexEntry)
    (s : SrcEntry) : ProgEquiv WPair (copyEntry H o w basis s) (copyEntry H o w' basis s) := by
  unfold copyEntry
  split
  · obtain ⟨ex', hp, rfl⟩ := hw
    split
    · pe_leaf
    · exact .ret ⟨⟨_, hp, rfl⟩, rfl⟩
  · obtain ⟨ex', hp, rfl⟩ := hw
    split
    · pe_leaf
    · exact .ret ⟨⟨_, hp, rfl⟩, rfl⟩
  · exact copyFile_equiv H o hw basis s
  · obtain ⟨ex', hp, rfl⟩ := hw
    exact .ret ⟨⟨_, hp, rfl⟩, rfl⟩

theorem finishHunk_equiv {w w' : Writer} (hw : WriterEquiv w w') :
    ProgEquiv WriterEquiv (finishHunk w) (finishHunk w') := by
  obtain ⟨ex', hp, rfl⟩ := hw
  unfold finishHunk
  simp only []
  split
  · exact .ret ⟨_, hp, rfl⟩
  · split
    · apply ProgEquiv.bindEq (performUnit_equiv _); intro _
      apply ProgEquiv.bindEq (performUnit_equiv _); intro _
      exact .ret ⟨_, hp, rfl⟩
    · apply ProgEquiv.bindEq (performUnit_equiv _); intro _
      exact .ret ⟨_, hp, rfl⟩

theorem flushGroup_equiv {w w' : Writer} (hw : WriterEquiv w w') :
    ProgEquiv WriterEquiv (flushGroup H w) (flushGroup H w') := by
  unfold flushGroup
  refine (combinerFlush_equiv H hw).bindW ?_
  rintro w₁ _ r ⟨ex₁, hp₁, rfl⟩
  simp only []
  split
  · pe_leaf
  · exact finishHunk_equiv ⟨_, hp₁, rfl⟩

theorem backupLoop_equiv (o : BackupOpts) {w w' : Writer} (hw : WriterEquiv w w') (ms : List Matched) :
    ProgEquiv WriterEquiv (backupLoop H o w ms) (backupLoop H o w' ms) := by
  induction ms generalizing w w' with
  | nil =>
    unfold backupLoop
    exact .ret hw
  | cons m rest ih =>
    cases m with
    | left b =>
      unfold backupLoop
      exact .emit _ (ih hw)
    | right s | both b s =>
      unfold backupLoop
      refine (copyEntry_equiv H o hw _ _).bindW ?_
      rintro w₁ _ r ⟨ex₁, hp₁, rfl⟩
      simp only []
      split
      · exact .emit _ (ih ⟨_, hp₁, rfl⟩)
      · have tail := ProgEquiv.ite (c := w₁.pending.length + w₁.queue.length ≥ o.maxEntriesPerHunk)
          ((flushGroup_equiv H ⟨ex₁, hp₁, rfl⟩).bind fun _ _ h => ih h) (ih ⟨ex₁, hp₁, rfl⟩)
        split
        · exact .emit _ tail
        · exact tail

/-- **`backup` is insensitive to the order of every listing**: the lock test, the choice of the
basis version and of the new version's id, the set of present blocks, the basis listing, and so
every write. -/
theorem backup_equiv (o : BackupOpts) (src : List SrcEntry) :
    ProgEquiv Eq (backup H o src) (backup H o src) := by
  unfold backup
  apply ProgEquiv.bindEq gcIsLocked_equiv; intro c
  extract_lets rest
  refine .ite (.fail _) ?_
  apply ProgEquiv.bindEq lastBandId_equiv; intro basisBand
  apply ProgEquiv.bindEq bandCreate_equiv; intro band
  apply ProgEquiv.bindEq gcLockListed_equiv; intro c2
  extract_lets rest
  refine .ite (.fail _) ?_
  apply ProgEquiv.bind listBlocks_equiv; intro blocks blocks' hb
  extract_lets w main w' main'
  have hmain : ∀ basis, ProgEquiv Eq (main basis) (main' basis) := by
    intro basis
    apply (backupLoop_equiv H o (w := w) ⟨blocks', hb.symm, rfl⟩ _).bind
    intro w₁ w₂ hw
    apply (flushGroup_equiv H hw).bind
    intro w₁ w₂ hw
    apply (finishHunk_equiv hw).bind
    rintro w₁ _ ⟨ex, hp, rfl⟩
    exact ProgEquiv.bindEq (bandClose_equiv _ _) fun _ => .ret rfl
  split
  · exact ProgEquiv.bindEq (listEntries_equiv _ _ _) hmain
  · exact hmain []

end
end Conserve
