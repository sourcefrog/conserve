import ConserveModel.Proofs.DeleteMisc
/-
Running programs in a world with ONE injected read fault: a program none of whose operations the
fault applies to runs calmly (`calm_of_inv`), so it does what `Prog.eval` says, as in a quiet world
(`RunsI.of_runs`).  Used for the witness of defect D6 (`strict = false`) in Props/C05.lean.
-/
set_option linter.unusedSimpArgs false
namespace Conserve
open Prog

/-- The fault list: the first `read` of `kf` fails with `Other`. -/
def readFault (kf : Key) : List Fault := [⟨⟨.read, kf, 0⟩, .other⟩]

/-- The fault has not fired yet. -/
structure Armed (kf : Key) (w : World) : Prop where
  faults : w.faults = readFault kf
  noCrash : w.crashAt = none
  alive : w.dead = false
  occ : w.occurrences .read kf = 0

/-- The fault has fired (it cannot fire again). -/
structure Spent (kf : Key) (w : World) : Prop where
  faults : w.faults = readFault kf
  noCrash : w.crashAt = none
  alive : w.dead = false
  occ : 0 < w.occurrences .read kf

def NotRead (kf : Key) (o : Op) : Prop := o ≠ .read kf

theorem occurrences_applied (w : World) (o : Op) (v : Verb) (k : Key) :
    (w.applied o).1.occurrences v k =
      w.occurrences v k + (if o.verb == v && o.key == k then 1 else 0) := by
  obtain ⟨_, _, _, _, _, ht⟩ := World.applied_frame w o
  simp only [World.occurrences, ht, List.filter_cons]
  split <;> simp [Nat.add_comm]

theorem verb_key_read {o : Op} {kf : Key} (h : (o.verb == Verb.read && o.key == kf) = true) : o = .read kf := by
  cases o <;> simp [Op.verb, Op.key] at h
  subst h; rfl

theorem Armed.faultFor {kf : Key} {w : World} (hA : Armed kf w) {o : Op} (ho : NotRead kf o) :
    w.faultFor o = none := by
  simp only [World.faultFor, hA.faults, readFault, List.find?_cons, List.find?_nil]
  cases h : (Verb.read == o.verb && kf == o.key) with
  | false => simp [h]
  | true =>
    exfalso
    apply ho
    apply verb_key_read
    simp only [Bool.and_eq_true, beq_iff_eq] at h ⊢
    exact ⟨h.1.symm, h.2.symm⟩

theorem Armed.step {kf : Key} {w : World} (hA : Armed kf w) {o : Op} (ho : NotRead kf o) :
    Armed kf (w.applied o).1 := by
  obtain ⟨f1, f2, f3, _, _, _⟩ := World.applied_frame w o
  refine ⟨f1.trans hA.faults, f2.trans hA.noCrash, f3.trans hA.alive, ?_⟩
  rw [occurrences_applied, hA.occ]
  cases h : (o.verb == Verb.read && o.key == kf) with
  | false => simp
  | true => exact absurd (verb_key_read h) ho

theorem Spent.faultFor {kf : Key} {w : World} (hS : Spent kf w) (o : Op) : w.faultFor o = none := by
  simp only [World.faultFor, hS.faults, readFault, List.find?_cons, List.find?_nil]
  cases h : (Verb.read == o.verb && kf == o.key && 0 == w.occurrences o.verb o.key) with
  | false => simp [h]
  | true =>
    exfalso
    simp only [Bool.and_eq_true, beq_iff_eq] at h
    have := hS.occ
    rw [h.1.1, h.1.2] at this
    omega

theorem Spent.step {kf : Key} {w : World} (hS : Spent kf w) (o : Op) : Spent kf (w.applied o).1 := by
  obtain ⟨f1, f2, f3, _, _, _⟩ := World.applied_frame w o
  refine ⟨f1.trans hS.faults, f2.trans hS.noCrash, f3.trans hS.alive, ?_⟩
  rw [occurrences_applied]
  have := hS.occ
  omega

theorem allOps_true {α : Type} (p : Prog α) : Prog.AllOps (fun _ => True) p := by
  induction p with
  | ret a => exact .ret a
  | fail e => exact .fail e
  | panic s => exact .panic s
  | emit ev k ih => exact .emit ev ih
  | op o k ih => exact .op trivial ih

theorem exec_armed_read {kf : Key} {w : World} (hA : Armed kf w) :
    (w.exec (.read kf)).2 = .err .other ∧ (w.exec (.read kf)).1.store = w.store ∧
      (w.exec (.read kf)).1.enforceCreateNew = w.enforceCreateNew ∧ Spent kf (w.exec (.read kf)).1 := by
  have hf : w.faultFor (.read kf) = some .other := by
    simp [World.faultFor, hA.faults, readFault, Op.verb, Op.key, hA.occ]
  unfold World.exec
  simp only [hA.alive, Bool.false_eq_true, if_false, hf]
  refine ⟨by simp, by simp, by simp, by simpa using hA.faults, by simpa using hA.noCrash, by simp, ?_⟩
  simp [World.occurrences, Op.verb, Op.key]

def RunsI {α : Type} (Inv : World → Prop) (p : Prog α) (w : World) (out : Outcome α) (s' : Store) : Prop :=
  (p.run w).1 = out ∧ (p.run w).2.store = s' ∧ Inv (p.run w).2

theorem RunsI.run_eq {α : Type} {Inv : World → Prop} {p : Prog α} {w : World} {out : Outcome α} {s' : Store}
    (h : RunsI Inv p w out s') : p.run w = (out, (p.run w).2) := by rw [← h.1]

theorem RunsI.bind_ok {α β : Type} {I1 I2 : World → Prop} {p : Prog α} {f : α → Prog β} {w : World} {a : α}
    {s1 s2 : Store} {out : Outcome β} (hp : RunsI I1 p w (.ok a) s1)
    (hf : ∀ w1, I1 w1 → w1.store = s1 → RunsI I2 (f a) w1 out s2) : RunsI I2 (p.bind f) w out s2 := by
  have := hf _ hp.2.2 hp.2.1
  unfold RunsI
  rw [Prog.run_bind, hp.run_eq]
  exact this

theorem RunsI.bind_err {α β : Type} {I1 : World → Prop} {p : Prog α} {f : α → Prog β} {w : World} {e : Err}
    {s1 : Store} (hp : RunsI I1 p w (.err e) s1) : RunsI I1 (p.bind f) w (.err e) s1 := by
  unfold RunsI
  rw [Prog.run_bind, hp.run_eq]
  exact ⟨rfl, hp.2⟩

theorem RunsI.attempt_ok {α : Type} {I1 : World → Prop} {p : Prog α} {w : World} {a : α} {s1 : Store}
    (hp : RunsI I1 p w (.ok a) s1) : RunsI I1 p.attempt w (.ok (.ok a)) s1 := by
  unfold RunsI
  rw [Prog.run_attempt, hp.run_eq]
  exact ⟨rfl, hp.2⟩

theorem RunsI.attempt_err {α : Type} {I1 : World → Prop} {p : Prog α} {w : World} {e : Err} {s1 : Store}
    (hp : RunsI I1 p w (.err e) s1) : RunsI I1 p.attempt w (.ok (.error e)) s1 := by
  unfold RunsI
  rw [Prog.run_attempt, hp.run_eq]
  exact ⟨rfl, hp.2⟩

theorem RunsI.attemptAll {α : Type} {I1 : World → Prop} {p : Prog α} {w : World} {out : Outcome α}
    {s1 : Store} (hp : RunsI I1 p w out s1) : RunsI I1 p.attemptAll w (.ok out) s1 := by
  unfold RunsI
  rw [Prog.run_attemptAll, hp.1]
  exact ⟨rfl, hp.2⟩

theorem RunsI.ret {α : Type} {I1 : World → Prop} {w : World} (h : I1 w) (a : α) :
    RunsI I1 (.ret a) w (.ok a) w.store := ⟨rfl, rfl, h⟩

/-- Under an invariant of worlds that keeps faults away from the `P`-operations, `p` does in `w` what
`eval` says. -/
theorem RunsI.of_eval {α : Type} {Inv : World → Prop} {P : Op → Prop}
    (hcalm : ∀ w, Inv w → w.crashAt = none ∧ w.dead = false)
    (hf : ∀ w o, Inv w → P o → w.faultFor o = none)
    (hi : ∀ w o, Inv w → P o → Inv (w.applied o).1)
    (he : ∀ w ev, Inv w → Inv { w with events := ev :: w.events })
    {p : Prog α} (hp : Prog.AllOps P p) {w : World} {s s' : Store} {out : Outcome α} {ev : List Event}
    (hI : Inv w) (hs : w.store = s) (h : p.eval w.enforceCreateNew s = (out, s', ev)) :
    RunsI Inv p w out s' := by
  refine ⟨?_, ?_, Prog.run_world_inv he (fun w o ho hw => ?_) hp w hI⟩
  · rw [Prog.run_eq_eval p (calm_of_inv hcalm hf hi he hp hI), hs, h]
  · rw [Prog.run_eq_eval p (calm_of_inv hcalm hf hi he hp hI), hs, h]; rfl
  · rw [World.exec_of_noCrash (hcalm w hw).2 (hcalm w hw).1 (hf w o hw ho)]; exact hi w o hw ho

theorem RunsI.of_eval_armed {α : Type} {kf : Key} {p : Prog α} {w : World} {s s' : Store}
    {out : Outcome α} {ev : List Event} (hp : Prog.AllOps (NotRead kf) p) (hA : Armed kf w)
    (hs : w.store = s) (h : p.eval w.enforceCreateNew s = (out, s', ev)) :
    RunsI (Armed kf) p w out s' :=
  RunsI.of_eval (fun _ h => ⟨h.noCrash, h.alive⟩) (fun _ _ h ho => h.faultFor ho)
    (fun _ _ h ho => h.step ho) (fun _ _ h => ⟨h.faults, h.noCrash, h.alive, h.occ⟩) hp hA hs h

theorem RunsI.of_eval_spent {α : Type} {kf : Key} {p : Prog α} {w : World} {s s' : Store}
    {out : Outcome α} {ev : List Event} (hS : Spent kf w)
    (hs : w.store = s) (h : p.eval w.enforceCreateNew s = (out, s', ev)) :
    RunsI (Spent kf) p w out s' :=
  RunsI.of_eval (P := fun _ => True) (fun _ h => ⟨h.noCrash, h.alive⟩) (fun _ o h _ => h.faultFor o)
    (fun _ o h _ => h.step o) (fun _ _ h => ⟨h.faults, h.noCrash, h.alive, h.occ⟩) (allOps_true p) hS hs h

theorem RunsI.read_fault {α : Type} {kf : Key} {I2 : World → Prop} {k : Resp → Prog α} {w : World}
    {out : Outcome α} {s' : Store} (hA : Armed kf w)
    (hk : ∀ w1, Spent kf w1 → w1.store = w.store → RunsI I2 (k (.err .other)) w1 out s') :
    RunsI I2 (.op (.read kf) k) w out s' := by
  obtain ⟨h1, h2, _, h4⟩ := exec_armed_read hA
  have := hk _ h4 h2
  unfold RunsI
  rw [Prog.run_op, h1]
  exact this

def NoHunkRead (o : Op) : Prop := ∀ b n, o ≠ .read (.hunk b n)

theorem NoHunkRead.notRead {o : Op} (h : NoHunkRead o) (b n : Nat) : NotRead (.hunk b n) o := h b n

theorem Prog.AllOps.noHunkRead {α : Type} {K : Key → Prop} {p : Prog α} (hK : ∀ b n, ¬ K (.hunk b n))
    (h : AllOps (Rd K) p) : AllOps NoHunkRead p :=
  h.mono fun _ ho => by rintro b n rfl; exact hK b n ho

theorem noHunkRead_hunksAvailable_go (b : Nat) (ds : List Nat) :
    ∀ acc, Prog.AllOps NoHunkRead (hunksAvailable.go b ds acc) := by
  induction ds with
  | nil => intro acc; simp only [hunksAvailable.go, pure_def]; exact .ret _
  | cons d ds ih =>
    intro acc
    simp only [hunksAvailable.go, perform, bind_def, op_bind, ret_bind]
    refine .op (by intro b n h; cases h) fun r => ?_
    split <;> first | exact ih _ | exact .fail _

theorem noHunkRead_iterAvailableHunks (b : Nat) : Prog.AllOps NoHunkRead (iterAvailableHunks b) := by
  simp only [iterAvailableHunks, hunksAvailable, perform, bind_def, op_bind, ret_bind, pure_def]
  refine Prog.AllOps.bind (Prog.AllOps.attempt (.op (by intro b n h; cases h) fun r => ?_)) fun r => ?_
  · split <;> first | exact noHunkRead_hunksAvailable_go _ _ _ | exact .fail _
  · split <;> first | exact .ret _ | exact .panic _

theorem noHunkRead_gcLockNew : Prog.AllOps NoHunkRead gcLockNew := by
  have tail : ∀ last, Prog.AllOps NoHunkRead (lockTail last) := by
    intro last
    simp only [lockTail, unwrapOr, bind_def, pure_def]
    refine .bind (.bind (.attempt ((isFile_fp (K := (· = .gcLock)) rfl).noHunkRead
      fun _ _ e => nomatch e)) fun r => ?_) fun l => ?_
    · split <;> exact .ret _
    · split
      · exact .fail _
      · exact (performUnit_allOps fun _ _ e => nomatch e).bind fun _ => .ret _
  rw [gcLockNew_eq]
  refine ((lastBandId_fp (K := (· = .root)) rfl).noHunkRead fun _ _ e => nomatch e).bind fun last => ?_
  split
  · refine ((isFile_fp (K := (· = .bandTail _)) rfl).noHunkRead fun _ _ e => nomatch e).bind fun c => ?_
    split
    · exact .fail _
    · exact tail _
  · exact tail _

theorem noHunkRead_acquire (o : DeleteOpts) : Prog.AllOps NoHunkRead (acquire o) := by
  simp only [acquire, gcBreakLock, gcIsLocked, bind_def, pure_def]
  split
  · refine ((isFile_fp (K := (· = .gcLock)) rfl).noHunkRead fun _ _ e => nomatch e).bind fun l => ?_
    split
    · exact (performUnit_allOps fun _ _ e => nomatch e).bind fun _ => noHunkRead_gcLockNew
    · exact noHunkRead_gcLockNew
  · exact noHunkRead_gcLockNew

theorem eval_iterAvailableHunks (e : Bool) {s : Store} (hn : UniqueKeys s) (b : Nat)
    (hi : s.get? (.indexDir b) = some .dir) :
    (iterAvailableHunks b).eval e s = (.ok (hunksListed s b), s, []) := by
  simp only [iterAvailableHunks, bind_def, pure_def, eval_bind,
    eval_attempt_toOutcome e s (eval_hunksAvailable e s b), hunksAvailableP_listed hi (hunkDirs_are_dirs hn b),
    andThen_ok, eval_ret]

/-- **Defect D6, general form.**  The code before the repair (`strict = false`), an archive with a
single version `b` whose index has a single hunk `n`, nothing to delete (`D = []`: pure garbage
collection), and ONE injected fault: the first read of that hunk fails.  The hunk is silently
skipped, `referenced_blocks` returns the empty set, and the run SUCCEEDS after removing every
block file `list_blocks` can see — including all blocks the version names. -/
theorem nonstrict_read_fault_removes_all {s : Store} {b n : Nat} (hn : UniqueKeys s)
    (hroot : s.get? .root = some .dir) (hbr : s.get? .blockRoot = some .dir)
    (hfree : s.get? .gcLock = none) (hnew : newestComplete s) (hbands : bandIdsOf s = [b])
    (hhead : headReadable s b = true) (hidx : s.get? (.indexDir b) = some .dir)
    (hhunks : hunksListed s b = [n]) (o : DeleteOpts) (hdry : o.dryRun = false) :
    let w : World := { store := s, faults := readFault (.hunk b n) }
    (∃ st, ((deleteBands false [] o).run w).1 = .ok st) ∧
      ∀ h ∈ blockNamesOf s, ((deleteBands false [] o).run w).2.store.get? (.block h) = none := by
  intro w
  let kf : Key := .hunk b n
  let s1 : Store := s ++ [(.gcLock, .lock)]
  have hA0 : Armed kf w := ⟨rfl, rfl, rfl, rfl⟩
  have hn1 : UniqueKeys s1 := uniqueKeys_lock hn hfree _
  have hroot1 : s1.get? .root = some .dir := by rw [get?_lock _ _ (by simp)]; exact hroot
  have hbr1 : s1.get? .blockRoot = some .dir := by rw [get?_lock _ _ (by simp)]; exact hbr
  have hlock1 : fileAt s1 .gcLock = true := by
    have := put_lock_eq hfree .lock
    show fileAt (s ++ [(.gcLock, .lock)]) .gcLock = true
    rw [← this]; simp [fileAt, FileVal.isDir]
  have hbands1 : bandIdsOf s1 = [b] := by rw [bandIdsOf_lock]; exact hbands
  have mono : ∀ {α : Type} {p : Prog α}, Prog.AllOps NoHunkRead p → Prog.AllOps (NotRead kf) p :=
    fun hp => hp.mono fun _ ho => ho b n
  have key : RunsI (Spent kf) (deleteBands false [] o) w
      (.ok { unreferencedBlockCount := (unrefGiven s1 []).length, deletedBandCount := 0,
             deletedBlockCount := (unrefGiven s1 []).length, deletionErrors := 0 })
      ((eraseBlocks (eraseBands s1 []) (unrefGiven s1 [])).erase .gcLock) := by
    rw [deleteBands_eq]
    have hacq : RunsI (Armed kf) (acquire o) w (.ok (maxNat? (bandIdsOf s))) s1 := by
      refine RunsI.of_eval_armed (ev := []) (mono (noHunkRead_acquire o)) hA0 rfl ?_
      rw [eval_acquire _ hroot, acquireOutcome_ok hfree hnew]
    refine RunsI.bind_ok hacq fun w1 hA1 hs1 => ?_
    simp only [withLock]
    suffices hbody : RunsI (Spent kf) (deleteBody false [] o (maxNat? (bandIdsOf s))) w1
        (.ok { unreferencedBlockCount := (unrefGiven s1 []).length, deletedBandCount := 0,
               deletedBlockCount := (unrefGiven s1 []).length, deletionErrors := 0 })
        ((eraseBlocks (eraseBands s1 []) (unrefGiven s1 [])).erase .gcLock) by
      refine RunsI.bind_ok (RunsI.attemptAll hbody) fun w9 hS9 hs9 => ?_
      exact hs9 ▸ RunsI.ret hS9 _
    rw [deleteBody_eq]
    have hlist : RunsI (Armed kf) listBandIds w1 (.ok [b]) s1 := by
      refine RunsI.of_eval_armed (ev := []) (mono ((listBandIds_fp (K := (· = .root)) rfl).noHunkRead fun _ _ e => nomatch e)) hA1 hs1 ?_
      rw [eval_listBandIds, if_pos hroot1, hbands1]
    refine RunsI.bind_ok hlist fun w2 hA2 hs2 => ?_
    have hfilter : List.filter (fun x => !([] : List Nat).contains x) [b] = [b] := by simp
    rw [hfilter]
    -- referenced_blocks: the hunk read fails and is skipped
    have hrefs : RunsI (Spent kf) (referencedBlocks false [b]) w2 (.ok []) s1 := by
      simp only [referencedBlocks, bind_def, pure_def, Bool.false_eq_true, if_false]
      have hopen : RunsI (Armed kf) (bandOpen b) w2 (.ok ()) s1 := by
        have hhead1 : headReadable s1 b = true := by
          show headReadable (s ++ [(.gcLock, .lock)]) b = true
          simpa only [headReadable, get?_lock s _ (show Key.bandHead b ≠ .gcLock by simp)] using hhead
        refine RunsI.of_eval_armed (ev := []) (mono ((bandOpen_fp (K := (· = .bandHead b)) rfl).noHunkRead fun _ _ e => nomatch e)) hA2 hs2 ?_
        rw [eval_bandOpen, bandOpenP_of_readable hhead1]
        rfl
      refine RunsI.bind_ok hopen fun w3 hA3 hs3 => ?_
      have hiter : RunsI (Armed kf) (iterAvailableHunks b) w3 (.ok [n]) s1 := by
        refine RunsI.of_eval_armed (ev := []) (mono (noHunkRead_iterAvailableHunks b)) hA3 hs3 ?_
        rw [eval_iterAvailableHunks _ hn1 b (by rw [get?_lock _ _ (by simp)]; exact hidx), hunksListed_lock, hhunks]
      refine RunsI.bind_ok hiter fun w4 hA4 hs4 => ?_
      have hent : RunsI (Spent kf) (bandHunkEntries false b [n]) w4 (.ok []) s1 := by
        simp only [bandHunkEntries, readHunk, perform, bind_def, op_bind, ret_bind, pure_def, Prog.attempt]
        refine RunsI.read_fault hA4 fun w5 hS5 hs5 => ?_
        simp only [Prog.attempt, ret_bind, Bool.false_eq_true, if_false]
        exact (hs5.trans hs4) ▸ RunsI.ret hS5 _
      refine RunsI.bind_ok hent fun w5 hS5 hs5 => ?_
      exact hs5 ▸ RunsI.ret hS5 _
    refine RunsI.bind_ok hrefs fun w6 hS6 hs6 => ?_
    -- with nothing referenced, everything present is removed
    refine RunsI.of_eval_spent (ev := []) hS6 hs6 ?_
    have := (eval_bodyRest w6.enforceCreateNew hn1 hbr1 [] [] o _).trans (eval_bodyTail_real _ hroot1 hlock1 hdry List.nodup_nil
      (fun _ h => nomatch h) (nodup_unrefGiven hn1 [])
      fun _ hh => blockNamesOf_file hn1 (mem_unrefGiven.1 hh).1)
    rwa [bandIdsOf_lock] at this
  refine ⟨⟨_, key.1⟩, ?_⟩
  intro h hh
  rw [key.2.1, Store.get?_erase_ne _ (by simp), get?_eraseBlocks]
  have : h ∈ unrefGiven s1 [] := mem_unrefGiven.2 ⟨by rw [blockNamesOf_lock]; exact hh, by simp⟩
  simp [blockIn, this]

end Conserve
