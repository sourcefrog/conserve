import ConserveModel.Proofs.ExactTop
/-
The backup that follows a kill between `mkdir bNNNN` and the completion of the head write: its basis
version is the head-less directory, `Band::open` fails inside the stitching iterator, and the error is
REPORTED (`monitor.error`).  `resume_reports_error`: for every well-formed archive whose newest version
directory has no readable head, the next fault-free backup emits an error event — whatever else it does.
No property statements here.
-/
set_option linter.unusedSimpArgs false
namespace Conserve.Crash
open Conserve Conserve.Exact Conserve.Inv Prog

variable {H : Str → Str} {o : BackupOpts}

/-- No readable head: no head file, a zero-length head, or no index directory — what a kill inside
`Band::create` leaves.  The event is `BandHeadMissing`, or the JSON error of a zero-length head. -/
theorem resume_reports_error (src : List SrcEntry) {t : Store} {b : Nat} (hst : StoreOK H t)
    (hlock : t.get? .gcLock = none) (hwf0 : ArchWF t) (hmax : maxNat? (bandIdsOf t) = some b)
    (hbad : bandReadable t b = false) :
    Event.error (unreadableError t b) ∈ ((backup H o src).run (World.clean t)).2.events := by
  have herrs : unreadableError t b ∈ basisErrors t := by
    simp [basisErrors, hmax, listErrors, bandErrors, hbad]
  -- the prelude emits the event; what the main part emits comes on top of it
  rw [backup_eq, (Prog.run_clean_eval (s := t) rfl).2.2, Prog.eval_bind,
    runsAt_iff.1 (backupPrelude_runs_fair hst hwf0 hlock)]
  refine List.mem_append_right _ ?_
  simp only [List.mem_reverse, List.mem_map]
  exact ⟨_, herrs, rfl⟩

end Conserve.Crash
