import ConserveModel.Proofs.StitchRule
/-
Counting the storage operations a listing issues: bounds on `Prog.evalOps`, the number of
operations on the path a program takes when nothing interferes (`Quiet.run_eval` ties it to the
trace).
-/
namespace Conserve
open Prog

theorem evalOps_unwrapOr_isFile (e : Bool) (s : Store) (k : Key) (d : Bool) :
    (unwrapOr (isFile k) d).evalOps e s = 1 := by
  have h : (isFile k).eval e s = (toOutcome (.ok (isFileP s k)), s, []) := eval_isFile e s k
  have h1 : (isFile k).evalOps e s = 1 := by
    simp only [isFile, perform, Prog.bind_def, Prog.op_bind, Prog.ret_bind, evalOps_op]
    split <;> rfl
  simp only [unwrapOr, Prog.bind_def, evalOps_bind, evalOps_attempt, eval_attempt_toOutcome e s h, h1]
  rfl

theorem evalOps_bandOpen (e : Bool) (s : Store) (b : Nat) : (bandOpen b).evalOps e s = 1 := by
  simp only [bandOpen, perform, Prog.bind_def, Prog.op_bind, Prog.ret_bind, evalOps_op]
  split <;> try rfl
  split <;> try rfl
  split <;> rfl

theorem evalOps_readHunk (e : Bool) (s : Store) (b n : Nat) : (readHunk b n).evalOps e s = 1 := by
  simp only [readHunk, perform, Prog.bind_def, Prog.op_bind, Prog.ret_bind, evalOps_op]
  split <;> try rfl
  split <;> rfl

theorem evalOps_hunksAvailable_go (e : Bool) (s : Store) (b : Nat) (ds acc : List Nat) :
    (hunksAvailable.go b ds acc).evalOps e s ≤ ds.length := by
  induction ds generalizing acc with
  | nil => exact Nat.le_refl _
  | cons d ds ih =>
    simp only [hunksAvailable.go, perform, Prog.bind_def, Prog.op_bind, Prog.ret_bind, evalOps_op, applyOp_listDir,
      List.length_cons]
    split
    · exact Nat.succ_le_succ (ih _)
    · exact Nat.succ_le_succ (Nat.zero_le _)
    · exact Nat.succ_le_succ (Nat.zero_le _)

theorem evalOps_hunkLengths_go (e : Bool) (s : Store) (b : Nat) (ds : List Nat) (acc : List (Nat × Bool)) :
    (hunkLengths.go b ds acc).evalOps e s ≤ ds.length := by
  induction ds generalizing acc with
  | nil => exact Nat.le_refl _
  | cons d ds ih =>
    simp only [hunkLengths.go, perform, Prog.bind_def, Prog.op_bind, Prog.ret_bind, evalOps_op, applyOp_listDir,
      List.length_cons]
    split
    · exact Nat.succ_le_succ (ih _)
    · exact Nat.succ_le_succ (Nat.zero_le _)
    · exact Nat.succ_le_succ (Nat.zero_le _)

theorem evalOps_readHunks (e : Bool) (s : Store) (b : Nat) (ns : List Nat) (after last : Option Str) :
    (readHunks b ns after last).evalOps e s ≤ ns.length := by
  induction ns generalizing after last with
  | nil => exact Nat.le_refl _
  | cons n rest ih =>
    have hb : ∀ (pre : List IndexEntry) (a l : Option Str),
        ((readHunks b rest a l).bind fun r => pure (pre ++ r.1, r.2)).evalOps e s ≤ rest.length := by
      intro pre a l
      rw [evalOps_bind, eval_readHunks]
      exact ih a l
    rw [readHunks_cons, evalOps_bind, evalOps_attempt, evalOps_readHunk,
      eval_attempt_toOutcome e s (eval_readHunk e s b n), List.length_cons, Nat.add_comm]
    apply Nat.succ_le_succ
    cases readHunkP s b n with
    | error e => exact ih after last
    | ok o =>
      cases o with
      | none => exact Nat.zero_le _
      | some es =>
        cases after with
        | none =>
          simp only
          split
          · exact ih none last
          · exact hb es none _
        | some a =>
          simp only
          split
          · exact ih (some a) last
          · split
            · exact hb es none _
            · exact hb _ (some a) _

theorem length_sortNat (xs : List Nat) : (sortNat xs).length = xs.length :=
  (sortNat_perm xs).length_eq

theorem hunkSubdirsP_length (s : Store) (b : Nat) : (hunkSubdirsP s b).length ≤ s.length := by
  rw [hunkSubdirsP_eq, hunkDirsOf, length_sortNat]; exact List.length_filterMap_le _ _

theorem hunkNumsOf_length (s : Store) (b : Nat) : (hunkNumsOf s b).length ≤ s.length := by
  rw [hunkNumsOf_eq, length_sortNat]; exact List.length_filterMap_le _ _

theorem evalOps_hunksAvailable (e : Bool) (s : Store) (b : Nat) : (hunksAvailable b).evalOps e s ≤ 1 + s.length := by
  simp only [hunksAvailable, perform, Prog.bind_def, Prog.op_bind, Prog.ret_bind, evalOps_op, applyOp_listDir, listResp]
  rw [Nat.add_comm 1]
  apply Nat.succ_le_succ
  cases s.get? (.indexDir b) with
  | none => exact Nat.zero_le _
  | some v =>
    cases v with
    | dir => exact Nat.le_trans (evalOps_hunksAvailable_go e s b _ []) (hunkSubdirsP_length s b)
    | _ => exact Nat.zero_le _

theorem evalOps_hunkLengths (e : Bool) (s : Store) (b : Nat) : (hunkLengths b).evalOps e s ≤ 1 + s.length := by
  simp only [hunkLengths, perform, Prog.bind_def, Prog.op_bind, Prog.ret_bind, evalOps_op, applyOp_listDir, listResp]
  rw [Nat.add_comm 1]
  apply Nat.succ_le_succ
  cases s.get? (.indexDir b) with
  | none => exact Nat.zero_le _
  | some v =>
    cases v with
    | dir => exact Nat.le_trans (evalOps_hunkLengths_go e s b _ []) (hunkSubdirsP_length s b)
    | _ => exact Nat.zero_le _

theorem evalOps_checkIndexHunks (e : Bool) (s : Store) (b : Nat) : (checkIndexHunks b).evalOps e s ≤ 2 + s.length := by
  have ha := evalOps_hunkLengths e s b
  rw [checkIndexHunks_eq, evalOps_bind, eval_hunkLengths]
  cases hunkLengthsP s b with
  | error e => exact Nat.le_trans ha (by omega)
  | ok hunks =>
    have : ∀ (s' : Store) (r : Resp),
        (if countMismatch (tailOfResp r).2 hunks.length then (.fail .invalidMetadata : Prog Unit)
         else if badEmptyHunk (tailOfResp r).1 hunks then .fail .invalidMetadata
         else .ret ()).evalOps e s' = 0 := by
      intro s' r
      split
      · rfl
      · split <;> rfl
    simp only [toOutcome]
    split
    · exact Nat.le_trans ha (by omega)
    · rw [evalOps_op, this]
      omega

/-- Reading one version: head, directory listings (twice: once for the iterator, once for the
check), the tail, and the hunks. -/
theorem evalOps_readBand (e : Bool) {s : Store} (wf : ArchWF s) (b : Nat) (last : Option Str) :
    (readBand b last).evalOps e s ≤ 4 + 3 * s.length := by
  simp only [readBand, Prog.bind_def, evalOps_bind, evalOps_attempt, evalOps_bandOpen,
    eval_attempt_toOutcome e s (eval_bandOpen e s b)]
  cases bandOpenP s b with
  | error e => exact Nat.le_trans (by decide : 1 + 0 ≤ 4) (Nat.le_add_right 4 _)
  | ok u =>
    have ha := evalOps_hunksAvailable e s b
    simp only [evalOps_bind, evalOps_attempt, eval_attempt_toOutcome e s (eval_hunksAvailable e s b)]
    cases hh : hunksAvailableP s b with
    | error e =>
      calc _ ≤ 1 + (1 + s.length + 0) := Nat.add_le_add_left (Nat.add_le_add ha (Nat.le_refl 0)) 1
        _ ≤ 4 + 3 * s.length := by omega
    | ok hs =>
      have hc := evalOps_checkIndexHunks e s b
      have hr := evalOps_readHunks e s b hs last last
      have hl : hs.length ≤ s.length := by
        by_cases hi : s.get? (.indexDir b) = some .dir
        · rw [hunksAvailableP_eq wf hi] at hh
          cases hh
          exact hunkNumsOf_length s b
        · rw [hunksAvailableP_error hi] at hh
          cases hh
      have hsum : 1 + ((hunksAvailable b).evalOps e s +
          ((checkIndexHunks b).evalOps e s + (readHunks b hs last last).evalOps e s)) ≤ 4 + 3 * s.length :=
        calc _ ≤ 1 + (1 + s.length + (2 + s.length + s.length)) :=
              Nat.add_le_add_left (Nat.add_le_add ha (Nat.add_le_add hc (Nat.le_trans hr hl))) 1
          _ = 4 + 3 * s.length := by omega
      simp only [evalOps_bind, evalOps_attempt, eval_attempt_toOutcome e s (eval_checkIndexHunks e s b)]
      cases checkIndexHunksP s b <;> exact hsum

/-- Consulting one more version costs at most `K` operations more: `c + 2 ≤ K` for reading it and
the two tests around it. -/
theorem ops_consult {c d n K : Nat} (hc : c + 2 ≤ K) (hd : d ≤ n) : 1 + (c + (1 + d)) ≤ n + K := by
  omega

/-- Passing over an id without head costs two tests. -/
theorem ops_pass {d n K : Nat} (hK : 2 ≤ K) (hd : d ≤ n) : 1 + (1 + d) ≤ n + K := by
  omega

theorem evalOps_stitchDown (e : Bool) {s : Store} (wf : ArchWF s) (b : Nat) (last : Option Str) :
    (stitchDown b last).evalOps e s ≤ b * (6 + 3 * s.length) := by
  induction b generalizing last with
  | zero => exact Nat.zero_le _
  | succ b ih =>
    have hb : (readBand b last).evalOps e s + 2 ≤ 6 + 3 * s.length := by
      have := evalOps_readBand e wf b last
      omega
    simp only [stitchDown, bandExists, bandIsClosed, Prog.bind_def]
    rw [evalOps_bind, evalOps_unwrapOr_isFile, eval_unwrapOr_isFile, Nat.succ_mul]
    cases isFileP s (.bandHead b) with
    | true =>
      simp only [if_true, evalOps_bind, eval_readBand, evalOps_unwrapOr_isFile, eval_unwrapOr_isFile]
      cases isFileP s (.bandTail b) with
      | true => exact ops_consult hb (Nat.zero_le _)
      | false =>
        simp only [Bool.false_eq_true, if_false, evalOps_bind, eval_stitchDown]
        exact ops_consult hb (ih _)
    | false =>
      simp only [Bool.false_eq_true, if_false, evalOps_bind, evalOps_unwrapOr_isFile,
        eval_unwrapOr_isFile]
      cases isFileP s (.hunk b 0) with
      | true => exact ops_pass (by omega) (ih last)
      | false => exact ops_pass (by omega) (ih last)

theorem evalOps_stitchAll (e : Bool) {s : Store} (wf : ArchWF s) (n : Nat) :
    (stitchAll n).evalOps e s ≤ (n + 1) * (6 + 3 * s.length) := by
  have hb : (readBand n none).evalOps e s + 2 ≤ 6 + 3 * s.length := by
    have := evalOps_readBand e wf n none
    omega
  simp only [stitchAll, bandIsClosed, Prog.bind_def, evalOps_bind, eval_readBand,
    evalOps_unwrapOr_isFile, eval_unwrapOr_isFile]
  rw [Nat.succ_mul]
  refine Nat.le_trans (Nat.le_add_left _ 1) ?_
  cases isFileP s (.bandTail n) with
  | true => exact ops_consult hb (Nat.zero_le _)
  | false =>
    simp only [Bool.false_eq_true, if_false, evalOps_bind, eval_stitchDown]
    exact ops_consult hb (evalOps_stitchDown e wf n _)

end Conserve
