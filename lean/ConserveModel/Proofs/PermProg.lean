import ConserveModel.Proofs.PermStore
/-
Helper lemmas for C17: running programs in worlds that differ only in the order of the
association list.

`WEquiv w w'`: same faults, crash point, step count, events, liveness; equivalent stores; traces
that agree operation by operation, with responses equal up to the order of listings.
`ProgEquiv R p q`: `p` and `q` issue the same operations as long as they are given responses that
agree up to the order of listings, and end in `R`-related results.  `run_equiv` is the
fundamental lemma: equivalent programs in equivalent worlds end in related outcomes and
equivalent worlds.  A program that never lists a directory is equivalent to itself
(`ProgEquiv.of_allOps`).
-/
namespace Conserve
open Prog

/-- Two trace events: the same operation; responses equal up to the order of a listing, and equal
outright for every operation that is not a `listDir`. -/
def TraceEv.Equiv (a b : TraceEv) : Prop :=
  a.op = b.op ∧ Resp.Equiv a.resp b.resp ∧ (a.op.verb ≠ .listDir → a.resp = b.resp)

/-- Traces that agree event by event. -/
inductive TraceEquiv : List TraceEv → List TraceEv → Prop
  | nil : TraceEquiv [] []
  | cons {a b : TraceEv} {t t' : List TraceEv} : TraceEv.Equiv a b → TraceEquiv t t' →
      TraceEquiv (a :: t) (b :: t')

structure WEquiv (w w' : World) : Prop where
  store : StoreEquiv w.store w'.store
  nd₁ : Store.NoDupKeys w.store
  nd₂ : Store.NoDupKeys w'.store
  ecn : w.enforceCreateNew = w'.enforceCreateNew
  faults : w.faults = w'.faults
  crashAt : w.crashAt = w'.crashAt
  steps : w.steps = w'.steps
  events : w.events = w'.events
  dead : w.dead = w'.dead
  trace : TraceEquiv w.trace w'.trace

theorem TraceEquiv.filter_length {t t' : List TraceEv} (h : TraceEquiv t t') (p : Op → Bool) :
    (t.filter fun ev => p ev.op).length = (t'.filter fun ev => p ev.op).length := by
  induction h with
  | nil => rfl
  | cons hab _ ih =>
    simp only [List.filter_cons, hab.1]
    split <;> simp [ih]

theorem WEquiv.faultFor {w w' : World} (h : WEquiv w w') (o : Op) : w.faultFor o = w'.faultFor o := by
  unfold World.faultFor World.occurrences
  rw [h.faults, h.trace.filter_length (fun op => op.verb == o.verb && op.key == o.key)]

theorem TraceEquiv.ops_eq {t t' : List TraceEv} (h : TraceEquiv t t') : t.map (·.op) = t'.map (·.op) := by
  induction h with
  | nil => rfl
  | cons hab _ ih => simp [hab.1, ih]

theorem TraceEquiv.length_eq {t t' : List TraceEv} (h : TraceEquiv t t') : t.length = t'.length := by
  induction h with
  | nil => rfl
  | cons _ _ ih => simp [ih]

theorem TraceEquiv.filter_eq {t t' : List TraceEv} (h : TraceEquiv t t') (p : Op → Bool)
    (hp : ∀ o, p o = true → o.verb ≠ .listDir) :
    t.filter (fun ev => p ev.op) = t'.filter (fun ev => p ev.op) := by
  induction h with
  | nil => rfl
  | @cons a b _ _ hab _ ih =>
    simp only [List.filter_cons, ← hab.1]
    split
    · rename_i hpa
      have : a = b := by
        obtain ⟨ao, ar⟩ := a
        obtain ⟨bo, br⟩ := b
        obtain ⟨h1, _, h3⟩ := hab
        simp only at h1 h3 hpa
        subst h1
        rw [h3 (hp _ hpa)]
      rw [this, ih]
    · exact ih

theorem TraceEquiv.mutating_eq {t t' : List TraceEv} (h : TraceEquiv t t') :
    t.filter (fun ev => ev.op.isMutating) = t'.filter (fun ev => ev.op.isMutating) :=
  h.filter_eq Op.isMutating (by intro o; cases o <;> simp [Op.isMutating, Op.verb])

theorem WEquiv.clean {s t : Store} (h : StoreEquiv s t) (hs : Store.NoDupKeys s) (ht : Store.NoDupKeys t) :
    WEquiv (World.clean s) (World.clean t) :=
  ⟨h, hs, ht, rfl, rfl, rfl, rfl, rfl, rfl, .nil⟩

/-- What `exec_equiv` and `run_equiv` say about a response pair for operation `o`. -/
def RespRel (o : Op) (r r' : Resp) : Prop :=
  Resp.Equiv r r' ∧ (o.verb ≠ .listDir → r = r') ∧ (∀ xs, r = .listing xs → GoodListing o.key xs)

theorem RespRel.rfl' (o : Op) (r : Resp)
    (hg : ∀ xs, r = .listing xs → GoodListing o.key xs := by intro _ h; cases h) : RespRel o r r :=
  ⟨.refl _, fun _ => rfl, hg⟩

theorem RespRel.elim {o : Op} {r r' : Resp} (h : RespRel o r r') {motive : Resp → Resp → Prop}
    (listing : ∀ xs ys, xs.Perm ys → GoodListing o.key xs → motive (.listing xs) (.listing ys))
    (same : ∀ r, (∀ xs, r ≠ .listing xs) → motive r r) : motive r r' := by
  obtain ⟨he, -, hg⟩ := h
  cases he with
  | listing hp => exact listing _ _ hp (hg _ rfl)
  | refl =>
    cases r with
    | listing xs => exact listing _ _ (.refl _) (hg _ rfl)
    | _ => exact same _ (fun _ h => nomatch h)

theorem applyOp_rel {e e' : Bool} (he : e = e') {s t : Store} (h : StoreEquiv s t) (hs : Store.NoDupKeys s)
    (ht : Store.NoDupKeys t) (o : Op) :
    RespRel o (applyOp e s o).2 (applyOp e' t o).2 ∧ StoreEquiv (applyOp e s o).1 (applyOp e' t o).1 ∧
    Store.NoDupKeys (applyOp e s o).1 ∧ Store.NoDupKeys (applyOp e' t o).1 := by
  subst he
  have h' := applyOp_equiv e h hs ht o
  exact ⟨⟨h'.2.1, h'.2.2, fun _ hx => applyOp_listing_good e hs o hx⟩, h'.1, applyOp_noDupKeys e hs o,
    applyOp_noDupKeys e ht o⟩

/-- An operation that is not a listing makes the same micro-steps in both worlds, and a listing makes none. -/
theorem RespRel.microSteps {o : Op} {r r' : Resp} (h : RespRel o r r') : o.microSteps r = o.microSteps r' := by
  cases h.1 with
  | listing => cases o <;> rfl
  | refl => rfl

theorem WEquiv.crashesAt {w w' : World} (h : WEquiv w w') (n : Nat) : w.crashesAt n = w'.crashesAt n := by
  unfold World.crashesAt; rw [h.crashAt]

theorem WEquiv.update {w w' : World} (h : WEquiv w w') {a b : Store} {n n' : Nat} {d d' : Bool}
    {t t' : List TraceEv} (hs : StoreEquiv a b) (h1 : Store.NoDupKeys a) (h2 : Store.NoDupKeys b)
    (hn : n = n') (hd : d = d') (ht : TraceEquiv t t') :
    WEquiv { w with store := a, steps := n, dead := d, trace := t }
      { w' with store := b, steps := n', dead := d', trace := t' } :=
  ⟨hs, h1, h2, h.ecn, h.faults, h.crashAt, hn, h.events, hd, ht⟩

/-- **One step**: executing the same operation in equivalent worlds (any faults, any crash point,
dead or alive) gives equivalent worlds and responses equal up to the order of a listing.  The two
worlds take the same one of the five ways `exec` can go.  `World.exec_kinds` lists these ways but
not when each is taken, so it cannot tell that the second world follows the first: the proof uses
the equations `World.exec_of_*` and `World.exec_eq_applied` (Proofs/FrameStep.lean), each under its condition, and
the conditions are the same in both worlds. -/
theorem exec_equiv {w w' : World} (h : WEquiv w w') (o : Op) :
    WEquiv (w.exec o).1 (w'.exec o).1 ∧ RespRel o (w.exec o).2 (w'.exec o).2 := by
  have push : ∀ {r r' : Resp}, RespRel o r r' → TraceEquiv (⟨o, r⟩ :: w.trace) (⟨o, r'⟩ :: w'.trace) :=
    fun hr => .cons ⟨rfl, hr.1, hr.2.1⟩ h.trace
  by_cases hd : w.dead = true
  · rw [World.exec_of_dead o hd, World.exec_of_dead o (h.dead ▸ hd)]
    exact ⟨h, RespRel.rfl' _ _⟩
  have hd : w.dead = false := by simpa using hd
  have hd' : w'.dead = false := h.dead ▸ hd
  cases hf : w.faultFor o with
  | some e =>
    rw [World.exec_of_fault hd hf, World.exec_of_fault hd' (h.faultFor o ▸ hf)]
    exact ⟨h.update h.store h.nd₁ h.nd₂ h.steps h.dead (push (RespRel.rfl' _ _)), RespRel.rfl' _ _⟩
  | none =>
    have hf' : w'.faultFor o = none := h.faultFor o ▸ hf
    obtain ⟨hr, hs, hn1, hn2⟩ := applyOp_rel h.ecn h.store h.nd₁ h.nd₂ o
    by_cases h0 : o.isMutating = true → w.crashesAt w.steps = false
    · have h0' : o.isMutating = true → w'.crashesAt w'.steps = false := by
        rw [← h.crashesAt, ← h.steps]; exact h0
      by_cases h1 : o.microSteps (applyOp w.enforceCreateNew w.store o).2 = 2 → w.crashesAt (w.steps + 1) = false
      · rw [World.exec_eq_applied hd hf h0 h1,
          World.exec_eq_applied hd' hf' h0' (by rw [← hr.microSteps, ← h.crashesAt, ← h.steps]; exact h1)]
        exact ⟨h.update hs hn1 hn2 (by rw [hr.microSteps, h.steps]) h.dead (push hr), hr⟩
      · have ⟨h2, hc⟩ : o.microSteps (applyOp w.enforceCreateNew w.store o).2 = 2 ∧
            w.crashesAt (w.steps + 1) = true := by simpa using h1
        cases o with
        | write k v m =>
          have hu : (applyOp w.enforceCreateNew w.store (.write k v m)).2 = .unit := by
            rcases applyOp_write_store w.enforceCreateNew w.store k v m with ⟨hu, _⟩ | ⟨⟨e, he⟩, _⟩
            · exact hu
            · rw [he] at h2; cases h2
          rw [World.exec_of_crash_mid hd hf (h0 rfl) hu hc, World.exec_of_crash_mid hd' hf' (h0' rfl)
            (hr.2.1 nofun ▸ hu) (by rw [← h.crashesAt, ← h.steps]; exact hc)]
          exact ⟨h.update (h.store.put _ _) (h.nd₁.put _ _) (h.nd₂.put _ _) (by rw [h.steps]) rfl h.trace,
            RespRel.rfl' _ _⟩
        | _ =>
          unfold Op.microSteps at h2
          split at h2 <;> cases h2
    · have ⟨hm, hc⟩ : o.isMutating = true ∧ w.crashesAt w.steps = true := by simpa using h0
      rw [World.exec_of_crash hd hf hm hc,
        World.exec_of_crash hd' hf' hm (by rw [← h.crashesAt, ← h.steps]; exact hc)]
      exact ⟨h.update h.store h.nd₁ h.nd₂ h.steps rfl h.trace, RespRel.rfl' _ _⟩

/-- `p` and `q` do the same thing whenever the storage answers them the same up to the order of
listings, and return `R`-related results. -/
inductive ProgEquiv {α β : Type} (R : α → β → Prop) : Prog α → Prog β → Prop
  | ret {a : α} {b : β} : R a b → ProgEquiv R (.ret a) (.ret b)
  | fail (e : Err) : ProgEquiv R (.fail e) (.fail e)
  | panic (s : String) : ProgEquiv R (.panic s) (.panic s)
  | emit (ev : Event) {k : Prog α} {k' : Prog β} : ProgEquiv R k k' → ProgEquiv R (.emit ev k) (.emit ev k')
  | op (o : Op) {k : Resp → Prog α} {k' : Resp → Prog β} :
      (∀ r r', RespRel o r r' → ProgEquiv R (k r) (k' r')) → ProgEquiv R (.op o k) (.op o k')

/-- Outcomes related through `R` on results; errors and panics equal. -/
inductive Outcome.Rel {α β : Type} (R : α → β → Prop) : Outcome α → Outcome β → Prop
  | ok {a : α} {b : β} : R a b → Outcome.Rel R (.ok a) (.ok b)
  | err (e : Err) : Outcome.Rel R (.err e) (.err e)
  | panic (s : String) : Outcome.Rel R (.panic s) (.panic s)

theorem Outcome.Rel.eq {α : Type} {a b : Outcome α} (h : Outcome.Rel Eq a b) : a = b := by
  cases h with
  | ok h => rw [h]
  | err => rfl
  | panic => rfl

/-- **Fundamental lemma**: equivalent programs run in equivalent worlds end with related outcomes
in equivalent worlds. -/
theorem run_equiv {α β : Type} {R : α → β → Prop} {p : Prog α} {q : Prog β} (hpq : ProgEquiv R p q)
    {w w' : World} (hw : WEquiv w w') :
    Outcome.Rel R (p.run w).1 (q.run w').1 ∧ WEquiv (p.run w).2 (q.run w').2 := by
  induction hpq generalizing w w' with
  | ret h => exact ⟨.ok h, hw⟩
  | fail e => exact ⟨.err e, hw⟩
  | panic s => exact ⟨.panic s, hw⟩
  | emit ev _ ih =>
    simp only [Prog.run_emit]
    apply ih
    exact { hw with events := by simp [hw.events] }
  | op o _ ih =>
    simp only [Prog.run_op]
    have := exec_equiv hw o
    exact ih _ _ this.2 this.1

namespace ProgEquiv
variable {α β γ δ : Type}

theorem mono {R S : α → β → Prop} {p : Prog α} {q : Prog β} (h : ProgEquiv R p q)
    (hRS : ∀ a b, R a b → S a b) : ProgEquiv S p q := by
  induction h with
  | ret h => exact .ret (hRS _ _ h)
  | fail e => exact .fail e
  | panic s => exact .panic s
  | emit ev _ ih => exact .emit ev ih
  | op o _ ih => exact .op o ih

theorem bind {R : α → β → Prop} {S : γ → δ → Prop} {p : Prog α} {q : Prog β}
    {f : α → Prog γ} {g : β → Prog δ} (h : ProgEquiv R p q)
    (hfg : ∀ a b, R a b → ProgEquiv S (f a) (g b)) : ProgEquiv S (p >>= f) (q >>= g) := by
  show ProgEquiv S (p.bind f) (q.bind g)
  induction h with
  | ret h => exact hfg _ _ h
  | fail e => exact .fail e
  | panic s => exact .panic s
  | emit ev _ ih => exact .emit ev ih
  | op o _ ih => exact .op o ih

theorem ite {R : α → β → Prop} {c : Prop} [Decidable c] {p p' : Prog α} {q q' : Prog β}
    (ht : ProgEquiv R p q) (he : ProgEquiv R p' q') :
    ProgEquiv R (if c then p else p') (if c then q else q') := by
  split
  · exact ht
  · exact he

theorem bindEq {S : γ → δ → Prop} {p q : Prog α} {f : α → Prog γ} {g : α → Prog δ}
    (h : ProgEquiv Eq p q) (hfg : ∀ a, ProgEquiv S (f a) (g a)) : ProgEquiv S (p >>= f) (q >>= g) :=
  bind h (fun a _ hab => hab ▸ hfg a)

/-- Relation on `Except Err _` values produced by `attempt`. -/
inductive ExceptRel (R : α → β → Prop) : Except Err α → Except Err β → Prop
  | ok {a : α} {b : β} : R a b → ExceptRel R (.ok a) (.ok b)
  | error (e : Err) : ExceptRel R (.error e) (.error e)

theorem ExceptRel.eq {a b : Except Err α} (h : ExceptRel Eq a b) : a = b := by
  cases h with
  | ok h => rw [h]
  | error => rfl

theorem attempt {R : α → β → Prop} {p : Prog α} {q : Prog β} (h : ProgEquiv R p q) :
    ProgEquiv (ExceptRel R) p.attempt q.attempt := by
  induction h with
  | ret h => exact .ret (.ok h)
  | fail e => exact .ret (.error e)
  | panic s => exact .panic s
  | emit ev _ ih => exact .emit ev ih
  | op o _ ih => exact .op o ih

theorem attemptEq {p q : Prog α} (h : ProgEquiv Eq p q) : ProgEquiv Eq p.attempt q.attempt :=
  (attempt h).mono fun _ _ h => h.eq

theorem attemptAll {R : α → β → Prop} {p : Prog α} {q : Prog β} (h : ProgEquiv R p q) :
    ProgEquiv (Outcome.Rel R) p.attemptAll q.attemptAll := by
  induction h with
  | ret h => exact .ret (.ok h)
  | fail e => exact .ret (.err e)
  | panic s => exact .ret (.panic s)
  | emit ev _ ih => exact .emit ev ih
  | op o _ ih => exact .op o ih

theorem attemptAllEq {p q : Prog α} (h : ProgEquiv Eq p q) : ProgEquiv Eq p.attemptAll q.attemptAll :=
  (attemptAll h).mono fun _ _ h => h.eq

theorem afterOp {S : γ → δ → Prop} (o : Op) {f : Resp → Prog γ} {g : Resp → Prog δ}
    (hfg : ∀ r, ProgEquiv S (f r) (g r)) (h : o.verb ≠ .listDir := by nofun) :
    ProgEquiv S (Prog.perform o >>= f) (Prog.perform o >>= g) :=
  .op o fun r _ hr => hr.2.1 h ▸ hfg r

/-- After a listing: either two listings of the same entries (the first one, hence both, a real
listing of `k`), or one and the same response, which is not a listing. -/
theorem afterListDir {S : γ → δ → Prop} (k : Key) {f : Resp → Prog γ} {g : Resp → Prog δ}
    (hl : ∀ xs ys, xs.Perm ys → GoodListing k xs → ProgEquiv S (f (.listing xs)) (g (.listing ys)))
    (hs : ∀ r, (∀ xs, r ≠ .listing xs) → ProgEquiv S (f r) (g r)) :
    ProgEquiv S (Prog.perform (.listDir k) >>= f) (Prog.perform (.listDir k) >>= g) :=
  .op _ fun _ _ h => h.elim (motive := fun r r' => ProgEquiv S (f r) (g r')) hl hs

theorem of_allOps {p : Prog α} (h : Prog.AllOps (fun o => o.verb ≠ .listDir) p) : ProgEquiv Eq p p := by
  induction h with
  | ret a => exact .ret rfl
  | fail e => exact .fail e
  | panic s => exact .panic s
  | emit ev _ ih => exact .emit ev ih
  | op ho _ ih => exact .op _ fun r _ hr => hr.2.1 ho ▸ ih r

theorem pure {R : α → β → Prop} {a : α} {b : β} (h : R a b) :
    ProgEquiv R (Pure.pure a : Prog α) (Pure.pure b : Prog β) := .ret h

end ProgEquiv

end Conserve
