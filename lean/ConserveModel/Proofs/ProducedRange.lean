import ConserveModel.Proofs.ConformsBackup
import ConserveModel.Proofs.ConformsDelete
import ConserveModel.ValidateSpec
import ConserveModel.Proofs.ExactStore
/-
C09 (first sentence), the range half of the writer invariant: `entriesInRange` — every stored
index entry has a representable time and no address overflows `u64` — and `BlocksSmall` — every
block is shorter than 2^64 bytes — are kept by every operation that is neither the write of an index
hunk with an out-of-range entry nor of a block of 2^64 bytes or more (`exec_irs`, in EVERY world),
and `backup` only issues such operations when the source's times are representable and its file
sizes add up to less than 2^64 (Proofs/ProducedBackup.lean).  The logic in use is `HSat` (a store
invariant with the operations that keep it, `StepInv`; pure postcondition on the returned value);
`RSat` is the same triple tied to a `Spec`, which nothing below uses.  No property statements here.
-/
namespace Conserve.Rng
open Conserve Conserve.Inv Conserve.Conf Prog

/-- 2^64. -/
abbrev u64 : Nat := 18446744073709551616

theorem ir_iff (s : Store) :
    entriesInRange s = true ↔ ∀ k es, (k, FileVal.hunk es) ∈ s → ∀ e ∈ es, entryInRange e = true := by
  unfold entriesInRange
  rw [List.all_eq_true]
  constructor
  · intro h k es hm e he
    have := h _ hm
    simp only [List.all_eq_true] at this
    exact this e he
  · intro h kv hkv
    obtain ⟨k, v⟩ := kv
    cases v with
    | hunk es =>
      simp only [List.all_eq_true]
      exact h k es hkv
    | _ => rfl

theorem ir_put {s : Store} {k : Key} {v : FileVal} (h : entriesInRange s = true)
    (hv : ∀ es, v = .hunk es → ∀ e ∈ es, entryInRange e = true) : entriesInRange (s.put k v) = true := by
  rw [ir_iff] at h ⊢
  intro k' es hm e he
  simp only [Store.put, Store.erase, List.mem_append, List.mem_filter, List.mem_singleton] at hm
  rcases hm with ⟨hm, _⟩ | hm
  · exact h k' es hm e he
  · cases hm
    exact hv es rfl e he

theorem ir_filter {s : Store} (p : Key × FileVal → Bool) (h : entriesInRange s = true) :
    entriesInRange (s.filter p) = true := by
  rw [ir_iff] at h ⊢
  intro k es hm e he
  exact h k es (List.mem_filter.mp hm).1 e he

theorem ir_erase {s : Store} (k : Key) (h : entriesInRange s = true) : entriesInRange (s.erase k) = true :=
  ir_filter _ h

theorem ir_eraseTree {s : Store} (k : Key) (h : entriesInRange s = true) :
    entriesInRange (s.eraseTree k) = true := ir_filter _ h

/-- Hunk writes carry in-range entries. -/
def RangeOp (o : Op) : Prop := ∀ k es m, o = .write k (.hunk es) m → ∀ e ∈ es, entryInRange e = true

/-- Block writes carry fewer than 2^64 bytes. -/
def SmallOp (o : Op) : Prop := ∀ h c m, o = .write (.block h) (.blockData c) m → c.length < u64

/-- The operations that keep `entriesInRange` and `BlocksSmall`. -/
@[reducible] def GoodOp (o : Op) : Prop := RangeOp o ∧ SmallOp o

/-- Neither an index hunk nor block data is written. -/
@[reducible] def NoDataWrite (o : Op) : Prop :=
  (∀ k es m, o ≠ .write k (.hunk es) m) ∧ ∀ k c m, o ≠ .write k (.blockData c) m

theorem NoDataWrite.goodOp {o : Op} (h : NoDataWrite o) : GoodOp o :=
  ⟨fun k es m ho => absurd ho (h.1 k es m), fun _ c m ho => absurd ho (h.2 _ c m)⟩

theorem exec_ir (w : World) {o : Op} (ho : RangeOp o) (h : entriesInRange w.store = true) :
    entriesInRange (w.exec o).1.store = true :=
  w.exec_store_inv (I := fun s => entriesInRange s = true) o
    (fun k v hp => ir_put h (by rintro es rfl; cases hp; exact ho _ _ _ rfl))
    (fun k _ => ir_erase k h) (fun k _ => ir_eraseTree k h) h

theorem exec_small (w : World) {o : Op} (ho : SmallOp o) (h : Exact.BlocksSmall w.store) :
    Exact.BlocksSmall (w.exec o).1.store := by
  intro hh c hg
  exact w.exec_pointwise (o := o) (φ := fun k v => ∀ hh c, k = .block hh → v = .blockData c → c.length < u64)
    (by rintro k v hp hh c rfl rfl; cases hp; exact ho _ _ _ rfl)
    (fun _ _ hg hh c hk hv => h hh c (by rw [← hk, ← hv]; exact hg)) _ _ hg hh c rfl rfl

/-- The store invariant: stored index entries in range, blocks shorter than 2^64 bytes. -/
@[reducible] def IRS (s : Store) : Prop := entriesInRange s = true ∧ Exact.BlocksSmall s

theorem exec_irs (w : World) {o : Op} (ho : GoodOp o) (h : IRS w.store) : IRS (w.exec o).1.store :=
  ⟨exec_ir w ho.1 h.1, exec_small w ho.2 h.2⟩

theorem run_irs {α : Type} {p : Prog α} (hp : Prog.AllOps GoodOp p) (w : World) (h : IRS w.store) :
    IRS (p.run w).2.store :=
  Prog.run_store_inv (fun w' _ ho h' => exec_irs w' ho h') hp w h

/-- What the logic is run with: a store invariant `I` that implies `entriesInRange`, and a class `P`
of operations — containing every `GoodOp` — each of which keeps `I` in every world.  Two instances:
`specIR` (`entriesInRange` alone) and `specIRS` (with `BlocksSmall`). -/
structure Spec where
  I : Store → Prop
  P : Op → Prop
  step : ∀ (w : World) (o : Op), P o → I w.store → I (w.exec o).1.store
  good : ∀ o, GoodOp o → P o
  ir : ∀ s, I s → entriesInRange s = true

def specIR : Spec := ⟨fun s => entriesInRange s = true, RangeOp, fun w _ ho h => exec_ir w ho h, fun _ h => h.1, fun _ h => h⟩

def specIRS : Spec := ⟨IRS, GoodOp, fun w _ ho h => exec_irs w ho h, fun _ h => h, fun _ h => h.1⟩

/-- `RSat S p Q`: from any world whose store satisfies the invariant, `p` ends — whatever the
outcome, whatever faults, wherever the world is killed — in a store that satisfies it; if it returns
`a` then `Q a`. -/
def RSat (S : Spec) {α : Type} (p : Prog α) (Q : α → Prop) : Prop :=
  ∀ w : World, S.I w.store → S.I (p.run w).2.store ∧ ∀ a, (p.run w).1 = .ok a → Q a

namespace RSat
variable {S : Spec}

theorem panic {α : Type} {m : String} {Q : α → Prop} : RSat S (.panic m : Prog α) Q := Prog.InvSat.panic

theorem mono {α : Type} {p : Prog α} {Q Q' : α → Prop} (hp : RSat S p Q) (h : ∀ a, Q a → Q' a) :
    RSat S p Q' := Prog.InvSat.mono hp h

end RSat

theorem goodOp_createDir (k : Key) : GoodOp (.createDir k) :=
  ⟨fun _ _ _ h => (nomatch h), fun _ _ _ h => (nomatch h)⟩

theorem goodOp_writeBlock {h : Str} {d : Str} (hd : d.length < u64) :
    GoodOp (.write (.block h) (.blockData d) .createNew) :=
  ⟨fun _ _ _ ho => (nomatch ho), fun _ _ _ ho => by cases ho; exact hd⟩

/-- What the walk over `backup` needs of a store invariant `I`: a class `P` of operations each of
which keeps it in every world, containing what the block-level functions issue — `mkdir`, and the
write of a block shorter than 2^64 bytes. -/
structure StepInv where
  I : Store → Prop
  P : Op → Prop
  step : ∀ (w : World) (o : Op), P o → I w.store → I (w.exec o).1.store
  dir : ∀ k, P (.createDir k)
  block : ∀ (h d : Str), d.length < u64 → P (.write (.block h) (.blockData d) .createNew)

def Spec.stepInv (S : Spec) : StepInv :=
  ⟨S.I, S.P, S.step, fun k => S.good _ (goodOp_createDir k), fun _ _ hd => S.good _ (goodOp_writeBlock hd)⟩

def smallInv : StepInv where
  I := Exact.BlocksSmall
  P := SmallOp
  step w _ ho h := exec_small w ho h
  dir k := (goodOp_createDir k).2
  block _ _ hd := (goodOp_writeBlock hd).2

theorem StepInv.run (L : StepInv) {α : Type} {p : Prog α} (hp : Prog.AllOps L.P p) (w : World)
    (h : L.I w.store) : L.I (p.run w).2.store := Prog.run_store_inv L.step hp w h

theorem Spec.run (S : Spec) {α : Type} {p : Prog α} (hp : Prog.AllOps S.P p) (w : World) (h : S.I w.store) :
    S.I (p.run w).2.store := S.stepInv.run hp w h

/-- `Prog.InvSat` for the invariant `L.I` of the store; `RSat S` is `HSat S.stepInv`. -/
def HSat (L : StepInv) {α : Type} (p : Prog α) (Q : α → Prop) : Prop :=
  Prog.InvSat (fun w => L.I w.store) p Q

namespace HSat
variable {L : StepInv}

theorem of_ops {α : Type} {p : Prog α} {Q : α → Prop} (hp : Prog.AllOps L.P p) (hr : RetSpec p Q) :
    HSat L p Q := fun w h => ⟨L.run hp w h, fun a ha => hr w a ha⟩

theorem ret {α : Type} {a : α} {Q : α → Prop} (h : Q a) : HSat L (.ret a) Q := Prog.InvSat.ret h

theorem fail {α : Type} {e : Err} {Q : α → Prop} : HSat L (.fail e : Prog α) Q := Prog.InvSat.fail

theorem bind {α β : Type} {p : Prog α} {f : α → Prog β} {Q1 : α → Prop} {Q : β → Prop}
    (hp : HSat L p Q1) (hf : ∀ a, Q1 a → HSat L (f a) Q) : HSat L (p.bind f) Q := Prog.InvSat.bind hp hf

theorem mono {α : Type} {p : Prog α} {Q Q' : α → Prop} (hp : HSat L p Q) (h : ∀ a, Q a → Q' a) :
    HSat L p Q' := Prog.InvSat.mono hp h

end HSat

/-- The modification time is one jiff can represent (as in `C01a.SrcGood.mtimes`). -/
def SrcTimeOK (sf : SrcEntry) : Prop :=
  -377705023201 * nanosPerSec ≤ sf.mtimeNs ∧ sf.mtimeNs < 253402207201 * nanosPerSec

/-- The bytes reading a source entry can return (only files are read). -/
def fileBytes (sf : SrcEntry) : Nat := if sf.kind = .file then sf.content.length else 0

def srcBytes (l : List SrcEntry) : Nat := (l.map fileBytes).sum

/-- What `entriesInRange` needs of a source listing: representable times, and file contents that
add up to less than 2^64 bytes (the combiner's buffer holds the concatenation of small files and
records offsets into it). -/
structure SrcInRange (src : List SrcEntry) : Prop where
  mtimes : ∀ sf ∈ src, SrcTimeOK sf
  bytes : srcBytes src < u64

theorem SrcInRange.tail {sf : SrcEntry} {l : List SrcEntry} (h : SrcInRange (sf :: l)) : SrcInRange l :=
  ⟨fun x hx => h.mtimes x (List.mem_cons_of_mem _ hx), by
    have := h.bytes
    simp only [srcBytes, List.map_cons, List.sum_cons] at this ⊢
    omega⟩

/-- The stored time is representable. -/
def timeOK (e : IndexEntry) : Prop := (entryTimeNs e.mtime e.mtimeNanos).isSome = true

def addrsOK (as : List Addr) : Prop := ∀ a ∈ as, a.start + a.len < u64

theorem entryInRange_iff (e : IndexEntry) : entryInRange e = true ↔ timeOK e ∧ addrsOK e.addrs := by
  simp [entryInRange, timeOK, addrsOK]

theorem timeOK_metaOf (o : BackupOpts) {sf : SrcEntry} (h : SrcTimeOK sf) : timeOK (metaOf o sf) := by
  obtain ⟨sec, nanos, h1, _, h3⟩ := C01.mtime_roundtrip sf.mtimeNs h.1 h.2
  simp only [mtimeToIndex, Option.some.injEq, Prod.mk.injEq] at h1
  unfold timeOK
  show (entryTimeNs (sf.mtimeNs.fdiv nanosPerSec) (sf.mtimeNs.fmod nanosPerSec).toNat).isSome = true
  rw [h1.1, h1.2, h3]; rfl

theorem inRange_metaOf (o : BackupOpts) {sf : SrcEntry} (h : SrcTimeOK sf) :
    entryInRange (metaOf o sf) = true :=
  (entryInRange_iff _).2 ⟨timeOK_metaOf o h, fun _ ha => nomatch ha⟩

theorem inRange_metaOf_addrs (o : BackupOpts) {sf : SrcEntry} (h : SrcTimeOK sf) {as : List Addr}
    (ha : addrsOK as) : entryInRange { metaOf o sf with addrs := as } = true :=
  (entryInRange_iff _).2 ⟨timeOK_metaOf o h, ha⟩

/-- The writer part of the range invariant; `rem` = bytes of the files still to be read. -/
structure WR (rem : Nat) (wr : Writer) : Prop where
  pending : ∀ e ∈ wr.pending, entryInRange e = true
  finished : ∀ e ∈ wr.finished, entryInRange e = true
  queue : ∀ q ∈ wr.queue, timeOK q.2.2 ∧ q.1 + q.2.1 < u64
  buf : wr.buf.length + rem < u64

theorem WR.weaken {rem rem' : Nat} {wr : Writer} (h : WR rem wr) (hle : rem' ≤ rem) : WR rem' wr :=
  ⟨h.pending, h.finished, h.queue, by have := h.buf; omega⟩

theorem WR.setES {rem : Nat} {wr : Writer} (h : WR rem wr) (ex : List Str) (st : Stats) :
    WR rem { wr with exists_ := ex, stats := st } := ⟨h.pending, h.finished, h.queue, h.buf⟩

theorem WR.setStats {rem : Nat} {wr : Writer} (h : WR rem wr) (st : Stats) :
    WR rem { wr with stats := st } := ⟨h.pending, h.finished, h.queue, h.buf⟩

theorem WR.pushPending {rem : Nat} {wr : Writer} (h : WR rem wr) {e : IndexEntry}
    (he : entryInRange e = true) (st : Stats) :
    WR rem { wr with pending := wr.pending ++ [e], stats := st } := by
  refine ⟨?_, h.finished, h.queue, h.buf⟩
  intro e' he'
  simp only [List.mem_append, List.mem_singleton] at he'
  rcases he' with he' | rfl
  · exact h.pending e' he'
  · exact he

/-- The part of `WR` that bounds the blocks written: buffer length plus `rem` stays below 2^64. -/
def WB (rem : Nat) (wr : Writer) : Prop := wr.buf.length + rem < u64

theorem WB.weaken {rem rem' : Nat} {wr : Writer} (h : WB rem wr) (hle : rem' ≤ rem) : WB rem' wr := by
  unfold WB at *; omega

theorem WB.pushQueue {rem : Nat} {wr : Writer} (o : BackupOpts) {sf : SrcEntry}
    (hwr : WB (sf.content.length + rem) wr) :
    WB rem { wr with buf := wr.buf ++ sf.content.take sf.size,
                     queue := wr.queue ++ [(wr.buf.length, (sf.content.take sf.size).length, metaOf o sf)],
                     stats := { wr.stats with smallCombinedFiles := wr.stats.smallCombinedFiles + 1 } } := by
  have hlen : (sf.content.take sf.size).length ≤ sf.content.length := by
    rw [List.length_take]; omega
  unfold WB at *
  simp only [List.length_append]
  omega

theorem WR.pushQueue {rem : Nat} {wr : Writer} (o : BackupOpts) {sf : SrcEntry}
    (hwr : WR (sf.content.length + rem) wr) (ht : SrcTimeOK sf) :
    WR rem { wr with buf := wr.buf ++ sf.content.take sf.size,
                     queue := wr.queue ++ [(wr.buf.length, (sf.content.take sf.size).length, metaOf o sf)],
                     stats := { wr.stats with smallCombinedFiles := wr.stats.smallCombinedFiles + 1 } } := by
  have hb := WB.pushQueue o hwr.buf
  refine ⟨hwr.pending, hwr.finished, ?_, hb⟩
  intro q hq
  simp only [List.mem_append, List.mem_singleton] at hq
  rcases hq with hq | rfl
  · exact hwr.queue q hq
  · exact ⟨timeOK_metaOf o ht, by unfold WB at hb; simp only [List.length_append] at hb; simp only; omega⟩

theorem fileBytes_file {sf : SrcEntry} (hk : sf.kind = .file) : fileBytes sf = sf.content.length := by
  simp [fileBytes, hk]

theorem chunks_le (n : Nat) (data : Str) : ∀ c ∈ chunks n data, c.length ≤ data.length := by
  fun_induction chunks n data with
  | case1 data h => intro c hc; cases hc
  | case2 data h ih =>
    intro c hc
    rcases List.mem_cons.mp hc with rfl | hc
    · rw [List.length_take]; omega
    · have := ih c hc
      rw [List.length_drop] at this
      omega

/-! ### The block level: what the invariants need of the value returned (Proofs/BlockSpec.lean) -/

section
open Conserve.Blk
variable {H : Str → Str} {o : BackupOpts} {sf : SrcEntry} {basis : Option IndexEntry} {wr : Writer}

theorem _root_.Conserve.Blk.Flushed.bufBound {rem : Nat} {x : Writer × Except Err Unit} (h : Flushed H wr x)
    (hwr : WB rem wr) : WB rem x.1 := by
  cases h with
  | idle _ => exact hwr
  | failed e => exact hwr
  | done ex st _ => unfold WB at *; simp only [List.length_nil]; omega

theorem _root_.Conserve.Blk.Pushed.bufBound {rem : Nat} {x : Writer × Except Err Unit} (h : Pushed H o sf wr x)
    (hwr : WB (sf.content.length + rem) wr) : WB rem x.1 := by
  cases h with
  | empty st _ => exact hwr.weaken (by omega)
  | queued => exact hwr.pushQueue o
  | flushed h => exact h.bufBound (hwr.pushQueue o)

theorem _root_.Conserve.Blk.Copied.bufBound {rem : Nat} {x : Writer × Except Err (Option ChangeKind)}
    (h : Copied H o sf basis wr x) (hwr : WB (fileBytes sf + rem) wr) : WB rem x.1 := by
  have hw0 : WB rem wr := hwr.weaken (by omega)
  cases h with
  | small st x r hk hp => exact hp.bufBound (by rw [fileBytes_file hk] at hwr; exact hwr)
  | _ => exact hw0

theorem _root_.Conserve.Blk.Flushed.inRange {rem : Nat} {x : Writer × Except Err Unit} (h : Flushed H wr x)
    (hwr : WR rem wr) : WR rem x.1 := by
  cases h with
  | idle _ => exact hwr
  | failed e => exact hwr
  | done ex st hmem =>
    refine ⟨hwr.pending, ?_, (fun q hq => nomatch hq), (Flushed.done ex st hmem).bufBound hwr.buf⟩
    intro e he
    simp only [List.mem_append, List.mem_map] at he
    rcases he with he | ⟨⟨start, len, e0⟩, hq, rfl⟩
    · exact hwr.finished e he
    · obtain ⟨ht, hle⟩ := hwr.queue _ hq
      exact (entryInRange_iff _).2 ⟨ht, fun a ha => by
        simp only [fillAddr, List.mem_singleton] at ha; subst ha; exact hle⟩

theorem _root_.Conserve.Blk.Pushed.inRange {rem : Nat} {x : Writer × Except Err Unit} (h : Pushed H o sf wr x)
    (hwr : WR (sf.content.length + rem) wr) (ht : SrcTimeOK sf) : WR rem x.1 := by
  cases h with
  | empty st hd =>
    exact ⟨hwr.pending, List.forall_mem_append.2 ⟨hwr.finished, List.forall_mem_singleton.2 (inRange_metaOf o ht)⟩,
      hwr.queue, (Pushed.empty (H := H) st hd).bufBound hwr.buf⟩
  | queued => exact hwr.pushQueue o ht
  | flushed h => exact h.inRange (hwr.pushQueue o ht)

theorem _root_.Conserve.Blk.Copied.inRange {rem : Nat} {x : Writer × Except Err (Option ChangeKind)}
    (h : Copied H o sf basis wr x) (hwr : WR (fileBytes sf + rem) wr) (ht : SrcTimeOK sf)
    (hbasis : ∀ b, basis = some b → addrsOK b.addrs) : WR rem x.1 := by
  have hw0 : WR rem wr := hwr.weaken (by omega)
  cases h with
  | skipped st => exact hw0.setStats st
  | plain st r _ _ => exact hw0.pushPending (inRange_metaOf o ht) st
  | reused b st ck _ hb _ _ => exact hw0.pushPending (inRange_metaOf_addrs o ht (hbasis b hb)) st
  | small st x r hk hp => exact hp.inRange (by rw [fileBytes_file hk] at hwr; exact hwr.setStats st) ht
  | failed ex st e _ => exact hw0.setES ex st
  | large ex st ck hk _ _ =>
    refine (hw0.setES ex st).pushPending (inRange_metaOf_addrs o ht ?_) st
    -- a chunk is no longer than the file
    intro a ha
    obtain ⟨c, hc, rfl⟩ := List.mem_map.mp ha
    have := chunks_le _ _ c hc
    have := hwr.buf
    rw [fileBytes_file hk] at this
    simp only [chunkAddr]
    omega

/-- The blocks `copy_entry` writes for a file are shorter than 2^64 bytes. -/
theorem copyData_lt {rem : Nat} (hk : sf.kind = .file) (hwr : WB (fileBytes sf + rem) wr) {d : Str}
    (hd : CopyData o wr.buf sf d) : d.length < u64 := by
  unfold WB at hwr
  rw [fileBytes_file hk] at hwr
  rcases hd with rfl | hd
  · have : (sf.content.take sf.size).length ≤ sf.content.length := by rw [List.length_take]; omega
    simp only [List.length_append]
    omega
  · have := chunks_le _ _ d hd
    omega

end

section
open Conserve.Blk
variable (H : Str → Str)

theorem StepInv.of_blockWrOf (L : StepInv) {D : Str → Prop} (hD : ∀ d, D d → d.length < u64) {o : Op}
    (ho : BlockWrOf H D o) : L.P o := by
  cases ho with
  | dir d => exact L.dir _
  | blk d hd => exact L.block _ _ (hD d hd)

theorem combinerFlush_ops (L : StepInv) {rem : Nat} (wr : Writer) (hwr : WB rem wr) :
    Prog.AllOps L.P (combinerFlush H wr) :=
  (combinerFlush_fpOf H wr).mono fun _ => L.of_blockWrOf H fun d hd => by subst hd; unfold WB at hwr; omega

theorem copyEntry_ops (L : StepInv) {rem : Nat} (o : BackupOpts) (wr : Writer) (basis : Option IndexEntry)
    (sf : SrcEntry) (hwr : WB (fileBytes sf + rem) wr) : Prog.AllOps L.P (copyEntry H o wr basis sf) :=
  (copyEntry_fpOf H o wr basis sf).mono fun _ => L.of_blockWrOf H fun _ hd => copyData_lt hd.1 hwr hd.2

/-- `copy_entry` in every world. -/
theorem copyEntry_hsat (S : Spec) {rem : Nat} (o : BackupOpts) (wr : Writer) (basis : Option IndexEntry) (sf : SrcEntry)
    (hwr : WR (fileBytes sf + rem) wr) (ht : SrcTimeOK sf)
    (hbasis : ∀ b, basis = some b → addrsOK b.addrs) :
    HSat S.stepInv (copyEntry H o wr basis sf) (fun x => WR rem x.1) :=
  HSat.of_ops (copyEntry_ops H S.stepInv o wr basis sf hwr.buf)
    fun w x hx => ((copyEntry_carries H o wr basis sf).returns w x hx).inRange hwr ht hbasis

/-- `FileCombiner::flush` in every world. -/
theorem combinerFlush_hsat (S : Spec) {rem : Nat} (wr : Writer) (hwr : WR rem wr) :
    HSat S.stepInv (combinerFlush H wr) (fun x => WR rem x.1) :=
  HSat.of_ops (combinerFlush_ops H S.stepInv wr hwr.buf)
    fun w x hx => ((combinerFlush_carries H wr).returns w x hx).inRange hwr

end

end Conserve.Rng
