import ConserveModel.Proofs.Eval
/-
A run killed at a crash point (no injected faults), for ANY program, against the fault-free run as
`Prog.eval` describes it.  `Prog.storeAt ecn p s n`: the store after the first `n` mutating micro-steps
of the fault-free run of `p` from `s`.  `Prog.run_killed`: a run with crash point `j` leaves exactly
`storeAt (j - steps so far)`.
-/
namespace Conserve
open Prog

/-- The store after the first `n` mutating micro-steps of the fault-free run (the final store if it
makes fewer): a write counts two, and between them its file is there, empty. -/
def Prog.storeAt {α : Type} (ecn : Bool) : Prog α → Store → Nat → Store
  | .emit _ k, s, n => k.storeAt ecn s n
  | .op o k, s, n =>
    if n = 0 then s
    else if n < o.microSteps (applyOp ecn s o).2 then s.put o.key .empty
    else (k (applyOp ecn s o).2).storeAt ecn (applyOp ecn s o).1 (n - o.microSteps (applyOp ecn s o).2)
  | _, s, _ => s

namespace Prog
variable {α β : Type} (ecn : Bool)

/-- Micro-steps the fault-free run makes. -/
abbrev evalSteps (p : Prog α) (s : Store) : Nat := stepsOf (p.evalTrace ecn s)

theorem evalSteps_op (o : Op) (k : Resp → Prog α) (s : Store) :
    (Prog.op o k).evalSteps ecn s =
      o.microSteps (applyOp ecn s o).2 + (k (applyOp ecn s o).2).evalSteps ecn (applyOp ecn s o).1 := by
  simp only [evalSteps, evalTrace, stepsOf_snoc]

theorem storeAt_zero (p : Prog α) : ∀ s, p.storeAt ecn s 0 = s := by
  induction p with
  | ret _ | fail _ | panic _ => intro _; rfl
  | emit _ k ih => exact ih
  | op o k ih => intro s; exact if_pos rfl

/-- Up to the last micro-step of `p` the run of `p.bind f` is that of `p`; then that of `f`. -/
theorem storeAt_bind (p : Prog α) (f : α → Prog β) : ∀ s n,
    (p.bind f).storeAt ecn s n =
      if n ≤ p.evalSteps ecn s then p.storeAt ecn s n
      else match (p.eval ecn s).1 with
        | .ok a => (f a).storeAt ecn (p.eval ecn s).2.1 (n - p.evalSteps ecn s)
        | _ => (p.eval ecn s).2.1 := by
  induction p with
  | ret a =>
    intro s n
    show (f a).storeAt ecn s n = if n ≤ 0 then s else (f a).storeAt ecn s (n - 0)
    by_cases hn : n = 0
    · rw [hn, storeAt_zero]; rfl
    · rw [if_neg (by omega)]; rfl
  | fail _ | panic _ => intro s n; exact (ite_self _).symm
  | emit _ k ih => exact ih
  | op o k ih =>
    intro s n
    simp only [op_bind, storeAt, evalSteps_op, eval_op, ih]
    generalize o.microSteps (applyOp ecn s o).2 = m
    generalize (k (applyOp ecn s o).2).evalSteps ecn (applyOp ecn s o).1 = t
    by_cases hn : n = 0
    · rw [if_pos hn, if_pos (by omega), if_pos hn]
    rw [if_neg hn]
    by_cases h : n < m
    · rw [if_pos h, if_pos (by omega), if_neg hn, if_pos h]
    rw [if_neg h]
    by_cases h2 : n ≤ m + t
    · rw [if_pos h2, if_pos (by omega), if_neg hn, if_neg h]
    · rw [if_neg h2, if_neg (by omega), Nat.sub_add_eq]

end Prog

theorem Op.microSteps_le (o : Op) (r : Resp) : o.microSteps r ≤ 2 := by
  unfold Op.microSteps; split <;> (try split) <;> omega

theorem Op.microSteps_of_not_mutating {o : Op} (h : ¬ o.isMutating = true) (r : Resp) : o.microSteps r = 0 := by
  cases o <;> first | exact absurd rfl h | (unfold Op.microSteps; split <;> rfl)

theorem Op.write_of_microSteps {o : Op} {r : Resp} (h : o.microSteps r = 2) : ∃ k v m, o = .write k v m := by
  cases o <;> first | exact ⟨_, _, _, rfl⟩ | (unfold Op.microSteps at h; split at h <;> cases h)

theorem extends_put_empty_put (s : Store) (k : Key) (v : FileVal) : Extends (s.put k .empty) (s.put k v) := by
  intro k' v' h
  rw [Store.get?_put] at h ⊢
  by_cases hk : k' = k
  · simp only [hk, if_true, Option.some.injEq] at h ⊢
    subst h
    right; simp
  · simp only [hk, if_false] at h ⊢
    exact Or.inl h

theorem Prog.eval_extends {α : Type} {p : Prog α} (hp : Prog.AllOps CreateOnly p) :
    ∀ s, Extends s (p.eval true s).2.1 := by
  induction hp with
  | ret _ | fail _ | panic _ => intro s; exact Extends.refl _
  | emit _ _ ih => exact ih
  | @op o k ho _ ih => intro s; exact (applyOp_extends ho).trans (ih _ _)

/-- Every micro-state of a program that only creates is extended by its final state. -/
theorem Prog.storeAt_extends {α : Type} {p : Prog α} (hp : Prog.AllOps CreateOnly p) :
    ∀ s n, Extends (p.storeAt true s n) (p.eval true s).2.1 := by
  induction hp with
  | ret _ | fail _ | panic _ => intro s _; exact Extends.refl _
  | emit _ _ ih => exact ih
  | @op o k ho hk ih =>
    intro s n
    simp only [Prog.storeAt, Prog.eval_op]
    split
    · exact (applyOp_extends ho).trans (Prog.eval_extends (hk _) _)
    split
    · -- between the two micro-steps of a write
      rename_i hn hlt
      have h2 : o.microSteps (applyOp true s o).2 = 2 := by
        have := o.microSteps_le (applyOp true s o).2; omega
      obtain ⟨key, v, m, rfl⟩ := Op.write_of_microSteps h2
      refine Extends.trans ?_ (Prog.eval_extends (hk _) _)
      rcases applyOp_write_store true s key v m with ⟨_, hs⟩ | ⟨⟨e, hr⟩, _⟩
      · rw [hs]; exact extends_put_empty_put _ _ _
      · rw [hr] at hlt; cases hlt
    · exact ih _ _ _

/-- A dead world's store is frozen. -/
theorem Prog.run_dead {α : Type} (p : Prog α) : ∀ (w : World), w.dead = true → (p.run w).2.store = w.store := by
  induction p with
  | ret _ | fail _ | panic _ => intro _ _; rfl
  | emit ev k ih => intro w h; exact ih _ h
  | op o k ih =>
    intro w h
    rw [Prog.run_op, World.exec_of_dead o h]
    exact ih _ w h

/-- **A killed run**: no injected faults, crash point `j` still ahead.  The store it leaves is the
fault-free run's after its first `j - w.steps` micro-steps. -/
theorem Prog.run_killed {α : Type} (p : Prog α) : ∀ {w : World} {j : Nat}, w.faults = [] → w.dead = false →
    w.crashAt = some j → w.steps ≤ j →
    (p.run w).2.store = p.storeAt w.enforceCreateNew w.store (j - w.steps) := by
  induction p with
  | ret _ | fail _ | panic _ => intro w j _ _ _ _; rfl
  | emit ev k ih => intro w j hf hd hc hle; exact ih (w := { w with events := ev :: w.events }) hf hd hc hle
  | op o k ih =>
    intro w j hf hd hc hle
    have hff : w.faultFor o = none := by simp [World.faultFor, hf]
    have hcr : ∀ n, w.crashesAt n = (j == n) := fun n => by simp [World.crashesAt, hc]
    have hm2 := o.microSteps_le (applyOp w.enforceCreateNew w.store o).2
    rw [Prog.run_op]
    by_cases h0 : o.isMutating = true ∧ j = w.steps
    · -- killed before the operation
      rw [World.exec_of_crash hd hff h0.1 (by rw [hcr, h0.2]; exact beq_self_eq_true _),
        Prog.run_dead (k (.err .other)) { w with dead := true } rfl, h0.2, Nat.sub_self, Prog.storeAt_zero]
    by_cases h1 : o.microSteps (applyOp w.enforceCreateNew w.store o).2 = 2 ∧ j = w.steps + 1
    · -- killed between the two micro-steps of a write
      obtain ⟨key, v, md, rfl⟩ := Op.write_of_microSteps h1.1
      have hu : (applyOp w.enforceCreateNew w.store (.write key v md)).2 = .unit := by
        rcases applyOp_write_store w.enforceCreateNew w.store key v md with ⟨hu, _⟩ | ⟨⟨e, hr⟩, _⟩
        · exact hu
        · rw [hr] at h1; cases h1.1
      rw [World.exec_of_crash_mid hd hff (by rw [hcr, h1.2]; exact beq_false_of_ne (Nat.succ_ne_self _)) hu
        (by rw [hcr, h1.2]; exact beq_self_eq_true _),
        Prog.run_dead (k (.err .other))
          { w with store := w.store.put key .empty, steps := w.steps + 1, dead := true } rfl]
      simp [Prog.storeAt, h1.1, h1.2, Op.key]
    · -- the operation goes through
      have hsteps : w.steps + o.microSteps (applyOp w.enforceCreateNew w.store o).2 ≤ j := by
        by_cases hm : o.isMutating = true
        · have : j ≠ w.steps := fun h => h0 ⟨hm, h⟩
          have : o.microSteps (applyOp w.enforceCreateNew w.store o).2 = 2 → j ≠ w.steps + 1 := fun a b => h1 ⟨a, b⟩
          omega
        · rw [Op.microSteps_of_not_mutating hm]; exact hle
      rw [World.exec_eq_applied hd hff (fun hm => by rw [hcr]; exact beq_false_of_ne fun h => h0 ⟨hm, h⟩)
        (fun h2 => by rw [hcr]; exact beq_false_of_ne fun h => h1 ⟨h2, h⟩)]
      refine (ih (applyOp w.enforceCreateNew w.store o).2 (w := (w.applied o).1) (j := j) hf hd hc hsteps).trans ?_
      simp only [Prog.storeAt, World.applied]
      by_cases hn : j - w.steps = 0
      · have hnm : ¬ o.isMutating = true := fun hm => h0 ⟨hm, by omega⟩
        rw [if_pos hn, show j - (w.steps + o.microSteps (applyOp w.enforceCreateNew w.store o).2) = 0 by omega,
          Prog.storeAt_zero, applyOp_readOnly_store (ReadOnly.of_not_mutating (by simpa using hnm))]
      · rw [if_neg hn, if_neg (by omega), Nat.sub_add_eq]

end Conserve
