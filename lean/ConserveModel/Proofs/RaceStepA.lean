import ConserveModel.Proofs.RaceStepB
/-
C06 on the full model — every single storage operation of `backup` preserves the joint invariant
`J`.  No property statements here.
-/
namespace Conserve.Race
open Conserve Prog Conserve.Conf Conserve.Inv

variable {H : Str → Str}

theorem atLeast_of_chk {D : List Nat} {γ : GSt} {s : Store} (h : GFacts D γ s) {m : Option Nat}
    (hm : γ.chk = some m) : AtLeast m s := by
  cases γ <;> cases hm <;> first | exact h | exact h.1

theorem locked_of_sweeping {D : List Nat} {γ : GSt} {s : Store} (h : GFacts D γ s) (hs : γ.sweeping = true) :
    Locked s := by
  cases γ <;> cases hs <;> exact h.1

/-- While `backup` has an unfinished band, a collector past `band_is_closed` sees a newer band. -/
theorem doomed_of_act {β : BSt} {γ : GSt} {s : Store} (hx : Cross β γ s) {n : Nat} (ha : β.act = some n)
    {m : Option Nat} (hm : γ.chk = some m) : Doomed s m := by
  refine Classical.byContradiction fun hd => ?_
  have := hx.quiet m hm hd
  rw [ha] at this
  cases this

theorem applyOp_createDir_cases (s : Store) (k : Key) :
    (s.has k = true ∧ applyOp true s (.createDir k) = (s, .unit)) ∨
    (s.has k = false ∧ s.parentOk k = false ∧ applyOp true s (.createDir k) = (s, .err .notFound)) ∨
    (s.get? k = none ∧ s.parentOk k = true ∧ applyOp true s (.createDir k) = (s.put k .dir, .unit)) := by
  simp only [applyOp]
  cases hh : s.has k with
  | true => exact Or.inl ⟨rfl, by simp⟩
  | false =>
    have hg : s.get? k = none := by simpa [Store.has] using hh
    cases hp : s.parentOk k with
    | false => exact Or.inr (Or.inl ⟨rfl, rfl, by simp⟩)
    | true => exact Or.inr (Or.inr ⟨hg, rfl, by simp⟩)

theorem ci_of_exec {s : Store} {o' : Op} (h : CI H ((World.clean s).exec o').1.store) : CI H (applyOp true s o').1 := by
  rwa [World.exec_clean_store (World.clean_Clean s)] at h

/-- A `CritOp` changes nothing but hunk and block sub-directories, hunks, blocks and, if it is the
tail write, a band tail. -/
theorem CritOp.not_affects {o' : Op} (h : CritOp o') (k : Key)
    (hk : match k with
      | .hunkDir .. | .blockDir _ | .hunk .. | .block _ => False
      | .bandTail _ => ¬ isTailWrite o'
      | _ => True) : Op.affects o' k = false := by
  refine Bool.eq_false_iff.2 fun ha => ?_
  cases o' with
  | createDir k' =>
    obtain rfl : k = k' := eq_of_beq ha
    rcases (h : (∃ b d, k = .hunkDir b d) ∨ (∃ p, k = .blockDir p)) with ⟨b, d, rfl⟩ | ⟨p, rfl⟩ <;> exact hk
  | write k' v m =>
    obtain rfl : k = k' := eq_of_beq ha
    rcases (h : m = .createNew ∧ _).2 with ⟨b, i, rfl⟩ | ⟨p, rfl⟩ | ⟨b, rfl⟩
    · exact hk
    · exact hk
    · exact hk trivial
  | removeFile k' => exact h
  | removeDirAll k' => exact h
  | _ => cases ha

theorem crit_head (o : BackupOpts) (src : List SrcEntry) (bs : Option Nat) (n : Nat) :
    ∃ o1 k1, crit H o src bs n = .op o1 k1 := by
  unfold crit listBlocks
  simp only [perform, Prog.bind_def, Prog.op_bind]
  exact ⟨_, _, rfl⟩

section
variable {o : BackupOpts} {src : List SrcEntry} {D : List Nat} {opts : DeleteOpts}

theorem J.toDone {s' : Store} {p' : Prog Stats} {pB : Prog DeleteStats} {γ : GSt} (hp : p'.Done)
    (hpB : γ.prog D opts pB) (hci : CI H s') (hgf : GFacts D γ s') : J H o src D opts s' p' pB :=
  ⟨.done, γ, hp, hpB, hci, hgf, Cross.idle γ s' rfl, hci.nodup⟩

theorem put_other {β : BSt} {γ : GSt} {s : Store} {n : Nat} (ha : β.act = some n) (hgf : GFacts D γ s)
    (hx : Cross β γ s) {k : Key} (v : FileVal) (hk1 : ∀ b, k ≠ .bandDir b) (hk2 : ∀ b i, k ≠ .hunk b i)
    (hk3 : k ≠ .gcLock) :
    GFacts D γ (s.put k v) ∧ Cross β γ (s.put k v) ∧ ∀ b, isBand (s.put k v) b ↔ isBand s b := by
  have hb : ∀ b, isBand (s.put k v) b ↔ isBand s b := by
    intro b; unfold isBand; rw [Store.get?_put, if_neg (fun e => hk1 b e.symm)]
  refine ⟨hgf.stable D (fun b h => (hb b).2 h) (by rw [Store.get?_put, if_neg (fun e => hk3 e.symm)])
    (fun m hm => (doomed_of_act hx ha hm).mono fun b h => (hb b).2 h)
    (fun _ _ _ hu => hu.put v hk2 (fun b e => absurd e (hk1 b))), hx.store hb, hb⟩

theorem J.stepA (hinj : Function.Injective H) (hlen : HashLen H) (hsrc : SrcOK src)
    {s : Store} {pB : Prog DeleteStats} {o' : Op} {k : Resp → Prog Stats}
    (h : J H o src D opts s (.op o' k) pB) :
    J H o src D opts (applyOp true s o').1 (k (applyOp true s o').2).strip pB := by
  obtain ⟨β, γ, hpA, hpB, hbf, hgf, hx, hn⟩ := h
  have hn' : NoDupKeys (applyOp true s o').1 := applyOp_noDupKeys true hn o'
  cases β with
  | done => exact absurd hpA (by simp [BSt.prog, Prog.Done])
  | l1 =>
    cases (hpA : Prog.op o' k = .op _ _)
    rw [applyOp_metadata_store, onFile_metadata]
    cases fileAt s .gcLock
    · exact ⟨.basis, γ, rfl, hpB, hbf, hgf, hx, hn⟩
    · exact J.toDone trivial hpB hbf hgf
  | basis =>
    cases (hpA : Prog.op o' k = .op _ _)
    rw [applyOp_listDir_store]
    exact onIds_root_elim (P := (J H o src D opts s ·.strip pB)) s ⟨.idl _, γ, rfl, hpB, hbf, hgf, hx, hn⟩
      (fun e => J.toDone trivial hpB hbf hgf)
  | idl bs =>
    cases (hpA : Prog.op o' k = .op _ _)
    rw [applyOp_listDir_store]
    exact onIds_root_elim (P := (J H o src D opts s ·.strip pB)) s
      ⟨.mkdir bs _, γ, rfl, hpB, ⟨hbf, below_next hn⟩, hgf, hx, hn⟩ (fun e => J.toDone trivial hpB hbf hgf)
  | mkdir bs n =>
    cases (hpA : Prog.op o' k = .op _ _)
    obtain ⟨hci, hlt⟩ := hbf
    have hfresh : s.get? (.bandDir n) ≠ some .dir := fun hh => absurd (hlt n hh) (Nat.lt_irrefl n)
    rcases applyOp_createDir_cases s (.bandDir n) with ⟨_, hr⟩ | ⟨_, _, hr⟩ | ⟨hg, _, hr⟩
    · rw [hr]
      exact ⟨.mkdirX bs n, γ, rfl, hpB, ⟨hci, hlt⟩, hgf, hx, hn⟩
    · rw [hr]; exact J.toDone trivial hpB hci hgf
    · have hci' : CI H (applyOp true s (.createDir (.bandDir n))).1 :=
        ci_of_exec (exec_createDir_band (w := World.clean s) hci (EmptyBand.of_fresh hci.dirs hfresh))
      rw [hr] at hci' hn' ⊢
      simp only [onUnit]
      have hbi : ∀ b, isBand (s.put (.bandDir n) .dir) b ↔ (b = n ∨ isBand s b) := by
        intro b
        unfold isBand
        rw [Store.get?_put]
        by_cases hb : b = n
        · subst hb; simp
        · have : Key.bandDir b ≠ Key.bandDir n := fun e => hb (by injection e)
          simp [this, hb]
      have hnew : isBand (s.put (.bandDir n) .dir) n := (hbi n).2 (Or.inl rfl)
      -- the new band is above every band there was, hence above what the collector remembers
      have hdoom : ∀ m, γ.chk = some m → Doomed (s.put (.bandDir n) .dir) m := by
        intro m hm
        refine ⟨n, hnew, ?_⟩
        cases m with
        | none => trivial
        | some a =>
          obtain ⟨b, hb, hle⟩ := atLeast_of_chk hgf hm a rfl
          have := hlt b hb
          simp only [Above]; omega
      refine ⟨.mkI bs n, γ, rfl, hpB, ⟨hci', ?_, ?_⟩, ?_, ⟨?_, fun _ ha _ => ?_, fun _ => rfl⟩, hn'⟩
      · intro b hb
        rcases (hbi b).1 hb with rfl | hb'
        · exact Nat.le_refl _
        · exact Nat.le_of_lt (hlt b hb')
      · exact (EmptyBand.of_fresh hci.dirs hfresh).same (BandKeysSame.put _ _ (fun _ => by simp) (by simp) (by simp))
      · exact hgf.stable D (fun b hb => (hbi b).2 (Or.inr hb)) (by rw [Store.get?_put, if_neg (by simp)]) hdoom
          (fun _ _ _ hu => hu.put _ (fun _ _ => by simp)
            (fun b e => by injection e with e; subst e; exact (EmptyBand.of_fresh hci.dirs hfresh).hunks))
      · intro m hm hd; exact absurd (hdoom m hm) hd
      · cases ha
        exact hnew
  | mkdirX bs n =>
    cases (hpA : Prog.op o' k = .op _ _)
    obtain ⟨hci, hlt⟩ := hbf
    have hfresh : s.get? (.bandDir n) ≠ some .dir := fun hh => absurd (hlt n hh) (Nat.lt_irrefl n)
    rw [gone_createDir_indexDir hci.dirs hfresh]
    exact J.toDone trivial hpB hci hgf
  | mkI bs n =>
    cases (hpA : Prog.op o' k = .op _ _)
    obtain ⟨hci, htop, hemp⟩ := hbf
    have hci' : CI H (applyOp true s (.createDir (.indexDir n))).1 :=
      ci_of_exec (exec_createDir_plain (w := World.clean s) hci rfl (fun b' => touchesBand_indexDir _ b'))
    rcases applyOp_createDir_cases s (.indexDir n) with ⟨_, hr⟩ | ⟨_, _, hr⟩ | ⟨hg, _, hr⟩
    · rw [hr]
      exact ⟨.head bs n, γ, rfl, hpB, ⟨hci, htop, hemp⟩, hgf, hx, hn⟩
    · rw [hr]; exact J.toDone trivial hpB hci hgf
    · rw [hr] at hci' hn' ⊢
      obtain ⟨hgf', hx', hbi⟩ := put_other (β := .mkI bs n) rfl hgf hx (k := .indexDir n) .dir
        (fun _ => by simp) (fun _ _ => by simp) (by simp)
      exact ⟨.head bs n, γ, rfl, hpB,
        ⟨hci', fun b hb => htop b ((hbi b).1 hb),
          hemp.same (BandKeysSame.put _ _ (fun _ => by simp) (by simp) (by simp))⟩, hgf', hx', hn'⟩
  | head bs n =>
    cases (hpA : Prog.op o' k = .op _ _)
    obtain ⟨hci, htop, hemp⟩ := hbf
    have hex := exec_write_head (w := World.clean s) hci rfl hemp .ok []
    rw [World.exec_clean_store (World.clean_Clean s), World.exec_clean_resp (World.clean_Clean s)] at hex
    obtain ⟨hci', hopen⟩ := hex
    simp only [World.clean_store] at hci' hopen
    rcases applyOp_write_store true s (.bandHead n) (.head .ok []) .createNew with ⟨hr, hs⟩ | ⟨⟨e, hr⟩, hs⟩
    · have hopen' := hopen hr
      rw [hs] at hci' hn' hopen'
      rw [hr, hs]
      obtain ⟨hgf', hx', hbi⟩ := put_other (β := .head bs n) rfl hgf hx (k := .bandHead n) (.head .ok [])
        (fun _ => by simp) (fun _ _ => by simp) (by simp)
      exact ⟨.l2 bs n, γ, rfl, hpB, ⟨hci', fun b hb => htop b ((hbi b).1 hb), Or.inl hopen'⟩, hgf', hx', hn'⟩
    · rw [hr, hs]; exact J.toDone trivial hpB hci hgf
  | l2 bs n =>
    cases (hpA : Prog.op o' k = .op _ _)
    rw [applyOp_listDir_store]
    obtain ⟨hci, htop, hband⟩ := hbf
    refine onLockListed_root_elim (P := (J H o src D opts s ·.strip pB)) s ?_ (fun e => J.toDone trivial hpB hci hgf)
    cases hnl : lockListedOf s with
    | true => exact J.toDone trivial hpB hci hgf
    | false =>
      rw [if_neg Bool.false_ne_true]
      -- the listing shows no lock file: the collector is not sweeping (it holds the lock while it does)
      have hns : γ.sweeping = false := by
        cases hsw : γ.sweeping with
        | false => rfl
        | true =>
          have hlk : s.get? .gcLock = some .lock := locked_of_sweeping hgf hsw
          rw [lockListedOf_eq_fileAt ((uniqueKeys_iff_nodup s).2 hn)] at hnl
          simp [fileAt, hlk, FileVal.isDir] at hnl
      obtain ⟨o1, k1, hc⟩ := crit_head (H := H) o src bs n
      have hstrip : (crit H o src bs n).strip = crit H o src bs n := by rw [hc]; rfl
      rw [hstrip]
      have htail : s.get? (.bandTail n) = none := by
        rcases hband with hb | hb
        · exact hb.tail
        · exact (EmptyBand.of_fresh hci.dirs hb).tail
      have hfut : CI H ((crit H o src bs n).solo s).2 := by
        rcases hband with hb | hb
        · exact crit_ci_open o hinj hlen hsrc bs n hci hb
        · exact crit_ci_gone hlen o src bs n hci hb
      refine ⟨.crit n, γ, ⟨crit_crit H o src bs n, crit_tailLast H o src bs n, by rw [hc]; exact id⟩, hpB,
        ⟨hn, htop, htail, hfut⟩, hgf, ⟨hx.quiet, hx.there, fun hsw => ?_⟩, hn⟩
      rw [hns] at hsw; cases hsw
  | crit n =>
    obtain ⟨hops, htl, _⟩ := hpA
    obtain ⟨_, htop, htail, hfut⟩ := hbf
    cases hops with
    | op hco hk =>
    cases htl with
    | op htk hg =>
    have hbi : ∀ b, isBand (applyOp true s o').1 b ↔ isBand s b := by
      intro b; unfold isBand; rw [applyOp_get?_of_not_affects _ _ _ _ (CritOp.not_affects hco (.bandDir b) trivial)]
    have hgf' : GFacts D γ (applyOp true s o').1 :=
      hgf.stable D (fun b h => (hbi b).2 h) (applyOp_get?_of_not_affects _ _ _ _ (CritOp.not_affects hco .gcLock trivial))
        (fun m hm => (doomed_of_act hx (β := .crit n) rfl hm).mono fun b h => (hbi b).2 h)
        (fun hsw => by have := hx.excl hsw; cases this)
    have hx' : Cross (.crit n) γ (applyOp true s o').1 := hx.store hbi
    have hfut' : CI H ((k (applyOp true s o').2).strip.solo (applyOp true s o').1).2 := by
      rw [Prog.solo_strip]; rw [Prog.solo_op] at hfut; exact hfut
    by_cases hd : (k (applyOp true s o').2).strip.Done
    · rw [hd.solo] at hfut'
      exact J.toDone hd hpB hfut' hgf'
    · refine ⟨.crit n, γ, ⟨(hk _).strip, (htk _).strip, hd⟩, hpB, ⟨hn', fun b hb => htop b ((hbi b).1 hb), ?_, hfut'⟩,
        hgf', hx', hn'⟩
      by_cases ht : isTailWrite o'
      · have := hg ht (applyOp true s o').2
        rw [this.strip] at hd
        exact absurd this hd
      · rw [applyOp_get?_of_not_affects _ _ _ _ (CritOp.not_affects hco (.bandTail n) ht)]; exact htail

end

end Conserve.Race
