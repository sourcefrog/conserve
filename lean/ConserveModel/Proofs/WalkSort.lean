import ConserveModel.Tree
import ConserveModel.Proofs.ApathOrder
/-
Insertion sort (`insertBy`, `sortBy`) is a sort; it commutes with key-preserving maps, and two
sorts of permuted lists agree when the order is antisymmetric on them.
-/
namespace Conserve

variable {α β : Type}

/-- A total preorder given as a Boolean `≤`. -/
structure TotalPreorder (le : α → α → Bool) : Prop where
  total : ∀ a b, le a b = true ∨ le b a = true
  trans : ∀ a b c, le a b = true → le b c = true → le a c = true

theorem insertBy_cons (le : α → α → Bool) (x y : α) (ys : List α) :
    insertBy le x (y :: ys) = if le x y then x :: y :: ys else y :: insertBy le x ys := rfl

theorem insertBy_perm (le : α → α → Bool) (x : α) (l : List α) :
    (insertBy le x l).Perm (x :: l) := by
  induction l with
  | nil => exact List.Perm.refl _
  | cons y ys ih =>
    unfold insertBy
    split
    · exact List.Perm.refl _
    · exact (List.Perm.cons y ih).trans (List.Perm.swap x y ys)

theorem sortBy_perm (le : α → α → Bool) (l : List α) : (sortBy le l).Perm l := by
  induction l with
  | nil => exact List.Perm.refl _
  | cons x xs ih => exact (insertBy_perm le x _).trans (List.Perm.cons x ih)

theorem mem_sortBy {le : α → α → Bool} {l : List α} {x : α} : x ∈ sortBy le l ↔ x ∈ l :=
  (sortBy_perm le l).mem_iff

theorem length_sortBy (le : α → α → Bool) (l : List α) : (sortBy le l).length = l.length :=
  (sortBy_perm le l).length_eq

theorem insertBy_pairwise {le : α → α → Bool} (h : TotalPreorder le) (x : α) {l : List α}
    (hl : l.Pairwise (fun a b => le a b = true)) :
    (insertBy le x l).Pairwise (fun a b => le a b = true) := by
  induction l with
  | nil => simp [insertBy]
  | cons y ys ih =>
    rw [List.pairwise_cons] at hl
    unfold insertBy
    split
    · rename_i hxy
      refine List.pairwise_cons.2 ⟨?_, List.pairwise_cons.2 hl⟩
      intro z hz
      rcases List.mem_cons.1 hz with rfl | hz
      · exact hxy
      · exact h.trans _ _ _ hxy (hl.1 z hz)
    · rename_i hxy
      refine List.pairwise_cons.2 ⟨?_, ih hl.2⟩
      intro z hz
      rcases List.mem_cons.1 ((insertBy_perm le x ys).mem_iff.1 hz) with rfl | hz
      · rcases h.total z y with h1 | h1
        · exact absurd h1 hxy
        · exact h1
      · exact hl.1 z hz

theorem sortBy_pairwise {le : α → α → Bool} (h : TotalPreorder le) (l : List α) :
    (sortBy le l).Pairwise (fun a b => le a b = true) := by
  induction l with
  | nil => exact List.Pairwise.nil
  | cons x xs ih => exact insertBy_pairwise h x ih

theorem insertBy_map (f : α → β) {le' : β → β → Bool} {le : α → α → Bool}
    (h : ∀ a b, le' (f a) (f b) = le a b) (x : α) (l : List α) :
    insertBy le' (f x) (l.map f) = (insertBy le x l).map f := by
  induction l with
  | nil => rfl
  | cons y ys ih =>
    simp only [List.map_cons, insertBy, h]
    split
    · rfl
    · rw [List.map_cons, ih]

theorem sortBy_map (f : α → β) {le' : β → β → Bool} {le : α → α → Bool}
    (h : ∀ a b, le' (f a) (f b) = le a b) (l : List α) :
    sortBy le' (l.map f) = (sortBy le l).map f := by
  induction l with
  | nil => rfl
  | cons x xs ih => simp only [List.map_cons, sortBy, ih, insertBy_map f h]

theorem insertBy_of_le_head {le : α → α → Bool} (x : α) {l : List α}
    (hx : ∀ z ∈ l, le x z = true) : insertBy le x l = x :: l := by
  cases l with
  | nil => rfl
  | cons y ys => simp [insertBy, hx y (List.mem_cons_self)]

/-- Any two sorts of permuted lists agree when `le` is antisymmetric on the elements
(e.g. the keys are pairwise distinct): the result does not depend on the input order, nor
on the sorting algorithm (`sort_unstable`). -/
theorem sortBy_eq_of_perm {le : α → α → Bool} (h : TotalPreorder le) {l₁ l₂ : List α}
    (hp : l₁.Perm l₂)
    (anti : ∀ a b, a ∈ l₁ → b ∈ l₁ → le a b = true → le b a = true → a = b) :
    sortBy le l₁ = sortBy le l₂ := by
  apply List.Perm.eq_of_pairwise (le := fun a b => le a b = true)
  · intro a b ha hb
    exact anti a b (mem_sortBy.1 ha) (hp.mem_iff.2 (mem_sortBy.1 hb))
  · exact sortBy_pairwise h l₁
  · exact sortBy_pairwise h l₂
  · exact (sortBy_perm le l₁).trans (hp.trans (sortBy_perm le l₂).symm)

theorem sortBy_of_pairwise {le : α → α → Bool} (h : TotalPreorder le) {l : List α}
    (hl : l.Pairwise (fun a b => le a b = true)) : sortBy le l = l := by
  induction l with
  | nil => rfl
  | cons x xs ih =>
    rw [List.pairwise_cons] at hl
    simp only [sortBy, ih hl.2]
    exact insertBy_of_le_head x hl.1

theorem compareLe_totalPreorder {κ : Type} [Ord κ] [Std.TransOrd κ] (key : α → κ) :
    TotalPreorder (fun a b : α => compare (key a) (key b) != .gt) where
  total a b := by
    simp only [bne_iff_ne]
    by_cases h : compare (key a) (key b) = .gt
    · exact .inr (Std.OrientedCmp.not_gt_of_gt h)
    · exact .inl h
  trans a b c h1 h2 := by
    simp only [bne_iff_ne, ne_eq, Ordering.ne_gt_iff_isLE] at *
    exact Std.TransCmp.isLE_trans h1 h2

theorem strLe_totalPreorder (key : α → Str) :
    TotalPreorder (fun a b : α => strLe (key a) (key b)) :=
  compareLe_totalPreorder key

end Conserve
