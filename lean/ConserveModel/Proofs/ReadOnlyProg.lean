import ConserveModel.Proofs.QuietWorld
/-
What a read-only operation can answer in ANY world (faults, crash point, dead): the real answer or
an error.
-/
namespace Conserve
open Prog

/-- In any world a non-mutating operation leaves the store alone and answers either what local
storage answers, or an error (injected fault, or the world is dead). -/
theorem World.exec_ro_cases (w : World) {o : Op} (h : o.isMutating = false) :
    (w.exec o).1.store = w.store ∧ ((w.exec o).2 = roResp w.store o ∨ ∃ e, (w.exec o).2 = .err e) := by
  refine ⟨World.exec_readOnly_store w o (.of_not_mutating h), ?_⟩
  rcases (World.exec_cases w o).2 with ⟨_, _, hr⟩ | ⟨_, _, _, _, _, _, _, hr⟩ | ⟨e, _, _, hr⟩ | ⟨_, _, hr⟩
  · exact .inr ⟨_, hr⟩
  · exact .inr ⟨_, hr⟩
  · exact .inr ⟨_, hr⟩
  · exact .inl (by rw [hr, applyOp_ro _ _ _ h])

/-- In any world, a listing that is answered is the listing of the store. -/
theorem World.exec_listDir_listing {w : World} {k : Key} {xs : List DirEnt}
    (h : (w.exec (.listDir k)).2 = .listing xs) : xs = w.store.children k := by
  rcases (World.exec_ro_cases w (o := .listDir k) rfl).2 with hr | ⟨e, hr⟩ <;> rw [hr] at h
  · simp only [roResp, listResp] at h
    split at h <;> cases h
    rfl
  · cases h

end Conserve
