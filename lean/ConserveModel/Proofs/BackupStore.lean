import ConserveModel.Proofs.StoreNoDup
import ConserveModel.Proofs.StoreLemmas
/-
Store-level facts for the backup invariant (C03/C04): monotonicity of everything that reads
content (`blockContent`, `readAddrPure`, `readBack`, `hunkAt`) along `Extends`, the invariant
`Good`, and its preservation by one `World.exec` step of an admissible operation.  The step
itself is taken apart in Proofs/FrameStep.lean (`World.exec_cases`).  No property statements here.
-/
namespace Conserve.Inv

/-- No path occurs twice in the store (it is a map). -/
def NoDupKeys (s : Store) : Prop := (s.map Prod.fst).Nodup

theorem NoDupKeys.put {s : Store} (h : NoDupKeys s) (k : Key) (v : FileVal) : NoDupKeys (s.put k v) :=
  Store.NoDupKeys.put h k v

/-- Operations that only read or create: reads, listings, metadata, `createDir`, and
`write … CreateNew`.  Every operation `backup` issues is of this kind. -/
def CreateOnly (o : Op) : Prop :=
  o.isMutating = false ∨ (∃ k, o = .createDir k) ∨ (∃ k v, o = .write k v .createNew)

theorem CreateOnly.createOnly {o : Op} (h : CreateOnly o) : Conserve.CreateOnly o := by
  rcases h with h | ⟨k, rfl⟩ | ⟨k, v, rfl⟩
  · exact (ReadOnly.of_not_mutating h).createOnly
  · trivial
  · rfl

section
variable (H : Str → Str)

theorem blockContent_eq_some {s : Store} {h c : Str} :
    blockContent H s h = some c ↔ s.get? (.block h) = some (.blockData c) ∧ H c = h := by
  unfold blockContent
  split
  · rename_i c' hget
    rw [hget]
    constructor
    · intro e
      split at e
      · rename_i hh
        cases e
        exact ⟨rfl, hh⟩
      · cases e
    · rintro ⟨e, hh⟩
      cases e
      rw [if_pos hh]
  · rename_i hne
    exact ⟨fun e => (nomatch e), fun e => absurd e.1 (hne c)⟩

theorem blockContent_mono {s s' : Store} {h c : Str} (hb : blockContent H s h = some c)
    (hx : Extends s s') : blockContent H s' h = some c := by
  obtain ⟨hget, hh⟩ := (blockContent_eq_some H).mp hb
  rcases hx _ _ hget with h' | ⟨h', _⟩
  · exact (blockContent_eq_some H).mpr ⟨h', hh⟩
  · cases h'

theorem readAddrPure_mono {s s' : Store} {a : Addr} {x : Str} (hb : readAddrPure H s a = some x)
    (hx : Extends s s') : readAddrPure H s' a = some x := by
  unfold readAddrPure at hb ⊢
  cases hc : blockContent H s a.hash with
  | none => simp [hc] at hb
  | some c => rw [blockContent_mono H hc hx]; simpa [hc] using hb

theorem readAddrPure_isSome {s : Store} {a : Addr} (h : (readAddrPure H s a).isSome = true) :
    ∃ c, blockContent H s a.hash = some c ∧ a.start + a.len ≤ c.length := by
  unfold readAddrPure at h
  cases hc : blockContent H s a.hash with
  | none => simp [hc] at h
  | some c =>
    refine ⟨c, rfl, ?_⟩
    simp only [hc, Option.bind_some, sliceOf] at h
    split at h
    · assumption
    · cases h

theorem readBack_mono {s s' : Store} {as : List Addr} {x : Str} (hb : readBack H s as = some x)
    (hx : Extends s s') : readBack H s' as = some x := by
  induction as generalizing x with
  | nil => simpa [readBack] using hb
  | cons a as ih =>
    simp only [readBack] at hb ⊢
    cases h1 : readAddrPure H s a with
    | none => simp [h1] at hb
    | some y =>
      cases h2 : readBack H s as with
      | none => simp [h1, h2] at hb
      | some z =>
        rw [readAddrPure_mono H h1 hx, ih h2]
        simpa [h1, h2] using hb

theorem hunkAt_mono {s s' : Store} {b n : Nat} {es : List IndexEntry} (hb : hunkAt s b n = some es)
    (hx : Extends s s') : hunkAt s' b n = some es := by
  rcases hx _ _ (hunkAt_eq_some_iff.mp hb) with h' | ⟨h', _⟩
  · exact hunkAt_eq_some_iff.mpr h'
  · cases h'

theorem readBack_congr_content {s s' : Store} (as : List Addr)
    (h : ∀ a ∈ as, blockContent H s' a.hash = blockContent H s a.hash) :
    readBack H s' as = readBack H s as := by
  induction as with
  | nil => rfl
  | cons a as ih =>
    have ha := h a (List.mem_cons_self ..)
    have ih' := ih (fun x hx => h x (List.mem_cons_of_mem _ hx))
    simp only [readBack, readAddrPure, ha, ih']

theorem readBack_addr_isSome {s : Store} {as : List Addr} {x : Str} (hb : readBack H s as = some x) :
    ∀ a ∈ as, (readAddrPure H s a).isSome = true := by
  induction as generalizing x with
  | nil => intro a ha; cases ha
  | cons a as ih =>
    simp only [readBack] at hb
    cases h1 : readAddrPure H s a with
    | none => simp [h1] at hb
    | some y =>
      cases h2 : readBack H s as with
      | none => simp [h1, h2] at hb
      | some z =>
        intro a' ha'
        rcases List.mem_cons.mp ha' with rfl | ha'
        · simp [h1]
        · exact ih h2 a' ha'

theorem readBack_append {s : Store} {as bs : List Addr} {x y : Str}
    (h1 : readBack H s as = some x) (h2 : readBack H s bs = some y) :
    readBack H s (as ++ bs) = some (x ++ y) := by
  induction as generalizing x with
  | nil => simp only [readBack] at h1; cases h1; simpa using h2
  | cons a as ih =>
    simp only [readBack, List.cons_append] at h1 ⊢
    cases h3 : readAddrPure H s a with
    | none => simp [h3] at h1
    | some u =>
      cases h4 : readBack H s as with
      | none => simp [h3, h4] at h1
      | some z =>
        rw [ih h4]
        simp only [h3, h4, Option.some.injEq] at h1
        simp [← h1]

/-- Every block file is named by the hash of its content, or is a zero-length leftover
(what `blocksConform` says, through `get?`). -/
def BlocksGood (s : Store) : Prop :=
  ∀ h v, s.get? (.block h) = some v → v = .empty ∨ ∃ c, v = .blockData c ∧ H c = h

/-- Every hash in the in-memory `exists` set names a present, intact block. -/
def ExistsOK (s : Store) (ex : List Str) : Prop :=
  ∀ h ∈ ex, ∃ c, blockContent H s h = some c

/-- A recorded file entry restores to exactly the bytes its source file had. -/
def RecOK (src : List SrcEntry) (s : Store) (e : IndexEntry) : Prop :=
  ∃ sf ∈ src, sf.apath = e.apath ∧ sf.kind = .file ∧
    readBack H s e.addrs = some (sf.content.take sf.size)

/-- What the writer may record: files read back to their source, nothing else has addresses. -/
def EntryOK (src : List SrcEntry) (s : Store) (e : IndexEntry) : Prop :=
  (e.kind = .file → RecOK H src s e) ∧ (e.kind ≠ .file → e.addrs = [])

/-- Hunks that were not (decodably) there in `s0` hold only correct file entries. -/
def NewRec (src : List SrcEntry) (s0 s : Store) : Prop :=
  ∀ b n es, hunkAt s0 b n = none → hunkAt s b n = some es →
    ∀ e ∈ es, e.kind = .file → RecOK H src s e

/-- The store part of the backup invariant, relative to the store `s0` the backup started on. -/
structure Good (src : List SrcEntry) (s0 s : Store) : Prop where
  noDup : NoDupKeys s
  blocks : BlocksGood H s
  /-- relative, so that the theorems that do not talk about dangling references need not assume it -/
  noDangling : NoDangling H s0 → NoDangling H s
  newRec : NewRec H src s0 s

variable {H}

theorem ExistsOK.mono {s s' : Store} {ex : List Str} (h : ExistsOK H s ex) (hx : Extends s s') :
    ExistsOK H s' ex := fun a ha => by
  obtain ⟨c, hc⟩ := h a ha
  exact ⟨c, blockContent_mono H hc hx⟩

theorem RecOK.mono {src : List SrcEntry} {s s' : Store} {e : IndexEntry} (h : RecOK H src s e)
    (hx : Extends s s') : RecOK H src s' e := by
  obtain ⟨sf, h1, h2, h3, h4⟩ := h
  exact ⟨sf, h1, h2, h3, readBack_mono H h4 hx⟩

theorem EntryOK.mono {src : List SrcEntry} {s s' : Store} {e : IndexEntry} (h : EntryOK H src s e)
    (hx : Extends s s') : EntryOK H src s' e :=
  ⟨fun hk => (h.1 hk).mono hx, h.2⟩

theorem EntryOK.of_file {src : List SrcEntry} {s : Store} {e : IndexEntry} {sf : SrcEntry} (hsf : sf ∈ src)
    (hap : sf.apath = e.apath) (hk : sf.kind = .file) (hek : e.kind = .file)
    (h : readBack H s e.addrs = some (sf.content.take sf.size)) : EntryOK H src s e :=
  ⟨fun _ => ⟨sf, hsf, hap, hk, h⟩, fun hne => absurd hek hne⟩

theorem EntryOK.addr_isSome {src : List SrcEntry} {s : Store} {e : IndexEntry} (h : EntryOK H src s e) :
    ∀ a ∈ e.addrs, (readAddrPure H s a).isSome = true := by
  by_cases hk : e.kind = .file
  · obtain ⟨sf, _, _, _, h4⟩ := h.1 hk
    exact readBack_addr_isSome H h4
  · rw [h.2 hk]; intro a ha; cases ha

theorem hunkAt_put (s : Store) (k : Key) (v : FileVal) (b n : Nat) :
    hunkAt (s.put k v) b n =
      if Key.hunk b n = k then (match v with | .hunk es => some es | _ => none) else hunkAt s b n := by
  unfold hunkAt
  rw [Store.get?_put]
  by_cases h : Key.hunk b n = k
  · simp only [h, if_true]; cases v <;> rfl
  · simp [h]

theorem Good.put {src : List SrcEntry} {s0 s : Store} {k : Key} {v : FileVal}
    (hg : Good H src s0 s) (hpre : s.get? k = none ∨ s.get? k = some .empty)
    (hblock : ∀ h, k = .block h → v = .empty ∨ ∃ c, v = .blockData c ∧ H c = h)
    (hhunk : ∀ b n es, k = .hunk b n → v = .hunk es → ∀ e ∈ es, EntryOK H src s e) :
    Good H src s0 (s.put k v) := by
  have hx : Extends s (s.put k v) := Extends.put v hpre
  refine ⟨Store.NoDupKeys.put hg.noDup k v, ?_, ?_, ?_⟩
  · intro h v' hv'
    rw [Store.get?_put] at hv'
    split at hv'
    · rename_i hk
      cases hv'
      exact hblock h hk.symm
    · exact hg.blocks h v' hv'
  · intro h0 b n es hes e he a ha
    rw [hunkAt_put] at hes
    split at hes
    · rename_i hk
      cases v <;> simp at hes
      subst hes
      have := (hhunk b n _ hk.symm rfl e he).addr_isSome a ha
      obtain ⟨x, hx'⟩ := Option.isSome_iff_exists.mp this
      rw [readAddrPure_mono H hx' hx]; rfl
    · have := hg.noDangling h0 b n es hes e he a ha
      obtain ⟨x, hx'⟩ := Option.isSome_iff_exists.mp this
      rw [readAddrPure_mono H hx' hx]; rfl
  · intro b n es h0 hes e he hk
    rw [hunkAt_put] at hes
    split at hes
    · rename_i hkey
      cases v <;> simp at hes
      subst hes
      exact ((hhunk b n _ hkey.symm rfl e he).1 hk).mono hx
    · exact (hg.newRec b n es h0 hes e he hk).mono hx

/-- What an operation of `backup` must satisfy in the store it is issued on. -/
structure OpOK (H : Str → Str) (src : List SrcEntry) (s : Store) (o : Op) : Prop where
  createOnly : CreateOnly o
  dir : ∀ h, o ≠ .createDir (.block h)
  block : ∀ h v m, o = .write (.block h) v m → ∃ c, v = .blockData c ∧ H c = h
  hunk : ∀ b n v m, o = .write (.hunk b n) v m → ∃ es, v = .hunk es ∧ ∀ e ∈ es, EntryOK H src s e

/-- Every admissible operation keeps the invariant, in every world: after a fault, at either
micro-step of a killed write, in a dead world. -/
theorem _root_.Conserve.World.inv_exec_good {src : List SrcEntry} {s0 : Store} (w : World) (o : Op)
    (he : w.enforceCreateNew = true) (ho : OpOK H src w.store o) (hg : Good H src s0 w.store) :
    Good H src s0 (w.exec o).1.store := by
  rcases (w.exec_cases o).2 with ⟨hs, _⟩ | ⟨k, v, m, rfl, hr, hs, _⟩ | ⟨_, hs, _⟩ | ⟨hs, _⟩
  · rw [hs]; exact hg
  · -- killed between the two halves of a write: the empty file is there
    cases ho.createOnly.createOnly
    rw [he, applyOp_write_resp true _ k v .empty] at hr
    rw [hs]
    exact hg.put (applyOp_createNew_pre hr) (fun _ _ => Or.inl rfl) (fun _ _ _ _ hv => nomatch hv)
  · rw [hs]; exact hg
  · rw [hs, he]
    rcases ho.createOnly with hro | ⟨k, rfl⟩ | ⟨k, v, rfl⟩
    · rw [applyOp_readOnly_store (.of_not_mutating hro)]; exact hg
    · rcases applyOp_createDir_store true w.store k with h | ⟨hk, h⟩
      · rw [h]; exact hg
      · rw [h]
        exact hg.put (Or.inl hk) (fun h' hk' => absurd (hk' ▸ rfl) (ho.dir h')) (fun _ _ _ _ hv => nomatch hv)
    · rcases applyOp_write_store true w.store k v .createNew with ⟨hr, h⟩ | ⟨_, h⟩
      · rw [h]
        refine hg.put (applyOp_createNew_pre hr) ?_ ?_
        · rintro h' rfl
          exact Or.inr (ho.block h' v _ rfl)
        · rintro b n es rfl rfl
          obtain ⟨_, hv, hall⟩ := ho.hunk b n _ _ rfl
          cases hv
          exact hall
      · rw [h]; exact hg

end

/-- What an address of a stored entry names when no reference dangles. -/
theorem _root_.Conserve.NoDangling.content {H : Str → Str} {s : Store} (hd : NoDangling H s) {b n : Nat}
    {es : List IndexEntry} (hh : hunkAt s b n = some es) {e : IndexEntry} (he : e ∈ es) {a : Addr}
    (ha : a ∈ e.addrs) : ∃ c, blockContent H s a.hash = some c ∧ a.start + a.len ≤ c.length :=
  readAddrPure_isSome H (hd b n es hh e he a ha)

theorem _root_.Conserve.NoDangling.block {H : Str → Str} {s : Store} (hd : NoDangling H s) {b n : Nat}
    {es : List IndexEntry} (hh : hunkAt s b n = some es) {e : IndexEntry} (he : e ∈ es) {a : Addr}
    (ha : a ∈ e.addrs) : ∃ c, s.get? (.block a.hash) = some (.blockData c) ∧ H c = a.hash := by
  obtain ⟨c, hc, _⟩ := hd.content hh he ha
  exact ⟨c, (blockContent_eq_some H).mp hc⟩

end Conserve.Inv
