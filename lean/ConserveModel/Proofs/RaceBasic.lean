import ConserveModel.Proofs.FrameConc
import ConserveModel.Proofs.CleanWorld
/-
C06 on the full model — basics: the fault-free interpreter as a function of the store alone
(`Prog.solo`), stripping leading events (`Prog.strip`, what `Actor.settle` does to the program),
finished programs (`Prog.Done`), one turn of an actor as a function of its residual program
(`Prog.turn`), and invariants of (store, residual program) kept by every operation (`Prog.turn_inv`,
`Prog.solo_inv`).  No property statements here.
-/
namespace Conserve
open Prog

/-- Fault-free, crash-free sequential run: outcome and final store. -/
def Prog.solo {α : Type} : Prog α → Store → Outcome α × Store
  | .ret a, s => (.ok a, s)
  | .fail e, s => (.err e, s)
  | .panic m, s => (.panic m, s)
  | .emit _ k, s => k.solo s
  | .op o k, s => (k (applyOp true s o).2).solo (applyOp true s o).1

@[simp] theorem Prog.solo_ret {α : Type} (a : α) (s : Store) : (Prog.ret a).solo s = (.ok a, s) := rfl
@[simp] theorem Prog.solo_fail {α : Type} (e : Err) (s : Store) : (Prog.fail e : Prog α).solo s = (.err e, s) := rfl
@[simp] theorem Prog.solo_panic {α : Type} (m : String) (s : Store) :
    (Prog.panic m : Prog α).solo s = (.panic m, s) := rfl
@[simp] theorem Prog.solo_emit {α : Type} (ev : Event) (k : Prog α) (s : Store) :
    (Prog.emit ev k).solo s = k.solo s := rfl
theorem Prog.solo_op {α : Type} (o : Op) (k : Resp → Prog α) (s : Store) :
    (Prog.op o k).solo s = (k (applyOp true s o).2).solo (applyOp true s o).1 := rfl

/-- `solo` is `eval` without the events. -/
theorem Prog.solo_eq_eval {α : Type} (p : Prog α) (s : Store) :
    p.solo s = ((p.eval true s).1, (p.eval true s).2.1) := by
  induction p generalizing s with
  | ret _ | fail _ | panic _ => rfl
  | emit ev k ih => exact ih s
  | op o k ih => exact ih _ _

theorem Prog.run_eq_solo {α : Type} (p : Prog α) {w : World} (h : w.Clean) :
    (p.run w).1 = (p.solo w.store).1 ∧ (p.run w).2.store = (p.solo w.store).2 := by
  rw [Prog.run_eq_eval p (h.toQuiet.calm p), h.1, p.solo_eq_eval]
  exact ⟨rfl, rfl⟩

theorem Prog.run_clean_eq_solo {α : Type} (p : Prog α) (s : Store) :
    (p.run (World.clean s)).1 = (p.solo s).1 ∧ (p.run (World.clean s)).2.store = (p.solo s).2 :=
  p.run_eq_solo (World.clean_Clean s)

theorem Prog.solo_bind {α β : Type} (p : Prog α) (f : α → Prog β) (s : Store) :
    (p.bind f).solo s =
      match p.solo s with
      | (.ok a, s') => (f a).solo s'
      | (.err e, s') => (.err e, s')
      | (.panic m, s') => (.panic m, s') := by
  induction p generalizing s with
  | ret a => simp
  | fail e => simp
  | panic m => simp
  | emit ev k ih => simp [ih]
  | op o k ih => simp [Prog.solo_op, ih]

/-- Drop leading events: the program part of `Actor.settle`. -/
def Prog.strip {α : Type} : Prog α → Prog α
  | .emit _ k => k.strip
  | p => p

@[simp] theorem Prog.strip_ret {α : Type} (a : α) : (Prog.ret a).strip = .ret a := rfl
@[simp] theorem Prog.strip_fail {α : Type} (e : Err) : (Prog.fail e : Prog α).strip = .fail e := rfl
@[simp] theorem Prog.strip_panic {α : Type} (m : String) : (Prog.panic m : Prog α).strip = .panic m := rfl
@[simp] theorem Prog.strip_emit {α : Type} (ev : Event) (k : Prog α) : (Prog.emit ev k).strip = k.strip := rfl
@[simp] theorem Prog.strip_op {α : Type} (o : Op) (k : Resp → Prog α) : (Prog.op o k).strip = .op o k := rfl

theorem Actor.settle_fst {α : Type} (p : Prog α) (evs : List Event) : (Actor.settle p evs).1 = p.strip := by
  induction p generalizing evs with
  | ret a => rfl
  | fail e => rfl
  | panic s => rfl
  | emit ev k ih => exact ih _
  | op o k _ => rfl

@[simp] theorem Prog.solo_strip {α : Type} (p : Prog α) (s : Store) : p.strip.solo s = p.solo s := by
  induction p with
  | ret a => rfl
  | fail e => rfl
  | panic s => rfl
  | emit ev k ih => exact ih
  | op o k _ => rfl

@[simp] theorem Prog.strip_strip {α : Type} (p : Prog α) : p.strip.strip = p.strip := by
  induction p with
  | ret a => rfl
  | fail e => rfl
  | panic s => rfl
  | emit ev k ih => exact ih
  | op o k _ => rfl

theorem Prog.AllOps.strip {α : Type} {P : Op → Prop} {p : Prog α} (h : AllOps P p) : AllOps P p.strip := by
  induction h with
  | ret a => exact .ret a
  | fail e => exact .fail e
  | panic s => exact .panic s
  | emit ev _ ih => exact ih
  | op ho hk _ => exact .op ho hk

theorem Prog.strip_bind {α β : Type} (p : Prog α) (f : α → Prog β) :
    (p.bind f).strip =
      match p.strip with
      | .ret a => (f a).strip
      | q => q.bind f := by
  induction p with
  | ret a => simp
  | fail e => simp
  | panic s => simp
  | emit ev k ih => simpa using ih
  | op o k _ => simp

def Prog.Done {α : Type} : Prog α → Prop
  | .ret _ | .fail _ | .panic _ => True
  | _ => False

theorem Prog.Done.strip {α : Type} {p : Prog α} (h : p.Done) : p.strip = p := by
  cases p <;> first | rfl | cases h

theorem Prog.Done.solo {α : Type} {p : Prog α} (h : p.Done) (s : Store) : (p.solo s).2 = s := by
  cases p <;> first | rfl | cases h

/-- The program an actor is left with after `finish`. -/
def Outcome.toProg {α : Type} : Outcome α → Prog α
  | .ok x => .ret x
  | .err e => .fail e
  | .panic m => .panic m

theorem Outcome.toProg_done {α : Type} (o : Outcome α) : o.toProg.Done := by cases o <;> trivial

theorem Actor.finish_store {α : Type} (a : Actor α) (s : Store) : (a.finish true s).1 = (a.prog.solo s).2 := by
  unfold Actor.finish
  exact (a.prog.run_eq_solo (w := { store := s, enforceCreateNew := true }) ⟨rfl, rfl, rfl, rfl⟩).2

theorem Actor.finish_prog {α : Type} (a : Actor α) (s : Store) :
    (a.finish true s).2.prog = (a.prog.solo s).1.toProg := by
  unfold Actor.finish
  have := (a.prog.run_eq_solo (w := { store := s, enforceCreateNew := true }) ⟨rfl, rfl, rfl, rfl⟩).1
  simp only
  rw [← this]
  cases (a.prog.run { store := s, enforceCreateNew := true }).1 <;> rfl

/-- One turn of an actor, seen on its residual program: perform the pending operation and drop the
events that follow; a finished program stays as it is. -/
def Prog.turn {α : Type} : Prog α → Store → Store × Prog α
  | .op o k, s => ((applyOp true s o).1, (k (applyOp true s o).2).strip)
  | p, s => (s, p)

theorem Actor.step_turn {α : Type} (a : Actor α) (s : Store) :
    (a.step true s).1 = (a.prog.turn s).1 ∧ (a.step true s).2.prog = (a.prog.turn s).2 := by
  obtain ⟨p, t, evs⟩ := a
  cases p with
  | op o k => exact ⟨rfl, Actor.settle_fst _ _⟩
  | _ => exact ⟨rfl, rfl⟩

theorem Prog.turn_inv {α : Type} {I : Store → Prog α → Prop}
    (hstep : ∀ s o k, I s (.op o k) → I (applyOp true s o).1 (k (applyOp true s o).2).strip)
    (p : Prog α) (s : Store) (h : I s p) : I (p.turn s).1 (p.turn s).2 := by
  cases p with
  | op o k => exact hstep s o k h
  | _ => exact h

theorem Prog.solo_inv {α : Type} {I : Store → Prog α → Prop}
    (hstep : ∀ s o k, I s (.op o k) → I (applyOp true s o).1 (k (applyOp true s o).2).strip)
    (p : Prog α) (s : Store) (h : I s p.strip) : I (p.solo s).2 (p.solo s).1.toProg := by
  induction p generalizing s with
  | ret a => exact h
  | fail e => exact h
  | panic m => exact h
  | emit ev k ih => exact ih s h
  | op o k ih => exact ih _ _ (hstep s o k h)

theorem Actor.start_prog {α : Type} (p : Prog α) : (Actor.start p).prog = p.strip := by
  unfold Actor.start
  exact Actor.settle_fst p []

theorem Actor.outcome_of_done {α : Type} {a : Actor α} (h : a.prog.Done) : a.outcome ≠ none := by
  unfold Actor.outcome
  cases hp : a.prog <;> simp_all [Prog.Done]

end Conserve
