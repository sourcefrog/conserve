import ConserveModel.Proofs.FsTree
import ConserveModel.Proofs.FsGuard
/-
The source walk of a well-formed tree lists every directory before what it contains: the set of
what it emits is closed under parents (`Forest.Below.parent`), and in a strictly increasing listing
a parent that is listed is listed earlier (`tcFrom_of_sorted`).
-/
namespace Conserve

theorem Node.entry_kind_dir {n : Node} (h : n.isDir = true) (ap : Str) : (n.entry ap).kind = .dir := by
  cases n <;> simp_all [Node.isDir, Node.entry]

theorem Forest.Below.isDir_of_kids {excl : Str → Bool} {T : Node} {ap : Str} {n : Node} {ap' : Str}
    (h : Forest.Below excl T.kids ap n ap') : T.isDir = true := by
  have hne : T.kids ≠ .nil := by
    intro e
    rw [e] at h
    cases h with
    | child hp => simp [live, Forest.toList] at hp
    | deeper hp _ _ => simp [live, Forest.toList] at hp
  cases T with
  | dir _ _ => rfl
  | file _ _ _ => exact absurd rfl hne
  | symlink _ _ => exact absurd rfl hne

/-- What is met below `cs` hangs off `cs` itself or off a directory that is met too. -/
theorem Forest.Below.parent {excl : Str → Bool} {f : Forest} {ap : Str} {n : Node} {ap' : Str}
    (h : Forest.Below excl f ap n ap') :
    ∀ {cs}, GoodComps cs → f.WF = true → ap = pathOf cs →
      (components ap').dropLast = cs ∨
      ∃ d apd, Forest.Below excl f ap d apd ∧ d.isDir = true ∧ components apd = (components ap').dropLast := by
  induction h with
  | @child f ap p hp =>
    rintro cs hcs hwf rfl
    have F := listingFacts excl hcs hwf
    have hp := (mem_live.1 hp).1
    rw [F.append p hp, components_pathOf (hcs.append (.single (F.good p hp))), List.dropLast_concat]
    exact .inl rfl
  | @deeper f ap p n ap' hp hd hb ih =>
    rintro cs hcs hwf rfl
    have F := listingFacts excl hcs hwf
    have hp' := (mem_live.1 hp).1
    have hg := hcs.append (.single (F.good p hp'))
    rcases ih hg (F.wfKids p hp') (F.append p hp') with h | ⟨d, apd, hbd, hdd, hc⟩
    · exact .inr ⟨p.2, _, .child hp, hd, by rw [F.append p hp', components_pathOf hg, h]⟩
    · exact .inr ⟨d, apd, .deeper hp hd hbd, hdd, hc⟩

theorem tcFrom_of_sorted (g : SrcEntry → RNode) (hg : ∀ e, (g e).apath = e.apath ∧ (g e).kind = e.kind)
    (root : SrcEntry) (hroot : components root.apath = []) :
    ∀ (L E : List SrcEntry), (E ++ L).Pairwise ELt →
      (∀ e ∈ L, ∃ d ∈ E ++ L, d.kind = .dir ∧ components d.apath = (components e.apath).dropLast ∧
        ELt d e) →
      tcFrom (g root) (E.map g) (L.map g) = true := by
  intro L
  induction L with
  | nil => intro _ _ _; rfl
  | cons e L ih =>
    intro E hs h
    have irr : ∀ a : SrcEntry, ¬ ELt a a := fun a => C11.cmp_irrefl _
    simp only [List.map_cons, tcFrom, Bool.and_eq_true]
    refine ⟨⟨?_, ?_⟩, ?_⟩
    · simp [comps, (hg root).1, hroot]
    · obtain ⟨d, hd, hk, hc, hlt⟩ := h e List.mem_cons_self
      -- `d` sorts before `e`, so it is not `e` and not after it
      have hdE : d ∈ E := by
        rcases List.mem_append.1 hd with hd | hd
        · exact hd
        · rcases List.mem_cons.1 hd with rfl | hd
          · exact absurd hlt (irr _)
          · exact absurd (C11.cmp_trans hlt
              ((List.pairwise_cons.1 (List.pairwise_append.1 hs).2.1).1 d hd)) (irr _)
      unfold parentSeen
      rw [List.any_eq_true]
      exact ⟨g d, List.mem_map.2 ⟨d, hdE, rfl⟩, by simp [comps, (hg d).1, (hg d).2, (hg e).1, hk, hc]⟩
    · have := ih (E ++ [e]) (by simpa using hs) (fun e' he' => by
        simpa using h e' (List.mem_cons_of_mem _ he'))
      simpa using this

theorem walk_tcFrom (T : Node) (excl : Str → Bool) (hwf : T.WF = true)
    (g : SrcEntry → RNode) (hg : ∀ e, (g e).apath = e.apath ∧ (g e).kind = e.kind) :
    tcFrom (g (T.entry [slash])) [g (T.entry [slash])]
      ((T.kids.walkBelow excl (pathOf [])).map g) = true := by
  have hs := C11.walk_sorted T excl hwf
  rw [C11.walk_eq, List.pairwise_map] at hs
  have hk := Node.WF_kids hwf
  refine tcFrom_of_sorted g hg _ (by rw [Node.entry_apath]; rfl) _ [T.entry [slash]] hs fun e he => ?_
  obtain ⟨n, ap', hb, rfl⟩ := Forest.mem_walkBelow.1 he
  obtain ⟨x, t, hxt, e⟩ := hb.path .nil hk rfl
  have hpar := hb.parent .nil hk rfl
  subst e
  simp only [List.nil_append] at hpar ⊢
  rw [Node.entry_apath, components_pathOf hxt] at *
  -- the path is its parent's components and a last name
  obtain ⟨dl, l, hdl⟩ : ∃ dl l, x :: t = dl ++ [l] :=
    ⟨_, _, (List.dropLast_concat_getLast (List.cons_ne_nil x t)).symm⟩
  rw [hdl, List.dropLast_concat] at hpar ⊢
  have hlt : apathCmp (pathOf dl) (pathOf (dl ++ [l])) = .lt := ancestor_lt (hdl ▸ hxt)
  rcases hpar with h | ⟨d, apd, hbd, hdd, hc⟩
  · subst h
    exact ⟨_, List.mem_cons_self, Node.entry_kind_dir hb.isDir_of_kids _, by rw [Node.entry_apath]; rfl,
      by unfold ELt; rw [Node.entry_apath, Node.entry_apath]; exact hlt⟩
  · obtain ⟨y, s, hys, e⟩ := hbd.path .nil hk rfl
    subst e
    rw [List.nil_append, components_pathOf hys] at hc
    refine ⟨d.entry _, List.mem_cons_of_mem _ (Forest.mem_walkBelow.2 ⟨d, _, hbd, rfl⟩),
      Node.entry_kind_dir hdd _, by rw [Node.entry_apath, List.nil_append, components_pathOf hys, hc], ?_⟩
    unfold ELt
    rw [Node.entry_apath, Node.entry_apath, List.nil_append, hc]
    exact hlt

end Conserve
