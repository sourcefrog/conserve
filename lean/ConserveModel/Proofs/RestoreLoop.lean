import ConserveModel.Proofs.NoPanicRead
import ConserveModel.Proofs.StitchRun
import ConserveModel.Restore
import ConserveModel.Invariants
/-
The per-entry loop of `restore()` as a pure function of the store, for entries that pass
`IndexEntry::check` (`NP.restoreP`: the nodes, and the errors reported), with the content loop under it
(`blockReadP`, `readAddressP`, `readContentP`) and how that relates to `readBack` (Invariants.lean).
The loop one entry at a time (`Contain.restoreP_cons`: skipped and reported, or `nodeP` and `errP`);
on a listing in which no entry lies below a symlink restored BEFORE it (`Unshadowed`) the loop is a
plain `filterMap`; a silent restore says the listing is unshadowed; on any listing every entry gets
its node and report or is reported as skipped.  That the programs compute these functions in a
fault-free world is in Proofs/ExactRestore.lean.  No property statements here.
-/
set_option linter.unusedSimpArgs false
namespace Conserve.NP
open Conserve Prog

section
variable (H : Str → Str)

/-- `BlockDir::get_block_content` on a store. -/
def blockReadP (s : Store) (h : Str) : Except Err Str :=
  match quietResp s (.read (.block h)) with
  | .err e => .error (.transport e)
  | .val (.blockData c) => if H c = h then .ok c else .error (.blockCorrupt h)
  | .val _ => .error .json
  | _ => .error (.transport .other)

/-- `BlockDir::read_address` on a store. -/
def readAddressP (s : Store) (a : Addr) : Except Err Str :=
  match blockReadP H s a.hash with
  | .error e => .error e
  | .ok c =>
    if a.start + a.len > c.length then .error (.blockTooShort a.hash)
    else .ok ((c.drop a.start).take a.len)

/-- `readContent` on a store. -/
def readContentP (s : Store) : List Addr → Str → Str × Option (Str × Err)
  | [], acc => (acc, none)
  | a :: as, acc =>
    match readAddressP H s a with
    | .error e => (acc, some (a.hash, e))
    | .ok bytes => readContentP s as (acc ++ bytes)

theorem blockReadP_toOption (s : Store) (h : Str) : (blockReadP H s h).toOption = blockContent H s h := by
  simp only [blockReadP, blockContent, quietResp]
  cases s.get? (.block h) with
  | none => rfl
  | some v =>
    cases v with
    | blockData c =>
      simp only
      split
      · rfl
      · rfl
    | _ => rfl

theorem readAddressP_eq (s : Store) (a : Addr) :
    (readAddressP H s a).toOption = readAddrPure H s a := by
  unfold readAddressP readAddrPure
  rw [← blockReadP_toOption]
  cases blockReadP H s a.hash with
  | error e => rfl
  | ok c =>
    by_cases hl : a.start + a.len ≤ c.length
    · simp [Except.toOption, sliceOf, hl, Nat.not_lt.mpr hl]
    · simp [Except.toOption, sliceOf, hl, Nat.lt_of_not_le hl]

theorem readContentP_some {s : Store} (as : List Addr) (acc : Str) {c : Str}
    (h : readBack H s as = some c) : readContentP H s as acc = (acc ++ c, none) := by
  induction as generalizing acc c with
  | nil => simp [readBack] at h; subst h; simp [readContentP]
  | cons a as ih =>
    simp only [readBack] at h
    have ha := readAddressP_eq H s a
    cases hx : readAddrPure H s a with
    | none => simp [hx] at h
    | some x =>
      cases hy : readBack H s as with
      | none => simp [hx, hy] at h
      | some y =>
        simp only [hx, hy, Option.some.injEq] at h
        subst h
        rw [hx] at ha
        cases hr : readAddressP H s a with
        | error e => simp [hr, Except.toOption] at ha
        | ok bytes =>
          simp only [hr, Except.toOption, Option.some.injEq] at ha
          subst ha
          simp only [readContentP, hr, ih _ hy, List.append_assoc]

theorem readContentP_none {s : Store} (as : List Addr) (acc : Str)
    (h : readBack H s as = none) : ∃ part hh e, readContentP H s as acc = (part, some (hh, e)) := by
  induction as generalizing acc with
  | nil => simp [readBack] at h
  | cons a as ih =>
    have ha := readAddressP_eq H s a
    cases hr : readAddressP H s a with
    | error e => exact ⟨acc, a.hash, e, by simp [readContentP, hr]⟩
    | ok bytes =>
      simp only [hr, Except.toOption] at ha
      simp only [readBack, ← ha] at h
      cases hy : readBack H s as with
      | none =>
        obtain ⟨part, hh, e, hp⟩ := ih (acc ++ bytes) hy
        exact ⟨part, hh, e, by simp [readContentP, hr, hp]⟩
      | some y => simp [hy] at h

/-- `p` is a proper ancestor-by-prefix of `a`, and not the root. -/
def strictlyBelow (p a : Str) : Bool := p != [slash] && p != a && isPrefixOfImpl p a

theorem belowSymlink_eq (syms : List Str) (a : Str) :
    belowSymlink syms a = syms.any (fun p => strictlyBelow p a) := rfl

/-- `restoreEntries` on a store (for entries that pass `IndexEntry::check`): the nodes, and the
errors reported, in order. -/
def restoreP (s : Store) : List Str → List IndexEntry → List RNode × List Err
  | _, [] => ([], [])
  | syms, e :: es =>
    if belowSymlink syms e.apath then
      ((restoreP s syms es).1, .invalidMetadata :: (restoreP s syms es).2)
    else
    match e.kind with
    | .dir => (RNode.ofEntry e :: (restoreP s syms es).1, (restoreP s syms es).2)
    | .file =>
      match readContentP H s e.addrs [] with
      | (bytes, some (h, _)) =>
        ({ RNode.ofEntry e with content := bytes, complete := false } :: (restoreP s syms es).1,
         .restoreFileBlock e.apath h :: (restoreP s syms es).2)
      | (bytes, none) =>
        ({ RNode.ofEntry e with content := bytes } :: (restoreP s syms es).1, (restoreP s syms es).2)
    | .symlink =>
      match e.target with
      | none => ((restoreP s syms es).1, .invalidMetadata :: (restoreP s syms es).2)
      | some _ => (RNode.ofEntry e :: (restoreP s (e.apath :: syms) es).1, (restoreP s (e.apath :: syms) es).2)
    | .unknown => ((restoreP s syms es).1, .invalidMetadata :: (restoreP s syms es).2)

/-- No entry of the list lies strictly below a symlink restored so far, or below a symlink entry of
the list itself.  (True of every listing written by a backup of a real tree: nothing can be walked
below a symlink.) -/
def NoSymlinkAbove (syms : List Str) (es : List IndexEntry) : Prop :=
  (∀ p ∈ syms, ∀ y ∈ es, strictlyBelow p y.apath = false) ∧
  (∀ x ∈ es, x.kind = .symlink → ∀ y ∈ es, strictlyBelow x.apath y.apath = false)

end
end Conserve.NP

namespace Conserve.Contain
open Conserve Conserve.NP

variable (H : Str → Str)

/-- The node `restore` creates for one entry that is not skipped. -/
def nodeP (s : Store) (e : IndexEntry) : Option RNode :=
  match e.kind with
  | .dir => some (RNode.ofEntry e)
  | .file =>
    match readContentP H s e.addrs [] with
    | (bytes, some _) => some { RNode.ofEntry e with content := bytes, complete := false }
    | (bytes, none) => some { RNode.ofEntry e with content := bytes }
  | .symlink => if e.target.isSome then some (RNode.ofEntry e) else none
  | .unknown => none

/-- The error `restore` reports for one entry that is not skipped. -/
def errP (s : Store) (e : IndexEntry) : Option Err :=
  match e.kind with
  | .dir => none
  | .file =>
    match readContentP H s e.addrs [] with
    | (_, some (h, _)) => some (.restoreFileBlock e.apath h)
    | (_, none) => none
  | .symlink => if e.target.isSome then none else some .invalidMetadata
  | .unknown => some .invalidMetadata

/-- No entry lies strictly below one of the symlinks `syms` restored so far, or below a symlink entry
that comes BEFORE it in the list.  Positional, hence inherited by sub-lists and prefixes. -/
def Unshadowed (syms : List Str) (es : List IndexEntry) : Prop :=
  (∀ p ∈ syms, ∀ y ∈ es, strictlyBelow p y.apath = false) ∧
  es.Pairwise (fun x y => x.kind = .symlink → strictlyBelow x.apath y.apath = false)

variable {H}

/-- The symlinks restored so far, once the loop is past `e` (which was not skipped). -/
def nextSyms (syms : List Str) (e : IndexEntry) : List Str :=
  if e.kind = .symlink ∧ e.target.isSome then e.apath :: syms else syms

theorem mem_nextSyms {syms : List Str} {e : IndexEntry} {p : Str} :
    p ∈ nextSyms syms e ↔ p ∈ syms ∨ (p = e.apath ∧ e.kind = .symlink ∧ e.target.isSome) := by
  unfold nextSyms
  split
  · rename_i h
    simp [h, or_comm]
  · rename_i h
    simp [h]

/-- One step of the loop: an entry below a restored symlink is reported and skipped; any other
entry contributes its node and its report, if it has one. -/
theorem restoreP_cons (s : Store) (syms : List Str) (e : IndexEntry) (es : List IndexEntry) :
    restoreP H s syms (e :: es) =
      if belowSymlink syms e.apath then
        ((restoreP H s syms es).1, .invalidMetadata :: (restoreP H s syms es).2)
      else
        ((nodeP H s e).toList ++ (restoreP H s (nextSyms syms e) es).1,
         (errP H s e).toList ++ (restoreP H s (nextSyms syms e) es).2) := by
  rw [restoreP]
  split
  · rfl
  · unfold nodeP errP nextSyms
    cases e.kind with
    | file => rcases readContentP H s e.addrs [] with ⟨bytes, _ | ⟨h, _⟩⟩ <;> simp
    | symlink => cases e.target <;> simp
    | _ => simp

theorem belowSymlink_eq_false {syms : List Str} {a : Str} :
    belowSymlink syms a = false ↔ ∀ p ∈ syms, strictlyBelow p a = false := by
  rw [belowSymlink_eq, List.any_eq_false]
  simp

theorem Unshadowed.head {syms : List Str} {x : IndexEntry} {es : List IndexEntry}
    (h : Unshadowed syms (x :: es)) : belowSymlink syms x.apath = false :=
  belowSymlink_eq_false.mpr fun p hp => h.1 p hp x (List.mem_cons_self ..)

theorem Unshadowed.next {syms : List Str} {x : IndexEntry} {es : List IndexEntry}
    (h : Unshadowed syms (x :: es)) : Unshadowed (nextSyms syms x) es := by
  refine ⟨fun p hp y hy => ?_, (List.pairwise_cons.mp h.2).2⟩
  rcases mem_nextSyms.mp hp with hp | ⟨rfl, hk, _⟩
  · exact h.1 p hp y (List.mem_cons_of_mem _ hy)
  · exact (List.pairwise_cons.mp h.2).1 y hy hk

/-- `NoSymlinkAbove` (the order-free form used in Props/C10.lean) implies the positional one. -/
theorem unshadowed_of_noSymlinkAbove {syms : List Str} {es : List IndexEntry} (h : NoSymlinkAbove syms es) :
    Unshadowed syms es :=
  ⟨h.1, List.pairwise_of_forall_mem_list fun x hx y hy hk => h.2 x hx hk y hy⟩

theorem nodeP_file_some {s : Store} {e : IndexEntry} (hk : e.kind = .file) {c : Str}
    (h : readBack H s e.addrs = some c) : nodeP H s e = some { RNode.ofEntry e with content := c } := by
  have := readContentP_some H e.addrs [] h
  simp only [List.nil_append] at this
  simp [nodeP, hk, this]

theorem nodeP_file_none {s : Store} {e : IndexEntry} (hk : e.kind = .file)
    (h : readBack H s e.addrs = none) :
    (∃ bytes, nodeP H s e = some { RNode.ofEntry e with content := bytes, complete := false }) ∧
    ∃ hh, errP H s e = some (.restoreFileBlock e.apath hh) := by
  obtain ⟨part, hh, er, hp⟩ := readContentP_none H e.addrs [] h
  exact ⟨⟨part, by simp [nodeP, hk, hp]⟩, ⟨hh, by simp [errP, hk, hp]⟩⟩

theorem filterMap_cons_toList {α β : Type} (f : α → Option β) (a : α) (l : List α) :
    (a :: l).filterMap f = (f a).toList ++ l.filterMap f := by
  rw [List.filterMap_cons]
  cases f a <;> rfl

theorem Unshadowed.nil (syms : List Str) : Unshadowed syms [] :=
  ⟨fun _ _ _ h => (nomatch h), List.Pairwise.nil⟩

theorem Unshadowed.sublist {syms : List Str} {es es' : List IndexEntry} (h : Unshadowed syms es)
    (hs : es'.Sublist es) : Unshadowed syms es' :=
  ⟨fun p hp y hy => h.1 p hp y (hs.subset hy), h.2.sublist hs⟩

theorem restoreP_append_unshadowed (s : Store) (l2 : List IndexEntry) :
    ∀ (l1 : List IndexEntry) (syms : List Str), Unshadowed syms l1 →
      ∃ syms', restoreP H s syms (l1 ++ l2) =
        (l1.filterMap (nodeP H s) ++ (restoreP H s syms' l2).1,
         l1.filterMap (errP H s) ++ (restoreP H s syms' l2).2) := by
  intro l1
  induction l1 with
  | nil => intro syms _; exact ⟨syms, rfl⟩
  | cons x es ih =>
    intro syms hn
    obtain ⟨syms', h'⟩ := ih _ hn.next
    refine ⟨syms', ?_⟩
    rw [List.cons_append, restoreP_cons, hn.head, h']
    simp only [Bool.false_eq_true, if_false, filterMap_cons_toList, List.append_assoc]

theorem restoreP_unshadowed (s : Store) {syms : List Str} {es : List IndexEntry} (hn : Unshadowed syms es) :
    restoreP H s syms es = (es.filterMap (nodeP H s), es.filterMap (errP H s)) := by
  obtain ⟨syms', h⟩ := restoreP_append_unshadowed (H := H) s [] es syms hn
  simpa [restoreP] using h

theorem nodeP_apath {s : Store} {e : IndexEntry} {nd : RNode} (h : nodeP H s e = some nd) : nd.apath = e.apath := by
  unfold nodeP at h
  split at h
  · cases h; rfl
  · split at h <;> (cases h; rfl)
  · split at h
    · cases h; rfl
    · cases h
  · cases h

theorem nodeP_incomplete {s : Store} {e : IndexEntry} (hk : e.kind = .file)
    (h : readBack H s e.addrs = none) {nd : RNode} (hn : nodeP H s e = some nd) : nd.complete = false := by
  obtain ⟨⟨bytes, hb⟩, _⟩ := nodeP_file_none (H := H) hk h
  rw [hb] at hn
  cases hn
  rfl

theorem nextSyms_of_silent {s : Store} {e : IndexEntry} (syms : List Str) (hk : e.kind = .symlink)
    (h : errP H s e = none) : nextSyms syms e = e.apath :: syms := by
  unfold errP at h
  unfold nextSyms
  rw [hk] at h
  cases ht : e.target <;> simp_all

theorem unshadowed_of_silent {s : Store} :
    ∀ (es : List IndexEntry) (syms : List Str), (restoreP H s syms es).2 = [] → Unshadowed syms es := by
  intro es
  induction es with
  | nil => intro syms _; exact Unshadowed.nil syms
  | cons x es ih =>
    intro syms h
    rw [restoreP_cons] at h
    split at h
    · cases h
    · rename_i hb
      obtain ⟨hx, hrest⟩ := List.append_eq_nil_iff.mp h
      have hu := ih _ hrest
      have hhead := belowSymlink_eq_false.mp (Bool.not_eq_true _ ▸ hb)
      refine ⟨fun p hp y hy => ?_, List.pairwise_cons.mpr ⟨fun y hy hk => ?_, hu.2⟩⟩
      · rcases List.mem_cons.mp hy with rfl | hy
        · exact hhead p hp
        · exact hu.1 p (mem_nextSyms.mpr (.inl hp)) y hy
      · have hnone : errP H s x = none := by
          cases he : errP H s x with
          | none => rfl
          | some er => rw [he] at hx; cases hx
        exact hu.1 x.apath (nextSyms_of_silent syms hk hnone ▸ List.mem_cons_self ..) y hy

theorem restoreP_node_from (s : Store) :
    ∀ (es : List IndexEntry) (syms : List Str) (nd : RNode), nd ∈ (restoreP H s syms es).1 →
      ∃ x ∈ es, nodeP H s x = some nd := by
  intro es
  induction es with
  | nil => intro syms nd h; cases h
  | cons x es ih =>
    intro syms nd h
    have lift : ∀ syms2, nd ∈ (restoreP H s syms2 es).1 → ∃ y ∈ x :: es, nodeP H s y = some nd := by
      intro syms2 h2
      obtain ⟨y, hy, hyn⟩ := ih syms2 nd h2
      exact ⟨y, List.mem_cons_of_mem _ hy, hyn⟩
    rw [restoreP_cons] at h
    split at h
    · exact lift _ h
    · rcases List.mem_append.mp h with h | h
      · exact ⟨x, List.mem_cons_self .., Option.mem_toList.mp h⟩
      · exact lift _ h

theorem restoreP_entry (s : Store) :
    ∀ (es : List IndexEntry) (syms : List Str) (x : IndexEntry), x ∈ es →
      Err.invalidMetadata ∈ (restoreP H s syms es).2 ∨
      ((∀ nd, nodeP H s x = some nd → nd ∈ (restoreP H s syms es).1) ∧
       (∀ er, errP H s x = some er → er ∈ (restoreP H s syms es).2)) := by
  intro es
  induction es with
  | nil => intro syms x h; cases h
  | cons y es ih =>
    intro syms x hx
    rw [restoreP_cons]
    split
    · exact .inl (List.mem_cons_self ..)
    · rcases List.mem_cons.mp hx with rfl | hx'
      · exact .inr ⟨fun nd h => List.mem_append_left _ (Option.mem_toList.mpr h),
          fun er h => List.mem_append_left _ (Option.mem_toList.mpr h)⟩
      · rcases ih (nextSyms syms y) x hx' with h | ⟨ha, hb⟩
        · exact .inl (List.mem_append_right _ h)
        · exact .inr ⟨fun nd hn => List.mem_append_right _ (ha nd hn),
            fun er he => List.mem_append_right _ (hb er he)⟩

end Conserve.Contain

namespace Conserve.NP
open Conserve Conserve.Contain

theorem restoreP_file (H : Str → Str) {s : Store} {syms : List Str} {es : List IndexEntry} (hn : NoSymlinkAbove syms es)
    {e : IndexEntry} (he : e ∈ es) (hk : e.kind = .file) :
    (∀ c, readBack H s e.addrs = some c →
      { RNode.ofEntry e with content := c } ∈ (restoreP H s syms es).1) ∧
    (readBack H s e.addrs = none → ∃ bytes h,
      { RNode.ofEntry e with content := bytes, complete := false } ∈ (restoreP H s syms es).1 ∧
      Err.restoreFileBlock e.apath h ∈ (restoreP H s syms es).2) := by
  rw [restoreP_unshadowed s (unshadowed_of_noSymlinkAbove hn)]
  refine ⟨fun c hc => List.mem_filterMap.mpr ⟨e, he, nodeP_file_some hk hc⟩, fun hnone => ?_⟩
  obtain ⟨⟨bytes, hb⟩, h, hh⟩ := nodeP_file_none (H := H) hk hnone
  exact ⟨bytes, h, List.mem_filterMap.mpr ⟨e, he, hb⟩, List.mem_filterMap.mpr ⟨e, he, hh⟩⟩

end Conserve.NP
