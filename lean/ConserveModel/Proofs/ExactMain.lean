import ConserveModel.Proofs.ExactLoop
import ConserveModel.Proofs.ExactFrame
import ConserveModel.Proofs.HistRaw
/-
`backup()` on a fault-free world, in its two halves: the prelude (lock check, new version, block
listing, basis listing; `backupPrelude_runs_fair`, `backupPrelude_runs`) and the main part with the
final store (`backupMain_runs`, `Final`).  Proofs/ExactTop.lean puts them together.
-/
namespace Conserve.Exact
open Conserve Prog

variable {H : Str → Str} {o : BackupOpts}

/-- Version `b` lists without complaint: head readable, hunks numbered 0,1,2,… as the tail says (if
any), every hunk file usable. -/
def BandGood (s : Store) (b : Nat) : Prop :=
  bandReadable s b = true ∧ indexCheckError s b = none ∧ ∀ k ∈ hunkNumsOf s b, hunkError s b k = none

theorem BandGood.of_same {s s' : Store} {b : Nat} (nd : Inv.NoDupKeys s) (nd' : Inv.NoDupKeys s')
    (h : BandSame s s' b) (hg : BandGood s b) : BandGood s' b := by
  have hb := h.toNP
  refine ⟨hb.bandReadable.trans hg.1, (hb.indexCheckError nd nd').trans hg.2.1, fun k hk => ?_⟩
  rw [hb.hunkNumsOf nd nd'] at hk
  exact (hb.hunkError k).trans (hg.2.2 k hk)

/-- What C01 (a) assumes of the archive a backup starts from. -/
structure ArchiveGood (H : Str → Str) (src : List SrcEntry) (s : Store) : Prop where
  /-- a map and a tree; directories where the layout has directories and files where it has files;
  `d/` exists; every block file is named by the hash of its content (or is a zero-length leftover)
  and is shorter than 2^64 bytes -/
  st : StoreOK H s
  /-- in every version the entries of the usable hunks are strictly increasing -/
  sorted : ∀ b n v, s.get? (.hunk b n) = some v → strictlySorted ((ownEntries s b).map (·.apath)) = true
  /-- no garbage collection in progress -/
  noLock : s.get? .gcLock = none
  /-- every version directory holds a version that lists without complaint -/
  bands : ∀ b ∈ bandIdsOf s, BandGood s b
  /-- no index entry refers to a missing, corrupt or too-short block -/
  noDangling : NoDangling H s
  /-- the tool's own assumption: a stored file entry that looks unchanged IS unchanged -/
  heuristic : Inv.HeuristicSoundStore H src s

theorem ArchiveGood.wf {src : List SrcEntry} {s : Store} (h : ArchiveGood H src s) : ArchWF s :=
  archWF_of h.st h.sorted

theorem bandDir_of_hunk {s : Store} (hst : StoreOK H s) {c n : Nat} {v : FileVal}
    (h : s.get? (.hunk c n) = some v) : c ∈ bandIdsOf s := by
  exact (mem_bandIdsOf hst).2
    (hst.parent_dir (k := .indexDir c) (hst.parent_dir (k := .hunkDir c _) (hst.parent_dir h rfl) rfl) rfl)

theorem ArchiveGood.headLost_false {src : List SrcEntry} {s : Store} (h : ArchiveGood H src s) (c : Nat) :
    headLost s c = false := by
  unfold headLost
  cases hg : s.get? (.hunk c 0) with
  | none => simp
  | some v =>
    have hr := (h.bands c (bandDir_of_hunk h.st hg)).1
    have hp : bandPresent s c = true := bandPresent_of_readable hr
    simp [hp]

theorem listEntries_runsAt {s : Store} (wf : ArchWF s) (n : Nat) (subtree : Str) (excl : Str → Bool) :
    RunsAt (listEntries n subtree excl) s
      (.ok ((listSpec s n).filter fun e => isPrefixOfImpl subtree e.apath && !excl e.apath)) s
      (((listErrors s n).map Event.error).reverse) := by
  have := Hist.listEntries_raw_runsAt s n subtree excl
  rwa [stitchAllP_fst wf, stitchAllP_snd wf, Hist.filterP_valid fun e he _ => C08.listed_valid he] at this

/-- What the archive looks like after the backup created version `nb` from `src`: `hs` are its hunks. -/
structure Final (H : Str → Str) (o : BackupOpts) (nb : Nat) (s0 s : Store) (hs : List (List IndexEntry))
    (src : List SrcEntry) : Prop where
  st : StoreOK H s
  hunk : ∀ n, s.get? (.hunk nb n) = (hs[n]?).map FileVal.hunk
  indexDir : s.get? (.indexDir nb) = some .dir
  bandDir : s.get? (.bandDir nb) = some .dir
  head : s.get? (.bandHead nb) = some (.head .ok [])
  tail : s.get? (.bandTail nb) = some (.tail (some hs.length))
  shape : hs.flatten.map strip = src.map (Inv.metaOf o)
  hsNonfile : ∀ e ∈ hs.flatten, e.kind ≠ .file → e.addrs = []
  frame : ∀ k, newKey nb k = false → s.get? k = s0.get? k

/-- The main part of `backup()` up to and including the second `finish_hunk`. -/
def _root_.Conserve.Crash.backupBody (H : Str → Str) (o : BackupOpts) (src : List SrcEntry)
    (x : Nat × List Str × List IndexEntry) : Prog Writer :=
  (backupLoop H o { band := x.1, exists_ := x.2.1 } (mergeTrees x.2.2 src)).bind fun w =>
  (flushGroup H w).bind fun w => finishHunk w

/-- `Band::close` and the return of the statistics. -/
def _root_.Conserve.Crash.backupClose (w : Writer) : Prog Stats :=
  (bandClose w.band w.hunksWritten).bind fun _ => Prog.ret w.stats

theorem backupMain_eq (H : Str → Str) (o : BackupOpts) (src : List SrcEntry) (x : Nat × List Str × List IndexEntry) :
    Inv.backupMain H o src x = (Crash.backupBody H o src x).bind Crash.backupClose := by
  unfold Inv.backupMain Crash.backupBody Crash.backupClose
  simp only [Prog.bind_assoc]

/-- The body from the state the prelude leaves: the store `s2` it leaves has no tail for the new
version, and putting the tail there gives the final store. -/
theorem backupBody_runs (hmax : 0 < o.maxBlockSize) {nb : Nat} {s0 s : Store} {src : List SrcEntry}
    (x : Nat × List Str × List IndexEntry)
    (hl : LInv H o nb s0 s { band := x.1, exists_ := x.2.1 } [] [] [] 0)
    (hsrc : ∀ sf ∈ src, EntryGood sf)
    (hbasis : ∀ b ∈ x.2.2, (entryTimeNs b.mtime b.mtimeNanos).isSome = true)
    (hsorted : (src.map (·.apath)).Pairwise fun a b => apathCmp a b = .lt)
    (hB : totalSize src < 18446744073709551616) :
    ∃ s2 wr2 hs evs, RunsAt (Crash.backupBody H o src x) s (.ok wr2) s2 evs ∧
      wr2.band = nb ∧ wr2.hunksWritten = hs.length ∧ wr2.stats.errors = 0 ∧ NoErrorEvents evs ∧
      s2.get? (.bandTail nb) = none ∧ s2.parentOk (.bandTail nb) = true ∧
      Final H o nb s0 (s2.put (.bandTail nb) (.tail (some hs.length))) hs src := by
  have hsrcs := Inv.srcOf_mergeTrees x.2.2 src
  have hw : LTodo H o nb s0 src (Inv.srcOf (mergeTrees x.2.2 src)) s { band := x.1, exists_ := x.2.1 } :=
    hsrcs.symm ▸ ⟨[], [], [], 0, hl, rfl, by simpa using hsorted, by simpa using hB, hsrc⟩
  obtain ⟨s1, wr1, evs, hr1, ⟨hs1, pre1, grp1, bytes1, hl1, heq1, hsg1, hb1, _⟩, hne⟩ :=
    backupLoop_runs hmax (mergeTrees x.2.2 src) s _ hw
      (Inv.mergeTrees_all _ _ fun _ _ _ hb b hbb => hbasis b (hb b hbb).1)
  rw [List.append_nil] at heq1 hsg1
  simp only [totalSize_nil, Nat.add_zero] at hb1
  obtain ⟨s2, wr2, hs2, hr2, hl2, hp2, hq2, hf2⟩ := flushGroup_runs hl1 hb1 hsg1
  have heq2 : pre1 ++ grp1 = src := by simpa using heq1
  rw [heq2] at hl2
  -- the second `finish_hunk` finds nothing pending
  have hr3 : RunsAt (finishHunk wr2) s2 (.ok wr2) s2 [] := by
    unfold finishHunk
    simp only [hp2, List.isEmpty_nil, if_true, Prog.pure_def]
    exact RunsAt.ret _ _
  have hpar : s2.parentOk (.bandTail nb) = true := parentOk_of_dir rfl hl2.bi.bandDir
  have hst3 : StoreOK H (s2.put (.bandTail nb) (.tail (some hs2.length))) :=
    hl2.b.st.put_fresh hpar hl2.bi.tail rfl fun _ => nofun
  refine ⟨s2, wr2, hs2, evs, ?_, hl2.band, hl2.hw, hl2.errors, hne, hl2.bi.tail, hpar, hst3, ?_, ?_, ?_, ?_,
    by simp, hl2.shape, hl2.hsNonfile, ?_⟩
  · unfold Crash.backupBody
    exact RunsAt.bind_r0 hr1 (RunsAt.bind0 hr2 hr3)
  · exact fun n => (Store.get?_put_ne _ _ (by nofun)).trans (hl2.bi.hunk n)
  · exact (Store.get?_put_ne _ _ (by nofun)).trans hl2.bi.indexDir
  · exact (Store.get?_put_ne _ _ (by nofun)).trans hl2.bi.bandDir
  · exact (Store.get?_put_ne _ _ (by nofun)).trans hl2.bi.head
  · intro k hk
    have : k ≠ Key.bandTail nb := by
      rintro rfl; simp [newKey, Key.isUnder, Key.parent] at hk
    exact (Store.get?_put_ne _ _ this).trans (hl2.frame k hk)

/-- The main part of `backup()` from the state the prelude leaves: the body, then `Band::close`. -/
theorem backupMain_runs (hmax : 0 < o.maxBlockSize) {nb : Nat} {s0 s : Store} {src : List SrcEntry}
    (x : Nat × List Str × List IndexEntry)
    (hl : LInv H o nb s0 s { band := x.1, exists_ := x.2.1 } [] [] [] 0)
    (hsrc : ∀ sf ∈ src, EntryGood sf)
    (hbasis : ∀ b ∈ x.2.2, (entryTimeNs b.mtime b.mtimeNanos).isSome = true)
    (hsorted : (src.map (·.apath)).Pairwise fun a b => apathCmp a b = .lt)
    (hB : totalSize src < 18446744073709551616) :
    ∃ s' hs evs stats, RunsAt (Inv.backupMain H o src x) s (.ok stats) s' evs ∧ stats.errors = 0 ∧
      NoErrorEvents evs ∧ Final H o nb s0 s' hs src := by
  obtain ⟨s2, wr2, hs, evs, hr, hband, hw, herr, hne, htail, hpar, hf⟩ :=
    backupBody_runs hmax x hl hsrc hbasis hsorted hB
  have hcl : RunsAt (Crash.backupClose wr2) s2 (.ok wr2.stats)
      (s2.put (.bandTail nb) (.tail (some hs.length))) [] := by
    unfold Crash.backupClose
    rw [hband, hw]
    exact RunsAt.bind0 (a := ()) (RunsAt.performUnit_write hpar (Or.inl htail)) (RunsAt.ret _ _)
  rw [backupMain_eq]
  exact ⟨_, hs, evs, wr2.stats, RunsAt.bind_r0 hr hcl, herr, hne, hf⟩

theorem valid_prefix_slash {a : Str} (h : isValid a = true) : isPrefixOfImpl [slash] a = true := by
  cases a with
  | nil => simp [isValid] at h
  | cons c rest =>
    have hc : c = slash := by
      by_cases hc : c = slash
      · exact hc
      · simp [isValid, hc] at h
    subst hc
    cases rest with
    | nil => simp [isPrefixOfImpl]
    | cons d rest => simp [isPrefixOfImpl, List.isPrefixOf]

theorem rootFilter_listSpec {s : Store} (n : Nat) :
    (listSpec s n).filter (fun e => isPrefixOfImpl [slash] e.apath && !(fun _ => false) e.apath) = listSpec s n := by
  rw [List.filter_eq_self]
  intro e he
  simp [valid_prefix_slash (C08.listed_valid he)]

/-- The basis listing a backup of archive `s` works against: the listing of the newest version
directory (stitched downwards if that version is incomplete); nothing if there is no version. -/
def basisListing (s : Store) : List IndexEntry :=
  match maxNat? (bandIdsOf s) with
  | none => []
  | some b => listSpec s b


/-- The store right after `Band::create`. -/
def withNewBand (s : Store) : Store :=
  ((s.put (.bandDir (newBandOf s)) .dir).put (.indexDir (newBandOf s)) .dir).put
    (.bandHead (newBandOf s)) (.head .ok [])

theorem get?_withNewBand (s : Store) (k : Key) :
    (withNewBand s).get? k =
      if k = .bandHead (newBandOf s) then some (.head .ok [])
      else if k = .indexDir (newBandOf s) then some .dir
      else if k = .bandDir (newBandOf s) then some .dir
      else s.get? k := by
  simp only [withNewBand, Store.get?_put]

theorem withNewBand_frame (s : Store) (k : Key) (hk : newKey (newBandOf s) k = false) :
    (withNewBand s).get? k = s.get? k := by
  rw [get?_withNewBand]
  have h1 : k ≠ .bandHead (newBandOf s) := by
    intro e; subst e; simp [newKey, Key.isUnder, Key.parent] at hk
  have h2 : k ≠ .indexDir (newBandOf s) := by
    intro e; subst e; simp [newKey, Key.isUnder, Key.parent] at hk
  have h3 : k ≠ .bandDir (newBandOf s) := by
    intro e; subst e; simp [newKey, Key.isUnder, Key.parent] at hk
  simp [h1, h2, h3]

/-- Nothing is stored yet under the keys of the version the next backup creates. -/
theorem fresh_new {s : Store} (hst : StoreOK H s) {k : Key} (hk : k.bandOf = some (newBandOf s)) :
    s.get? k = none :=
  fresh_under_new hst (isUnder_bandDir_iff.2 hk)

theorem withNewBand_storeOK {s : Store} (hst : StoreOK H s) : StoreOK H (withNewBand s) := by
  have h1 : StoreOK H (s.put (.bandDir (newBandOf s)) .dir) :=
    hst.put_fresh (parentOk_of_dir rfl hst.root) (fresh_new hst rfl) rfl fun _ => nofun
  have h2 : StoreOK H ((s.put (.bandDir (newBandOf s)) .dir).put (.indexDir (newBandOf s)) .dir) :=
    h1.put_fresh (by simp [Store.parentOk, Key.parent]) ((Store.get?_put_ne _ _ (by nofun)).trans (fresh_new hst rfl)) rfl
      fun _ => nofun
  exact h2.put_fresh (by simp [Store.parentOk, Key.parent, Store.get?_put])
    ((Store.get?_put_ne _ _ (by nofun)).trans ((Store.get?_put_ne _ _ (by nofun)).trans (fresh_new hst rfl))) rfl fun _ => nofun

theorem lastBandId_runsAt {s : Store} (hst : StoreOK H s) :
    RunsAt lastBandId s (.ok (maxNat? (bandIdsOf s))) s [] := runsAt_iff.2 (eval_lastBandId true hst.root)

theorem listBlocks_runsAt {s : Store} (hst : StoreOK H s) : RunsAt listBlocks s (.ok (blockNamesOf s)) s [] :=
  runsAt_iff.2 (eval_listBlocks true hst.blockRoot (blockSubdirs_are_dirs hst.uniqueKeys))

theorem bandCreate_runs {s : Store} (hst : StoreOK H s) :
    RunsAt bandCreate s (.ok (newBandOf s)) (withNewBand s) [] := by
  unfold bandCreate
  simp only [Prog.bind_def, Prog.pure_def]
  refine RunsAt.bind0 (lastBandId_runsAt hst) ?_
  show RunsAt ((performUnit (.createDir (.bandDir (newBandOf s)))).bind fun _ =>
    (performUnit (.createDir (.indexDir (newBandOf s)))).bind fun _ =>
    (performUnit (.write (.bandHead (newBandOf s)) (.head .ok []) .createNew)).bind fun _ =>
    Prog.ret (newBandOf s)) s (.ok (newBandOf s)) (withNewBand s) []
  refine RunsAt.bind0 (a := ()) (RunsAt.performUnit_createDir (fresh_new hst rfl)
    (by simp [Store.parentOk, Key.parent, hst.root])) ?_
  refine RunsAt.bind0 (a := ()) (RunsAt.performUnit_createDir (by simpa [Store.get?_put] using fresh_new hst (k := .indexDir (newBandOf s)) rfl)
    (by simp [Store.parentOk, Key.parent])) ?_
  refine RunsAt.bind0 (a := ()) (RunsAt.performUnit_write (v := .head .ok [])
    (by simp [Store.parentOk, Key.parent, Store.get?_put]) (Or.inl (by simpa [Store.get?_put] using fresh_new hst (k := .bandHead (newBandOf s)) rfl))) ?_
  exact RunsAt.ret _ _

theorem entryUsable_time {e : IndexEntry} (h : entryUsable e = true) :
    (entryTimeNs e.mtime e.mtimeNanos).isSome = true := by
  simp only [entryUsable, Bool.and_eq_true] at h
  exact h.1.1.1.2

/-- … nor, right after `Band::create`, under any of them but the three it creates. -/
theorem fresh_withNewBand {s : Store} (hst : StoreOK H s) {k : Key} (hk : k.bandOf = some (newBandOf s))
    (h1 : k ≠ .bandHead (newBandOf s) := by simp) (h2 : k ≠ .indexDir (newBandOf s) := by simp)
    (h3 : k ≠ .bandDir (newBandOf s) := by simp) : (withNewBand s).get? k = none := by
  rw [get?_withNewBand]
  simp only [h1, h2, h3, if_false]
  exact fresh_new hst hk

/-- The loop invariant right after the prelude.  `hnames`: every non-empty block file has a name of
at least `SUBDIR_NAME_CHARS` characters, which is what `list_blocks` needs to see it. -/
theorem prelude_linv_of_names {s : Store} (hst : StoreOK H s)
    (hnames : ∀ h v, s.get? (.block h) = some v → v ≠ .empty → subdirNameChars ≤ h.length) :
    LInv H o (newBandOf s) s (withNewBand s)
      { band := newBandOf s, exists_ := blockNamesOf (withNewBand s) } [] [] [] 0 := by
  have hst1 : StoreOK H (withNewBand s) := withNewBand_storeOK hst
  refine ⟨⟨hst1, ?_, by simp [groupEntries], (fun _ h => nomatch h), (fun _ h => nomatch h), Nat.le_refl _⟩, rfl, rfl,
    rfl, ⟨?_, ?_, ?_, ?_, ?_, ?_⟩, rfl, rfl, (fun _ h => nomatch h), withNewBand_frame s⟩
  · intro h hbl
    refine (mem_blockNamesOf hst1.uniqueKeys hst1.dirsOk).2 ⟨hbl, ?_⟩
    obtain ⟨v, hgv, _, h2⟩ := hbl
    rw [get?_withNewBand] at hgv
    simp only [reduceCtorEq, if_false] at hgv
    exact hnames h v hgv (by rintro rfl; cases h2)
  · intro n
    rw [fresh_withNewBand hst rfl]
    simp
  · intro d
    rw [fresh_withNewBand hst rfl]
    simp
  · simp [get?_withNewBand]
  · simp [get?_withNewBand]
  · simp [get?_withNewBand]
  · exact fresh_withNewBand hst rfl

/-- Block files named by a hash whose names have three characters or more have such names. -/
theorem names_of_hlen (hlen : ∀ d, subdirNameChars ≤ (H d).length) {s : Store} (hb : Inv.BlocksGood H s) :
    ∀ h v, s.get? (.block h) = some v → v ≠ .empty → subdirNameChars ≤ h.length := by
  intro h v hg hne
  rcases hb h v hg with rfl | ⟨c, rfl, hc⟩
  · exact absurd rfl hne
  · rw [← hc]; exact hlen c

theorem prelude_linv (hlen : ∀ d, subdirNameChars ≤ (H d).length) {s : Store} (hst : StoreOK H s) :
    LInv H o (newBandOf s) s (withNewBand s)
      { band := newBandOf s, exists_ := blockNamesOf (withNewBand s) } [] [] [] 0 :=
  prelude_linv_of_names hst (names_of_hlen hlen hst.blocks)

/-- Creating the new version keeps the archive well-formed for listing: it has no hunk yet. -/
theorem withNewBand_archWF {s : Store} (hst : StoreOK H s) (hwf0 : ArchWF s) : ArchWF (withNewBand s) := by
  refine archWF_frame hwf0 (withNewBand_storeOK hst) (withNewBand_frame s) ?_
  have : hunkNumsOf (withNewBand s) (newBandOf s) = [] := by
    apply hunkNumsOf_nil_of_no_hunk
    intro kv hkv n hk
    obtain ⟨k, v⟩ := kv
    simp only at hk
    subst hk
    have := Store.get?_of_mem_nodup (withNewBand_storeOK hst).noDup hkv
    rw [fresh_withNewBand hst rfl] at this
    cases this
  simp [ownEntries, this, strictlySorted]

/-- The errors the prelude reports: those of listing the basis version. -/
def basisErrors (s : Store) : List Err :=
  match maxNat? (bandIdsOf s) with
  | none => []
  | some b => listErrors s b

/-- The prelude of `backup()` on a well-formed archive without `GC_LOCK`, whatever its versions look
like: the new version is created, the basis listing is `basisListing s` (C08's rule), and the run
reports the errors of that listing.  No `hlen`, `hinj` or `ArchiveGood` is needed. -/
theorem backupPrelude_runs_fair {s : Store} (hst : StoreOK H s) (hwf0 : ArchWF s)
    (noLock : s.get? .gcLock = none) :
    RunsAt Inv.backupPrelude s (.ok (newBandOf s, blockNamesOf (withNewBand s), basisListing s))
      (withNewBand s) ((basisErrors s).map Event.error).reverse := by
  have hst1 : StoreOK H (withNewBand s) := withNewBand_storeOK hst
  have hlock : RunsAt gcIsLocked s (.ok false) s [] :=
    runsAt_iff.2 (by rw [gcIsLocked, eval_isFile]; simp [isFileP, noLock])
  -- the second look at the lock: still no GC_LOCK after the band directory and head were added
  have hlock2 : RunsAt gcLockListed (withNewBand s) (.ok false) (withNewBand s) [] :=
    runsAt_iff.2 (by
      rw [eval_gcLockListed, if_pos hst1.root,
        lockListedOf_of_get?_none (by rw [get?_withNewBand]; simpa using noLock)])
  unfold Inv.backupPrelude basisListing basisErrors
  refine RunsAt.bind0 hlock ?_
  simp only [Bool.false_eq_true, if_false]
  refine RunsAt.bind0 (lastBandId_runsAt hst) ?_
  refine RunsAt.bind0 (bandCreate_runs hst) ?_
  refine RunsAt.bind0 hlock2 ?_
  simp only [Bool.false_eq_true, if_false]
  refine RunsAt.bind0 (listBlocks_runsAt hst1) ?_
  cases hmax : maxNat? (bandIdsOf s) with
  | none => exact RunsAt.ret _ _
  | some b =>
    -- the basis is an earlier version: creating the new one does not change what it lists
    have hsame : ∀ c, c ≤ b → BandSame s (withNewBand s) c := fun c hc =>
      bandSame_of_frame (withNewBand_frame s) (by have := nextBandId_gt _ b (maxNat?_mem hmax); unfold newBandOf; omega)
    have hle := listEntries_runsAt (withNewBand_archWF hst hwf0) b [slash] (fun _ => false)
    rw [rootFilter_listSpec, listSpec_same hwf0.uniqueKeys hst1.uniqueKeys b hsame,
      listErrors_same hwf0.uniqueKeys hst1.uniqueKeys b hsame] at hle
    exact RunsAt.bind_r0 hle (RunsAt.ret _ _)

/-- The basis entries passed `IndexEntry::check`. -/
theorem basisListing_times (s : Store) :
    ∀ b ∈ basisListing s, (entryTimeNs b.mtime b.mtimeNanos).isSome = true := by
  intro e he
  unfold basisListing at he
  split at he
  · cases he
  · exact entryUsable_time (C08.listed_usable he)

/-- A good archive lists its basis without complaint. -/
theorem ArchiveGood.basisErrors_nil {src : List SrcEntry} {s : Store} (hg : ArchiveGood H src s) :
    basisErrors s = [] := by
  unfold basisErrors
  split
  · rfl
  · rename_i b hmax
    apply C08.stitch_silent
    · intro c hc
      refine hg.bands c ?_
      simp only [chain, List.mem_cons] at hc
      rcases hc with rfl | hc
      · exact maxNat?_mem hmax
      · split at hc
        · cases hc
        · have hp := chainBelow_present hc
          simp only [bandPresent] at hp
          cases hh : s.get? (.bandHead c) with
          | none => simp [hh] at hp
          | some v => exact (mem_bandIdsOf hg.st).2 (hg.st.parent_dir hh rfl)
    · exact fun c _ => hg.headLost_false c

/-- The prelude of `backup()` on a good archive: no complaint, the new version is created, the
in-memory block set knows every stored block, the basis entries passed `IndexEntry::check`. -/
theorem backupPrelude_runs (hlen : ∀ d, subdirNameChars ≤ (H d).length) {src : List SrcEntry} {s : Store}
    (hg : ArchiveGood H src s) :
    RunsAt Inv.backupPrelude s (.ok (newBandOf s, blockNamesOf (withNewBand s), basisListing s))
        (withNewBand s) [] ∧
      (∀ b ∈ basisListing s, (entryTimeNs b.mtime b.mtimeNanos).isSome = true) ∧
      LInv H o (newBandOf s) s (withNewBand s)
        { band := newBandOf s, exists_ := blockNamesOf (withNewBand s) } [] [] [] 0 := by
  have hr := backupPrelude_runs_fair hg.st hg.wf hg.noLock
  rw [hg.basisErrors_nil] at hr
  exact ⟨hr, basisListing_times s, prelude_linv hlen hg.st⟩

end Conserve.Exact
