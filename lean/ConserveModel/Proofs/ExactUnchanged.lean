import ConserveModel.Proofs.ExactTop
/-
C14, first clause: backing up a tree every file of which looks unchanged against the listing of the
newest version issues NO block write at all and records the basis addresses (`backup_unchanged`;
Props/C01a.lean states it about the run on `World.clean s`): the loop rule of Proofs/ExactLoop.lean at
`RunsT NoBlockWrite`, with `LInv` and the fact that the combiner stays empty (`UInv`).
-/
namespace Conserve.Exact
open Conserve Prog

variable {H : Str → Str} {o : BackupOpts}

/-- Not a write to a block file (successful or not). -/
def NoBlockWrite (o : Op) : Prop := ∀ h v m, o ≠ .write (.block h) v m

theorem readOnly_noBlockWrite {o : Op} (h : ReadOnly o) : NoBlockWrite o := by
  intro hh v m e; subst e; exact h

theorem AllOps.ro_nbw {α : Type} {p : Prog α} (h : Prog.AllOps ReadOnly p) : Prog.AllOps NoBlockWrite p :=
  h.mono fun _ => readOnly_noBlockWrite

theorem BandNew.nbw {b : Nat} {o : Op} (h : BandNew b o) : NoBlockWrite o := by
  cases h <;> exact fun _ _ _ => nofun

theorem IndexWr.nbw {b : Nat} {o : Op} (h : IndexWr b o) : NoBlockWrite o := by
  cases h <;> exact fun _ _ _ => nofun

theorem bandCreate_nbw : Prog.AllOps NoBlockWrite bandCreate :=
  bandCreate_fp (fun _ h => readOnly_noBlockWrite h.readOnly) fun _ _ => BandNew.nbw

theorem finishHunk_nbw (wr : Writer) : Prog.AllOps NoBlockWrite (finishHunk wr) :=
  (finishHunk_fp wr).mono fun _ => IndexWr.nbw

theorem bandClose_nbw (b n : Nat) : Prog.AllOps NoBlockWrite (bandClose b n) :=
  performUnit_allOps (fun _ _ _ h => by cases h)

theorem backupPrelude_nbw : Prog.AllOps NoBlockWrite Inv.backupPrelude := by
  unfold Inv.backupPrelude
  refine Prog.AllOps.bind (AllOps.ro_nbw gcIsLocked_ro) fun locked => ?_
  split
  · exact .fail _
  · refine Prog.AllOps.bind (AllOps.ro_nbw lastBandId_ro) fun basisBand => ?_
    refine Prog.AllOps.bind bandCreate_nbw fun band => ?_
    refine Prog.AllOps.bind (AllOps.ro_nbw gcLockListed_ro) fun locked2 => ?_
    split
    · exact .fail _
    refine Prog.AllOps.bind (AllOps.ro_nbw listBlocks_ro) fun blocks => ?_
    cases basisBand with
    | none => exact .ret _
    | some b => exact Prog.AllOps.bind (AllOps.ro_nbw (listEntries_ro b _ _)) fun _ => .ret _

theorem flushGroup_queue_nil (wr : Writer) (hq : wr.queue = []) :
    flushGroup H wr = finishHunk { wr with pending := wr.pending ++ wr.finished, finished := [] } := by
  unfold flushGroup combinerFlush
  simp [hq]

theorem copyEntry_unchanged (wr : Writer) (basis : Option IndexEntry) (sf : SrcEntry) (hkind : sf.kind ≠ .unknown)
    (hun : sf.kind = .file → ∃ be, basis = some be ∧ heuristicallyUnchanged sf be = some true ∧
      be.addrs.all (fun a => wr.exists_.contains a.hash) = true) :
    ∃ e st' ch, copyEntry H o wr basis sf =
        .ret ({ wr with pending := wr.pending ++ [e], stats := st' }, .ok ch) ∧
      st'.errors = wr.stats.errors ∧ strip e = Inv.metaOf o sf ∧ (e.kind ≠ .file → e.addrs = []) ∧
      (e.kind = .file → ∃ be, basis = some be ∧ e.addrs = be.addrs) := by
  unfold copyEntry
  simp only [Inv.metadataFrom_eq, Prog.pure_def]
  cases hk : sf.kind with
  | dir =>
    refine ⟨Inv.metaOf o sf, _, none, rfl, rfl, rfl, fun _ => rfl, fun h => ?_⟩
    simp [Inv.metaOf, hk] at h
  | symlink =>
    refine ⟨Inv.metaOf o sf, _, none, rfl, rfl, rfl, fun _ => rfl, fun h => ?_⟩
    simp [Inv.metaOf, hk] at h
  | unknown => exact absurd hk hkind
  | file =>
    obtain ⟨be, rfl, hh, hall⟩ := hun hk
    obtain ⟨st', ck, herr, heq⟩ := Inv.copyFile_unchanged (H := H) o wr be sf hh hall
    have hkm : (Inv.metaOf o sf).kind = .file := hk
    exact ⟨{ Inv.metaOf o sf with addrs := be.addrs }, st', some ck, heq, herr, rfl,
      fun h => absurd hkm h, fun _ => ⟨be, rfl, rfl⟩⟩

/-- What `copy_entry` needs of a source entry to add nothing: its basis entry, if any, is of the basis
listing and has its path; a file has one, looks unchanged against it, and the in-memory set `ex` knows its
blocks. -/
def UnchangedE (basis : List IndexEntry) (ex : List Str) (bo : Option IndexEntry) (sf : SrcEntry) : Prop :=
  (∀ be, bo = some be → be ∈ basis ∧ be.apath = sf.apath) ∧
  (sf.kind = .file → ∃ be, bo = some be ∧ heuristicallyUnchanged sf be = some true ∧
    be.addrs.all (fun a => ex.contains a.hash) = true)

/-- Every recorded file entry carries the addresses of the basis entry with its path. -/
def AddrsFrom (basis : List IndexEntry) (l : List IndexEntry) : Prop :=
  ∀ e ∈ l, e.kind = .file → ∃ be ∈ basis, be.apath = e.apath ∧ e.addrs = be.addrs

structure UInv (H : Str → Str) (o : BackupOpts) (nb : Nat) (s0 : Store) (basis : List IndexEntry) (ex : List Str)
    (s : Store) (wr : Writer) (hs : List (List IndexEntry)) (pre grp : List SrcEntry) (bytes : Nat) : Prop where
  l : LInv H o nb s0 s wr hs pre grp bytes
  q : wr.queue = []
  f : wr.finished = []
  ex : wr.exists_ = ex
  addrs : AddrsFrom basis (hs.flatten ++ wr.pending)

variable {nb : Nat} {s0 : Store} {basis : List IndexEntry} {ex : List Str}

theorem flushGroup_unchanged {s : Store} {wr : Writer} {hs : List (List IndexEntry)} {pre grp : List SrcEntry}
    {bytes : Nat} (hu : UInv H o nb s0 basis ex s wr hs pre grp bytes)
    (hsorted : (grp.map (·.apath)).Pairwise fun a b => apathCmp a b = .lt) :
    ∃ s' wr' hs', RunsT NoBlockWrite (flushGroup H wr) s (.ok wr') s' [] ∧
      UInv H o nb s0 basis ex s' wr' hs' (pre ++ grp) [] bytes := by
  obtain ⟨s2, wr2, hs2, hr2, hl3, h1, h2, h3, hmem, hex⟩ := finishHunk_runs hu.l.drain hu.q rfl hsorted
  refine ⟨s2, wr2, hs2, ?_, hl3, h2, h3, hex.trans hu.ex, ?_⟩
  · rw [flushGroup_queue_nil wr hu.q]
    exact RunsT.of_allOps hr2 (finishHunk_nbw _)
  · intro e he hk
    rw [h1, List.append_nil] at he
    rcases hmem e he with he | he
    · exact hu.addrs e (List.mem_append_left _ he) hk
    · simp only [hu.f, List.append_nil] at he
      exact hu.addrs e (List.mem_append_right _ he) hk

/-- `UInv` with what is assumed of the entries still to come. -/
def UTodo (H : Str → Str) (o : BackupOpts) (nb : Nat) (s0 : Store) (basis : List IndexEntry) (ex : List Str)
    (todo : List SrcEntry) (s : Store) (wr : Writer) : Prop :=
  ∃ hs pre grp bytes, UInv H o nb s0 basis ex s wr hs pre grp bytes ∧
    ((grp ++ todo).map (·.apath)).Pairwise (fun a b => apathCmp a b = .lt) ∧ ∀ sf ∈ todo, sf.kind ≠ .unknown

theorem backupLoop_unchanged (ms : List Matched) (s : Store) (wr : Writer)
    (hw : UTodo H o nb s0 basis ex (Inv.srcOf ms) s wr) (hms : ∀ m ∈ ms, m.All (UnchangedE basis ex)) :
    ∃ s' wr' evs, RunsT NoBlockWrite (backupLoop H o wr ms) s (.ok wr') s' evs ∧
      UTodo H o nb s0 basis ex [] s' wr' := by
  obtain ⟨s', wr', evs, hr, hw', _⟩ := backupLoop_rule (H := H) (o := o) (P := NoBlockWrite)
    (W := UTodo H o nb s0 basis ex) (M := UnchangedE basis ex)
    (fun {todo s wr bo sf} ⟨hs, pre, grp, bytes, hu, hso, hsrc⟩ ⟨hbo, hunch⟩ => by
      obtain ⟨e, st', ch, heq, herr, hstrip, hnf, haddr⟩ := copyEntry_unchanged (H := H) (o := o) wr bo sf
        (hsrc sf (List.mem_cons_self ..)) (by rw [hu.ex]; exact hunch)
      refine ⟨s, _, ch, heq ▸ RunsT.ret _ _, hs, pre, grp ++ [sf], bytes,
        ⟨hu.l.step (hu.l.b.pushPending hstrip hnf st') ⟨rfl, rfl, rfl, herr, fun _ _ => rfl⟩, hu.q, hu.f,
          hu.ex, ?_⟩, by simpa using hso, fun x hx => hsrc x (List.mem_cons_of_mem _ hx)⟩
      intro e' he' hk
      simp only [List.mem_append, List.mem_singleton] at he'
      rcases he' with he' | he' | rfl
      · exact hu.addrs e' (List.mem_append_left _ he') hk
      · exact hu.addrs e' (List.mem_append_right _ he') hk
      · obtain ⟨be, rfl, hab⟩ := haddr hk
        obtain ⟨hbm, hap⟩ := hbo be rfl
        exact ⟨be, hbm, hap.trans (congrArg IndexEntry.apath hstrip).symm, hab⟩)
    (fun {todo s wr} ⟨hs, pre, grp, bytes, hu, hso, hsrc⟩ => by
      have hso2 := List.pairwise_append.mp (List.map_append ▸ hso)
      obtain ⟨s1, wr1, hs1, hr1, hu2⟩ := flushGroup_unchanged hu hso2.1
      exact ⟨s1, wr1, hr1, hs1, pre ++ grp, [], bytes, hu2, by simpa using hso2.2.1, hsrc⟩)
    ms s wr hw hms
  exact ⟨s', wr', evs, hr, hw'⟩

/-- Merging a listing with a source that has the same paths pairs them up one by one. -/
theorem mergeTrees_paired {R : IndexEntry → SrcEntry → Prop} {bs : List IndexEntry} {ss : List SrcEntry}
    (hp : Paired (fun be sf => be.apath = sf.apath ∧ R be sf) bs ss) :
    ∀ m ∈ mergeTrees bs ss, ∃ be sf, m = .both be sf ∧ be.apath = sf.apath ∧ R be sf := by
  induction hp with
  | nil => intro m hm; simp [mergeTrees] at hm
  | @cons be sf bs ss hab _ ih =>
    intro m hm
    have hcmp : apathCmp be.apath sf.apath = .eq := (C11.cmp_eq_iff _ _).2 hab.1
    rw [mergeTrees] at hm
    simp only [hcmp, List.mem_cons] at hm
    rcases hm with rfl | hm
    · exact ⟨be, sf, rfl, hab.1, hab.2⟩
    · exact ih m hm

theorem backupMain_unchanged {src : List SrcEntry} {s : Store} (x : Nat × List Str × List IndexEntry)
    (hl : LInv H o nb s0 s { band := x.1, exists_ := x.2.1 } [] [] [] 0)
    (hsrc : ∀ sf ∈ src, sf.kind ≠ .unknown)
    (hun : ∀ m ∈ mergeTrees x.2.2 src, m.All (UnchangedE x.2.2 x.2.1))
    (hsorted : (src.map (·.apath)).Pairwise fun a b => apathCmp a b = .lt) :
    ∃ (s' : Store) (hs : List (List IndexEntry)) (evs : List Event) (stats : Stats),
      RunsT NoBlockWrite (Inv.backupMain H o src x) s (.ok stats) s' evs ∧
      (∀ n, s'.get? (.hunk nb n) = (hs[n]?).map FileVal.hunk) ∧ AddrsFrom x.2.2 hs.flatten := by
  have hsrcs := Inv.srcOf_mergeTrees x.2.2 src
  have hu0 : UInv H o nb s0 x.2.2 x.2.1 s { band := x.1, exists_ := x.2.1 } [] [] [] 0 :=
    ⟨hl, rfl, rfl, rfl, fun _ h => nomatch h⟩
  have hw : UTodo H o nb s0 x.2.2 x.2.1 (Inv.srcOf (mergeTrees x.2.2 src)) s { band := x.1, exists_ := x.2.1 } :=
    hsrcs.symm ▸ ⟨[], [], [], 0, hu0, by simpa using hsorted, hsrc⟩
  obtain ⟨s1, wr1, evs, hr1, hs1, pre1, grp1, bytes1, hu1, hsg1, _⟩ :=
    backupLoop_unchanged (mergeTrees x.2.2 src) s _ hw hun
  rw [List.append_nil] at hsg1
  obtain ⟨s2, wr2, hs2, hr2, hu2⟩ := flushGroup_unchanged hu1 hsg1
  have hl2 := hu2.l
  have hp2 : wr2.pending = [] := by
    have := hl2.b.perm
    simp only [groupEntries, hu2.q, hu2.f, List.map_nil, List.append_nil] at this
    have := this.length_eq
    simpa using this
  have hr3 : RunsT NoBlockWrite (finishHunk wr2) s2 (.ok wr2) s2 [] := by
    refine RunsT.of_allOps ?_ (finishHunk_nbw _)
    unfold finishHunk
    simp only [hp2, List.isEmpty_nil, if_true, Prog.pure_def]
    exact RunsAt.ret _ _
  have hpar : s2.parentOk (.bandTail nb) = true := by
    simp [Store.parentOk, Key.parent, hl2.bi.bandDir]
  have hclose : RunsT NoBlockWrite (bandClose wr2.band wr2.hunksWritten) s2 (.ok ())
      (s2.put (.bandTail nb) (.tail (some hs2.length))) [] := by
    refine RunsT.of_allOps ?_ (bandClose_nbw _ _)
    rw [hl2.band, hl2.hw]
    exact RunsAt.performUnit_write hpar (Or.inl hl2.bi.tail)
  refine ⟨s2.put (.bandTail nb) (.tail (some hs2.length)), hs2, evs, wr2.stats, ?_, ?_, ?_⟩
  · unfold Inv.backupMain
    refine RunsT.bind_r0 hr1 ?_
    refine RunsT.bind0 hr2 ?_
    refine RunsT.bind0 hr3 ?_
    exact RunsT.bind0 (a := ()) hclose (RunsT.ret wr2.stats _)
  · intro n
    rw [Store.get?_put]
    simp only [show Key.hunk nb n ≠ Key.bandTail nb from (fun e => by cases e), if_false]
    exact hl2.bi.hunk n
  · intro e he hk
    exact hu2.addrs e (by rw [hp2, List.append_nil]; exact he) hk

theorem hunks_unique {s : Store} {nb : Nat} {hs hs' : List (List IndexEntry)}
    (h : ∀ n, s.get? (.hunk nb n) = (hs[n]?).map FileVal.hunk)
    (h' : ∀ n, s.get? (.hunk nb n) = (hs'[n]?).map FileVal.hunk) : hs = hs' := by
  apply List.ext_getElem?
  intro n
  exact Option.map_injective (fun _ _ e => FileVal.hunk.inj e) ((h n).symm.trans (h' n))

theorem Paired.comp {α β γ : Type} {R : α → β → Prop} {S : β → γ → Prop} {l1 : List α} {l2 : List β}
    {l3 : List γ} (h1 : Paired R l1 l2) (h2 : Paired S l2 l3) :
    Paired (fun a c => ∃ b, R a b ∧ S b c) l1 l3 := by
  induction h1 generalizing l3 with
  | nil => cases h2; exact .nil
  | cons hab _ ih =>
    cases h2 with
    | cons hbc h2' => exact .cons ⟨_, hab, hbc⟩ (ih h2')

/-- **C14, first clause.**  Every file of the source looks unchanged (kind, mtime, size) against the
entry with its path in the listing of the newest version: the run issues no block write and every
file entry it records carries the basis addresses. -/
theorem backup_unchanged (hinj : Function.Injective H) (hlen : ∀ d, subdirNameChars ≤ (H d).length)
    (hmax : 0 < o.maxBlockSize) {src : List SrcEntry} {s : Store} (hsrc : SrcGood src)
    (hg : ArchiveGood H src s)
    (hpair : Paired (fun be sf => be.apath = sf.apath ∧
      (sf.kind = .file → heuristicallyUnchanged sf be = some true)) (basisListing s) src) :
    ∃ s' hs stats evs, Summary H o src s s' hs stats evs ∧
      (∀ ev ∈ ((backup H o src).run (World.clean s)).2.trace, NoBlockWrite ev.op) ∧
      Paired (fun be e => e.apath = be.apath ∧ (e.kind = .file → e.addrs = be.addrs))
        (basisListing s) hs.flatten := by
  obtain ⟨s', hs, stats, evs, hsum⟩ := backup_summary (o := o) hinj hlen hmax hsrc hg
  obtain ⟨hr1, hbasis, hl⟩ := backupPrelude_runs (o := o) hlen hg
  -- every basis address names a block the in-memory set knows
  have hblocks : ∀ be ∈ basisListing s, be.addrs.all
      (fun a => (blockNamesOf (withNewBand s)).contains a.hash) = true := by
    intro be hbe
    rw [List.all_eq_true]
    intro a ha
    have hbe' : ∃ b, be ∈ listSpec s b := by
      unfold basisListing at hbe
      split at hbe
      · cases hbe
      · exact ⟨_, hbe⟩
    obtain ⟨b, hbe'⟩ := hbe'
    obtain ⟨c, hc, _⟩ := hg.noDangling.listed hbe' ha
    have hgb := ((Inv.blockContent_eq_some H).mp hc).1
    have hl' : blockListed (withNewBand s) a.hash :=
      ⟨.blockData c, by rw [get?_withNewBand]; simpa using hgb, rfl, rfl⟩
    simpa using hl.b.exAll _ hl'
  have hun : ∀ m ∈ mergeTrees (basisListing s) src,
      m.All (UnchangedE (basisListing s) (blockNamesOf (withNewBand s))) := by
    have hp2 : Paired (fun be sf => be.apath = sf.apath ∧
        ((sf.kind = .file → heuristicallyUnchanged sf be = some true) ∧ be ∈ basisListing s))
        (basisListing s) src :=
      hpair.imp_mem fun be hbe sf _ h => ⟨h.1, h.2, hbe⟩
    intro m hm
    obtain ⟨be, sf, rfl, hap, hh, hbe⟩ := mergeTrees_paired hp2 m hm
    exact ⟨fun _ h => Option.some.inj h ▸ ⟨hbe, hap⟩, fun hk => ⟨be, rfl, hh hk, hblocks be hbe⟩⟩
  obtain ⟨s2, hs2, evs2, stats2, hr2, hhunks, haddrs⟩ :=
    backupMain_unchanged (newBandOf s, blockNamesOf (withNewBand s), basisListing s) hl
      (fun sf hsf => hsrc.kinds sf hsf) hun hsrc.sorted
  have hrun : RunsT NoBlockWrite (backup H o src) s (.ok stats2) s2 evs2 := by
    rw [Inv.backup_eq]
    exact RunsT.bind0 (RunsT.of_allOps hr1 backupPrelude_nbw) hr2
  -- the two descriptions are of the same run
  have hs_eq : s2 = s' := by
    have h1 := hrun.runsAt.clean.2.1
    have h2 := hsum.runs.clean.2.1
    exact h1.symm.trans h2
  subst hs_eq
  have hhs : hs2 = hs := hunks_unique hhunks hsum.final.hunk
  subst hhs
  refine ⟨s2, hs2, stats, evs, hsum, ?_, ?_⟩
  · intro ev hev
    rw [Prog.run_eq_eval _ ((World.clean_quiet s).calm _)] at hev
    exact hrun.2 ev (by simpa [World.after, World.clean] using hev)
  · have hcomp := hpair.comp hsum.records
    have hsorted := C08.stitch_sorted hg.wf
    have hinjb : ∀ x ∈ basisListing s, ∀ y ∈ basisListing s, x.apath = y.apath → x = y := by
      unfold basisListing
      split
      · intro x hx; cases hx
      · rename_i b _
        have := hsorted b
        rw [List.pairwise_map] at this
        exact pairwise_lt_inj this
    refine hcomp.imp_mem ?_
    intro be hbe e he ⟨sf, ⟨hap, _⟩, hrec⟩
    have hea : e.apath = be.apath := hrec.apath.trans hap.symm
    refine ⟨hea, fun hk => ?_⟩
    obtain ⟨be', hbe', hap', hadd⟩ := haddrs e he hk
    have : be' = be := hinjb be' hbe' be hbe (hap'.trans hea)
    rw [hadd, this]

theorem readBack_length {s : Store} {as : List Addr} {x : Str} (h : readBack H s as = some x) :
    (as.map (·.len)).sum = x.length := by
  induction as generalizing x with
  | nil => simp only [readBack, Option.some.injEq] at h; subst h; rfl
  | cons a as ih =>
    simp only [readBack] at h
    cases h1 : readAddrPure H s a with
    | none => simp [h1] at h
    | some y =>
      cases h2 : readBack H s as with
      | none => simp [h1, h2] at h
      | some z =>
        simp only [h1, h2, Option.some.injEq] at h
        subst h
        have hy : y.length = a.len := by
          unfold readAddrPure at h1
          cases hc : blockContent H s a.hash with
          | none => simp [hc] at h1
          | some c =>
            simp only [hc, Option.bind_some, sliceOf] at h1
            split at h1
            · cases h1
              simp only [List.length_take, List.length_drop]
              omega
            · cases h1
        simp [ih h2, hy]

theorem maxNat?_of_max {l : List Nat} {m : Nat} (hm : m ∈ l) (hle : ∀ x ∈ l, x ≤ m) : maxNat? l = some m := by
  cases h : maxNat? l with
  | none => rw [maxNat?_none h] at hm; cases hm
  | some m' =>
    have h1 := hle m' (maxNat?_mem h)
    have h2 := maxNat?_ge h m hm
    rw [Nat.le_antisymm h1 h2]

/-- After a backup, the basis the next backup meets is the new version's listing, and every file of
the SAME source looks unchanged against it. -/
theorem Summary.unchanged_pair {src : List SrcEntry} {s s' : Store} {hs : List (List IndexEntry)} {stats : Stats}
    {evs : List Event} (h : Summary H o src s s' hs stats evs) (hsrc : SrcGood src) (hst : StoreOK H s) :
    Paired (fun be sf => be.apath = sf.apath ∧ (sf.kind = .file → heuristicallyUnchanged sf be = some true))
      (basisListing s') src := by
  have hb : basisListing s' = hs.flatten := by
    unfold basisListing
    rw [maxNat?_of_max h.bandIds_mem (h.bandIds_le hst)]
    exact final_listSpec h.final h.usable
  rw [hb]
  refine h.records.flip.imp_mem fun e _ sf hsf hr => ⟨hr.apath, fun hk => ?_⟩
  have ht := hr.time_ok (hsrc.mtimes sf hsf)
  have hsize : e.size = sf.size := by
    have := readBack_length (hr.content hk)
    rw [List.length_take, hsrc.wf sf hsf hk, Nat.min_self] at this
    rw [hsrc.wf sf hsf hk]
    exact this
  simp [heuristicallyUnchanged, hr.kind, ht, hsize]

end Conserve.Exact
