import ConserveModel.Proofs.JsonLex
/-
The JSON round trip (Props/C13j.lean) for objects, arrays, addresses and index entries, all in the one
shape `Parses` of Proofs/JsonLex.lean.  An object is read along the list of its rendered members (`Reads`,
`ReadsAll`, `parseObject_render`, `parses_struct`), an array element by element (`ReadsElem`,
`parses_array`); the loops settle fuel and delimiters once, each record still has to split off its `{`.
-/
namespace Conserve.Json
open Conserve

section Objects
variable {σ : Type} {field : Nat → σ → Str → Str → Option (σ × Str)}

theorem parseMembersF_first (acc : σ)
    (k v : Str) (hk : validUtf8 k = true) (F : Nat) (hF : (renderString k ++ 58 :: v).length ≤ F) :
    parseMembersF field F true acc (renderString k ++ 58 :: v) =
      (field (F - 1) acc k v).bind (fun p => parseMembersF field (F - 1) false p.1 p.2) := by
  cases F with
  | zero => simp [renderString] at hF
  | succ f =>
    have hf : (renderChars k ++ 58 :: v).length ≤ f := by simp [renderString] at hF ⊢; omega
    simp only [renderString, List.cons_append, parseMembersF, Nat.add_sub_cancel]
    rw [skipWs_cons_of_ne (by decide) (by decide) (by decide) (by decide)]
    simp [parseStrBody_render k (58 :: v) hk f hf, skipWs]
    cases field f acc k v <;> rfl

/-- After a comma the reader is where it was before the first member. -/
theorem parseMembersF_comma (acc : σ) (t : Str) (F : Nat) :
    parseMembersF field F false acc (44 :: 34 :: t) = parseMembersF field F true acc (34 :: t) := by
  cases F with
  | zero => rfl
  | succ f => simp [parseMembersF, skipWs]

theorem parseMembersF_end (acc : σ)
    (first : Bool) (rest : Str) (F : Nat) (hF : (125 :: rest).length ≤ F) :
    parseMembersF field F first acc (125 :: rest) = some (acc, rest) := by
  cases F with
  | zero => simp at hF
  | succ f => simp [parseMembersF, skipWs]

/-- `,"k":v,"k":v…}`: the members of an object after the first, and the closing brace. -/
def renderMembers : List (Str × Str) → Str
  | [] => [125]
  | (k, v) :: ms => commaKey k ++ (v ++ renderMembers ms)

theorem Delim_renderMembers (ms : List (Str × Str)) (rest : Str) : Delim (renderMembers ms ++ rest) := by
  cases ms with
  | nil => exact Delim.cons125 _
  | cons m ms => exact ⟨44, _, rfl, .inl rfl⟩

theorem renderMembers_append (l ms : List (Str × Str)) (rest : Str) :
    renderMembers (l ++ ms) ++ rest = (l.flatMap fun m => commaKey m.1 ++ m.2) ++ (renderMembers ms ++ rest) := by
  induction l with
  | nil => rfl
  | cons m l ih => simp [renderMembers, ih]

/-- In state `a`, `field` reads the value text `v` of member `k` and goes to state `a'`, whatever
delimiter follows and with any fuel that covers the input. -/
def Reads (field : Nat → σ → Str → Str → Option (σ × Str)) (a : σ) (k v : Str) (a' : σ) : Prop :=
  validUtf8 k = true ∧ Parses Delim (fun f s => field f a k s) v a'

theorem Reads.apply {a a' : σ} {k v : Str} (h : Reads field a k v a') {f : Nat} {rest : Str}
    (hd : Delim rest) (hf : (v ++ rest).length ≤ f) : field f a k (v ++ rest) = some (a', rest) :=
  h.2 f rest hd hf

inductive ReadsAll (field : Nat → σ → Str → Str → Option (σ × Str)) : σ → List (Str × Str) → σ → Prop
  | nil (a : σ) : ReadsAll field a [] a
  | cons {a a' a'' : σ} {k v : Str} {ms : List (Str × Str)} :
      Reads field a k v a' → ReadsAll field a' ms a'' → ReadsAll field a ((k, v) :: ms) a''

theorem ReadsAll.append {a a' a'' : σ}
    {l ms : List (Str × Str)} (h : ReadsAll field a l a') (h' : ReadsAll field a' ms a'') :
    ReadsAll field a (l ++ ms) a'' := by
  induction h with
  | nil => exact h'
  | cons hr _ ih => exact .cons hr (ih h')

theorem parseObject_render {a' : σ} : ∀ (ms : List (Str × Str)) {a : σ} {k v : Str},
    ReadsAll field a ((k, v) :: ms) a' → ∀ (rest : Str) (F : Nat),
    (renderString k ++ 58 :: (v ++ (renderMembers ms ++ rest))).length ≤ F →
    parseMembersF field F true a (renderString k ++ 58 :: (v ++ (renderMembers ms ++ rest))) = some (a', rest) := by
  intro ms
  induction ms with
  | nil =>
    intro a k v h rest F hF
    cases h with
    | cons hr hms =>
      cases hms
      have hk := renderChars_length k
      have hF' : (v ++ (renderMembers [] ++ rest)).length + 1 ≤ F - 1 := by
        simp [renderString] at hF ⊢; omega
      rw [parseMembersF_first a k _ hr.1 F hF, hr.apply (Delim_renderMembers _ rest) (Nat.le_of_succ_le hF')]
      exact parseMembersF_end _ _ _ _ (by simp [renderMembers] at hF' ⊢; omega)
  | cons m ms ih =>
    intro a k v h rest F hF
    obtain ⟨k', v'⟩ := m
    cases h with
    | @cons _ a1 _ _ _ _ hr hms =>
      have hk := renderChars_length k
      have e : renderMembers ((k', v') :: ms) ++ rest =
          44 :: 34 :: (renderChars k' ++ 58 :: (v' ++ (renderMembers ms ++ rest))) := by
        simp [renderMembers, commaKey, renderString]
      have hF' : (v ++ (renderMembers ((k', v') :: ms) ++ rest)).length + 1 ≤ F - 1 := by
        simp [renderString] at hF ⊢; omega
      rw [parseMembersF_first a k _ hr.1 F hF, hr.apply (Delim_renderMembers _ rest) (Nat.le_of_succ_le hF')]
      show parseMembersF field (F - 1) false a1 (renderMembers ((k', v') :: ms) ++ rest) = _
      rw [e, parseMembersF_comma]
      exact ih hms rest (F - 1) (by rw [e] at hF'; simp [renderString] at hF' ⊢; omega)

/-- A record: `{`, the members, `finish`. -/
theorem parses_struct {α : Type} {p : Nat → Str → Option (α × Str)} {finish : σ → Option α} {a0 : σ}
    (hp : ∀ f r, p f (123 :: r) =
      (parseMembersF field f true a0 r).bind fun q => (finish q.1).map fun e => (e, q.2))
    {k v : Str} {ms : List (Str × Str)} {acc : σ} {x : α}
    (h : ReadsAll field a0 ((k, v) :: ms) acc) (hfin : finish acc = some x) :
    Parses AnyRest p (123 :: (renderString k ++ 58 :: (v ++ renderMembers ms))) x := by
  intro F rest _ hF
  have := parseObject_render ms h rest F (Nat.le_of_succ_le (by simpa using hF))
  simp only [List.cons_append, List.append_assoc, hp] at this ⊢
  simp only [this, Option.bind_some, hfin, Option.map_some]

end Objects

section Arrays
variable {α : Type} {elem : Nat → Str → Option (α × Str)} {render : α → Str}

/-- The text of an array element as the writer produces it starts with `{` or `"`: the reader finds
it without skipping whitespace and does not take it for the end of the array. -/
def StartsValue (s : Str) : Prop := ∃ c tl, s = c :: tl ∧ (c = 123 ∨ c = 34)

theorem StartsValue.skipWs {s : Str} (h : StartsValue s) (rest : Str) :
    ∃ c tl, s ++ rest = c :: tl ∧ skipWs (c :: tl) = c :: tl ∧ c ≠ 93 := by
  obtain ⟨c, tl, rfl, hc⟩ := h
  refine ⟨c, tl ++ rest, rfl, ?_, ?_⟩
  · rcases hc with rfl | rfl <;> rfl
  · rcases hc with rfl | rfl <;> decide

theorem parseSeqF_comma {s : Str} (hs : StartsValue s)
    (rest : Str) (F : Nat) :
    parseSeqF elem F false (44 :: (s ++ rest)) = parseSeqF elem F true (s ++ rest) := by
  obtain ⟨c, tl, heq, hws, hc⟩ := hs.skipWs rest
  cases F with
  | zero => rfl
  | succ f =>
    have h44 : skipWs (44 :: c :: tl) = 44 :: c :: tl :=
      skipWs_cons_of_ne (by decide) (by decide) (by decide) (by decide)
    rw [heq]
    simp [parseSeqF, h44, hws, hc]

/-- `Reads` for an array element. -/
def ReadsElem (elem : Nat → Str → Option (α × Str)) (render : α → Str) (x : α) : Prop :=
  StartsValue (render x) ∧ Parses Delim elem (render x) x

theorem parseSeqF_elem {x : α}
    (hx : ReadsElem elem render x) {rest : Str} (hd : Delim rest) {f : Nat} (hf : (render x ++ rest).length ≤ f) :
    parseSeqF elem (f + 1) true (render x ++ rest) =
      (parseSeqF elem f false rest).map fun p => (x :: p.1, p.2) := by
  obtain ⟨c, tl, heq, hws, hc⟩ := hx.1.skipWs rest
  have he := hx.2 f rest hd hf
  rw [heq] at he ⊢
  simp only [parseSeqF, hws, hc, if_false, he]
  cases parseSeqF elem f false rest <;> rfl

theorem Delim_renderSeqTail (render : α → Str) (xs : List α) (rest : Str) :
    Delim (renderSeqTail render xs ++ rest) := by
  cases xs with
  | nil => exact Delim.cons93 _
  | cons y ys => exact Delim.cons44 _

theorem parses_seq : ∀ {xs : List α} {x : α}, (∀ y ∈ x :: xs, ReadsElem elem render y) → ∀ (rest : Str) (F : Nat),
    (render x ++ (renderSeqTail render xs ++ rest)).length < F →
    parseSeqF elem F true (render x ++ (renderSeqTail render xs ++ rest)) = some (x :: xs, rest) := by
  intro xs
  induction xs with
  | nil =>
    intro x h rest F hF
    cases F with
    | zero => omega
    | succ f =>
      rw [parseSeqF_elem (h x (by simp)) (Delim_renderSeqTail render [] rest) (Nat.le_of_lt_succ hF)]
      cases f with
      | zero => simp [renderSeqTail] at hF
      | succ g => simp [renderSeqTail, parseSeqF, skipWs]
  | cons y ys ih =>
    intro x h rest F hF
    cases F with
    | zero => omega
    | succ f =>
      rw [parseSeqF_elem (h x (by simp)) (Delim_renderSeqTail render (y :: ys) rest) (Nat.le_of_lt_succ hF)]
      simp only [renderSeqTail, List.cons_append, List.append_assoc]
      rw [parseSeqF_comma (h y (by simp)).1,
        ih (fun z hz => h z (List.mem_cons_of_mem x hz)) rest f
          (by simp only [renderSeqTail, List.length_append, List.length_cons] at hF ⊢; omega)]
      rfl

theorem parses_array {xs : List α} (h : ∀ x ∈ xs, ReadsElem elem render x) :
    Parses AnyRest (parseArray elem) (renderSeq render xs) xs := by
  intro F rest _ hF
  cases xs with
  | nil =>
    cases F with
    | zero => simp [renderSeq] at hF
    | succ f => simp [renderSeq, parseArray, parseSeqF, skipWs]
  | cons x xs =>
    simp only [renderSeq, List.cons_append, List.append_assoc, parseArray, List.length_cons] at hF ⊢
    rw [skipWs_cons_of_ne (by decide) (by decide) (by decide) (by decide)]
    exact parses_seq h rest F hF

end Arrays

theorem parses_kind (k : Kind) : Parses AnyRest parseKind (renderString (kindName k)) k := by
  intro f rest _ hf
  have hv : validUtf8 (kindName k) = true := by cases k <;> decide
  have hk : kindOfName (kindName k) = some k := by cases k <;> decide
  have hf' : (renderChars (kindName k) ++ rest).length ≤ f := by simp [renderString] at hf ⊢; omega
  simp only [renderString, List.cons_append, parseKind]
  rw [skipWs_cons_of_ne (by decide) (by decide) (by decide) (by decide)]
  simp [parseStrBody_render _ rest hv f hf', hk]

theorem lowerHex_facts {c : Nat} (h : isLowerHex c = true) :
    c ≠ 34 ∧ c ≠ 92 ∧ ¬ c < 32 ∧ isHex c = true ∧ toLowerHex c = c := by
  simp [isLowerHex] at h
  refine ⟨by omega, by omega, by omega, by simp [isHex, isLowerHex]; omega, ?_⟩
  have : ¬ (65 ≤ c ∧ c ≤ 70) := by omega
  simp [toLowerHex, this]

theorem scanRaw_render (h rest : Str) (hh : h.all isLowerHex = true) :
    scanRaw (renderChars h ++ rest) = some (h, rest) := by
  induction h with
  | nil => simp [renderChars, scanRaw]
  | cons c cs ih =>
    simp only [List.all_cons, Bool.and_eq_true] at hh
    obtain ⟨h34, h92, h32, _, _⟩ := lowerHex_facts hh.1
    have hb8 : c ≠ 8 := by omega
    have hb9 : c ≠ 9 := by omega
    have hb10 : c ≠ 10 := by omega
    have hb12 : c ≠ 12 := by omega
    have hb13 : c ≠ 13 := by omega
    simp [renderChars, escByte, h34, h92, h32, hb8, hb9, hb10, hb12, hb13, scanRaw, ih hh.2]

theorem parses_hash {h : Str} (hh : wfHash h = true) :
    Parses AnyRest (fun _ => parseHash) (renderString h) h := by
  intro _ rest _ _
  simp only [wfHash, Bool.and_eq_true, beq_iff_eq] at hh
  have hlow := List.all_eq_true.mp hh.2
  have hall : h.all isHex = true := List.all_eq_true.mpr fun c hc => (lowerHex_facts (hlow c hc)).2.2.2.1
  have hmap : h.map toLowerHex = h :=
    (List.map_congr_left fun c hc => (lowerHex_facts (hlow c hc)).2.2.2.2).trans (List.map_id h)
  simp only [renderString, List.cons_append, parseHash]
  rw [skipWs_cons_of_ne (by decide) (by decide) (by decide) (by decide)]
  simp [scanRaw_render h rest hh.2, hh.1, hall, hmap]

theorem reads_addr_hash (acc : AddrAcc) (hacc : acc.hash = none) {h : Str} (hh : wfHash h = true) :
    Reads addrField acc kHash (renderString h) { acc with hash := some h } :=
  ⟨by decide, fun f rest _ hf => by simp +decide [addrField, hacc, parses_hash hh f rest trivial hf]⟩

theorem reads_addr_start (acc : AddrAcc) (hacc : acc.start = none) {n : Nat} (hn : n < u64Bound) :
    Reads addrField acc kStart (renderNat n) { acc with start := some n } :=
  ⟨by decide, fun f rest hd hf => by simp +decide [addrField, hacc, parses_unsigned hn f rest hd.numEnd hf]⟩

theorem reads_addr_len (acc : AddrAcc) (hacc : acc.len = none) {n : Nat} (hn : n < u64Bound) :
    Reads addrField acc kLen (renderNat n) { acc with len := some n } :=
  ⟨by decide, fun f rest hd hf => by simp +decide [addrField, hacc, parses_unsigned hn f rest hd.numEnd hf]⟩

theorem parseAddr_brace (f : Nat) (r : Str) : parseAddr f (123 :: r) =
    (parseMembersF addrField f true {} r).bind fun q => q.1.finish.map fun e => (e, q.2) := by
  simp only [parseAddr, skipWs_cons_of_ne (c := 123) (by decide) (by decide) (by decide) (by decide)]
  cases parseMembersF addrField f true {} r <;> rfl

theorem parses_addr {a : Addr} (ha : wfAddr a = true) : Parses AnyRest parseAddr (renderAddr a) a := by
  simp only [wfAddr, Bool.and_eq_true, decide_eq_true_eq] at ha
  obtain ⟨⟨hh, hstart⟩, hlen⟩ := ha
  -- the members after `hash` are `start` (unless zero) and `len`
  by_cases hs : a.start = 0
  · have htext : renderAddr a = 123 :: (renderString kHash ++ 58 :: (renderString a.hash ++
        renderMembers [(kLen, renderNat a.len)])) := by
      simp only [renderAddr, hs, if_true, renderMembers, List.nil_append]
    rw [htext]
    exact parses_struct (finish := AddrAcc.finish) parseAddr_brace
      (.cons (reads_addr_hash _ rfl hh) (.cons (reads_addr_len _ rfl hlen) (.nil _)))
      (by cases a; cases hs; rfl)
  · have htext : renderAddr a = 123 :: (renderString kHash ++ 58 :: (renderString a.hash ++
        renderMembers [(kStart, renderNat a.start), (kLen, renderNat a.len)])) := by
      simp only [renderAddr, hs, if_false, renderMembers, List.append_assoc]
    rw [htext]
    exact parses_struct (finish := AddrAcc.finish) parseAddr_brace
      (.cons (reads_addr_hash _ rfl hh) (.cons (reads_addr_start _ rfl hstart)
        (.cons (reads_addr_len _ rfl hlen) (.nil _))))
      (by cases a; rfl)

theorem readsElem_addr {a : Addr} (ha : wfAddr a = true) : ReadsElem parseAddr renderAddr a :=
  ⟨⟨123, _, rfl, .inl rfl⟩, (parses_addr ha).mono fun _ _ => trivial⟩

theorem reads_apath (acc : EntryAcc) (hacc : acc.apath = none) {p : Str} (hp : validUtf8 p = true) :
    Reads entryField acc kApath (renderString p) { acc with apath := some p } :=
  ⟨by decide, fun f rest _ hf => by simp +decide [entryField, hacc, parses_str hp f rest trivial hf]⟩

theorem reads_kind (acc : EntryAcc) (hacc : acc.kind = none) (k : Kind) :
    Reads entryField acc kKind (renderString (kindName k)) { acc with kind := some k } :=
  ⟨by decide, fun f rest _ hf => by simp +decide [entryField, hacc, parses_kind k f rest trivial hf]⟩

theorem reads_mtime (acc : EntryAcc) (hacc : acc.mtime = none) {t : Int}
    (h1 : -9223372036854775808 ≤ t) (h2 : t < 9223372036854775808) :
    Reads entryField acc kMtime (renderInt t) { acc with mtime := some t } :=
  ⟨by decide, fun f rest hd hf => by simp +decide [entryField, hacc, parses_i64 h1 h2 f rest hd.numEnd hf]⟩

theorem reads_unixMode (acc : EntryAcc) (hacc : acc.unixMode = none) {m : Option Nat} (hm : wfOptU32 m = true) :
    Reads entryField acc kUnixMode (renderOptNat m) { acc with unixMode := some m } :=
  ⟨by decide, fun f rest hd hf => by simp +decide [entryField, hacc, parses_optU32 hm f rest hd.numEnd hf]⟩

theorem reads_mtimeNanos (acc : EntryAcc) (hacc : acc.mtimeNanos = none) {n : Nat} (hn : n < u32Bound) :
    Reads entryField acc kMtimeNanos (renderNat n) { acc with mtimeNanos := some n } :=
  ⟨by decide, fun f rest hd hf => by simp +decide [entryField, hacc, parses_unsigned hn f rest hd.numEnd hf]⟩

theorem reads_addrs (acc : EntryAcc) (hacc : acc.addrs = none) {as : List Addr} (has : as.all wfAddr = true) :
    Reads entryField acc kAddrs (renderSeq renderAddr as) { acc with addrs := some as } :=
  ⟨by decide, fun f rest _ hf => by
    simp +decide [entryField, hacc,
      parses_array (fun a ha => readsElem_addr (List.all_eq_true.mp has a ha)) f rest trivial hf]⟩

theorem reads_target (acc : EntryAcc) (hacc : acc.target = none) {t : Str} (ht : validUtf8 t = true) :
    Reads entryField acc kTarget (renderString t) { acc with target := some (some t) } :=
  ⟨by decide, fun f rest _ hf => by
    have hp := parses_optStr (o := some t) ht f rest trivial hf
    simp only [renderOptStr] at hp
    simp +decide [entryField, hacc, hp]⟩

theorem reads_user (acc : EntryAcc) (hacc : acc.user = none) {u : Option Str} (hu : wfOptStr u = true) :
    Reads entryField acc kUser (renderOptStr u) { acc with user := some u } :=
  ⟨by decide, fun f rest _ hf => by simp +decide [entryField, hacc, parses_optStr hu f rest trivial hf]⟩

theorem reads_group (acc : EntryAcc) (hacc : acc.group = none) {g : Option Str} (hg : wfOptStr g = true) :
    Reads entryField acc kGroup (renderOptStr g) { acc with group := some g } :=
  ⟨by decide, fun f rest _ hf => by simp +decide [entryField, hacc, parses_optStr hg f rest trivial hf]⟩

/-- The optional members of an entry (`renderEntryTail` renders them). -/
def optMembers (e : IndexEntry) : List (Str × Str) :=
  (if e.user.isNone && e.group.isNone then [] else [(kUser, renderOptStr e.user), (kGroup, renderOptStr e.group)]) ++
  ((if e.mtimeNanos = 0 then [] else [(kMtimeNanos, renderNat e.mtimeNanos)]) ++
  ((if e.addrs.isEmpty then [] else [(kAddrs, renderSeq renderAddr e.addrs)]) ++
  (match e.target with
    | none => []
    | some t => [(kTarget, renderString t)])))

theorem renderEntryTail_members (e : IndexEntry) : renderEntryTail e = renderMembers (optMembers e) := by
  have h := fun l ms => renderMembers_append l ms []
  simp only [List.append_nil] at h
  unfold renderEntryTail optMembers
  simp only [h]
  congr 1
  · split <;> simp
  congr 1
  · split <;> simp
  congr 1
  · split <;> simp
  · cases e.target <;> simp [renderMembers]

theorem readsAll_owner (acc : EntryAcc) (h1 : acc.user = none) (h2 : acc.group = none) {u g : Option Str}
    (hu : wfOptStr u = true) (hg : wfOptStr g = true) :
    ReadsAll entryField acc (if u.isNone && g.isNone then [] else [(kUser, renderOptStr u), (kGroup, renderOptStr g)])
      { acc with user := if u.isNone && g.isNone then none else some u,
                 group := if u.isNone && g.isNone then none else some g } := by
  split
  · cases acc; cases h1; cases h2; exact .nil _
  · exact .cons (reads_user _ h1 hu) (.cons (reads_group { acc with user := some u } h2 hg) (.nil _))

theorem readsAll_nanos (acc : EntryAcc) (h : acc.mtimeNanos = none) {n : Nat} (hn : n < u32Bound) :
    ReadsAll entryField acc (if n = 0 then [] else [(kMtimeNanos, renderNat n)])
      { acc with mtimeNanos := if n = 0 then none else some n } := by
  split
  · cases acc; cases h; exact .nil _
  · exact .cons (reads_mtimeNanos _ h hn) (.nil _)

theorem readsAll_addrs (acc : EntryAcc) (h : acc.addrs = none) {as : List Addr} (has : as.all wfAddr = true) :
    ReadsAll entryField acc (if as.isEmpty then [] else [(kAddrs, renderSeq renderAddr as)])
      { acc with addrs := if as.isEmpty then none else some as } := by
  split
  · cases acc; cases h; exact .nil _
  · exact .cons (reads_addrs _ h has) (.nil _)

theorem readsAll_target (acc : EntryAcc) (h : acc.target = none) {t : Option Str} (ht : wfOptStr t = true) :
    ReadsAll entryField acc (match (generalizing := false) t with | none => [] | some t => [(kTarget, renderString t)])
      { acc with target := t.map some } := by
  cases t with
  | none => cases acc; cases h; exact .nil _
  | some t => exact .cons (reads_target _ h ht) (.nil _)

theorem parseEntry_brace (f : Nat) (r : Str) : parseEntry f (123 :: r) =
    (parseMembersF entryField f true {} r).bind fun q => q.1.finish.map fun e => (e, q.2) := by
  simp only [parseEntry, skipWs_cons_of_ne (c := 123) (by decide) (by decide) (by decide) (by decide)]
  cases parseMembersF entryField f true {} r <;> rfl

theorem parses_entry {e : IndexEntry} (he : wfEntry e = true) :
    Parses AnyRest parseEntry (renderEntry e) e := by
  simp only [wfEntry, Bool.and_eq_true, decide_eq_true_eq] at he
  obtain ⟨⟨⟨⟨⟨⟨⟨⟨hap, hm1⟩, hm2⟩, hnanos⟩, hmode⟩, hu⟩, hg⟩, has⟩, ht⟩ := he
  have htext : renderEntry e = 123 :: (renderString kApath ++ 58 :: (renderString e.apath ++
      renderMembers ((kKind, renderString (kindName e.kind)) :: (kMtime, renderInt e.mtime) ::
        (kUnixMode, renderOptNat e.unixMode) :: optMembers e))) := by
    simp only [renderEntry, renderEntryTail_members, renderMembers]
  have hopt : ReadsAll entryField
      { apath := some e.apath, kind := some e.kind, mtime := some e.mtime, unixMode := some e.unixMode }
      (optMembers e) _ :=
    (readsAll_owner _ rfl rfl hu hg).append ((readsAll_nanos _ rfl hnanos).append
      ((readsAll_addrs _ rfl has).append (readsAll_target _ rfl ht)))
  rw [htext]
  refine parses_struct (finish := EntryAcc.finish) parseEntry_brace
    (.cons (reads_apath {} rfl hap) (.cons (reads_kind _ rfl e.kind)
      (.cons (reads_mtime _ rfl hm1 hm2) (.cons (reads_unixMode _ rfl hmode) hopt)))) ?_
  obtain ⟨apath, kind, mtime, mtimeNanos, unixMode, user, group, addrs, target⟩ := e
  simp [EntryAcc.finish]
  refine ⟨?_, ?_, ?_, ?_, ?_⟩
  · by_cases hz : mtimeNanos = 0 <;> simp [hz]
  · cases user <;> cases group <;> simp
  · cases user <;> cases group <;> simp
  · cases addrs <;> simp
  · cases target <;> simp

theorem readsElem_entry {e : IndexEntry} (he : wfEntry e = true) : ReadsElem parseEntry renderEntry e :=
  ⟨⟨123, _, rfl, .inl rfl⟩, (parses_entry he).mono fun _ _ => trivial⟩

end Conserve.Json
