import ConserveModel.ApathSpec
/-
The `Ord for Apath` loop is lexicographic comparison of `keys`, and `keys` is injective; hence
the order laws of `apathCmp` and `apathLe`, and what strictly sorted keyed lists give: members
determined by their key, lookup, merge sort.
-/
namespace Conserve
open Std

theorem splitSlash_ne_nil (a : Str) : splitSlash a ≠ [] := by
  induction a with
  | nil => simp [splitSlash]
  | cons c cs ih =>
    unfold splitSlash
    split
    · simp
    · split <;> simp

theorem joinSlash_cons_cons (p q : Str) (ps : List Str) :
    joinSlash (p :: q :: ps) = p ++ slash :: joinSlash (q :: ps) := rfl

theorem joinSlash_splitSlash (a : Str) : joinSlash (splitSlash a) = a := by
  induction a with
  | nil => simp [splitSlash, joinSlash]
  | cons c cs ih =>
    unfold splitSlash
    split
    · rename_i h
      have hne := splitSlash_ne_nil cs
      cases hs : splitSlash cs with
      | nil => exact absurd hs hne
      | cons p ps =>
        rw [hs] at ih
        rw [joinSlash_cons_cons, ih, h]; rfl
    · cases hs : splitSlash cs with
      | nil => exact absurd hs (splitSlash_ne_nil cs)
      | cons p ps =>
        rw [hs] at ih
        simp only
        cases ps with
        | nil => simp [joinSlash] at ih ⊢; exact ih
        | cons q qs =>
          rw [joinSlash_cons_cons] at ih ⊢
          simp [← ih]

theorem splitSlash_injective {a b : Str} (h : splitSlash a = splitSlash b) : a = b := by
  rw [← joinSlash_splitSlash a, ← joinSlash_splitSlash b, h]

theorem compare_cons_same (f : Nat) (x y : Str) :
    compare (f :: x) (f :: y) = compare x y := by
  rw [List.compare_cons_cons]
  simp [ReflOrd.compare_self]

theorem compare_zero_one (x y : Str) : compare (0 :: x) (1 :: y) = .lt := by
  rw [List.compare_cons_cons]
  have : compare (0:Nat) 1 = .lt := by decide
  simp [this]

theorem compare_one_zero (x y : Str) : compare (1 :: x) (0 :: y) = .gt := by
  rw [List.compare_cons_cons]
  have : compare (1:Nat) 0 = .gt := by decide
  simp [this]

theorem cmpLoop_eq_keys (oa ob : Str) (as bs : List Str) :
    cmpLoop oa ob as bs = compare (keysOf oa as) (keysOf ob bs) := by
  induction as generalizing oa ob bs with
  | nil =>
    cases bs with
    | nil =>
      simp only [cmpLoop, keysOf]
      rw [List.compare_cons_cons, compare_cons_same]
      cases compare oa ob <;> simp
    | cons bc bs =>
      simp only [cmpLoop, keysOf]
      rw [List.compare_cons_cons, compare_zero_one]; rfl
  | cons ac as ih =>
    cases bs with
    | nil =>
      simp only [cmpLoop, keysOf]
      rw [List.compare_cons_cons, compare_one_zero]; rfl
    | cons bc bs =>
      simp only [cmpLoop, keysOf]
      rw [List.compare_cons_cons, compare_cons_same, ih]
      cases compare oa ob <;> rfl

theorem keysOf_injective {oa ob : Str} {as bs : List Str}
    (h : keysOf oa as = keysOf ob bs) : oa = ob ∧ as = bs := by
  induction as generalizing oa ob bs with
  | nil =>
    cases bs with
    | nil => simp [keysOf] at h; exact ⟨h, rfl⟩
    | cons b bs => simp [keysOf] at h
  | cons a as ih =>
    cases bs with
    | nil => simp [keysOf] at h
    | cons b bs =>
      simp only [keysOf, List.cons.injEq] at h
      obtain ⟨⟨_, h1⟩, h2⟩ := h
      obtain ⟨h3, h4⟩ := ih h2
      exact ⟨h1, by rw [h3, h4]⟩

theorem keys_injective {a b : Str} (h : keys a = keys b) : a = b := by
  unfold keys at h
  apply splitSlash_injective
  cases ha : splitSlash a with
  | nil => exact absurd ha (splitSlash_ne_nil a)
  | cons oa as =>
    cases hb : splitSlash b with
    | nil => exact absurd hb (splitSlash_ne_nil b)
    | cons ob bs =>
      rw [ha, hb] at h
      obtain ⟨h1, h2⟩ := keysOf_injective h
      rw [h1, h2]

theorem apathCmp_eq_keys (a b : Str) : apathCmp a b = compare (keys a) (keys b) := by
  unfold apathCmp keys
  cases ha : splitSlash a with
  | nil => exact absurd ha (splitSlash_ne_nil a)
  | cons oa as =>
    cases hb : splitSlash b with
    | nil => exact absurd hb (splitSlash_ne_nil b)
    | cons ob bs => exact cmpLoop_eq_keys oa ob as bs

theorem apathCmp_eq_iff (a b : Str) : apathCmp a b = .eq ↔ a = b := by
  rw [apathCmp_eq_keys, compare_eq_iff_eq]
  exact ⟨keys_injective, congrArg keys⟩

theorem apathCmp_gt_iff (a b : Str) : apathCmp a b = .gt ↔ apathCmp b a = .lt := by
  rw [apathCmp_eq_keys, apathCmp_eq_keys]
  exact OrientedCmp.gt_iff_lt

theorem apathCmp_lt_ne {a b : Str} (h : apathCmp a b = .lt) : a ≠ b := by
  intro e
  rw [(apathCmp_eq_iff a b).2 e] at h
  cases h

theorem apathLe.trans {a b c : Str} (h1 : apathLe a b = true) (h2 : apathLe b c = true) :
    apathLe a c = true := by
  simp only [apathLe, apathCmp_eq_keys, bne_iff_ne, ne_eq, Ordering.ne_gt_iff_isLE] at *
  exact TransCmp.isLE_trans h1 h2

theorem apathLe.total (a b : Str) : apathLe a b = true ∨ apathLe b a = true := by
  simp only [apathLe, bne_iff_ne, ne_eq]
  by_cases h : apathCmp a b = .gt
  · exact .inr (by rw [(apathCmp_gt_iff a b).1 h]; decide)
  · exact .inl h

theorem apathLe.antisymm {a b : Str} (h1 : apathLe a b = true) (h2 : apathLe b a = true) :
    a = b := by
  simp only [apathLe, bne_iff_ne, ne_eq] at h1 h2
  refine (apathCmp_eq_iff a b).1 ?_
  cases h : apathCmp a b with
  | eq => rfl
  | lt => exact absurd ((apathCmp_gt_iff b a).2 h) h2
  | gt => exact absurd h h1

theorem apathCmp_lt_of_le_of_ne {a b : Str} (h : apathLe a b = true) (hne : a ≠ b) :
    apathCmp a b = .lt := by
  simp only [apathLe, bne_iff_ne, ne_eq] at h
  cases hc : apathCmp a b with
  | lt => rfl
  | eq => exact absurd ((apathCmp_eq_iff a b).1 hc) hne
  | gt => exact absurd hc h

theorem eq_of_pairwise_ne_key {α κ : Type} {key : α → κ} {l : List α}
    (hd : l.Pairwise (fun a b => key a ≠ key b)) {a b : α} (ha : a ∈ l) (hb : b ∈ l)
    (h : key a = key b) : a = b := by
  induction l with
  | nil => cases ha
  | cons x l ih =>
    rw [List.pairwise_cons] at hd
    rcases List.mem_cons.1 ha with ea | ha' <;> rcases List.mem_cons.1 hb with eb | hb'
    · rw [ea, eb]
    · rw [ea] at h; exact absurd h (hd.1 b hb')
    · rw [eb] at h; exact absurd h.symm (hd.1 a ha')
    · exact ih hd.2 ha' hb'

theorem find?_key_eq_some {α κ : Type} [BEq κ] [LawfulBEq κ] {key : α → κ} {l : List α}
    (hd : l.Pairwise (fun a b => key a ≠ key b)) (p : κ) (a : α) :
    l.find? (fun x => key x == p) = some a ↔ a ∈ l ∧ key a = p := by
  constructor
  · intro h
    exact ⟨List.mem_of_find?_eq_some h, by simpa using List.find?_some h⟩
  · rintro ⟨hm, rfl⟩
    cases hx : l.find? (fun x => key x == key a) with
    | none => exact absurd (beq_self_eq_true _) (List.find?_eq_none.1 hx a hm)
    | some x =>
      rw [eq_of_pairwise_ne_key hd (List.mem_of_find?_eq_some hx) hm
        (by simpa using List.find?_some hx)]

theorem pairwise_ne_of_sorted {α : Type} {key : α → Str} {l : List α}
    (h : l.Pairwise fun x y => apathCmp (key x) (key y) = .lt) :
    l.Pairwise fun x y => key x ≠ key y :=
  h.imp apathCmp_lt_ne

/-- A listing strictly increasing in its keys is determined by its members. -/
theorem sorted_ext {α : Type} (key : α → Str) {l₁ l₂ : List α}
    (h₁ : l₁.Pairwise fun x y => apathCmp (key x) (key y) = .lt)
    (h₂ : l₂.Pairwise fun x y => apathCmp (key x) (key y) = .lt)
    (h : ∀ x, x ∈ l₁ ↔ x ∈ l₂) : l₁ = l₂ := by
  have nd : ∀ {l : List α}, (l.Pairwise fun x y => apathCmp (key x) (key y) = .lt) → l.Nodup :=
    fun hl => hl.imp fun hxy e => apathCmp_lt_ne hxy (congrArg key e)
  refine List.Perm.eq_of_pairwise ?_ h₁ h₂ ((List.perm_ext_iff_of_nodup (nd h₁) (nd h₂)).2 h)
  intro a b _ _ hab hba
  rw [apathCmp_eq_keys] at hab hba
  have := TransCmp.lt_trans hab hba
  rw [ReflOrd.compare_self] at this
  cases this

theorem mergeSort_apathLe_sorted {α : Type} (key : α → Str) {l : List α}
    (hnd : (l.map key).Nodup) :
    (l.mergeSort fun a b => apathLe (key a) (key b)).Pairwise
      fun a b => apathCmp (key a) (key b) = .lt := by
  have hle := List.pairwise_mergeSort (le := fun a b : α => apathLe (key a) (key b))
    (fun _ _ _ => apathLe.trans) (fun a b => by simpa using apathLe.total (key a) (key b)) l
  have hnd' : ((l.mergeSort fun a b => apathLe (key a) (key b)).map key).Nodup :=
    ((List.mergeSort_perm l _).map key).nodup_iff.2 hnd
  rw [List.Nodup, List.pairwise_map] at hnd'
  exact (hle.and hnd').imp fun h => apathCmp_lt_of_le_of_ne h.1 h.2

end Conserve
