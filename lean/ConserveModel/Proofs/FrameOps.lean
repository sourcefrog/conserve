import ConserveModel.Proofs.Footprint
/-
Which operations each archive-level function can issue (`Prog.AllOps P f`), read off its
footprint (Proofs/Footprint.lean).  Readers are `ReadOnly`; the index/block writer is `WriterOp`;
`bandCreate` and `backup` are `BackupOp` (hence `CreateOnly`).
-/
namespace Conserve
open Prog

variable {Z : Prop}

theorem Prog.AllOps.ro_wr {α : Type} {p : Prog α} (h : Prog.AllOps ReadOnly p) : Prog.AllOps WriterOp p :=
  h.mono fun _ => ReadOnly.writerOp
theorem Prog.AllOps.ro_co {α : Type} {p : Prog α} (h : Prog.AllOps ReadOnly p) : Prog.AllOps CreateOnly p :=
  h.mono fun _ => ReadOnly.createOnly
theorem Prog.AllOps.wr_bk {α : Type} {p : Prog α} (h : Prog.AllOps WriterOp p) : Prog.AllOps BackupOp p :=
  h.mono fun _ => WriterOp.backupOp
theorem Prog.AllOps.bk_co {α : Type} {p : Prog α} (h : Prog.AllOps BackupOp p) : Prog.AllOps CreateOnly p :=
  h.mono fun _ => BackupOp.createOnly

theorem isFile_ro (k : Key) : AllOps ReadOnly (isFile k) := (isFile_tree trivial).allOps
theorem listBandIds_ro : AllOps ReadOnly listBandIds := (listBandIds_tree trivial).allOps
theorem lastBandId_ro : AllOps ReadOnly lastBandId := (lastBandId_tree trivial).allOps
theorem bandOpen_ro (b : Nat) : AllOps ReadOnly (bandOpen b) := (bandOpen_tree trivial).allOps
theorem unwrapOr_isFile_ro (k : Key) (d : Bool) : AllOps ReadOnly (unwrapOr (isFile k) d) :=
  (unwrapOr_tree d (isFile_tree trivial)).allOps
theorem gcIsLocked_ro : AllOps ReadOnly gcIsLocked := isFile_ro _
/-- The second look `backup` takes at the lock: one `listDir` of the root, nothing else. -/
theorem gcLockListed_ro : AllOps ReadOnly gcLockListed := (gcLockListed_tree trivial).allOps

theorem listBlocks_ro : AllOps ReadOnly listBlocks := listBlocks_fp.rd_ro

theorem hunksAvailable_ro (b : Nat) : AllOps ReadOnly (hunksAvailable b) := (hunksAvailable_fp b).rd_ro
theorem checkIndexHunks_ro (b : Nat) : AllOps ReadOnly (checkIndexHunks b) := (checkIndexHunks_tree b).allOps.rd_ro
theorem listEntries_ro (b : Nat) (subtree : Str) (excl : Str → Bool) :
    AllOps ReadOnly (listEntries b subtree excl) := (listEntries_fp b subtree excl).rd_ro

theorem lastCompleteBand_go_tree (bs : List Nat) :
    Tree ReadOnly Z (fun _ => True) (lastCompleteBand.go bs) := by
  induction bs with
  | nil => exact .ret trivial
  | cons b bs ih =>
    unfold lastCompleteBand.go
    simp only [Prog.bind_def, Prog.pure_def]
    refine .bind (bandOpen_tree trivial).attempt fun r _ => ?_
    split
    · exact ih
    · exact ih
    · exact .fail _
    · refine .bind (isFile_tree trivial) fun c _ => ?_
      split
      · exact .ret trivial
      · exact ih

theorem resolveBandId_tree (sel : BandSelection) : Tree ReadOnly Z (fun _ => True) (resolveBandId sel) := by
  cases sel with
  | latestClosed =>
    refine .bind (.bind (listBandIds_tree trivial) fun _ _ =>
      lastCompleteBand_go_tree _) fun r _ => ?_
    split <;> first | exact .ret trivial | exact .fail _
  | specified b => exact .ret trivial
  | latest =>
    refine .bind (lastBandId_tree trivial) fun r _ => ?_
    split <;> first | exact .ret trivial | exact .fail _

theorem resolveBandId_ro (sel : BandSelection) : AllOps ReadOnly (resolveBandId sel) :=
  (resolveBandId_tree sel).allOps

theorem listVersion_tree (sel : BandSelection) (subtree : Str) (excl : Str → Bool) :
    Tree ReadOnly Z NP.AllUsable (listVersion sel subtree excl) :=
  .bind (resolveBandId_tree sel) fun b _ => .bind (bandOpen_tree trivial) fun _ _ =>
    (listEntries_tree b subtree excl).of_rd fun _ => id

theorem listVersion_ro (sel : BandSelection) (subtree : Str) (excl : Str → Bool) :
    AllOps ReadOnly (listVersion sel subtree excl) := (listVersion_tree sel subtree excl).allOps

theorem BandNew.backupOp {b : Nat} {o : Op} (h : BandNew b o) : BackupOp o := by
  cases h <;> simp [BackupOp]

theorem BackupFp.backupOp {H : Str → Str} {o : Op} (h : BackupFp H o) : BackupOp o := by
  cases h with
  | rd h => exact h.readOnly.backupOp
  | new h => exact h.backupOp
  | wr h => exact (WrOp.writerOp h).backupOp
  | tail b n => simp [BackupOp]

theorem bandCreate_bk : AllOps BackupOp bandCreate :=
  bandCreate_fp (fun _ h => h.readOnly.backupOp) fun _ _ => BandNew.backupOp

theorem bandClose_wr (b hunks : Nat) : AllOps WriterOp (bandClose b hunks) :=
  performUnit_allOps (by simp [WriterOp, BackupOp, isHeadWrite, isBandDirCreate])

section
variable (H : Str → Str)

theorem finishHunk_wr (w : Writer) : AllOps WriterOp (finishHunk w) :=
  (finishHunk_fp w).mono fun _ => IndexWr.writerOp

theorem flushGroup_wr (w : Writer) : AllOps WriterOp (flushGroup H w) :=
  (flushGroup_fp H w).mono fun _ => WrOp.writerOp

theorem backupLoop_wr (o : BackupOpts) (w : Writer) (ms : List Matched) :
    AllOps WriterOp (backupLoop H o w ms) :=
  (backupLoop_fp H o w ms).mono fun _ => WrOp.writerOp

theorem backup_bk (o : BackupOpts) (src : List SrcEntry) : AllOps BackupOp (backup H o src) :=
  (backup_fp H o src).mono fun _ => BackupFp.backupOp

theorem backup_createOnly (o : BackupOpts) (src : List SrcEntry) : AllOps CreateOnly (backup H o src) :=
  (backup_bk H o src).bk_co

theorem open_backup_bk (o : BackupOpts) (src : List SrcEntry) :
    AllOps BackupOp (archiveOpen >>= fun _ => backup H o src) :=
  .bind (archiveOpen_tree (ReadOnly.backupOp trivial)).allOps fun _ => backup_bk H o src

end

end Conserve
