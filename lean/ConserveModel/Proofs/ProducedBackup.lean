import ConserveModel.Proofs.ProducedRange
import ConserveModel.Proofs.FrameDelete
/-
C09 (first sentence): the range invariants (`entriesInRange`, and with it `BlocksSmall`: `Spec`)
through `finish_hunk`, `flush_group`, the main loop, the prelude and `backup()` as a whole, in EVERY
world (`backup_spec`, `backup_ir`, `backup_irs`); `delete_bands` writes neither an index hunk nor
block data (`deleteBands_nhw`, `delete_ir`).  The main part of `backup()` is the walk of
Proofs/BackupLoop.lean at the instance `wrInv`.  No property statements here.
-/
namespace Conserve.Rng
open Conserve Conserve.Inv Conserve.Conf Prog

/-! ### Operation classes -/

theorem ReadOnly.noDataWrite {o : Op} (h : ReadOnly o) : NoDataWrite o :=
  ⟨fun k es m ho => by subst ho; exact h, fun k c m ho => by subst ho; exact h⟩

theorem performUnit_hsat (L : StepInv) {o : Op} (ho : L.P o) : HSat L (performUnit o) (fun _ => True) :=
  HSat.of_ops (performUnit_allOps ho) (fun _ _ _ => trivial)

/-- `IndexWriter::finish_hunk` in every world: the hunk written holds the pending entries, which
are in range. -/
theorem finishHunk_hsat (S : Spec) {rem : Nat} (wr : Writer) (hwr : WR rem wr) :
    HSat S.stepInv (finishHunk wr) (fun wr' => WR rem wr') := by
  refine HSat.of_ops ((finishHunk_tree wr).allOps.mono fun _ ho => ?_) fun w wr' h => ?_
  · cases ho with
    | dir => exact S.stepInv.dir _
    | hunk =>
      refine S.good _ ⟨fun k es m ho e he => ?_, fun _ _ _ ho => (nomatch ho)⟩
      cases ho
      exact hwr.pending e (List.mem_mergeSort.mp he)
  · cases (finishHunk_tree wr).run h with
    | idle _ => exact hwr
    | wrote _ => exact ⟨fun _ he => (nomatch he), hwr.finished, hwr.queue, hwr.buf⟩

section
variable (H : Str → Str)

/-- `BackupWriter::flush_group` in every world. -/
theorem flushGroup_hsat (S : Spec) {rem : Nat} (wr : Writer) (hwr : WR rem wr) :
    HSat S.stepInv (flushGroup H wr) (fun wr' => WR rem wr') := by
  unfold flushGroup
  simp only [Prog.bind_def]
  refine HSat.bind (combinerFlush_hsat H S wr hwr) ?_
  rintro ⟨wr1, r⟩ hwr1
  cases r with
  | error e => exact HSat.fail
  | ok u =>
    refine finishHunk_hsat S _ ⟨?_, (by intro e he; cases he), hwr1.queue, hwr1.buf⟩
    intro e he
    rcases List.mem_append.mp he with he | he
    · exact hwr1.pending e he
    · exact hwr1.finished e he

/-- The range invariants as an instance of the walk (Proofs/BackupLoop.lean): the writer invariant
counts the bytes of the source entries still to come. -/
theorem wrInv (S : Spec) (o : BackupOpts) :
    LoopInvW H o (fun _ w' => S.I w'.store) (fun todo _ wr => WR (srcBytes todo) wr)
      (fun _ basis sf => SrcTimeOK sf ∧ ∀ b, basis = some b → addrsOK b.addrs) where
  frame := ⟨fun _ _ _ _ h => h, fun h => h, fun _ h => h⟩
  carry _ h := h
  events _ h := h
  setStats st h := h.setStats st
  copyEntry wr basis sf hw h hm :=
    copyEntry_hsat H S o wr basis sf (by simpa [srcBytes] using h) hm.1 hm.2 _ hw
  flushGroup wr hw h := flushGroup_hsat H S wr h _ hw
  close wr hw _ :=
    have h : HSat S.stepInv (bandClose wr.band wr.hunksWritten) (fun _ => True) :=
      performUnit_hsat S.stepInv (S.good _ ⟨fun _ _ _ h => (nomatch h), fun _ _ _ h => (nomatch h)⟩)
    h _ hw

end

theorem bandCreate_nhw : Prog.AllOps NoDataWrite bandCreate :=
  bandCreate_fp (fun _ h => ReadOnly.noDataWrite h.readOnly) fun _ _ h => by
    cases h <;> exact ⟨fun _ _ _ => nofun, fun _ _ _ => nofun⟩

theorem ro_hsat (L : StepInv) (hnd : ∀ o, NoDataWrite o → L.P o) {α : Type} {p : Prog α}
    (hp : Prog.AllOps ReadOnly p) : HSat L p (fun _ => True) :=
  HSat.of_ops (hp.mono fun o h => hnd o (ReadOnly.noDataWrite h)) (fun _ _ _ => trivial)

/-- An entry of a hunk of a store with entries in range is in range. -/
theorem _root_.Conserve.Inv.FromHunks.inRange (S : Spec) {s : Store} (hs : S.I s) {basis : List IndexEntry} (h : FromHunks s basis) :
    ∀ e ∈ basis, entryInRange e = true := fun e he =>
  have ⟨_, _, es, hes, hmem⟩ := h e he
  (ir_iff _).1 (S.ir _ hs) _ es (Store.mem_of_get? (hunkAt_eq_some_iff.1 hes)) e hmem

/-- The prelude in every world: `B` holds of the basis listing it returns if it holds of every entry
of a hunk of a store satisfying the invariant. -/
theorem backupPrelude_hsat (L : StepInv) (hnd : ∀ o, NoDataWrite o → L.P o) {B : IndexEntry → Prop}
    (hB : ∀ s, L.I s → ∀ basis, FromHunks s basis → ∀ e ∈ basis, B e) :
    HSat L backupPrelude (fun x => ∀ b ∈ x.2.2, B b) := by
  rw [backupPrelude_eq]
  refine HSat.bind (ro_hsat L hnd preludeHead_ro) fun basisBand _ => ?_
  refine HSat.bind (HSat.of_ops (bandCreate_nhw.mono hnd) (fun _ _ _ => trivial)) fun band _ w hw => ?_
  have ⟨hst, hq⟩ := preludeTail_spec id w.store basisBand band w rfl
  exact ⟨show L.I _ from hst ▸ hw, fun x hx => hB _ hw _ (hq x hx).2.2.1⟩

/-- **`backup` keeps the invariant in every world**: any faults, any crash point, dead or alive, any
options, any hash function, sorted source or not — provided the source's modification times are
representable and its file contents add up to less than 2^64 bytes. -/
theorem backup_spec (S : Spec) (H : Str → Str) (o : BackupOpts) {src : List SrcEntry} (hsrc : SrcInRange src)
    (w : World) (h : S.I w.store) : S.I ((backup H o src).run w).2.store := by
  rw [backup_eq]
  have hpre := backupPrelude_hsat S.stepInv (fun _ h => S.good _ h.goodOp) (B := fun b => addrsOK b.addrs)
    (fun _ hs _ hfh e he => ((entryInRange_iff e).1 (hfh.inRange S hs e he)).2)
  exact ((HSat.bind hpre fun x hx w1 hw1 => backupMain_framed (wrInv H S o) x w1 hw1
    ⟨fun _ h => (nomatch h), fun _ h => (nomatch h), fun _ h => (nomatch h), by have := hsrc.bytes; simpa using this⟩
    fun _ sf hsf hb => ⟨hsrc.mtimes sf hsf, fun b hbs => hx b (hb b hbs).1⟩) w h).1

theorem backup_irs (H : Str → Str) (o : BackupOpts) {src : List SrcEntry} (hsrc : SrcInRange src) (w : World)
    (h : IRS w.store) : IRS ((backup H o src).run w).2.store := backup_spec specIRS H o hsrc w h

/-- `entriesInRange` alone (whatever the lengths of the blocks already there). -/
theorem backup_ir (H : Str → Str) (o : BackupOpts) {src : List SrcEntry} (hsrc : SrcInRange src) (w : World)
    (h : entriesInRange w.store = true) : entriesInRange ((backup H o src).run w).2.store = true :=
  backup_spec specIR H o hsrc w h

theorem _root_.Conserve.GcOp.noDataWrite {D : List Nat} {Q : Str → Prop} {o : Op} (h : GcOp D Q o) :
    NoDataWrite o := by
  cases h with
  | rd h => exact ReadOnly.noDataWrite h
  | _ => exact ⟨fun _ _ _ => nofun, fun _ _ _ => nofun⟩

theorem deleteBands_nhw (strict : Bool) (D : List Nat) (o : DeleteOpts) :
    Prog.AllOps NoDataWrite (deleteBands strict D o) :=
  (deleteBands_fp strict D o).mono fun _ => GcOp.noDataWrite

/-- **`delete_bands` keeps `entriesInRange` in every world** (it only removes, and writes the lock). -/
theorem delete_ir (strict : Bool) (D : List Nat) (o : DeleteOpts) (w : World)
    (h : entriesInRange w.store = true) : entriesInRange ((deleteBands strict D o).run w).2.store = true :=
  specIR.run ((deleteBands_nhw strict D o).mono fun _ h => h.goodOp.1) w h

end Conserve.Rng
