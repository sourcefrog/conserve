import ConserveModel.Proofs.JsonSound
/-
The JSON round trip for the band head and tail (`parseHead_render`, `parseTail_render`), member by member
as in Proofs/JsonStruct.lean.
-/
namespace Conserve.Json
open Conserve

theorem readsElem_string {s : Str} (hs : validUtf8 s = true) : ReadsElem parseStr renderString s :=
  ⟨⟨34, _, rfl, .inr rfl⟩, (parses_str hs).mono fun _ _ => trivial⟩

theorem reads_head_startTime (acc : HeadAcc) (hacc : acc.startTime = none) {t : Int}
    (h1 : -9223372036854775808 ≤ t) (h2 : t < 9223372036854775808) :
    Reads headField acc kStartTime (renderInt t) { acc with startTime := some t } :=
  ⟨by decide, fun f rest hd hf => by simp +decide [headField, hacc, parses_i64 h1 h2 f rest hd.numEnd hf]⟩

theorem reads_head_version (acc : HeadAcc) (hacc : acc.bandFormatVersion = none) {v : Option Str}
    (hv : wfOptStr v = true) :
    Reads headField acc kBandFormatVersion (renderOptStr v) { acc with bandFormatVersion := some v } :=
  ⟨by decide, fun f rest _ hf => by simp +decide [headField, hacc, parses_optStr hv f rest trivial hf]⟩

theorem reads_head_flags (acc : HeadAcc) (hacc : acc.formatFlags = none) {fl : List Str}
    (hfl : fl.all validUtf8 = true) :
    Reads headField acc kFormatFlags (renderSeq renderString fl) { acc with formatFlags := some fl } :=
  ⟨by decide, fun f rest _ hf => by
    simp +decide [headField, hacc,
      parses_array (fun s hs => readsElem_string (List.all_eq_true.mp hfl s hs)) f rest trivial hf]⟩

theorem parseHead_render (h : HeadJson) (hh : wfHead h = true) : parseHead (renderHead h) = some h := by
  simp only [wfHead, Bool.and_eq_true, decide_eq_true_eq] at hh
  obtain ⟨⟨⟨h1, h2⟩, hv⟩, hfl⟩ := hh
  have hr := parseObject_render _ (.cons (reads_head_startTime {} rfl h1 h2)
    (.cons (reads_head_version _ rfl hv) (.cons (reads_head_flags _ rfl hfl) (.nil _)))) [10]
    (renderHead h).length (by simp [renderHead, renderMembers])
  have htext : renderHead h = 123 :: (renderString kStartTime ++ 58 :: (renderInt h.startTime ++
      (renderMembers [(kBandFormatVersion, renderOptStr h.bandFormatVersion),
        (kFormatFlags, renderSeq renderString h.formatFlags)] ++ [10]))) := by
    simp only [renderHead, renderMembers, List.append_assoc, List.cons_append, List.nil_append]
  unfold parseHead
  rw [htext] at hr ⊢
  rw [skipWs_cons_of_ne (by decide) (by decide) (by decide) (by decide)]
  simp only [hr]
  cases h
  rfl

theorem reads_tail_endTime (acc : TailAcc) (hacc : acc.endTime = none) {t : Int}
    (h1 : -9223372036854775808 ≤ t) (h2 : t < 9223372036854775808) :
    Reads tailField acc kEndTime (renderInt t) { acc with endTime := some t } :=
  ⟨by decide, fun f rest hd hf => by simp +decide [tailField, hacc, parses_i64 h1 h2 f rest hd.numEnd hf]⟩

theorem reads_tail_count (acc : TailAcc) (hacc : acc.indexHunkCount = none) {c : Option Nat}
    (hc : ∀ n, c = some n → n < 18446744073709551616) :
    Reads tailField acc kIndexHunkCount (renderOptNat c) { acc with indexHunkCount := some c } :=
  ⟨by decide, fun f rest hd hf => by simp +decide [tailField, hacc, parses_optU64 hc f rest hd.numEnd hf]⟩

theorem parseTail_render (t : TailJson) (ht : wfTail t = true) : parseTail (renderTail t) = some t := by
  simp only [wfTail, Bool.and_eq_true, decide_eq_true_eq] at ht
  obtain ⟨⟨h1, h2⟩, hc⟩ := ht
  have hr := parseObject_render _ (.cons (reads_tail_endTime {} rfl h1 h2)
    (.cons (reads_tail_count _ rfl (c := t.indexHunkCount)
      (by intro n hn; rw [hn] at hc; simp only [u64Bound] at hc; exact of_decide_eq_true hc)) (.nil _))) [10]
    (renderTail t).length (by simp [renderTail, renderMembers])
  have htext : renderTail t = 123 :: (renderString kEndTime ++ 58 :: (renderInt t.endTime ++
      (renderMembers [(kIndexHunkCount, renderOptNat t.indexHunkCount)] ++ [10]))) := by
    simp only [renderTail, renderMembers, List.append_assoc, List.cons_append, List.nil_append]
  unfold parseTail
  rw [htext] at hr ⊢
  rw [skipWs_cons_of_ne (by decide) (by decide) (by decide) (by decide)]
  simp only [hr]
  cases t
  rfl

end Conserve.Json
