import ConserveModel.Proofs.BackupEntry
/-
The index writer: `finish_hunk`, `flush_group` in all worlds.  No property statements here.
-/
namespace Conserve.Inv
open Conserve Prog

section
variable {H : Str → Str} {src : List SrcEntry} {s0 : Store}

/-- `IndexWriter::finish_hunk`: only correct entries are ever written into a hunk, so at both
micro-steps of the write, and after any fault, nothing dangles. -/
theorem finishHunk_sat (wr : Writer) (w : World) (hw : WOK H src s0 w) (hwr : WriterOK H src w.store wr) :
    Sat H src s0 (finishHunk wr) w (fun wr' w' => WriterOK H src w'.store wr') := by
  unfold finishHunk
  simp only [Prog.bind_def, Prog.pure_def]
  split
  · exact Sat.ret hw hwr
  · have hdone : ∀ w', Frame H src s0 w w' →
        WriterOK H src w'.store { wr with pending := [], sequence := wr.sequence + 1,
                                          hunksWritten := wr.hunksWritten + 1 } := fun w' hf =>
      { hwr.mono hf.ext with pending := fun _ h => nomatch h }
    have hwrite : ∀ w1, Frame H src s0 w w1 →
        Sat H src s0 ((performUnit (.write (.hunk wr.band wr.sequence)
            (.hunk (wr.pending.mergeSort fun a b => apathLe a.apath b.apath)) .createNew)).bind fun _ =>
            Prog.ret { wr with pending := [], sequence := wr.sequence + 1, hunksWritten := wr.hunksWritten + 1 })
          w1 (fun wr' w' => WriterOK H src w'.store wr') := by
      intro w1 hf1
      apply Sat.bind
      refine (Sat.performUnit hf1.wok (OpOK.writeHunk _ _ _ _ ?_)).mono ?_
      · intro e he
        exact (hwr.pending e (List.mem_mergeSort.mp he)).mono hf1.ext
      · intro _ w2 hf2 _
        exact Sat.ret hf2.wok (hdone w2 (hf1.trans hf2))
    split
    · apply Sat.bind
      refine (Sat.performUnit hw (OpOK.createDir _ (fun _ h => by cases h))).mono ?_
      intro _ w1 hf1 _
      exact hwrite w1 hf1
    · exact hwrite w (Frame.refl hw)

theorem flushGroup_sat (hinj : Function.Injective H) (wr : Writer) (w : World) (hw : WOK H src s0 w)
    (hwr : WriterOK H src w.store wr) :
    Sat H src s0 (flushGroup H wr) w (fun wr' w' => WriterOK H src w'.store wr') := by
  unfold flushGroup
  simp only [Prog.bind_def]
  apply Sat.bind
  refine (combinerFlush_spec hinj wr w hw hwr).mono ?_
  rintro ⟨wr1, r⟩ w1 hf1 hwr1
  cases r with
  | error e => exact Sat.fail hf1.wok
  | ok u =>
    apply finishHunk_sat _ _ hf1.wok
    refine ⟨hwr1.exists_, hwr1.comb, ?_, fun _ h => nomatch h⟩
    intro e he
    rcases List.mem_append.mp he with he | he
    · exact hwr1.pending e he
    · exact hwr1.finished e he

end

end Conserve.Inv
