import ConserveModel.Proofs.BackupStore
import ConserveModel.Proofs.Footprint
import ConserveModel.Backup
/-
Hoare-style frame for `backup`: world invariant, frame relation between worlds, the triple `Sat`.
No property statements here.
-/
namespace Conserve.Inv
open Conserve Prog

structure WOK (H : Str → Str) (src : List SrcEntry) (s0 : Store) (w : World) : Prop where
  enforce : w.enforceCreateNew = true
  good : Good H src s0 w.store

/-- What every piece of `backup` guarantees about the world it ends in — whatever the outcome
(value, error, panic), whatever faults were injected, wherever the world was killed. -/
structure Frame (H : Str → Str) (src : List SrcEntry) (s0 : Store) (w w' : World) : Prop where
  wok : WOK H src s0 w'
  ext : Extends w.store w'.store

section
variable {H : Str → Str} {src : List SrcEntry} {s0 : Store}

theorem Frame.refl {w : World} (hw : WOK H src s0 w) : Frame H src s0 w w := ⟨hw, Extends.refl _⟩

theorem Frame.trans {a b c : World} (h1 : Frame H src s0 a b) (h2 : Frame H src s0 b c) :
    Frame H src s0 a c := ⟨h2.wok, h1.ext.trans h2.ext⟩

theorem Frame.events {w : World} (hw : WOK H src s0 w) (ev : Event) :
    Frame H src s0 w { w with events := ev :: w.events } := ⟨⟨hw.enforce, hw.good⟩, Extends.refl _⟩

theorem Frame.exec {w : World} (hw : WOK H src s0 w) {o : Op} (ho : OpOK H src w.store o) :
    Frame H src s0 w (w.exec o).1 :=
  ⟨⟨by simpa using hw.enforce, w.inv_exec_good o hw.enforce ho hw.good⟩,
   w.exec_extends o hw.enforce ho.createOnly.createOnly⟩

theorem OpOK.createDir (s : Store) {k : Key} (hk : ∀ h, k ≠ .block h) : OpOK H src s (.createDir k) where
  createOnly := Or.inr (Or.inl ⟨k, rfl⟩)
  dir := fun h ho => by
    cases ho
    exact hk h rfl
  block := fun _ _ _ ho => by cases ho
  hunk := fun _ _ _ _ ho => by cases ho

theorem OpOK.readOnly (s : Store) {o : Op} (ho : o.isMutating = false) : OpOK H src s o where
  createOnly := Or.inl ho
  dir := fun h hh => by subst hh; simp [Op.isMutating] at ho
  block := fun _ _ _ hh => by subst hh; simp [Op.isMutating] at ho
  hunk := fun _ _ _ _ hh => by subst hh; simp [Op.isMutating] at ho

theorem OpOK.writeBlock (s : Store) (data : Str) :
    OpOK H src s (.write (.block (H data)) (.blockData data) .createNew) where
  createOnly := Or.inr (Or.inr ⟨_, _, rfl⟩)
  dir := fun _ ho => by cases ho
  block := fun _ _ _ ho => by
    cases ho
    exact ⟨data, rfl, rfl⟩
  hunk := fun _ _ _ _ ho => by cases ho

theorem OpOK.writeHunk (s : Store) (b n : Nat) (es : List IndexEntry) (h : ∀ e ∈ es, EntryOK H src s e) :
    OpOK H src s (.write (.hunk b n) (.hunk es) .createNew) where
  createOnly := Or.inr (Or.inr ⟨_, _, rfl⟩)
  dir := fun _ ho => by cases ho
  block := fun _ _ _ ho => by cases ho
  hunk := fun _ _ _ _ ho => by
    cases ho
    exact ⟨es, rfl, h⟩

/-- Writes to keys that are neither blocks nor hunks (band head, band tail). -/
theorem OpOK.writeOther (s : Store) {k : Key} (v : FileVal) (hb : ∀ h, k ≠ .block h)
    (hh : ∀ b n, k ≠ .hunk b n) : OpOK H src s (.write k v .createNew) where
  createOnly := Or.inr (Or.inr ⟨_, _, rfl⟩)
  dir := fun _ ho => by cases ho
  block := fun h _ _ ho => by
    cases ho
    exact absurd rfl (hb h)
  hunk := fun b n _ _ ho => by
    cases ho
    exact absurd rfl (hh b n)

/-- `Sat p w Q`: running `p` in `w` ends — whatever the outcome — in a world that keeps the
invariant and extends `w`'s store; if it returns `a`, then `Q a` holds of the final world. -/
def Sat (H : Str → Str) (src : List SrcEntry) (s0 : Store) {α : Type} (p : Prog α) (w : World)
    (Q : α → World → Prop) : Prop := Framed (Frame H src s0) p w Q

theorem Sat.ret {α : Type} {a : α} {w : World} {Q : α → World → Prop} (hw : WOK H src s0 w) (hq : Q a w) :
    Sat H src s0 (.ret a) w Q := Framed.ret (Frame.refl hw) hq

theorem Sat.fail {α : Type} {e : Err} {w : World} {Q : α → World → Prop} (hw : WOK H src s0 w) :
    Sat H src s0 (.fail e) w Q := Framed.fail (Frame.refl hw)

theorem Sat.panic {α : Type} {s : String} {w : World} {Q : α → World → Prop} (hw : WOK H src s0 w) :
    Sat H src s0 (.panic s) w Q := Framed.panic (Frame.refl hw)

theorem Sat.bind {α β : Type} {p : Prog α} {f : α → Prog β} {w : World} {Q : β → World → Prop}
    (hp : Sat H src s0 p w (fun a w' => Sat H src s0 (f a) w' Q)) : Sat H src s0 (p.bind f) w Q :=
  Framed.bind hp fun _ _ _ => Frame.trans

theorem Sat.mono {α : Type} {p : Prog α} {w : World} {Q Q' : α → World → Prop}
    (hp : Sat H src s0 p w Q) (h : ∀ a w', Frame H src s0 w w' → Q a w' → Q' a w') :
    Sat H src s0 p w Q' := Framed.mono hp h

theorem Sat.emit {α : Type} {ev : Event} {k : Prog α} {w : World} {Q : α → World → Prop}
    (hk : Sat H src s0 k { w with events := ev :: w.events } Q) : Sat H src s0 (.emit ev k) w Q :=
  ⟨⟨hk.1.wok, hk.1.ext⟩, hk.2⟩

theorem Sat.op {α : Type} {o : Op} {k : Resp → Prog α} {w : World} {Q : α → World → Prop}
    (hw : WOK H src s0 w) (ho : OpOK H src w.store o)
    (hk : ∀ r, Sat H src s0 (k r) (w.exec o).1 Q) : Sat H src s0 (.op o k) w Q :=
  Framed.op (Frame.exec hw ho) (fun r _ => hk r) fun _ _ _ => Frame.trans

theorem Sat.performUnit {o : Op} {w : World} (hw : WOK H src s0 w) (ho : OpOK H src w.store o) :
    Sat H src s0 (performUnit o) w (fun _ _ => True) :=
  (Framed.performUnit (Frame.exec hw ho) (Frame.refl (Frame.exec hw ho).wok) fun _ _ _ => Frame.trans).mono
    fun _ _ _ _ => trivial

theorem _root_.Conserve.World.inv_exec_write_unit (w : World) (k : Key) (v : FileVal)
    (hr : (w.exec (.write k v .createNew)).2 = .unit) :
    (w.exec (.write k v .createNew)).1.store.get? k = some v := by
  rcases (w.exec_cases (.write k v .createNew)).2 with ⟨_, _, h⟩ | ⟨_, _, _, _, _, _, _, h⟩ | ⟨_, _, _, h⟩ | ⟨hs, _, h⟩
  · rw [h] at hr; cases hr
  · rw [h] at hr; cases hr
  · rw [h] at hr; cases hr
  · rw [h] at hr
    rcases applyOp_write_store w.enforceCreateNew w.store k v .createNew with ⟨_, h'⟩ | ⟨⟨_, h'⟩, _⟩
    · rw [hs, h', Store.get?_put, if_pos rfl]
    · rw [h'] at hr; cases hr

end

end Conserve.Inv
