import ConserveModel.Proofs.StitchRule
import ConserveModel.Proofs.HistCongr
/-
The repair of `previous_existing_band` (src/index/stitch.rs): on its way down, the walk reports an id
whose head file is gone although its index still holds hunk 0 (`headLost`, StitchSpec.lean).

The walk as it was before the repair (`stitchDownOld`) against the repaired one: same entries, the old
errors in the same order, nothing added but `bandHeadMissing` of ids that lost their head; a lost head
the walk reaches is always reported; a directory without head and without hunk 0 is passed over like
an absent one.  The property statements are in Props/C10h.lean.
-/
namespace Conserve
open Prog

/-- `stitchDown` (IndexRead.lean) as it was before the repair: an id without head file is passed
over without looking at anything else. -/
def stitchDownOld : Nat → Option Str → Prog (List IndexEntry)
  | 0, _ => pure []
  | b + 1, last => do
    if ← unwrapOr (bandExists b) false then
      let (es, last') ← readBand b last
      if ← unwrapOr (bandIsClosed b) false then pure es
      else
        let more ← stitchDownOld b last'
        pure (es ++ more)
    else stitchDownOld b last

/-- `stitchDownOld` on a store: entries, and the errors reported (in order). -/
def stitchDownOldP (s : Store) : Nat → Option Str → List IndexEntry × List Err
  | 0, _ => ([], [])
  | b + 1, last =>
    if isFileP s (.bandHead b) then
      let r := bandTake s b last
      if isFileP s (.bandTail b) then (r.1, bandErrs s b)
      else
        let m := stitchDownOldP s b r.2
        (r.1 ++ m.1, bandErrs s b ++ m.2)
    else stitchDownOldP s b last

theorem stitchDownOld_ro (b : Nat) (last : Option Str) : AllOps ReadOnly (stitchDownOld b last) := by
  induction b generalizing last with
  | zero => exact .ret _
  | succ b ih =>
    unfold stitchDownOld
    refine .bind (unwrapOr_isFile_ro _ false) fun ex => ?_
    split
    · refine .bind (readBand_fp b last).rd_ro fun r => .bind (unwrapOr_isFile_ro _ false) fun cl => ?_
      split
      · exact .ret _
      · exact .bind (ih _) fun _ => .ret _
    · exact ih last

theorem eval_stitchDownOld (e : Bool) (s : Store) (b : Nat) (last : Option Str) :
    (stitchDownOld b last).eval e s =
      (.ok (stitchDownOldP s b last).1, s, evsOf (stitchDownOldP s b last).2) := by
  induction b generalizing last with
  | zero => rfl
  | succ b ih =>
    simp only [stitchDownOld, stitchDownOldP, bandExists, bandIsClosed, Prog.bind_def]
    rw [eval_bind, eval_unwrapOr_isFile, andThen_ok]
    cases isFileP s (.bandHead b) with
    | true =>
      simp only [if_true, eval_bind, eval_readBand, eval_unwrapOr_isFile, andThen]
      cases isFileP s (.bandTail b) with
      | true => simp
      | false => simp [eval_bind, ih, andThen, evsOf_append]
    | false => simp [ih]

theorem run_stitchDownOld {s : Store} (b : Nat) :
    ∀ (last : Option Str) (evs : List Event) (w : World), Quiet s evs w →
    ∃ w', (stitchDownOld b last).run w = (.ok (stitchDownOldP s b last).1, w') ∧
      Quiet s (evsOf (stitchDownOldP s b last).2 ++ evs) w' :=
  fun last _ _ h => Quiet.run_of_eval (stitchDownOld_ro b last) (eval_stitchDownOld true s b last) h

theorem headLost_absent_eq {s : Store} {b : Nat} (hp : isFileP s (.bandHead b) = false) :
    isFileP s (.hunk b 0) = headLost s b :=
  headLost_eq s b (by rw [← bandPresent_eq]; exact hp)

theorem headLost_absent' {s : Store} {b : Nat} (h : headLost s b = true) : bandPresent s b = false := by
  unfold headLost at h
  cases hp : bandPresent s b with
  | false => rfl
  | true => simp [hp] at h

theorem stitchDownOldP_fst_eq (s : Store) (b : Nat) (last : Option Str) :
    (stitchDownOldP s b last).1 = stitchList (bandTake s) (chainBelow s b) last :=
  walk_eq_stitchList (s := s) (take := bandTake s) (fun b last => (stitchDownOldP s b last).1) (fun _ => rfl)
    (fun b last => by
      simp only [stitchDownOldP, bandPresent_eq, isComplete_eq]
      by_cases hp : bandPresent s b = true
      · by_cases hc : isComplete s b = true <;> simp [hp, hc]
      · simp [hp]) b last

theorem stitchDownP_fst_old (s : Store) (b : Nat) (last : Option Str) :
    (stitchDownP s b last).1 = (stitchDownOldP s b last).1 := by
  rw [stitchDownP_fst_eq, stitchDownOldP_fst_eq]

theorem stitchDownOldP_snd (s : Store) (b : Nat) (last : Option Str) :
    (stitchDownOldP s b last).2 = (chainBelow s b).flatMap (bandErrs s) := by
  induction b generalizing last with
  | zero => rfl
  | succ b ih =>
    unfold stitchDownOldP chainBelow
    rw [bandPresent_eq, isComplete_eq]
    by_cases hp : bandPresent s b = true
    · by_cases hc : isComplete s b = true
      · simp [hp, hc]
      · simp [hp, hc, ih]
    · simp [hp, ih]

theorem stitchDownOldP_sublist (s : Store) (b : Nat) : ∀ last,
    ((stitchDownOldP s b last).2).Sublist (stitchDownP s b last).2 := by
  intro last
  rw [stitchDownOldP_snd, stitchDownP_snd_walk]
  exact chain_sublist_walk s _ b

theorem mem_stitchDownP_snd {s : Store} {e : Err} (b : Nat) : ∀ last,
    e ∈ (stitchDownP s b last).2 →
    e ∈ (stitchDownOldP s b last).2 ∨ ∃ c, c < b ∧ headLost s c = true ∧ e = .bandHeadMissing c := by
  intro last h
  rw [stitchDownP_snd_walk] at h
  rw [stitchDownOldP_snd]
  exact (mem_walkErrs h).imp_left fun ⟨c, hc, he⟩ => List.mem_flatMap.mpr ⟨c, hc, he⟩

theorem stitchDownP_eq_old {s : Store} (b : Nat) (hn : ∀ c, c < b → headLost s c = false) : ∀ last,
    stitchDownP s b last = stitchDownOldP s b last := by
  intro last
  refine Prod.ext (stitchDownP_fst_old s b last) ?_
  rw [stitchDownP_snd_walk, stitchDownOldP_snd, walkErrs_eq_chain _ b hn]

theorem lost_mem_walkErrs {s : Store} {b : Nat} (hl : headLost s b = true) (f : Nat → List Err) (n : Nat)
    (h : WalkReaches s n b) : Err.bandHeadMissing b ∈ walkErrs s f n :=
  List.mem_flatMap.mpr ⟨b, mem_reach.mpr h, by simp [stepErrs, headLost_absent' hl, hl]⟩

theorem lost_mem_stitchDownP {s : Store} {b : Nat} (hl : headLost s b = true) (n : Nat) : ∀ last,
    WalkReaches s n b → Err.bandHeadMissing b ∈ (stitchDownP s n last).2 := by
  intro last h
  rw [stitchDownP_snd_walk]
  exact lost_mem_walkErrs hl _ n h

theorem lost_mem_listErrors {s : Store} {n b : Nat} (hl : headLost s b = true)
    (hopen : isComplete s n = false) (h : WalkReaches s n b) : Err.bandHeadMissing b ∈ listErrors s n := by
  unfold listErrors
  simp only [hopen, Bool.false_eq_true, if_false, List.mem_append, errorsBelow_eq_walk]
  exact Or.inr (lost_mem_walkErrs hl _ n h)

theorem stitchDownP_leftover {s : Store} {b : Nat} (hp : bandPresent s b = false)
    (h0 : headLost s b = false) (last : Option Str) : stitchDownP s (b + 1) last = stitchDownP s b last := by
  have hp' : isFileP s (.bandHead b) = false := by rw [bandPresent_eq]; exact hp
  simp [stitchDownP, hp', headLost_absent_eq hp', h0]

/-- `s'` is `s` without anything at or under `b`'s directory, and in `s` that directory holds neither
a head nor hunk 0: the two stores look alike to the walk down from anywhere. -/
theorem chainSame_of_absent {s s' : Store} {b : Nat}
    (hout : ∀ k, Key.isUnder (.bandDir b) k = false → s'.get? k = s.get? k)
    (habs : ∀ k, Key.isUnder (.bandDir b) k = true → s'.get? k = none)
    (hp : bandPresent s b = false) (h0 : headLost s b = false) (n : Nat) : Hist.ChainSame s s' n := by
  intro c _
  by_cases hcb : c = b
  · subst hcb
    have hh : s'.get? (.bandHead c) = none := habs _ (isUnder_bandDir_iff.2 rfl)
    have h0' : s'.get? (.hunk c 0) = none := habs _ (isUnder_bandDir_iff.2 rfl)
    rw [if_neg (by simp [hp])]
    exact ⟨by simp [bandPresent, hh], by rw [h0]; simp [headLost, h0']⟩
  · have hb : Exact.BandSame s s' c := fun k hk => hout k (isUnder_bandDir_other hk hcb)
    split
    · exact hb
    · rename_i hpc
      exact ⟨by rw [Exact.bandPresent_same hb]; simpa using hpc, hb.toNP.headLost⟩

end Conserve
