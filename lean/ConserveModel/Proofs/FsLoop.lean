import ConserveModel.Proofs.GapFsDir
/-
One turn of the restore loop (`restoreNodeFs_turn`), and the loop and the deferrals as a whole (`Grows`), for
listings in which no entry lies at or below an EARLIER symlink entry.  The invariant of the loop is `Ready`: the
destination is there and the paths of the entries still to come hold no symlink now.  The deferred directory
metadata runs after ALL entries, so a symlink entry listed after `/a/b` but naming `/a` is "earlier" from its
point of view; what makes it harmless is recorded when the directory is registered (`SolidOrBlocked`,
GapFsDir.lean) and survives whatever comes later.
-/
namespace Conserve

theorem joinSlash_head? (c : Str) (cs : List Str) (hc : c ≠ []) :
    (joinSlash (c :: cs)).head? = c.head? := by
  cases c with
  | nil => exact absurd rfl hc
  | cons x xs => cases cs <;> simp [joinSlash]

/-- `destination.join(&apath[1..])` for a valid apath: the destination, the apath's components,
and a trailing empty component for the root apath (`dest/`). -/
theorem joinDest_valid (D : Path) {a : Str} (h : isValid a = true) :
    joinDest D a = D ++ components a ++ (if a = [slash] then [[]] else []) := by
  obtain ⟨cs, hg, rfl⟩ := (valid_iff_pathOf a).1 h
  rw [components_pathOf hg]
  cases cs with
  | nil => simp [joinDest, pathOf, splitSlash]
  | cons c cs' =>
    have hc := (goodName_iff c).1 (hg c List.mem_cons_self)
    have hne := joinSlash_ne_nil cs' hc.1
    have h1 : pathOf (c :: cs') ≠ [slash] := by simp [pathOf, hne]
    have hhead : (joinSlash (c :: cs')).head? ≠ some slash := by
      rw [joinSlash_head? c cs' hc.1]
      intro e
      exact hc.2.1 (List.mem_of_mem_head? e)
    rw [if_neg h1, List.append_nil]
    unfold joinDest
    simp only [pathOf, List.drop_succ_cons, List.drop_zero]
    rw [if_neg hhead, splitSlash_joinSlash hg.noSlash]

theorem joinDest_comps (D : Path) {n : RNode} (h : isValid n.apath = true) :
    joinDest D n.apath = D ++ comps n ++ (if n.apath = [slash] then [[]] else []) :=
  joinDest_valid D h

theorem comps_root_of_eq {n : RNode} (h : n.apath = [slash]) : comps n = [] := by
  unfold comps; rw [h]; rfl

theorem ctx_of_cleanL {D : Path} {fs : Fs} {n : RNode} (hD : DestOk fs D)
    (hv : isValid n.apath = true) (hc : CleanFullL fs D (comps n)) :
    Ctx fs D (comps n) (if n.apath = [slash] then [[]] else []) := by
  refine ⟨hD, (valid_eq_pathOf hv).1, ?_, ?_, hc.to⟩
  · intro c hc'
    by_cases hr : n.apath = [slash]
    · rw [if_pos hr] at hc'; simpa using hc'
    · rw [if_neg hr] at hc'; cases hc'
  · by_cases hr : n.apath = [slash]
    · exact Or.inr (comps_root_of_eq hr)
    · exact Or.inl (if_neg hr)

def NoNewLink (fs fs' : Fs) : Prop :=
  ∀ q x, fs.node q = none → fs'.node q = some x → x.kind ≠ .symlink

theorem Local.noNewLink {k : FKind} {fs fs' : Fs} {p : Path} (h : Local k fs fs' p)
    (hk : k ≠ .symlink) : NoNewLink fs fs' := by
  intro q x hn hs
  by_cases hq : q = p
  · subst hq; rw [h.created x hn hs]; exact hk
  · rw [(h.eqMod_of_ne hq).none_iff.1 hn] at hs; cases hs

theorem Grows.noNewLink {D : Path} {T : List Str → Prop} {fs fs' : Fs}
    (h : Grows D T (fun _ => False) fs fs') : NoNewLink fs fs' := by
  intro q x hn hs
  by_cases hq : D <+: q
  · obtain ⟨cs, rfl⟩ := hq
    rcases h.fresh cs x hn hs with hk | hf
    · rw [hk]; decide
    · exact hf.elim
  · rw [h.outside q hq, hn] at hs; cases hs

theorem NoNewLink.refl (fs : Fs) : NoNewLink fs fs := fun q x hn hs => by rw [hn] at hs; cases hs

theorem NoNewLink.notLink {fs fs' : Fs} (h : NoNewLink fs fs') (hk : Kept fs fs') {q : Path}
    (hq : NotLink (fs.node q)) : NotLink (fs'.node q) := by
  intro x hx
  cases hn : fs.node q with
  | none => exact h q x hn hx
  | some y =>
    obtain ⟨x', hx', hk'⟩ := hk q y hn
    rw [hx] at hx'; cases hx'
    rw [hk']; exact hq y hn

theorem restoreNodeFs_deferrals {uidOf gidOf : Str → Option Nat} {old : Bool} {D : Path} {fs : Fs}
    {n : RNode} : ∀ d ∈ (restoreNodeFs uidOf gidOf old D fs n).2.2,
      d.node = n ∧ n.kind = .dir ∧ d.path = joinDest D n.apath := by
  unfold restoreNodeFs
  cases hk : n.kind with
  | dir =>
    dsimp only
    split
    · split
      · intro d hd; cases hd
      · intro d hd
        rw [List.mem_singleton.1 hd]
        exact ⟨rfl, rfl, rfl⟩
    · intro d hd
      rw [List.mem_singleton.1 hd]
      exact ⟨rfl, rfl, rfl⟩
  | file => intro d hd; cases hd
  | symlink => intro d hd; cases hd
  | unknown => intro d hd; cases hd

theorem restoreLoopFs_deferrals {uidOf gidOf : Str → Option Nat} {old : Bool} {D : Path} :
    ∀ (rest : List RNode) (fs : Fs), ∀ d ∈ (restoreLoopFs uidOf gidOf old D fs rest).2.2,
      d.node ∈ rest ∧ d.node.kind = .dir ∧ d.path = joinDest D d.node.apath := by
  intro rest
  induction rest with
  | nil => intro fs d hd; cases hd
  | cons n rest ih =>
    intro fs d hd
    simp only [restoreLoopFs] at hd
    rcases List.mem_append.1 hd with h | h
    · obtain ⟨e, hk, hp⟩ := restoreNodeFs_deferrals d h
      exact ⟨e ▸ List.mem_cons_self, e ▸ hk, e ▸ hp⟩
    · obtain ⟨hm, hk, hp⟩ := ih _ d h
      exact ⟨List.mem_cons_of_mem _ hm, hk, hp⟩

/-- What one turn does below a destination that is there, for an entry whose path holds no symlink: it
touches prefixes of that path only, creates directories and at most one other node, the entry's own, and a
directory it registers for the deferred metadata is there, or its path runs into a file. -/
theorem restoreNodeFs_turn {uidOf gidOf : Str → Option Nat} {old : Bool} {D : Path}
    {fs : Fs} {n : RNode} (hD : DestOk fs D) (hv : isValid n.apath = true)
    (hfull : CleanFullL fs D (comps n)) :
    Grows D (· <+: comps n) (fun c => c = comps n ∧ n.kind ≠ .dir) fs
      (restoreNodeFs uidOf gidOf old D fs n).1 ∧
    (n.kind ≠ .symlink → NoNewLink fs (restoreNodeFs uidOf gidOf old D fs n).1) ∧
    ∀ d ∈ (restoreNodeFs uidOf gidOf old D fs n).2.2,
      SolidOrBlocked (restoreNodeFs uidOf gidOf old D fs n).1 D (comps n) := by
  have hctx := ctx_of_cleanL hD hv hfull
  have hpath := joinDest_comps D hv
  have hDn := hD.node_ne_none
  unfold restoreNodeFs
  cases hk : n.kind with
  | dir =>
    dsimp only
    by_cases hr : n.apath = [slash]
    · simp only [hr, ne_eq, not_true_eq_false, if_false]
      refine ⟨Grows.refl _ _ _ _, fun _ => NoNewLink.refl _, fun d _ => Or.inl fun pre hp => ?_⟩
      rw [comps_root_of_eq hr] at hp
      rw [List.prefix_nil.1 hp, List.append_nil]
      obtain ⟨x, hx, hk⟩ := Fs.isDir_iff.1 (hD.dirs D (List.prefix_refl _))
      exact ⟨x, hx, by rw [hk]; decide⟩
    · simp only [hr, ne_eq, not_false_eq_true, if_true]
      have hG : Grows D (· <+: comps n) (fun _ => False) fs
          (restoreDirFs fs (joinDest D n.apath)).1 := by
        rw [restoreDirFs_fst, hpath, if_neg hr, List.append_nil]
        exact (mkdirAll_result _ fs (comps n) hD hctx.good hfull _ _ rfl).1
      rcases hrd : restoreDirFs fs (joinDest D n.apath) with ⟨fs1, r⟩
      rw [hrd] at hG
      have hG' := hG.mono (T' := (· <+: comps n)) (N' := fun c => c = comps n ∧ ¬ True)
        (fun _ h => h) (fun _ h => h.elim)
      cases r with
      | error e => exact ⟨hG', fun _ => hG.noNewLink, fun d hd => nomatch hd⟩
      | ok u =>
        refine ⟨hG', fun _ => hG.noNewLink, fun d _ => ?_⟩
        rw [hpath, if_neg hr, List.append_nil] at hrd
        rcases restoreDirFs_ok hrd with hm | hm
        · exact Or.inl ((mkdirAll_result _ fs (comps n) hD hctx.good hfull fs1 _ hm).2.1 rfl)
        · exact Or.inr ((mkdirAll_result _ fs (comps n) hD hctx.good hfull fs1 _ hm).2.2 rfl)
  | file =>
    dsimp only
    rw [hpath]
    have L := restoreFileFs_local (uidOf := uidOf) (gidOf := gidOf) (old := old) (n := n) hctx
      (hfull _ (List.prefix_refl _))
    exact ⟨(L.grows hDn).mono (fun c h => h ▸ List.prefix_refl _) (fun c h => ⟨h.1, by decide⟩),
      fun _ => L.noNewLink (by decide), fun d hd => nomatch hd⟩
  | symlink =>
    dsimp only
    rw [hpath]
    have L := restoreSymlinkFs_local (uidOf := uidOf) (gidOf := gidOf) (n := n) hctx
    exact ⟨(L.grows hDn).mono (fun c h => h ▸ List.prefix_refl _) (fun c h => ⟨h.1, by decide⟩),
      fun h => absurd rfl h, fun d hd => nomatch hd⟩
  | unknown =>
    exact ⟨Grows.refl _ _ _ _, fun _ => NoNewLink.refl _, fun d hd => nomatch hd⟩

/-- What later turns must respect about earlier ones, for confinement: nothing at or below an earlier symlink
entry (the root apath apart: the destination is there, so that entry makes no symlink). -/
def NotBelowLink (a b : RNode) : Prop := a.kind = .symlink → comps a ≠ [] → ¬ comps a <+: comps b

/-- The same for the exact modes: nothing at or below an earlier entry that is no directory. -/
def NotBelowNonDir (a b : RNode) : Prop := a.kind ≠ .dir → ¬ comps a <+: comps b

section
variable {uidOf gidOf : Str → Option Nat} {old : Bool} {D : Path} {fs : Fs} {n m : RNode}

/-- One turn keeps the path of a later entry free of symlinks: what is new is a directory, or the entry's own
node, and the later entry is not below it if that is a symlink. -/
theorem restoreNodeFs_cleanL (hD : DestOk fs D) (hv : isValid n.apath = true)
    (hfull : CleanFullL fs D (comps n)) (hnb : NotBelowLink n m) (hm : CleanFullL fs D (comps m)) :
    CleanFullL (restoreNodeFs uidOf gidOf old D fs n).1 D (comps m) := by
  obtain ⟨G, hnl, -⟩ := restoreNodeFs_turn (uidOf := uidOf) (gidOf := gidOf) (old := old) hD hv hfull
  intro pre hp
  by_cases hk : n.kind = .symlink
  · refine G.kind_of (P := (· ≠ .symlink)) (by decide) (fun hn ⟨e, _⟩ => hnb hk (fun e0 => ?_) (e ▸ hp)) (hm pre hp)
    rw [e, e0, List.append_nil] at hn
    exact hD.node_ne_none hn
  · exact (hnl hk).notLink G.kept (hm pre hp)

theorem restoreNodeFs_clean (hD : DestOk fs D) (hv : isValid n.apath = true)
    (hfull : CleanFullL fs D (comps n)) (hnb : NotBelowNonDir n m) (hm : CleanFull fs D (comps m)) :
    CleanFull (restoreNodeFs uidOf gidOf old D fs n).1 D (comps m) :=
  fun pre hp => (restoreNodeFs_turn hD hv hfull).1.kind_of (P := (· = .dir)) rfl
    (fun _ ⟨e, hk⟩ => hnb hk (e ▸ hp)) (hm pre hp)

end

/-- What the loop needs to go on: the destination is there, and the entries still to come are valid, lie
below no earlier symlink entry, and their paths hold no symlink now. -/
structure Ready (D : Path) (fs : Fs) (rest : List RNode) : Prop where
  dest : DestOk fs D
  valid : ∀ n ∈ rest, isValid n.apath = true
  order : rest.Pairwise NotBelowLink
  clean : ∀ n ∈ rest, CleanFullL fs D (comps n)

theorem cleanFull_of_empty {fs : Fs} {D : Path} (hD : DestOk fs D)
    (he : ∀ cs, cs ≠ [] → fs.node (D ++ cs) = none) (cs : List Str) : CleanFull fs D cs := by
  intro pre _ x hx
  by_cases e : pre = []
  · rw [e, List.append_nil] at hx
    exact noneOrDir_of_isDir (hD.dirs D (List.prefix_refl _)) x hx
  · rw [he pre e] at hx; cases hx

/-- In an empty destination every path is clean. -/
theorem Ready.of_empty {fs : Fs} {D : Path} {nodes : List RNode} (hD : DestOk fs D)
    (he : ∀ cs, cs ≠ [] → fs.node (D ++ cs) = none) (hv : ∀ n ∈ nodes, isValid n.apath = true)
    (hp : nodes.Pairwise NotBelowLink) : Ready D fs nodes :=
  ⟨hD, hv, hp, fun _ _ => (cleanFull_of_empty hD he _).toL⟩

theorem Ready.tail (uidOf gidOf : Str → Option Nat) (old : Bool) {D : Path} {fs : Fs} {n : RNode}
    {rest : List RNode} (R : Ready D fs (n :: rest)) :
    Ready D (restoreNodeFs uidOf gidOf old D fs n).1 rest :=
  have hvn := R.valid n List.mem_cons_self
  have hfull := R.clean n List.mem_cons_self
  ⟨(restoreNodeFs_turn R.dest hvn hfull).1.destOk R.dest, fun m hm => R.valid m (List.mem_cons_of_mem _ hm),
   (List.pairwise_cons.1 R.order).2, fun m hm => restoreNodeFs_cleanL R.dest hvn hfull
    ((List.pairwise_cons.1 R.order).1 m hm) (R.clean m (List.mem_cons_of_mem _ hm))⟩

def nonDirAt (l : List RNode) : List Str → Prop := fun c => ∃ m ∈ l, m.kind ≠ .dir ∧ comps m = c

/-- The loop as a whole: it touches prefixes of the entries' paths only, makes directories and, at the places of
the entries that are none, at most those; and every directory it registers for the deferred metadata is there
at the end, or its path runs into a file. -/
theorem restoreLoopFs_grows {uidOf gidOf : Str → Option Nat} {old : Bool} {D : Path} :
    ∀ (rest : List RNode) (fs : Fs), Ready D fs rest →
      Grows D (fun c => ∃ n ∈ rest, c <+: comps n) (nonDirAt rest) fs
        (restoreLoopFs uidOf gidOf old D fs rest).1 ∧
      ∀ d ∈ (restoreLoopFs uidOf gidOf old D fs rest).2.2,
        isValid d.node.apath = true ∧ d.path = joinDest D d.node.apath ∧
        SolidOrBlocked (restoreLoopFs uidOf gidOf old D fs rest).1 D (comps d.node) := by
  intro rest
  induction rest with
  | nil => intro fs _; exact ⟨Grows.refl _ _ _ _, fun d hd => nomatch hd⟩
  | cons n rest ih =>
    intro fs R
    have hvn := R.valid n List.mem_cons_self
    obtain ⟨G, -, hsob⟩ := restoreNodeFs_turn (uidOf := uidOf) (gidOf := gidOf) (old := old) R.dest hvn
      (R.clean n List.mem_cons_self)
    obtain ⟨G2, hdefs⟩ := ih _ (R.tail uidOf gidOf old)
    simp only [restoreLoopFs]
    refine ⟨Grows.trans (G.mono ?_ ?_) (G2.mono ?_ ?_), fun d hd => ?_⟩
    · exact fun c h => ⟨n, List.mem_cons_self, h⟩
    · exact fun c h => ⟨n, List.mem_cons_self, h.2, h.1.symm⟩
    · exact fun c ⟨m, hm, h⟩ => ⟨m, List.mem_cons_of_mem _ hm, h⟩
    · exact fun c ⟨m, hm, h⟩ => ⟨m, List.mem_cons_of_mem _ hm, h⟩
    · rcases List.mem_append.1 hd with h | h
      · obtain ⟨e, _, hp'⟩ := restoreNodeFs_deferrals d h
        refine ⟨e ▸ hvn, e ▸ hp', ?_⟩
        rw [e]
        exact (hsob d h).kept G2.kept
      · exact hdefs d h

/-- Each deferred path is solid — then the three calls act on the directory itself — or does not
resolve — then they do nothing. -/
theorem applyDeferralsFs_grows {uidOf gidOf : Str → Option Nat} {D : Path} :
    ∀ (ds : List Deferral) (fs : Fs), DestOk fs D →
      (∀ d ∈ ds, isValid d.node.apath = true ∧ d.path = joinDest D d.node.apath ∧
        SolidOrBlocked fs D (comps d.node)) →
      Grows D (fun c => ∃ d ∈ ds, c = comps d.node) (fun _ => False) fs
        (applyDeferralsFs uidOf gidOf fs ds).1 := by
  intro ds
  induction ds with
  | nil => intro fs _ _; exact Grows.refl _ _ _ _
  | cons d ds ih =>
    intro fs hD hd
    obtain ⟨hv, hp, hsob⟩ := hd d List.mem_cons_self
    have hj : d.path = D ++ comps d.node ++ (if d.node.apath = [slash] then [[]] else []) := by
      rw [hp, joinDest_comps D hv]
    have G : Grows D (· = comps d.node) (fun _ => False) fs (applyDeferralFs uidOf gidOf fs d).1 := by
      by_cases hs : SolidTo fs D (comps d.node)
      · have hfull := hs.cleanFullL
        have L := applyDeferralFs_local (uidOf := uidOf) (gidOf := gidOf) (n := d.node)
          (ctx_of_cleanL hD hv hfull) (hfull _ (List.prefix_refl _))
        rw [← hj] at L
        have L' : Local .dir fs (applyDeferralFs uidOf gidOf fs d).1 (D ++ comps d.node) := L
        exact (L'.grows hD.node_ne_none).mono (fun _ h => h) (fun _ h => h.2 rfl)
      · rw [applyDeferralFs_unresolved fun follow p => by
          rw [hj]; exact resolve_blocked hD (valid_eq_pathOf hv).1 (hsob.resolve_left hs) hs p]
        exact Grows.refl _ _ _ _
    have G2 := ih _ (G.destOk hD) fun d' hd' => by
      obtain ⟨a, b, c⟩ := hd d' (List.mem_cons_of_mem _ hd')
      exact ⟨a, b, c.kept G.kept⟩
    simp only [applyDeferralsFs]
    exact Grows.trans (G.mono (fun c h => ⟨d, List.mem_cons_self, h⟩) (fun _ h => h))
      (G2.mono (fun c ⟨d', hd', h⟩ => ⟨d', List.mem_cons_of_mem _ hd', h⟩) (fun _ h => h))

/-- A listing restore can replay without leaving the destination: valid, pairwise distinct
apaths, and every entry that is a proper ancestor of another entry is a directory. -/
structure Confinable (nodes : List RNode) : Prop where
  valid : ∀ n ∈ nodes, isValid n.apath = true
  distinct : nodes.Pairwise (fun a b => comps a ≠ comps b)
  anc : ∀ m ∈ nodes, ∀ n ∈ nodes, comps m <+: comps n → comps m ≠ comps n → m.kind = .dir

theorem apath_eq_of_comps_eq {a b : RNode} (ha : isValid a.apath = true) (hb : isValid b.apath = true)
    (e : comps a = comps b) : a.apath = b.apath := by
  have ea := (valid_eq_pathOf ha).2
  have eb := (valid_eq_pathOf hb).2
  rw [ea, eb]; unfold comps at e; rw [e]

theorem comps_distinct_of_sorted {nodes : List RNode} (hv : ∀ n ∈ nodes, isValid n.apath = true)
    (hs : nodes.Pairwise fun a b => apathCmp a.apath b.apath = .lt) :
    nodes.Pairwise (fun a b => comps a ≠ comps b) :=
  hs.imp_of_mem fun {a b} ha hb hlt e =>
    apathCmp_lt_ne hlt (apath_eq_of_comps_eq (hv a ha) (hv b hb) e)

theorem Confinable.notBelowNonDir {nodes : List RNode} (hC : Confinable nodes) :
    nodes.Pairwise NotBelowNonDir :=
  hC.distinct.imp_of_mem fun {a b} ha hb hne hk hpre => hk (hC.anc a ha b hb hpre hne)

/-- A listing restore can replay without leaving the destination — the weakest order-free form
(`NotBelowLink`, pairwise, is weaker still): valid, pairwise distinct apaths, and no entry (other than one for the root apath) that is a proper
ancestor of another entry is a SYMLINK (it may be a directory, or a file). -/
structure ConfinableL (nodes : List RNode) : Prop where
  valid : ∀ n ∈ nodes, isValid n.apath = true
  distinct : nodes.Pairwise (fun a b => comps a ≠ comps b)
  anc : ∀ m ∈ nodes, ∀ n ∈ nodes, comps m ≠ [] → comps m <+: comps n → comps m ≠ comps n →
    m.kind ≠ .symlink

theorem Confinable.toL {nodes : List RNode} (h : Confinable nodes) : ConfinableL nodes :=
  ⟨h.valid, h.distinct, fun m hm n hn _ hp hne => by rw [h.anc m hm n hn hp hne]; decide⟩

theorem ConfinableL.notBelowLink {nodes : List RNode} (hC : ConfinableL nodes) :
    nodes.Pairwise NotBelowLink :=
  hC.distinct.imp_of_mem fun {a b} ha hb hne hk hne0 hpre => hC.anc a ha b hb hne0 hpre hne hk

end Conserve
