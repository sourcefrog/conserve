import ConserveModel.Proofs.ValidateDamage
/-
Damage is reported: for each kind of single-file damage to a healthy archive, which error is in
`validateErrors` of the damaged store.  Specification side only (no programs).
-/
set_option linter.unusedSimpArgs false
namespace Conserve

section
variable {H : Str → Str} {s : Store}

theorem mem_validateErrors_band {quick : Bool} {b : Nat} {e : Err} (hb : b ∈ bandIdsOf s)
    (he : e ∈ bandValidateErrors s b) : e ∈ validateErrors H quick s := by
  unfold validateErrors
  exact List.mem_append_left _ (List.mem_flatMap.mpr ⟨b, hb, he⟩)

theorem mem_validateErrors_ref_full {p : Str × Nat} {e : Err} (hp : p ∈ referencedOf s)
    (he : refErrorFull H s p = some e) : e ∈ validateErrors H false s := by
  unfold validateErrors
  simp only [Bool.false_eq_true, if_false]
  exact List.mem_append_right _ (List.mem_append_right _ (List.mem_filterMap.mpr ⟨p, hp, he⟩))

theorem mem_validateErrors_ref_quick {p : Str × Nat} {e : Err} (hp : p ∈ referencedOf s)
    (he : refErrorQuick s p = some e) : e ∈ validateErrors H true s := by
  unfold validateErrors
  simp only [if_true]
  exact List.mem_append_right _ (List.mem_filterMap.mpr ⟨p, hp, he⟩)

theorem mem_validateErrors_block {h : Str} {e : Err} (hh : h ∈ blockNamesOf s)
    (he : blockReadError H s h = some e) : e ∈ validateErrors H false s := by
  unfold validateErrors
  simp only [Bool.false_eq_true, if_false]
  refine List.mem_append_right _ (List.mem_append_left _ (List.mem_filterMap.mpr ⟨h, ?_, he⟩))
  simpa [presentSorted, List.mem_mergeSort] using hh

theorem refErrorFull_missing {h : Str} {n : Nat} (hr : ∀ c, blockRead H s h ≠ .ok c) :
    refErrorFull H s (h, n) = some (.blockMissing h) := by
  unfold refErrorFull
  cases hb : blockRead H s h with
  | ok c => exact absurd hb (hr c)
  | error e => simp

end

section
variable {H : Str → Str} {s s' : Store} {h : Str} {d : Option FileVal}

theorem block_indexSame (g : Good H s) (dm : DamagedAt (.block h) d s s') : IndexSame s s' :=
  dm.indexSame g.uniqueKeys (by intro b n; simp)

theorem block_still_referenced (g : Good H s) (dm : DamagedAt (.block h) d s s') (href : Referenced s h) :
    ∃ n, (h, n) ∈ referencedOf s' := by
  have idx := block_indexSame g dm
  obtain ⟨b, hb, e, he, hk, a, ha, rfl⟩ := href
  have hb' : b ∈ bandIdsOf s' := by rw [dm.bandIdsOf_eq g.uniqueKeys]; exact hb
  have hh : headError s' b = none := by rw [idx.headError_eq]; exact g.headError_none hb
  have he' : e ∈ listSpec s' b := by rw [idx.listSpec_eq]; exact he
  obtain ⟨n, hn, _⟩ := referenced_covers hb' hh he' hk ha
  exact ⟨n, hn⟩

theorem block_damage_detected (g : Good H s) (dm : DamagedAt (.block h) d s s') (href : Referenced s h)
    (hbad : ∀ c, d = some (.blockData c) → H c ≠ h) : Err.blockMissing h ∈ validateErrors H false s' := by
  obtain ⟨n, hn⟩ := block_still_referenced g dm href
  apply mem_validateErrors_ref_full hn
  apply refErrorFull_missing
  intro c
  unfold blockRead
  rw [dm.now]
  cases hd : d with
  | none => simp
  | some v =>
    cases v with
    | blockData c' => simp [hbad c' hd]
    | _ => simp

theorem block_not_listed (g : Good H s) (dm : DamagedAt (.block h) d s s')
    (hd : d = none ∨ d = some .empty) : h ∉ blockNamesOf s' := by
  intro hm
  obtain ⟨⟨v, hv, _, hne⟩, _⟩ :=
    (mem_blockNamesOf dm.uniqueKeys' (dm.dirsOk' g.dirsOk)).mp hm
  rw [dm.now] at hv
  rcases hd with hd | hd
  · rw [hd] at hv; cases hv
  · rw [hd] at hv; cases hv; simp [FileVal.isEmptyFile] at hne

theorem block_missing_detected_quick (g : Good H s) (dm : DamagedAt (.block h) d s s') (href : Referenced s h)
    (hd : d = none ∨ d = some .empty) : Err.blockMissing h ∈ validateErrors H true s' := by
  obtain ⟨n, hn⟩ := block_still_referenced g dm href
  apply mem_validateErrors_ref_quick hn
  have := block_not_listed g dm hd
  simp [refErrorQuick, this]

theorem block_listed (g : Good H s) (dm : DamagedAt (.block h) d s s') {v : FileVal} (hd : d = some v)
    (hne : v.isEmptyFile = false) : h ∈ blockNamesOf s' := by
  apply (mem_blockNamesOf dm.uniqueKeys' (dm.dirsOk' g.dirsOk)).mpr
  obtain ⟨v0, hv0, _⟩ := dm.was
  refine ⟨⟨v, by rw [dm.now, hd], ?_, hne⟩, g.blockName_len hv0⟩
  cases v <;> first | rfl | exact absurd hd dm.notDir

theorem block_corrupt_detected (g : Good H s) {c' : Str} (dm : DamagedAt (.block h) (some (.blockData c')) s s')
    (hbad : H c' ≠ h) : Err.blockCorrupt h ∈ validateErrors H false s' := by
  apply mem_validateErrors_block (block_listed g dm rfl rfl)
  simp [blockReadError, blockRead, dm.now, hbad]

/-- A block whose content was replaced by something SHORTER than some listed address needs, under a
hash collision (`H c' = h`, so the hash check passes): step 3b's length comparison reports it. -/
theorem block_too_short_detected (g : Good H s) {c' : Str} (dm : DamagedAt (.block h) (some (.blockData c')) s s')
    (hcol : H c' = h) {b : Nat} {e : IndexEntry} {a : Addr} (hb : b ∈ bandIdsOf s) (he : e ∈ listSpec s b)
    (hk : e.kind = .file) (ha : a ∈ e.addrs) (hah : a.hash = h) (hshort : c'.length < a.start + a.len) :
    Err.blockTooShort h ∈ validateErrors H false s' := by
  have idx := block_indexSame g dm
  have hb' : b ∈ bandIdsOf s' := by rw [dm.bandIdsOf_eq g.uniqueKeys]; exact hb
  have hh : headError s' b = none := by rw [idx.headError_eq]; exact g.headError_none hb
  have he' : e ∈ listSpec s' b := by rw [idx.listSpec_eq]; exact he
  obtain ⟨n, hn, hle⟩ := referenced_covers hb' hh he' hk ha
  rw [hah] at hn
  apply mem_validateErrors_ref_full hn
  have hl := block_listed g dm rfl rfl
  have hgt : n > c'.length := by omega
  simp [refErrorFull, hl, blockRead, dm.now, hcol, hgt]

theorem block_junk_detected (g : Good H s) {i : Nat} (dm : DamagedAt (.block h) (some (.junk i)) s s') :
    Err.json ∈ validateErrors H false s' := by
  apply mem_validateErrors_block (block_listed g dm rfl rfl)
  simp [blockReadError, blockRead, dm.now]

end

theorem present_ok_of_nonblock_damage {H : Str → Str} {s s' : Store} {k : Key} {d : Option FileVal}
    (g : Good H s) (dm : DamagedAt k d s s') (hk : ∀ h, k ≠ .block h) :
    (presentSorted s').filterMap (blockReadError H s') = [] := by
  rw [List.filterMap_eq_nil_iff]
  intro h hh
  have hh' : h ∈ blockNamesOf s' := by simpa [presentSorted, List.mem_mergeSort] using hh
  obtain ⟨⟨v, hg, _, hne⟩, _⟩ := (mem_blockNamesOf dm.uniqueKeys' (dm.dirsOk' g.dirsOk)).mp hh'
  have hg0 := hg
  rw [dm.same _ (Ne.symm (hk h))] at hg0
  rcases g.block hg0 with rfl | ⟨c, rfl, hc⟩
  · simp [FileVal.isEmptyFile] at hne
  · simp [blockReadError, blockRead, hg, hc]

section
variable {H : Str → Str} {s s' : Store} {b n : Nat} {d : Option FileVal}

theorem mem_validateErrors_of_hunk_damage (g : Good H s) (dm : DamagedAt (.hunk b n) d s s') {e : Err}
    (he : e ∈ (indexCheckError s' b).toList ++ (hunkNumsOf s' b).filterMap (hunkError s' b)) (quick : Bool) :
    e ∈ validateErrors H quick s' := by
  obtain ⟨v0, hv0, _⟩ := dm.was
  have hb : b ∈ bandIdsOf s := bandDir_of_hunk g.dirsOk hv0
  have hhead : s'.get? (.bandHead b) = s.get? (.bandHead b) := dm.same _ (by simp)
  have hread : bandReadable s' b = true := by
    have := g.heads b hb
    simpa only [bandReadable, hhead, dm.same (.indexDir b) (by simp)] using this
  have hherr : headError s' b = none := by
    have := g.headError_none hb
    simpa only [headError, hhead] using this
  refine mem_validateErrors_band (by rw [dm.bandIdsOf_eq g.uniqueKeys]; exact hb) ?_
  simp only [bandValidateErrors, hherr]
  apply mem_listErrors_of_chain (NP.self_mem_chain s' b)
  simpa only [bandErrors, hread, if_true] using he

theorem hunk_damage_detected (g : Good H s) (dm : DamagedAt (.hunk b n) d s s')
    (hd : d = none ∨ d = some .empty ∨ ∃ i, d = some (.junk i))
    (hdet : (∃ i, d = some (.junk i)) ∨ (∃ c, s.get? (.bandTail b) = some (.tail (some c))) ∨
      n + 1 < (hunkNumsOf s b).length) (quick : Bool) :
    ∃ e, e ∈ validateErrors H quick s' ∧ (e = .invalidMetadata ∨ e = .json) := by
  obtain ⟨v0, hv0, hnd0⟩ := dm.was
  have nd := (uniqueKeys_iff_nodup s).1 g.uniqueKeys
  have nd' : (s'.map (·.1)).Nodup := of_decide_eq_true dm.nodup
  have hmem : n ∈ hunkNumsOf s b := (mem_hunkNumsOf_get? nd).mpr ⟨v0, hv0, hnd0⟩
  have hlost : usableHunk s' b n = none ∨ s'.get? (.hunk b n) = some .empty := by
    rw [usableHunk, dm.now]
    rcases hd with rfl | rfl | ⟨i, rfl⟩ <;> simp
  have hdet' : (∃ m, s.get? (.bandTail b) = some (.tail (some m))) ∨ n + 1 < (hunkNumsOf s b).length ∨
      (n ∈ hunkNumsOf s' b ∧ usableHunk s' b n = none) := by
    rcases hdet with ⟨i, rfl⟩ | h | h
    · exact .inr (.inr ⟨(mem_hunkNumsOf_get? nd').mpr ⟨_, dm.now, rfl⟩, by simp [usableHunk, dm.now]⟩)
    · exact .inl h
    · exact .inr (.inl h)
  rcases NP.lost_hunk_detected nd nd' dm.same (g.indexCheck_none (bandDir_of_hunk g.dirsOk hv0)) hmem hlost hdet'
    with h | ⟨hn', e, he⟩
  · exact ⟨_, mem_validateErrors_of_hunk_damage g dm (by simp [h]) quick, .inl rfl⟩
  · refine ⟨e, mem_validateErrors_of_hunk_damage g dm
      (List.mem_append_right _ (List.mem_filterMap.mpr ⟨n, hn', he⟩)) quick, ?_⟩
    rw [hunkError, dm.now] at he
    rcases hd with rfl | rfl | ⟨i, rfl⟩ <;> simp at he <;> simp [← he]

end

section
variable {H : Str → Str} {s s' : Store} {b : Nat} {d : Option FileVal}

theorem head_damage_detected (g : Good H s) (dm : DamagedAt (.bandHead b) d s s')
    (hd : d = none ∨ d = some .empty ∨ ∃ i, d = some (.junk i)) (quick : Bool) :
    (if d = none then Err.bandHeadMissing b else Err.json) ∈ validateErrors H quick s' := by
  obtain ⟨v0, hv0, _⟩ := dm.was
  have hb : b ∈ bandIdsOf s := bandDir_of_head g.dirsOk hv0
  have hb' : b ∈ bandIdsOf s' := by rw [dm.bandIdsOf_eq g.uniqueKeys]; exact hb
  apply mem_validateErrors_band hb'
  unfold bandValidateErrors headError
  rw [dm.now]
  rcases hd with hd | hd | ⟨i, hd⟩ <;> simp [hd]

end

end Conserve
