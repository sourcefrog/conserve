import ConserveModel.ValidateSpec
import ConserveModel.Props.C08
import ConserveModel.Proofs.CleanWorld
/-
`validate` in a fault-free world, as a pure function of the store.  `Reads p s out errs` says what a
program that only reads does in every world `Quiet s evs w` (a crash point is allowed: nothing is
written); it composes along `bind`, so each piece of Validate.lean is run once and `reads_validate` is
their composition.  A reader whose `eval_X` is known enters through `Reads.of_eval`.  No property
statements here.
-/
namespace Conserve
open Prog

theorem DirsOk.of_treeShaped {s : Store} (h : treeShaped s = true) : DirsOk s := by
  simp only [treeShaped, List.all_eq_true] at h
  exact h

theorem UniqueKeys.of_keysNodup {s : Store} (h : keysNodup s = true) : UniqueKeys s :=
  (uniqueKeys_iff_nodup s).2 (of_decide_eq_true h)

theorem ArchWF.dirsOk {s : Store} (wf : ArchWF s) : DirsOk s := .of_treeShaped wf.tree

/-- In every world `Quiet s evs w`, `p` ends with `out`, leaves the store alone and reports exactly
`errs` (in this order). -/
def Reads {α : Type} (p : Prog α) (s : Store) (out : Outcome α) (errs : List Err) : Prop :=
  ∀ ⦃evs : List Event⦄ ⦃w : World⦄, Quiet s evs w →
    ∃ w', p.run w = (out, w') ∧ Quiet s (evsOf errs ++ evs) w'

namespace Reads
variable {α β : Type} {s : Store}

theorem pure (a : α) : Reads (.ret a) s (.ok a) [] := fun _ w h => ⟨w, rfl, h⟩

theorem fail (e : Err) : Reads (.fail e : Prog α) s (.err e) [] := fun _ w h => ⟨w, rfl, h⟩

theorem emit {p : Prog α} {out : Outcome α} {errs : List Err} (e : Err) (hp : Reads p s out errs) :
    Reads (.emit (.error e) p) s out (e :: errs) := by
  intro evs w h
  obtain ⟨w1, h1, q1⟩ := hp (h.emit (.error e))
  exact ⟨w1, h1, by rw [evsOf_cons]; exact q1⟩

theorem bind {p : Prog α} {k : α → Prog β} {a : α} {out : Outcome β} {e1 e2 : List Err}
    (hp : Reads p s (.ok a) e1) (hk : Reads (k a) s out e2) : Reads (p.bind k) s out (e1 ++ e2) := by
  intro evs w h
  obtain ⟨w1, h1, q1⟩ := hp h
  obtain ⟨w2, h2, q2⟩ := hk q1
  refine ⟨w2, ?_, ?_⟩
  · rw [Prog.run_bind, h1]; exact h2
  · rw [evsOf_append, List.append_assoc]; exact q2

theorem map {p : Prog α} {a : α} {errs : List Err} (hp : Reads p s (.ok a) errs) (f : α → β) :
    Reads (p.bind fun x => .ret (f x)) s (.ok (f a)) errs := by
  have := hp.bind (k := fun x => .ret (f x)) (Reads.pure (f a))
  rwa [List.append_nil] at this

theorem bind_err {p : Prog α} {k : α → Prog β} {e : Err} {errs : List Err}
    (hp : Reads p s (.err e) errs) : Reads (p.bind k) s (.err e) errs := by
  intro evs w h
  obtain ⟨w1, h1, q1⟩ := hp h
  exact ⟨w1, by rw [Prog.run_bind, h1], q1⟩

theorem attempt {p : Prog α} {r : Except Err α} {errs : List Err} (hp : Reads p s (toOutcome r) errs) :
    Reads p.attempt s (.ok r) errs := by
  intro evs w h
  obtain ⟨w1, h1, q1⟩ := hp h
  refine ⟨w1, ?_, q1⟩
  rw [Prog.run_attempt, h1]
  cases r <;> rfl

theorem op {o : Op} {k : Resp → Prog α} {r : Resp} {out : Outcome α} {errs : List Err}
    (ho : o.isMutating = false) (hr : quietResp s o = r) (hk : Reads (k r) s out errs) :
    Reads (.op o k) s out errs := by
  intro evs w h
  obtain ⟨w1, he, q1⟩ := h.exec_ro o ho
  obtain ⟨w2, h2, q2⟩ := hk q1
  exact ⟨w2, by rw [Prog.run_op, he, hr]; exact h2, q2⟩

theorem clean {p : Prog α} {out : Outcome α} {errs : List Err} (hp : Reads p s out errs) :
    (p.run (World.clean s)).1 = out ∧ (p.run (World.clean s)).2.store = s ∧
      (p.run (World.clean s)).2.events = evsOf errs := by
  obtain ⟨w', h, q⟩ := hp (Quiet.clean s)
  rw [h]
  exact ⟨rfl, q.store, by rw [q.events, List.append_nil]⟩

theorem of_eval {e : Bool} {p : Prog α} {out : Outcome α} {errs : List Err} (hp : AllOps ReadOnly p)
    (h : p.eval e s = (out, s, evsOf errs)) : Reads p s out errs := fun _ _ hq => Quiet.run_of_eval hp h hq

end Reads

theorem quietResp_listDir {s : Store} {k : Key} (h : s.get? k = some .dir) :
    quietResp s (.listDir k) = .listing (s.children k) := by
  simp only [quietResp, h]

theorem reads_listBandIds {s : Store} (hroot : s.get? .root = some .dir) :
    Reads listBandIds s (.ok (bandIdsOf s)) [] :=
  Reads.of_eval (e := true) listBandIds_ro (by rw [eval_listBandIds, if_pos hroot]; rfl)

theorem reads_listBlocks {s : Store} (hn : UniqueKeys s) (hr : s.get? .blockRoot = some .dir) :
    Reads listBlocks s (.ok (blockNamesOf s)) [] :=
  Reads.of_eval listBlocks_ro (eval_listBlocks true hr (blockSubdirs_are_dirs hn))

theorem headError_eq (s : Store) (b : Nat) :
    bandOpenP s b = match headError s b with
      | none => .ok ()
      | some e => .error e := by
  unfold bandOpenP headError
  cases s.get? (.bandHead b) with
  | none => rfl
  | some v =>
    cases v with
    | head ver flags => cases ver <;> simp <;> split <;> simp_all
    | _ => rfl

theorem reads_bandOpen (s : Store) (b : Nat) :
    Reads (bandOpen b).attempt s
      (.ok (match headError s b with
        | none => .ok ()
        | some e => .error e)) [] := by
  rw [← headError_eq]
  exact Reads.attempt (Reads.of_eval (bandOpen_ro b) (eval_bandOpen true s b))

theorem children_any_head {s : Store} {b : Nat} {v : FileVal} (h : s.get? (.bandHead b) = some v) :
    ((s.children (.bandDir b)).any fun e => e.key == .bandHead b) = true := by
  rw [List.any_eq_true]
  refine ⟨⟨.bandHead b, v.isDir, !v.isDir && !v.isEmptyFile⟩, ?_, by simp⟩
  simp only [Store.children, List.mem_map, List.mem_filter]
  exact ⟨(.bandHead b, v), ⟨Store.mem_of_get? h, by simp [Key.parent]⟩, rfl⟩

theorem isPrefix_root {a : Str} (h : isValid a = true) : isPrefixOfImpl [slash] a = true := by
  cases a with
  | nil => simp [isValid] at h
  | cons c rest =>
    have hc : c = slash := by
      by_cases hc : c = slash
      · exact hc
      · simp [isValid, hc] at h
    subst hc
    cases rest with
    | nil => simp [isPrefixOfImpl]
    | cons d r => simp [isPrefixOfImpl, List.isPrefixOf]

theorem reads_filterEntries_all {s : Store} {es : List IndexEntry} (hv : ∀ e ∈ es, isValid e.apath = true) :
    Reads (filterEntries [slash] (fun _ => false) es) s (.ok es) [] :=
  Reads.of_eval (e := true) (filterEntries_tree _ _ _ fun _ _ _ => trivial).allOps (by
    rw [Hist.eval_filterEntries, Hist.filterP_valid fun e he _ => hv e he,
      List.filter_eq_self.mpr fun e he => by simp [isPrefix_root (hv e he)]]
    rfl)

/-- What `validate_stored_tree` walks: the whole listing of version `b`. -/
theorem reads_listEntries_all {s : Store} (wf : ArchWF s) (b : Nat) :
    Reads (listEntries b [slash] (fun _ => false)) s (.ok (listSpec s b)) (listErrors s b) := by
  have h1 : Reads (stitchAll b) s (.ok (listSpec s b)) (listErrors s b) := by
    rw [← stitchAllP_fst wf, ← stitchAllP_snd wf]
    exact fun _ _ h => run_stitchAll b h
  have := h1.bind (reads_filterEntries_all fun e he => C08.listed_valid he)
  rwa [List.append_nil] at this

/-- One round of `validate_bands` with the listing reader `le` left open: the current reader and the
pre-repair one (ValidateSilent.lean) share it. -/
theorem reads_validateBands_step {s : Store} {b : Nat} {m : List (Str × Nat)}
    {le : Prog (List IndexEntry)} {rest : List (Str × Nat) → Prog (List (Str × Nat))}
    {es : List IndexEntry} {out : Outcome (List (Str × Nat))} {errs1 errs2 : List Err}
    (hd : s.get? (.bandDir b) = some .dir) (hh : headError s b = none)
    (hle : Reads le s (.ok es) errs1) (hrest : Reads (rest (entryLens m es)) s out errs2) :
    Reads (do
      match ← (bandOpen b).attempt with
      | .error e =>
        logError e
        rest m
      | .ok () =>
        match ← perform (.listDir (.bandDir b)) with
        | .err e =>
          logError (.transport e)
          rest m
        | .listing xs =>
          if !(xs.any fun e => e.key == .bandHead b) then logError (.bandHeadMissing b)
          match ← (bandOpen b).attempt with
          | .error e =>
            logError e
            rest m
          | .ok () =>
            let es ← le
            rest (entryLens m es)
        | _ =>
          logError (.transport .other)
          rest m) s out (errs1 ++ errs2) := by
  have hopen := reads_bandOpen s b
  rw [hh] at hopen
  obtain ⟨v, hv⟩ : ∃ v, s.get? (.bandHead b) = some v := by
    cases hg : s.get? (.bandHead b) with
    | none => simp [headError, hg] at hh
    | some v => exact ⟨v, rfl⟩
  refine hopen.bind (Reads.op rfl (quietResp_listDir hd) ?_)
  simp only [Prog.ret_bind, children_any_head hv, Bool.not_true, Bool.false_eq_true, if_false,
    Prog.bind_def]
  exact hopen.bind (hle.bind hrest)

theorem reads_validateBands {s : Store} (wf : ArchWF s) (bs : List Nat)
    (hbs : ∀ b ∈ bs, s.get? (.bandDir b) = some .dir) (m : List (Str × Nat)) :
    Reads (validateBands bs m) s (.ok (bs.foldl (bandRefs s) m)) (bs.flatMap (bandValidateErrors s)) := by
  induction bs generalizing m with
  | nil => exact Reads.pure m
  | cons b bs ih =>
    have ih := ih fun x hx => hbs x (List.mem_cons_of_mem _ hx)
    rw [List.foldl_cons, List.flatMap_cons, validateBands]
    unfold bandRefs bandValidateErrors
    cases hh : headError s b with
    | some e =>
      have hopen := reads_bandOpen s b
      rw [hh] at hopen
      exact hopen.bind (Reads.emit e (ih m))
    | none =>
      exact reads_validateBands_step (hbs b (List.mem_cons_self ..)) hh (reads_listEntries_all wf b) (ih _)

theorem reads_forIn_log {α : Type} {s : Store} (f : α → Option Err)
    (body : α → PUnit → Prog (ForInStep PUnit))
    (hbody : ∀ x u, body x u = match f x with
      | some e => (logError e).bind fun _ => .ret (ForInStep.yield PUnit.unit)
      | none => .ret (ForInStep.yield PUnit.unit)) (xs : List α) :
    Reads (forIn xs PUnit.unit body) s (.ok PUnit.unit) (xs.filterMap f) := by
  induction xs with
  | nil => exact Reads.pure _
  | cons x xs ih =>
    rw [List.forIn_cons, hbody]
    cases hf : f x with
    | none =>
      rw [List.filterMap_cons_none hf]
      exact ih
    | some e =>
      rw [List.filterMap_cons_some hf]
      exact Reads.emit e ih

section
variable (H : Str → Str)

theorem reads_getBlockContent (s : Store) (hash : Str) :
    Reads (getBlockContent H hash) s (.ok (blockRead H s hash)) [] := by
  refine Reads.op rfl rfl ?_
  simp only [Prog.ret_bind, quietResp, blockRead]
  cases s.get? (.block hash) with
  | none => exact Reads.pure _
  | some v =>
    cases v with
    | blockData c => by_cases hc : H c = hash <;> simp only [hc, if_true, if_false] <;> exact Reads.pure _
    | _ => exact Reads.pure _

/-- The (hash, decompressed length) table of `BlockDir::validate`. -/
def blockLens (s : Store) (hs : List Str) : List (Str × Nat) :=
  hs.filterMap fun h =>
    match blockRead H s h with
    | .ok c => some (h, c.length)
    | .error _ => none

theorem reads_validateBlocks (s : Store) (hs : List Str) :
    Reads (validateBlocks H hs) s (.ok (blockLens H s hs)) (hs.filterMap (blockReadError H s)) := by
  induction hs with
  | nil => exact Reads.pure _
  | cons x hs ih =>
    have hx := reads_getBlockContent H s x
    rw [validateBlocks]
    cases hr : blockRead H s x with
    | ok c =>
      rw [hr] at hx
      simp only [blockLens, blockReadError, List.filterMap_cons, hr]
      exact hx.bind (ih.map _)
    | error e =>
      rw [hr] at hx
      simp only [blockLens, blockReadError, List.filterMap_cons, hr]
      exact hx.bind (Reads.emit e ih)

theorem lookup_blockLens (s : Store) (hs : List Str) (h : Str) :
    (blockLens H s hs).lookup h =
      if hs.contains h then
        match blockRead H s h with
        | .ok c => some c.length
        | .error _ => none
      else none := by
  induction hs with
  | nil => rfl
  | cons x hs ih =>
    simp only [blockLens, List.filterMap_cons, List.contains_cons] at ih ⊢
    by_cases hx : h = x
    · subst hx
      cases hr : blockRead H s h with
      | ok c => simp
      | error e => simp [ih, hr]
    · have hb : (h == x) = false := by simpa using hx
      cases hr : blockRead H s x with
      | ok c => simp [List.lookup_cons, hb, ih]
      | error e => simp [hb, ih]

/-- Body of the loop of step 3a. -/
def quickBody (present : List Str) (x : Str × Nat) (_ : PUnit) : Prog (ForInStep PUnit) :=
  if (!present.contains x.fst) = true then
    (logError (Err.blockMissing x.fst)).bind fun _ => pure (ForInStep.yield PUnit.unit)
  else pure (ForInStep.yield PUnit.unit)

/-- Body of the loop of step 3b. -/
def fullBody (lens : List (Str × Nat)) (x : Str × Nat) (_ : PUnit) : Prog (ForInStep PUnit) :=
  match List.lookup x.fst lens with
  | some actual =>
    if x.snd > actual then
      (logError (Err.blockTooShort x.fst)).bind fun _ => pure (ForInStep.yield PUnit.unit)
    else pure (ForInStep.yield PUnit.unit)
  | none => (logError (Err.blockMissing x.fst)).bind fun _ => pure (ForInStep.yield PUnit.unit)

/-- `validate` after `referenced` and `present` are known. -/
def validateTail (quick : Bool) (referenced : List (Str × Nat)) (present : List Str) : Prog Unit :=
  if quick = true then (forIn referenced PUnit.unit (quickBody present)).bind fun _ => pure ()
  else
    (validateBlocks H (present.mergeSort strLe)).bind fun lens =>
      (forIn referenced PUnit.unit (fullBody lens)).bind fun _ => pure ()

/-- What steps 3a / 3b report, given the table of referenced blocks. -/
def tailErrors (quick : Bool) (s : Store) (refs : List (Str × Nat)) : List Err :=
  if quick then refs.filterMap (refErrorQuick s)
  else (presentSorted s).filterMap (blockReadError H s) ++ refs.filterMap (refErrorFull H s)

theorem reads_validateTail (s : Store) (quick : Bool) (refs : List (Str × Nat)) :
    Reads (validateTail H quick refs (blockNamesOf s)) s (.ok ()) (tailErrors H quick s refs) := by
  unfold validateTail tailErrors
  cases quick with
  | true =>
    have h := reads_forIn_log (s := s) (refErrorQuick s) (quickBody (blockNamesOf s))
      (by
        intro x u
        unfold refErrorQuick quickBody
        by_cases hx : x.1 ∈ blockNamesOf s <;> simp [hx])
      refs
    exact h.map _
  | false =>
    have h := reads_forIn_log (s := s) (refErrorFull H s)
      (fullBody (blockLens H s ((blockNamesOf s).mergeSort strLe)))
      (by
        intro x u
        unfold refErrorFull fullBody
        rw [lookup_blockLens]
        simp only [List.contains_eq_mem, List.mem_mergeSort]
        by_cases hx : x.1 ∈ blockNamesOf s
        · cases hr : blockRead H s x.1 with
          | ok c => by_cases hl : x.2 > c.length <;> simp [hx, hl]
          | error e => simp [hx]
        · simp [hx])
      refs
    exact (reads_validateBlocks H s ((blockNamesOf s).mergeSort strLe)).bind (h.map _)

/-- `Archive::validate` over any `validate_bands`. -/
def validateWith (vb : List Nat → List (Str × Nat) → Prog (List (Str × Nat))) (quick : Bool) : Prog Unit := do
  match ← perform (.listDir .root) with
  | .err e => .fail (.transport e)
  | _ => pure ()
  let bands ← listBandIds
  let referenced ← vb bands []
  let present ← listBlocks
  validateTail H quick referenced present

theorem validate_eq_validateWith (quick : Bool) : validate H quick = validateWith H validateBands quick := rfl

theorem reads_validateWith {s : Store} {vb : List Nat → List (Str × Nat) → Prog (List (Str × Nat))}
    {refs : List (Str × Nat)} {errs : List Err} (hn : UniqueKeys s) (hroot : s.get? .root = some .dir)
    (hbr : s.get? .blockRoot = some .dir) (hvb : Reads (vb (bandIdsOf s) []) s (.ok refs) errs)
    (quick : Bool) : Reads (validateWith H vb quick) s (.ok ()) (errs ++ tailErrors H quick s refs) :=
  Reads.op rfl (quietResp_listDir hroot)
    ((reads_listBandIds hroot).bind (hvb.bind ((reads_listBlocks hn hbr).bind (reads_validateTail H s quick refs))))

theorem reads_validate {s : Store} (ok : ArchOK s) (quick : Bool) :
    Reads (validate H quick) s (.ok ()) (validateErrors H quick s) := by
  have hn := ok.wf.unique
  have hbs : ∀ b ∈ bandIdsOf s, s.get? (.bandDir b) = some .dir :=
    fun b hb => (Store.mem_iff_get? hn).mp (mem_bandIdsOf'.mp hb)
  rw [validate_eq_validateWith]
  exact reads_validateWith H hn ok.root ok.blockRoot (reads_validateBands ok.wf _ hbs []) quick

/-- `conserve validate`: `Archive::open`, then `Archive::validate`. -/
def check (quick : Bool) : Prog Unit := archiveOpen.bind fun _ => validate H quick

theorem reads_archiveOpen (s : Store) :
    Reads archiveOpen s
      (match headerError s with
        | none => Outcome.ok ()
        | some e => Outcome.err e) [] := by
  refine Reads.op rfl rfl ?_
  simp only [Prog.ret_bind, quietResp, headerError]
  cases s.get? .header with
  | none => exact Reads.fail _
  | some v =>
    cases v with
    | header ver => by_cases hv : ver = [48, 46, 54] <;> simp only [hv, if_true, if_false] <;> first | exact Reads.pure _ | exact Reads.fail _
    | _ => exact Reads.fail _

/-- The driver: a header that does not open ends the run with that error and nothing else;
otherwise `validate` runs to the end and reports `validateErrors`. -/
theorem reads_check {s : Store} (ok : ArchOK s) (quick : Bool) :
    Reads (check H quick) s
      (match headerError s with
        | none => Outcome.ok ()
        | some e => Outcome.err e)
      (match headerError s with
        | none => validateErrors H quick s
        | some _ => []) := by
  have hopen := reads_archiveOpen s
  cases hh : headerError s with
  | some e =>
    rw [hh] at hopen
    exact hopen.bind_err
  | none =>
    rw [hh] at hopen
    exact hopen.bind (reads_validate H ok quick)

end
end Conserve
