import ConserveModel.Proofs.JsonStoreInv
/-
C13 k, part 2: `backup` keeps `StoreJsonGood` in EVERY world (`backup_sj`), and so does
`delete_bands` (`delete_sj`).

Hypotheses `HashHex H` and `SrcJsonGood src`: what in the Rust types they stand for is said in
Props/C13k.lean.

The walk has the shape of the one for the range invariants (Proofs/ProducedRange.lean,
ProducedBackup.lean), with one more counter: writer invariant `WJ remB remE` (entries buffered in
`pending`/`finished` are `wfEntry`, queued ones `MetaOK` with `u64` offsets, buffer length + bytes
still to be read < 2^64, hunks written + entries buffered + entries still to come < 2^64), kept by
what the block-level functions return (`Blk.Flushed`, `Blk.Pushed`, `Blk.Copied`,
Proofs/BlockSpec.lean), the operations of the block level are `BlockOp`s (which
never write JSON), `JSat` for `finish_hunk` and `flush_group`, and the main part as an instance of
the walk of Proofs/BackupLoop.lean (`jInv`).  `JSat` also records in the trace that
every operation attempted was a `JOp`, which a logic over the store alone (`Rng.HSat`) cannot say.
Entries copied from the basis version are `wfEntry` because they were read from a store that is
`StoreJsonGood` (`backupPrelude_jsat`).  `delete_bands` only takes the lock and removes
(`deleteBands_fp`).  No property statements here.
-/
namespace Conserve.JStore
open Conserve Conserve.Inv Conserve.Conf Conserve.Rng Conserve.Json Prog

/-- The block hash, as a file name: 128 lower-case hex digits (BLAKE2b-512 printed by
`BlockHash`'s `Display`). -/
def HashHex (H : Str → Str) : Prop := ∀ d, wfHash (H d) = true

/-- One source entry holds values of the Rust types of `source::Entry`: `Apath(String)`,
`Owner { user: Option<String>, group: Option<String> }`, the symlink target (a `String` after
`to_str`), `UnixMode(Option<u32>)`; and the whole seconds of its modification time fit an `i64`
(any time jiff can represent is far inside: `-377705023201 ≤ seconds ≤ 253402207200`). -/
structure SrcEntryJsonGood (sf : SrcEntry) : Prop where
  apath : validUtf8 sf.apath = true
  user : wfOptStr sf.user = true
  group : wfOptStr sf.group = true
  target : wfOptStr sf.target = true
  mode : sf.unixMode < 4294967296
  mtimeLo : -9223372036854775808 * nanosPerSec ≤ sf.mtimeNs
  mtimeHi : sf.mtimeNs < 9223372036854775808 * nanosPerSec

structure SrcJsonGood (src : List SrcEntry) : Prop where
  entries : ∀ sf ∈ src, SrcEntryJsonGood sf
  bytes : srcBytes src < u64
  count : src.length < u64

theorem metaOK_metaOf (o : BackupOpts) {sf : SrcEntry} (h : SrcEntryJsonGood sf) : MetaOK (metaOf o sf) := by
  have hpos : (0 : Int) < nanosPerSec := by decide
  have hlo := h.mtimeLo
  have hhi := h.mtimeHi
  have hf1 := Int.fmod_lt_of_pos sf.mtimeNs hpos
  have hf0 := Int.fmod_nonneg_of_pos sf.mtimeNs hpos
  have hdm := Int.fmod_add_mul_fdiv sf.mtimeNs nanosPerSec
  unfold nanosPerSec at *
  refine ⟨h.apath, ?_, ?_, ?_, ?_, ?_, ?_, h.target⟩
  · show -9223372036854775808 ≤ sf.mtimeNs.fdiv 1000000000
    omega
  · show sf.mtimeNs.fdiv 1000000000 < 9223372036854775808
    omega
  · show (sf.mtimeNs.fmod 1000000000).toNat < 4294967296
    omega
  · show wfOptU32 (some sf.unixMode) = true
    exact decide_eq_true h.mode
  · show wfOptStr (if o.owner then sf.user else none) = true
    split
    · exact h.user
    · rfl
  · show wfOptStr (if o.owner then sf.group else none) = true
    split
    · exact h.group
    · rfl

theorem wf_metaOf (o : BackupOpts) {sf : SrcEntry} (h : SrcEntryJsonGood sf) : wfEntry (metaOf o sf) = true :=
  (wfEntry_iff _).2 ⟨metaOK_metaOf o h, fun _ ha => nomatch ha⟩

theorem wf_metaOf_addrs (o : BackupOpts) {sf : SrcEntry} (h : SrcEntryJsonGood sf) {as : List Addr}
    (ha : ∀ a ∈ as, wfAddr a = true) : wfEntry { metaOf o sf with addrs := as } = true :=
  (wfEntry_iff _).2 ⟨(metaOK_metaOf o h).setAddrs as, ha⟩

/-- The writer part of the invariant; `remB` = bytes of the files still to be read, `remE` = source
entries still to come. -/
structure WJ (remB remE : Nat) (wr : Writer) : Prop where
  pending : ∀ e ∈ wr.pending, wfEntry e = true
  finished : ∀ e ∈ wr.finished, wfEntry e = true
  queue : ∀ q ∈ wr.queue, MetaOK q.2.2 ∧ q.1 + q.2.1 < u64
  buf : wr.buf.length + remB < u64
  count : wr.hunksWritten + wr.pending.length + wr.finished.length + wr.queue.length + remE < u64

theorem WJ.weaken {remB remE remB' remE' : Nat} {wr : Writer} (h : WJ remB remE wr) (hb : remB' ≤ remB)
    (he : remE' ≤ remE) : WJ remB' remE' wr :=
  ⟨h.pending, h.finished, h.queue, by have := h.buf; omega, by have := h.count; omega⟩

theorem WJ.setES {remB remE : Nat} {wr : Writer} (h : WJ remB remE wr) (ex : List Str) (st : Stats) :
    WJ remB remE { wr with exists_ := ex, stats := st } := ⟨h.pending, h.finished, h.queue, h.buf, h.count⟩

theorem WJ.setStats {remB remE : Nat} {wr : Writer} (h : WJ remB remE wr) (st : Stats) :
    WJ remB remE { wr with stats := st } := ⟨h.pending, h.finished, h.queue, h.buf, h.count⟩

theorem forall_mem_concat {α : Type} {p : α → Prop} {l : List α} {a : α} (h : ∀ x ∈ l, p x) (ha : p a) :
    ∀ x ∈ l ++ [a], p x := List.forall_mem_append.2 ⟨h, List.forall_mem_singleton.2 ha⟩

/-- One more pending entry, taken from the entries still to come. -/
theorem WJ.pushPending {remB remE : Nat} {wr : Writer} (h : WJ remB (1 + remE) wr) {e : IndexEntry}
    (he : wfEntry e = true) (st : Stats) :
    WJ remB remE { wr with pending := wr.pending ++ [e], stats := st } := by
  refine ⟨forall_mem_concat h.pending he, h.finished, h.queue, h.buf, ?_⟩
  have := h.count
  simp only [List.length_append, List.length_cons, List.length_nil]
  omega

section
variable {H : Str → Str} (hH : HashHex H) {o : BackupOpts} {sf : SrcEntry} {basis : Option IndexEntry} {wr : Writer}
include hH

/-! The block level: what `WJ` needs of the value returned (Proofs/BlockSpec.lean). -/

theorem _root_.Conserve.Blk.Flushed.jsonGood {remB remE : Nat} {x : Writer × Except Err Unit}
    (h : Blk.Flushed H wr x) (hwr : WJ remB remE wr) : WJ remB remE x.1 := by
  cases h with
  | idle _ => exact hwr
  | failed e => exact hwr
  | done ex st _ =>
    refine ⟨hwr.pending, List.forall_mem_append.2 ⟨hwr.finished, List.forall_mem_map.2 ?_⟩,
      (by intro q hq; cases hq), ?_, ?_⟩
    · rintro ⟨start, len, e0⟩ hq
      obtain ⟨hm, hle⟩ := hwr.queue _ hq
      simp only at hle
      exact (wfEntry_iff _).2 ⟨hm.setAddrs _, List.forall_mem_singleton.2
        ((wfAddr_iff _).2 ⟨hH _, by simp only; omega, by simp only; omega⟩)⟩
    · have := hwr.buf
      simp only [List.length_nil]
      omega
    · have := hwr.count
      simp only [List.length_append, List.length_map, List.length_nil]
      omega

theorem _root_.Conserve.Blk.Pushed.jsonGood {remB remE : Nat} {x : Writer × Except Err Unit}
    (h : Blk.Pushed H o sf wr x) (hwr : WJ (sf.content.length + remB) (1 + remE) wr) (hs : SrcEntryJsonGood sf) :
    WJ remB remE x.1 := by
  have hlen : (sf.content.take sf.size).length ≤ sf.content.length := by
    rw [List.length_take]; omega
  have hwr2 : WJ remB remE (Blk.queued o sf wr) := by
    refine ⟨hwr.pending, hwr.finished, forall_mem_concat hwr.queue ⟨metaOK_metaOf o hs, ?_⟩, ?_, ?_⟩
    · have := hwr.buf
      simp only
      omega
    · have := hwr.buf
      simp only [Blk.queued, List.length_append]
      omega
    · have := hwr.count
      simp only [Blk.queued, List.length_append, List.length_cons, List.length_nil]
      omega
  cases h with
  | empty st _ =>
    refine ⟨hwr.pending, forall_mem_concat hwr.finished (wf_metaOf o hs), hwr.queue,
      (by have := hwr.buf; show wr.buf.length + remB < u64; omega), ?_⟩
    have := hwr.count
    simp only [List.length_append, List.length_cons, List.length_nil]
    omega
  | queued => exact hwr2
  | flushed h => exact h.jsonGood hH hwr2

theorem _root_.Conserve.Blk.Copied.jsonGood {remB remE : Nat} {x : Writer × Except Err (Option ChangeKind)}
    (h : Blk.Copied H o sf basis wr x) (hwr : WJ (fileBytes sf + remB) (1 + remE) wr) (hs : SrcEntryJsonGood sf)
    (hbasis : ∀ b, basis = some b → ∀ a ∈ b.addrs, wfAddr a = true) : WJ remB remE x.1 := by
  have hw1 : WJ remB (1 + remE) wr := hwr.weaken (by omega) (Nat.le_refl _)
  have hw0 : WJ remB remE wr := hw1.weaken (Nat.le_refl _) (by omega)
  cases h with
  | skipped st => exact hw0.setStats st
  | plain st r _ _ => exact hw1.pushPending (wf_metaOf o hs) st
  | reused b st ck _ hb _ _ => exact hw1.pushPending (wf_metaOf_addrs o hs (hbasis b hb)) st
  | small st x r hk hp => exact hp.jsonGood hH (by rw [fileBytes_file hk] at hwr; exact hwr.setStats st) hs
  | failed ex st e _ => exact hw0.setES ex st
  | large ex st ck hk _ _ =>
    refine (hw1.setES ex st).pushPending (wf_metaOf_addrs o hs ?_) st
    -- a chunk is no longer than the file
    intro a ha
    obtain ⟨c, hc, rfl⟩ := List.mem_map.mp ha
    have := chunks_le _ _ c hc
    have := hwr.buf
    rw [fileBytes_file hk] at this
    exact (wfAddr_iff _).2 ⟨hH _, by show 0 < u64; decide, by simp only [Blk.chunkAddr]; omega⟩

end

section
variable {H : Str → Str} (hH : HashHex H)
include hH

/-- The operations of `copy_entry` are block operations, which write no JSON. -/
theorem copyEntry_jsat {remB remE : Nat} (o : BackupOpts) (wr : Writer) (basis : Option IndexEntry) (sf : SrcEntry)
    (hwr : WJ (fileBytes sf + remB) (1 + remE) wr) (hs : SrcEntryJsonGood sf)
    (hbasis : ∀ b, basis = some b → ∀ a ∈ b.addrs, wfAddr a = true) :
    JSat (copyEntry H o wr basis sf) (fun x => WJ remB remE x.1) :=
  JSat.of_ops (AllOps.blk_j (copyEntry_blk H o wr basis sf))
    fun w x hx => ((Blk.copyEntry_carries H o wr basis sf).returns w x hx).jsonGood hH hwr hs hbasis

theorem combinerFlush_jsat {remB remE : Nat} (wr : Writer) (hwr : WJ remB remE wr) :
    JSat (combinerFlush H wr) (fun x => WJ remB remE x.1) :=
  JSat.of_ops (AllOps.blk_j (combinerFlush_blk H wr))
    fun w x hx => ((Blk.combinerFlush_carries H wr).returns w x hx).jsonGood hH hwr

omit hH in
/-- `IndexWriter::finish_hunk`: the hunk written holds at least one entry, so the hunk count stays
below the entry count. -/
theorem finishHunk_jsat {remB remE : Nat} (wr : Writer) (hwr : WJ remB remE wr) :
    JSat (finishHunk wr) (fun wr' => WJ remB remE wr') := by
  refine JSat.of_ops ((finishHunk_tree wr).allOps.mono fun _ ho => ?_) fun w wr' h => ?_
  · cases ho with
    | dir => exact jop_createDir _
    | hunk => exact jop_write (fun e he => hwr.pending e (List.mem_mergeSort.mp he))
  · cases (finishHunk_tree wr).run h with
    | idle _ => exact hwr
    | wrote hne =>
      refine ⟨fun _ he => (nomatch he), hwr.finished, hwr.queue, hwr.buf, ?_⟩
      have := hwr.count
      have hpos : 0 < wr.pending.length := List.length_pos_iff.mpr hne
      simp only [List.length_nil]
      omega

theorem flushGroup_jsat {remB remE : Nat} (wr : Writer) (hwr : WJ remB remE wr) :
    JSat (flushGroup H wr) (fun wr' => WJ remB remE wr') := by
  unfold flushGroup
  simp only [Prog.bind_def]
  refine JSat.bind (combinerFlush_jsat hH wr hwr) ?_
  rintro ⟨wr1, r⟩ hwr1
  cases r with
  | error e => exact JSat.fail
  | ok u =>
    refine finishHunk_jsat _ ⟨List.forall_mem_append.2 ⟨hwr1.pending, hwr1.finished⟩, (by intro e he; cases he),
      hwr1.queue, hwr1.buf, ?_⟩
    have := hwr1.count
    simp only [List.length_append, List.length_nil] at this ⊢
    omega

/-- The walk of Proofs/BackupLoop.lean at `WInv t0`: the writer invariant counts the source entries
still to come and the bytes they hold. -/
theorem jInv (t0 : List TraceEv) (o : BackupOpts) :
    LoopInvW H o (fun _ w' => WInv t0 w') (fun todo _ wr => WJ (srcBytes todo) todo.length wr)
      (fun _ basis sf => SrcEntryJsonGood sf ∧ ∀ b, basis = some b → ∀ a ∈ b.addrs, wfAddr a = true) where
  frame := ⟨fun _ _ _ _ h => h, fun h => h, fun _ h => h⟩
  carry _ h := h
  events _ h := h
  setStats st h := h.setStats st
  copyEntry wr basis sf hw hwr hm :=
    copyEntry_jsat hH o wr basis sf (by simpa [srcBytes, Nat.add_comm] using hwr) hm.1 hm.2 t0 _ hw
  flushGroup wr hw hwr := flushGroup_jsat hH wr hwr t0 _ hw
  -- the tail records the hunk count, which the writer invariant keeps below 2^64
  close wr hw hwr :=
    have hcount : wr.hunksWritten < u64 := by have := hwr.count; omega
    performUnit_jsat (jop_write (v := .tail (some wr.hunksWritten)) hcount) t0 _ hw

end

/-- `Band::create` writes the head `{…,"band_format_version":"<this version>","format_flags":[]}`. -/
theorem bandCreate_j : Prog.AllOps JOp bandCreate :=
  bandCreate_fp (fun _ h => ReadOnly.jop h.readOnly) fun _ _ h => by
    cases h
    · exact jop_createDir _
    · exact jop_createDir _
    · exact jop_write (fun _ hf => nomatch hf)

/-- Every entry of the basis listing is an entry of some hunk of the store, hence `wfEntry`. -/
theorem backupPrelude_jsat :
    JSat backupPrelude (fun x => ∀ b ∈ x.2.2, ∀ a ∈ b.addrs, wfAddr a = true) := by
  rw [backupPrelude_eq]
  refine JSat.bind (ro_jsat preludeHead_ro) fun basisBand _ => ?_
  refine JSat.bind (JSat.of_ops bandCreate_j (fun _ _ _ => trivial)) fun band _ t0 w hw => ?_
  refine ⟨run_winv (AllOps.ro_j (preludeTail_ro basisBand band)) w hw, fun x hx e he => ?_⟩
  obtain ⟨_, _, es, hes, hmem⟩ := ((preludeTail_spec id w.store basisBand band w rfl).2 x hx).2.2.1 e he
  exact ((wfEntry_iff e).1 (hw.1.get (hunkAt_eq_some_iff.1 hes) e hmem)).2

/-- **`backup` keeps `StoreJsonGood` in every world, and attempts only `JOp` operations**: any
faults, any crash point, dead or alive, any options, sorted source or not, `CreateNew` enforced or not. -/
theorem backup_winv {H : Str → Str} (hH : HashHex H) (o : BackupOpts) {src : List SrcEntry}
    (hsrc : SrcJsonGood src) (w : World) (h : StoreJsonGood w.store) :
    WInv w.trace ((backup H o src).run w).2 := by
  rw [backup_eq]
  refine ((JSat.bind (Q := fun _ => True) backupPrelude_jsat fun x hx t0 w1 hw1 => ?_) _ w (WInv.start h)).1
  exact backupMain_framed (jInv hH t0 o) x w1 hw1
    ⟨fun _ h => (nomatch h), fun _ h => (nomatch h), fun _ h => (nomatch h), (by have := hsrc.bytes; simpa using this),
      (by have := hsrc.count; simpa using this)⟩
    fun _ sf hsf h => ⟨hsrc.entries sf hsf, fun b hbs => hx b (h b hbs).1⟩

theorem backup_sj {H : Str → Str} (hH : HashHex H) (o : BackupOpts) {src : List SrcEntry}
    (hsrc : SrcJsonGood src) (w : World) (h : StoreJsonGood w.store) :
    StoreJsonGood ((backup H o src).run w).2.store := (backup_winv hH o hsrc w h).1

theorem _root_.Conserve.GcOp.jop {D : List Nat} {Q : Str → Prop} {o : Op} (h : GcOp D Q o) : JOp o := by
  cases h with
  | rd h => exact ReadOnly.jop h
  | lock => exact jop_write trivial
  | unlock => exact jop_removeFile _
  | band _ => exact jop_removeDirAll _
  | block _ => exact jop_removeFile _

/-- `delete_bands` takes the lock and removes: nothing it writes carries JSON. -/
theorem deleteBands_j (strict : Bool) (D : List Nat) (o : DeleteOpts) :
    Prog.AllOps JOp (deleteBands strict D o) :=
  (deleteBands_fp strict D o).mono fun _ => GcOp.jop

theorem delete_sj (strict : Bool) (D : List Nat) (o : DeleteOpts) (w : World) (h : StoreJsonGood w.store) :
    StoreJsonGood ((deleteBands strict D o).run w).2.store :=
  run_sj (deleteBands_j strict D o) w h

end Conserve.JStore
