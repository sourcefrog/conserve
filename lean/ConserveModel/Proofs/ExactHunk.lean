import ConserveModel.Proofs.ExactBlock
/-
The index writer on a fault-free world: `finish_hunk` and `flush_group` succeed, each hunk written
is EXACTLY the contiguous segment of the (strictly increasing) source listing recorded since the
previous hunk (`LInv`; the loop that keeps it is in Proofs/ExactLoop.lean).  No property statements here.
-/
namespace Conserve.Exact
open Conserve Prog

theorem RunsAt.performUnit_createDir {s : Store} {k : Key} (habs : s.get? k = none)
    (hp : s.parentOk k = true) : RunsAt (performUnit (.createDir k)) s (.ok ()) (s.put k .dir) [] := by
  simp only [performUnit, perform, Prog.bind_def, Prog.op_bind, Prog.ret_bind]
  exact RunsAt.op_createDir habs hp (RunsAt.ret _ _)

theorem RunsAt.performUnit_write {s : Store} {k : Key} {v : FileVal} (hp : s.parentOk k = true)
    (habs : s.get? k = none ∨ s.get? k = some .empty) :
    RunsAt (performUnit (.write k v .createNew)) s (.ok ()) (s.put k v) [] := by
  simp only [performUnit, perform, Prog.bind_def, Prog.op_bind, Prog.ret_bind]
  exact RunsAt.op_write hp habs (RunsAt.ret _ _)

theorem pairwise_lt_inj {α : Type} {f : α → Str} {l : List α}
    (h : l.Pairwise fun a b => apathCmp (f a) (f b) = .lt) :
    ∀ x ∈ l, ∀ y ∈ l, f x = f y → x = y :=
  fun _ hx _ hy => eq_of_pairwise_ne_key (pairwise_ne_of_sorted h) hx hy

theorem apathLe_of_lt {a b : Str} (h : apathCmp a b = .lt) : apathLe a b = true := by
  simp [apathLe, h]

/-- `mergeSort` of the entries recorded for a contiguous segment of a strictly increasing source
listing is that segment, in order. -/
theorem sorted_segment {o : BackupOpts} {P : List IndexEntry} {grp : List SrcEntry}
    (hp : (P.map strip).Perm (grp.map (Inv.metaOf o)))
    (hs : (grp.map (·.apath)).Pairwise fun a b => apathCmp a b = .lt) :
    (P.mergeSort fun a b => apathLe a.apath b.apath).map strip = grp.map (Inv.metaOf o) := by
  have hs' : grp.Pairwise fun a b => apathCmp a.apath b.apath = .lt := by
    rwa [List.pairwise_map] at hs
  have hperm : ((P.mergeSort fun a b => apathLe a.apath b.apath).map strip).Perm (grp.map (Inv.metaOf o)) :=
    ((List.mergeSort_perm P _).map strip).trans hp
  refine List.Perm.eq_of_pairwise (le := fun a b : IndexEntry => apathLe a.apath b.apath = true) ?_ ?_ ?_ hperm
  · intro a b ha hb h1 h2
    have hab : a.apath = b.apath := apathLe.antisymm h1 h2
    have ha' := hperm.mem_iff.mp ha
    obtain ⟨sa, hsa, rfl⟩ := List.mem_map.mp ha'
    obtain ⟨sb, hsb, rfl⟩ := List.mem_map.mp hb
    have : sa = sb := pairwise_lt_inj hs' sa hsa sb hsb hab
    rw [this]
  · rw [List.pairwise_map]
    exact List.pairwise_mergeSort (le := fun a b : IndexEntry => apathLe a.apath b.apath)
      (fun _ _ _ => apathLe.trans) (fun a b => by simpa using apathLe.total a.apath b.apath) P
  · rw [List.pairwise_map]
    exact hs'.imp fun h => apathLe_of_lt h

/-- The keys of the version being written, while `hs` are the hunks written so far. -/
structure BandInv (nb : Nat) (s : Store) (hs : List (List IndexEntry)) : Prop where
  hunk : ∀ n, s.get? (.hunk nb n) = (hs[n]?).map FileVal.hunk
  hunkDir : ∀ d, s.get? (.hunkDir nb d) = if d * hunksPerSubdir < hs.length then some .dir else none
  indexDir : s.get? (.indexDir nb) = some .dir
  bandDir : s.get? (.bandDir nb) = some .dir
  head : s.get? (.bandHead nb) = some (.head .ok [])
  tail : s.get? (.bandTail nb) = none

theorem BandInv.of_frame {nb : Nat} {s s' : Store} {hs : List (List IndexEntry)} (h : BandInv nb s hs)
    (hf : ∀ k, isBlockish k = false → s'.get? k = s.get? k) : BandInv nb s' hs :=
  ⟨fun n => (hf _ rfl).trans (h.hunk n), fun d => (hf _ rfl).trans (h.hunkDir d),
   (hf _ rfl).trans h.indexDir, (hf _ rfl).trans h.bandDir, (hf _ rfl).trans h.head, (hf _ rfl).trans h.tail⟩

/-- The invariant of the main loop.  `hs`: hunks written so far; `pre`: the source entries they hold;
`grp`: the source entries recorded since; `s0`: the store before the version was created. -/
structure LInv (H : Str → Str) (o : BackupOpts) (nb : Nat) (s0 s : Store) (wr : Writer)
    (hs : List (List IndexEntry)) (pre grp : List SrcEntry) (bytes : Nat) : Prop where
  b : BInv H o s wr grp bytes
  band : wr.band = nb
  seq : wr.sequence = hs.length
  hw : wr.hunksWritten = hs.length
  bi : BandInv nb s hs
  errors : wr.stats.errors = 0
  shape : hs.flatten.map strip = pre.map (Inv.metaOf o)
  hsNonfile : ∀ e ∈ hs.flatten, e.kind ≠ .file → e.addrs = []
  frame : ∀ k, newKey nb k = false → s.get? k = s0.get? k

variable {H : Str → Str} {o : BackupOpts} {nb : Nat} {s0 : Store}

theorem newKey_false_not_blockish {nb : Nat} {k : Key} (h : newKey nb k = false) : isBlockish k = false := by
  simp only [newKey, Bool.or_eq_false_iff] at h
  exact h.2

theorem LInv.step {s s' : Store} {wr wr' : Writer} {hs : List (List IndexEntry)} {pre grp grp' : List SrcEntry}
    {bytes bytes' : Nat} (h : LInv H o nb s0 s wr hs pre grp bytes) (hb : BInv H o s' wr' grp' bytes')
    (hk : Keep s wr s' wr') : LInv H o nb s0 s' wr' hs pre grp' bytes' :=
  ⟨hb, hk.band.trans h.band, hk.sequence.trans h.seq, hk.hunksWritten.trans h.hw, h.bi.of_frame hk.frame,
   hk.errors.trans h.errors, h.shape, h.hsNonfile,
   fun k hkk => (hk.frame k (newKey_false_not_blockish hkk)).trans (h.frame k hkk)⟩

theorem LInv.drain {s : Store} {wr : Writer} {hs : List (List IndexEntry)} {pre grp : List SrcEntry} {bytes : Nat}
    (h : LInv H o nb s0 s wr hs pre grp bytes) :
    LInv H o nb s0 s { wr with pending := wr.pending ++ wr.finished, finished := [] } hs pre grp bytes := by
  refine ⟨⟨h.b.st, h.b.exAll, ?_, ?_, h.b.queueFiles, h.b.buf⟩, h.band, h.seq, h.hw, h.bi, h.errors,
    h.shape, h.hsNonfile, h.frame⟩
  · have := h.b.perm
    simpa [groupEntries] using this
  · intro e he hk
    exact h.b.nonfile e (by simpa using he) hk

theorem getElem?_snoc {α : Type} (l : List α) (a : α) (n : Nat) :
    (l ++ [a])[n]? = if n = l.length then some a else l[n]? := by
  by_cases h : n = l.length
  · subst h; simp
  · simp only [h, if_false]
    by_cases hlt : n < l.length
    · rw [List.getElem?_append_left hlt]
    · have h1 : l.length < n := by omega
      rw [List.getElem?_eq_none (by simp; omega), List.getElem?_eq_none (by omega)]

theorem finishHunk_runs {s : Store} {wr : Writer} {hs : List (List IndexEntry)} {pre grp : List SrcEntry}
    {bytes : Nat} (hl : LInv H o nb s0 s wr hs pre grp bytes) (hq : wr.queue = []) (hf : wr.finished = [])
    (hsorted : (grp.map (·.apath)).Pairwise fun a b => apathCmp a b = .lt) :
    ∃ s' wr' hs', RunsAt (finishHunk wr) s (.ok wr') s' [] ∧
      LInv H o nb s0 s' wr' hs' (pre ++ grp) [] bytes ∧
      wr'.pending = [] ∧ wr'.queue = [] ∧ wr'.finished = [] ∧
      (∀ e ∈ hs'.flatten, e ∈ hs.flatten ∨ e ∈ wr.pending) ∧ wr'.exists_ = wr.exists_ := by
  have hperm : (wr.pending.map strip).Perm (grp.map (Inv.metaOf o)) := by
    have := hl.b.perm
    simpa [groupEntries, hq, hf] using this
  unfold finishHunk
  simp only [Prog.bind_def, Prog.pure_def]
  by_cases hp : wr.pending.isEmpty = true
  · simp only [hp, if_true]
    have hpe : wr.pending = [] := by simpa using hp
    have hg : grp = [] := by
      rw [hpe] at hperm
      have := hperm.length_eq
      simpa using this.symm
    subst hg
    exact ⟨s, wr, hs, RunsAt.ret _ _, by simpa using hl, hpe, hq, hf, fun e he => Or.inl he, rfl⟩
  · simp only [hp, Bool.false_eq_true, if_false]
    have hseg := sorted_segment hperm hsorted
    have hband := hl.band
    have hseq := hl.seq
    -- the store in which the hunk file is written: its sub-directory is in place
    have hdirStep : ∃ s1, (∀ (k : Prog Writer) out s' ev, RunsAt k s1 out s' ev →
          RunsAt (if wr.sequence % hunksPerSubdir = 0 then
            (performUnit (.createDir (.hunkDir wr.band (wr.sequence / hunksPerSubdir)))).bind fun _ => k
            else k) s out s' ev) ∧ StoreOK H s1 ∧
        s1.get? (.hunkDir nb (hs.length / hunksPerSubdir)) = some .dir ∧
        (∀ k, k ≠ .hunkDir nb (hs.length / hunksPerSubdir) → s1.get? k = s.get? k) ∧
        (∀ d, s1.get? (.hunkDir nb d) = if d * hunksPerSubdir < hs.length + 1 then some .dir else none) := by
      rw [hband, hseq]
      by_cases hm : hs.length % hunksPerSubdir = 0
      · simp only [hm, if_true]
        have habs : s.get? (.hunkDir nb (hs.length / hunksPerSubdir)) = none := by
          rw [hl.bi.hunkDir]
          have : ¬ (hs.length / hunksPerSubdir * hunksPerSubdir < hs.length) := by
            simp only [hunksPerSubdir] at hm ⊢; omega
          simp [this]
        have hpar : s.parentOk (.hunkDir nb (hs.length / hunksPerSubdir)) = true :=
          parentOk_of_dir rfl hl.bi.indexDir
        refine ⟨_, fun k out s' ev hk => RunsAt.bind0 (RunsAt.performUnit_createDir habs hpar) hk,
          hl.b.st.put_fresh hpar habs rfl fun _ => nofun, by simp, fun k hk => Store.get?_put_ne _ _ hk, ?_⟩
        · intro d
          rw [Store.get?_put]
          by_cases hd : d = hs.length / hunksPerSubdir
          · subst hd
            have : hs.length / hunksPerSubdir * hunksPerSubdir < hs.length + 1 := by
              simp only [hunksPerSubdir] at hm ⊢; omega
            simp [this]
          · have hne : Key.hunkDir nb d ≠ Key.hunkDir nb (hs.length / hunksPerSubdir) := by
              intro e; cases e; exact hd rfl
            simp only [hne, if_false, hl.bi.hunkDir]
            have : (d * hunksPerSubdir < hs.length + 1) ↔ (d * hunksPerSubdir < hs.length) := by
              simp only [hunksPerSubdir] at hm hd ⊢; omega
            simp [this]
      · simp only [hm, if_false]
        have hdir : s.get? (.hunkDir nb (hs.length / hunksPerSubdir)) = some .dir := by
          rw [hl.bi.hunkDir]
          have : hs.length / hunksPerSubdir * hunksPerSubdir < hs.length := by
            simp only [hunksPerSubdir] at hm ⊢; omega
          simp [this]
        refine ⟨s, fun k out s' ev hk => hk, hl.b.st, hdir, fun _ _ => rfl, ?_⟩
        intro d
        rw [hl.bi.hunkDir]
        have : (d * hunksPerSubdir < hs.length + 1) ↔ (d * hunksPerSubdir < hs.length) := by
          simp only [hunksPerSubdir] at hm ⊢; omega
        simp [this]
    obtain ⟨s1, hr1, hst1, hdir1, hsame1, hdirs1⟩ := hdirStep
    have hhunkKey : ∀ n, s1.get? (.hunk nb n) = (hs[n]?).map FileVal.hunk := fun n =>
      (hsame1 _ (by simp)).trans (hl.bi.hunk n)
    have hpar : s1.parentOk (.hunk nb hs.length) = true := parentOk_of_dir rfl hdir1
    have habs : s1.get? (.hunk nb hs.length) = none := by
      rw [hhunkKey]; simp
    let es := wr.pending.mergeSort fun a b => apathLe a.apath b.apath
    have hst2 : StoreOK H (s1.put (.hunk nb hs.length) (.hunk es)) :=
      hst1.put_fresh hpar habs rfl fun _ => nofun
    have hget2 : ∀ k, k ≠ .hunk nb hs.length → k ≠ .hunkDir nb (hs.length / hunksPerSubdir) →
        (s1.put (.hunk nb hs.length) (.hunk es)).get? k = s.get? k :=
      fun k h1 h2 => (Store.get?_put_ne _ _ h1).trans (hsame1 k h2)
    refine ⟨s1.put (.hunk nb hs.length) (.hunk es),
      { wr with pending := [], sequence := wr.sequence + 1, hunksWritten := wr.hunksWritten + 1 },
      hs ++ [es], ?_, ?_, rfl, hq, hf, ?_, rfl⟩
    rotate_left 2
    · intro e he
      rw [List.flatten_append, List.mem_append] at he
      rcases he with he | he
      · exact Or.inl he
      · simp only [List.flatten_cons, List.flatten_nil, List.append_nil] at he
        exact Or.inr (List.mem_mergeSort.mp he)
    · refine hr1 _ _ _ _ ?_
      refine RunsAt.bind0 (a := ()) ?_ (RunsAt.ret _ _)
      rw [hband, hseq]
      exact RunsAt.performUnit_write hpar (Or.inl habs)
    · refine ⟨⟨hst2, ?_, ?_, ?_, ?_, hl.b.buf⟩, hband, ?_, ?_, ?_, hl.errors, ?_, ?_, ?_⟩
      · intro h hbl
        obtain ⟨v, hg, h1, h2⟩ := hbl
        rw [hget2 _ (by simp) (by simp)] at hg
        exact hl.b.exAll h ⟨v, hg, h1, h2⟩
      · simp [groupEntries, hq, hf]
      · simp [hf]
      · simp [hq]
      · simp [hseq]
      · simp [hl.hw]
      · refine ⟨?_, ?_, ?_, ?_, ?_, ?_⟩
        · intro n
          rw [Store.get?_put, getElem?_snoc]
          by_cases hn : n = hs.length
          · subst hn; simp
          · have : Key.hunk nb n ≠ Key.hunk nb hs.length := by intro e; cases e; exact hn rfl
            simp only [this, hn, if_false]
            exact hhunkKey n
        · intro d
          rw [Store.get?_put_ne _ _ (by nofun), List.length_append, List.length_singleton]
          exact hdirs1 d
        · exact (hget2 (.indexDir nb) nofun nofun).trans hl.bi.indexDir
        · exact (hget2 (.bandDir nb) nofun nofun).trans hl.bi.bandDir
        · exact (hget2 (.bandHead nb) nofun nofun).trans hl.bi.head
        · exact (hget2 (.bandTail nb) nofun nofun).trans hl.bi.tail
      · rw [List.flatten_append, List.map_append, List.map_append, hl.shape]
        simp only [List.flatten_cons, List.flatten_nil, List.append_nil]
        rw [hseg]
      · intro e he hk
        rw [List.flatten_append, List.mem_append] at he
        rcases he with he | he
        · exact hl.hsNonfile e he hk
        · simp only [List.flatten_cons, List.flatten_nil, List.append_nil] at he
          have : e ∈ wr.pending := List.mem_mergeSort.mp he
          exact hl.b.nonfile e (List.mem_append_left _ this) hk
      · intro k hk
        have h1 : k ≠ .hunk nb hs.length := by
          intro e; subst e; simp [newKey, Key.isUnder, Key.parent] at hk
        have h2 : k ≠ .hunkDir nb (hs.length / hunksPerSubdir) := by
          intro e; subst e; simp [newKey, Key.isUnder, Key.parent] at hk
        exact (hget2 k h1 h2).trans (hl.frame k hk)

theorem flushGroup_runs {s : Store} {wr : Writer} {hs : List (List IndexEntry)} {pre grp : List SrcEntry}
    {bytes : Nat} (hl : LInv H o nb s0 s wr hs pre grp bytes) (hB : bytes < 18446744073709551616)
    (hsorted : (grp.map (·.apath)).Pairwise fun a b => apathCmp a b = .lt) :
    ∃ s' wr' hs', RunsAt (flushGroup H wr) s (.ok wr') s' [] ∧
      LInv H o nb s0 s' wr' hs' (pre ++ grp) [] bytes ∧
      wr'.pending = [] ∧ wr'.queue = [] ∧ wr'.finished = [] := by
  obtain ⟨s1, wr1, hr1, hb1, hk1, hq1, _⟩ := combinerFlush_runs hl.b hB
  have hl1 := hl.step hb1 hk1
  obtain ⟨s2, wr2, hs2, hr2, hl3, h1, h2, h3, _, _⟩ := finishHunk_runs hl1.drain hq1 rfl hsorted
  refine ⟨s2, wr2, hs2, ?_, hl3, h1, h2, h3⟩
  unfold flushGroup
  simp only [Prog.bind_def]
  exact RunsAt.bind0 hr1 hr2

def totalSize (l : List SrcEntry) : Nat := (l.map (·.size)).sum

@[simp] theorem totalSize_cons (sf : SrcEntry) (l : List SrcEntry) : totalSize (sf :: l) = sf.size + totalSize l := by
  simp [totalSize]

@[simp] theorem totalSize_nil : totalSize [] = 0 := rfl

def EntryGood (sf : SrcEntry) : Prop :=
  sf.kind ≠ .unknown ∧ (sf.kind = .file → sf.size = sf.content.length)

def NoErrorEvents (evs : List Event) : Prop := ∀ ev ∈ evs, ∀ e, ev ≠ .error e

theorem NoErrorEvents.nil : NoErrorEvents [] := fun _ h => nomatch h

theorem NoErrorEvents.append {a b : List Event} (ha : NoErrorEvents a) (hb : NoErrorEvents b) :
    NoErrorEvents (a ++ b) := fun ev h => by
  rcases List.mem_append.mp h with h | h
  · exact ha ev h
  · exact hb ev h

theorem NoErrorEvents.change (p : Str) (c : ChangeKind) : NoErrorEvents [.change p c] := by
  intro ev h e
  simp only [List.mem_singleton] at h
  subst h
  intro h; cases h

end Conserve.Exact
