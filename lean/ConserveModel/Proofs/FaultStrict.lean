import ConserveModel.Proofs.FaultSim
import ConserveModel.Proofs.BackupLoop
/-
"Strictness" of the writer half of `backup()`: in a world with injected faults (no crash point),
if a piece of the writer returns WITHOUT an error value — and the main loop without having counted
an error — then none of its operations hit a fault.  Two judgements:

* `Prog.Tree (fun _ => True) True Q p` (syntactic, all worlds): every value `p` can return satisfies `Q`
  (`Post Q p` below is the same judgement; the proofs use `Tree` and its rules);
* `Strict p G` (live worlds): if `p` returns a value satisfying `G`, the run was `Unfaulted`.

`Strict` of a sequence needs the first of its parts (an error value, once returned, must lead to a value
that is not `G`), so the two are established together, as `Spec p Q G`, in one pass per function.

Together with `Fault.sim` this reduces "success reported in a faulty world" to the fault-free run.
No property statements here.
-/
namespace Conserve.Fault
open Conserve Conserve.Inv Prog

/-- On every branch (every sequence of responses) the program ends in `ret a` with `Q a`, in `fail`,
or in `panic`. -/
inductive Post {α : Type} (Q : α → Prop) : Prog α → Prop
  | ret {a : α} : Q a → Post Q (.ret a)
  | fail (e : Err) : Post Q (.fail e)
  | panic (s : String) : Post Q (.panic s)
  | emit (ev : Event) {k : Prog α} : Post Q k → Post Q (.emit ev k)
  | op (o : Op) {k : Resp → Prog α} : (∀ r, Post Q (k r)) → Post Q (.op o k)

namespace Post

theorem logError (e : Err) : Post (fun _ => True) (logError e) := .emit _ (.ret trivial)
theorem report (ev : Event) : Post (fun _ => True) (report ev) := .emit _ (.ret trivial)

end Post

/-- In every live world: if `p` returns a value satisfying `G`, no operation of the run hit a fault. -/
def Strict {α : Type} (p : Prog α) (G : α → Prop) : Prop :=
  ∀ w, Live w → ∀ a, (p.run w).1 = .ok a → G a → Unfaulted p w

def IsOk {ε α : Type} (r : Except ε α) : Prop := ∃ a, r = .ok a

theorem not_isOk_error {ε α : Type} (e : ε) : ¬ IsOk (.error e : Except ε α) := fun ⟨_, h⟩ => nomatch h
theorem isOk_ok {ε α : Type} (a : α) : IsOk (.ok a : Except ε α) := ⟨a, rfl⟩

/-- What `p` can return and `Strict p G`, established in one pass over the program. -/
structure Spec {α : Type} (p : Prog α) (Q G : α → Prop) : Prop where
  post : Tree (fun _ => True) True Q p
  strict : Strict p G

namespace Spec
variable {α β : Type} {Q G : α → Prop}

theorem ret {a : α} (h : Q a) : Spec (.ret a) Q G := ⟨.ret h, fun _ _ _ _ _ => trivial⟩
theorem fail (e : Err) : Spec (.fail e : Prog α) Q G := ⟨.fail e, fun _ _ _ _ _ => trivial⟩
theorem panic (s : String) : Spec (.panic s : Prog α) Q G := ⟨.panic s trivial, fun _ _ _ _ _ => trivial⟩

theorem emit {ev : Event} {k : Prog α} (h : Spec k Q G) : Spec (.emit ev k) Q G :=
  ⟨.emit ev h.post, fun _ hl a ha hG => h.strict _ (hl.events _) a ha hG⟩

theorem mono {p : Prog α} {Q' G' : α → Prop} (h : Spec p Q G) (hq : ∀ a, Q a → Q' a) (hg : ∀ a, G' a → G a) :
    Spec p Q' G' :=
  ⟨h.post.imp hq, fun w hl a ha hG => h.strict w hl a ha (hg a hG)⟩

theorem of_post {p : Prog α} (h : Tree (fun _ => True) True (fun b => Q b ∧ ¬ G b) p) : Spec p Q G :=
  ⟨h.imp fun _ hb => hb.1, fun _ _ _ ha hG => absurd hG (h.run ha).2⟩

theorem op {o : Op} {k : Resp → Prog α} (herr : ∀ e, Tree (fun _ => True) True (fun b => ¬ G b) (k (.err e)))
    (hk : ∀ r, Spec (k r) Q G) : Spec (.op o k) Q G := by
  refine ⟨.op trivial fun r => (hk r).post, fun w hl b hb hG => ?_⟩
  simp only [Prog.run_op] at hb
  cases hf : w.faultFor o with
  | some e =>
    rw [exec_fault hl hf] at hb
    exact absurd hG ((herr e).run hb)
  | none => exact ⟨hf, (hk _).strict _ (hl.exec o) b hb hG⟩

theorem bind {p : Prog α} {f : α → Prog β} {Q1 G1 : α → Prop} {Q G : β → Prop} (hp : Spec p Q1 G1)
    (hf : ∀ a, Q1 a → Spec (f a) Q G) (hback : ∀ a, Q1 a → ¬ G1 a → Tree (fun _ => True) True (fun b => ¬ G b) (f a)) :
    Spec (p.bind f) Q G := by
  refine ⟨hp.post.bind fun a ha => (hf a ha).post, fun w hl b hb hG => ?_⟩
  obtain ⟨a, ha, hfb⟩ := Prog.run_bind_ok_inv hb
  have hQ : Q1 a := hp.post.run ha
  have hG1 : G1 a := Classical.byContradiction fun hn => (hback a hQ hn).run hfb hG
  refine unfaulted_bind.mpr ⟨hp.strict w hl a ha hG1, fun a' ha' => ?_⟩
  have : a' = a := by rw [ha] at ha'; cases ha'; rfl
  subst this
  exact (hf a' hQ).strict _ (hl.run p) b hfb hG

theorem bind' {p : Prog α} {f : α → Prog β} {Q1 : α → Prop} {Q G : β → Prop} (hp : Spec p Q1 (fun _ => True))
    (hf : ∀ a, Q1 a → Spec (f a) Q G) : Spec (p.bind f) Q G :=
  hp.bind hf fun _ _ hn => (hn trivial).elim

/-- Sequencing after a piece that hands back `(state, result)`: the continuation is looked at once for a
result, and once — only for what it can return — for an error. -/
theorem bind_ok {σ ε γ : Type} {p : Prog (σ × Except ε γ)} {f : σ × Except ε γ → Prog β}
    {Q1 : σ × Except ε γ → Prop} {Q G : β → Prop} (hp : Spec p Q1 (fun x => IsOk x.2))
    (hok : ∀ s c, Q1 (s, .ok c) → Spec (f (s, .ok c)) Q G)
    (herr : ∀ s e, Q1 (s, .error e) → Tree (fun _ => True) True (fun b => Q b ∧ ¬ G b) (f (s, .error e))) :
    Spec (p.bind f) Q G := by
  refine hp.bind (fun x hx => ?_) (fun x hx hn => ?_)
  · obtain ⟨s, r⟩ := x
    cases r with
    | error e => exact of_post (herr s e hx)
    | ok c => exact hok s c hx
  · obtain ⟨s, r⟩ := x
    cases r with
    | error e => exact (herr s e hx).imp fun _ h => h.2
    | ok c => exact absurd (isOk_ok c) hn

end Spec

section
variable {H : Str → Str}

/-- A piece of the writer that hands back `(writer, result)`: it leaves the error count alone, and a
result that is not an error means no fault was hit. -/
abbrev Piece {β : Type} (wr : Writer) (p : Prog (Writer × Except Err β)) : Prop :=
  Spec p (fun x => x.1.stats.errors = wr.stats.errors) (fun x => IsOk x.2)

theorem storeOrDedup_spec (wr : Writer) (d : Str) : Piece wr (storeOrDedup H wr d) := by
  unfold storeOrDedup
  simp only [Prog.bind_def, Prog.pure_def, perform, Prog.op_bind, Prog.ret_bind]
  split
  · exact .ret rfl
  · refine .op (fun e => .ret (not_isOk_error _)) fun r => ?_
    split
    · exact .ret rfl
    · refine .op (fun e => .ret (not_isOk_error _)) fun r2 => ?_
      split <;> exact .ret rfl

theorem combinerFlush_spec (wr : Writer) : Piece wr (combinerFlush H wr) := by
  unfold combinerFlush
  simp only [Prog.bind_def, Prog.pure_def]
  split
  · exact .ret rfl
  · exact (storeOrDedup_spec _ _).bind_ok (fun _ _ hq => .ret hq) fun _ _ hq => .ret ⟨hq, not_isOk_error _⟩

theorem combinerPush_spec (o : BackupOpts) (wr : Writer) (sf : SrcEntry) : Piece wr (combinerPush H o wr sf) := by
  unfold combinerPush
  simp only [metadataFrom_eq, Prog.pure_def]
  split
  · exact .ret rfl
  · split
    · exact (combinerFlush_spec _).mono (fun _ h => h) fun _ h => h
    · exact .ret rfl

theorem storeChunks_spec (cs : List Str) : ∀ (wr : Writer) (acc : List Addr), Piece wr (storeChunks H wr cs acc) := by
  induction cs with
  | nil => intro wr acc; unfold storeChunks; exact .ret rfl
  | cons c cs ih =>
    intro wr acc
    unfold storeChunks
    simp only [Prog.bind_def, Prog.pure_def]
    exact (storeOrDedup_spec _ _).bind_ok (fun w1 _ hq => (ih w1 _).mono (fun _ hy => hy.trans hq) fun _ h => h)
      fun _ _ hq => .ret ⟨hq, not_isOk_error _⟩

theorem storeFileContent_spec (o : BackupOpts) (wr : Writer) (sf : SrcEntry) :
    Piece wr (storeFileContent H o wr sf) := by
  unfold storeFileContent
  simp only [Prog.bind_def, Prog.pure_def]
  refine (storeChunks_spec _ _ _).bind_ok (fun _ _ hq => .ret ?_) fun _ _ hq => .ret ⟨hq, not_isOk_error _⟩
  simp only at hq ⊢
  split <;> exact hq

theorem copyFileStore_spec (o : BackupOpts) (wr : Writer) (ck : ChangeKind) (sf : SrcEntry) :
    Piece wr (copyFileStore H o wr ck sf) := by
  unfold copyFileStore
  simp only [metadataFrom_eq, Prog.pure_def, Prog.bind_def]
  split
  · exact .ret rfl
  · split
    · exact (combinerPush_spec _ _ _).bind_ok (fun _ _ hq => .ret hq) fun _ _ hq => .ret ⟨hq, not_isOk_error _⟩
    · exact (storeFileContent_spec _ _ _).bind_ok (fun _ _ hq => .ret hq) fun _ _ hq => .ret ⟨hq, not_isOk_error _⟩

theorem copyFile_spec (o : BackupOpts) (wr : Writer) (basis : Option IndexEntry) (sf : SrcEntry) :
    Piece wr (copyFile H o wr basis sf) := by
  rcases copyFile_cases (H := H) o wr basis sf with ⟨st, ck, hst, h⟩ | ⟨b, m, _, _, h⟩ | ⟨b, st, ck, _, _, _, hst, h⟩ <;>
    rw [h]
  · -- stored, from `wr` with some counters (not the error count) advanced
    exact (copyFileStore_spec o _ ck sf).mono (fun _ hx => hx.trans hst) fun _ h => h
  · exact .panic _
  · exact .ret hst

theorem copyEntry_spec (o : BackupOpts) (wr : Writer) (basis : Option IndexEntry) (sf : SrcEntry) :
    Piece wr (copyEntry H o wr basis sf) := by
  unfold copyEntry
  simp only [metadataFrom_eq, Prog.pure_def]
  cases sf.kind with
  | file => exact copyFile_spec _ _ _ _
  | dir => exact .ret rfl
  | symlink => exact .ret rfl
  | unknown => exact .ret rfl

theorem performUnit_spec (op : Op) : Spec (performUnit op) (fun _ => True) (fun _ => True) := by
  unfold performUnit
  simp only [Prog.bind_def, Prog.pure_def, perform, Prog.op_bind, Prog.ret_bind]
  refine .op (fun e => .fail _) fun r => ?_
  split
  · exact .ret trivial
  · exact .fail _
  · exact .fail _

theorem finishHunk_spec (wr : Writer) :
    Spec (finishHunk wr) (fun x => x.stats.errors = wr.stats.errors) (fun _ => True) := by
  unfold finishHunk
  simp only [Prog.bind_def, Prog.pure_def]
  split
  · exact .ret rfl
  · split
    · exact (performUnit_spec _).bind' fun _ _ => (performUnit_spec _).bind' fun _ _ => .ret rfl
    · exact (performUnit_spec _).bind' fun _ _ => .ret rfl

theorem flushGroup_spec (wr : Writer) :
    Spec (flushGroup H wr) (fun x => x.stats.errors = wr.stats.errors) (fun _ => True) := by
  unfold flushGroup
  simp only [Prog.bind_def]
  exact (combinerFlush_spec _).bind_ok
    (fun _ _ hq => (finishHunk_spec _).mono (fun _ hy => hy.trans hq) fun _ h => h) fun _ _ _ => .fail _

/-- What the main loop does from `wr` on: the error count never decreases, and if it has not increased
no operation hit a fault. -/
abbrev LoopSpec (H : Str → Str) (o : BackupOpts) (wr : Writer) (ms : List Matched) : Prop :=
  Spec (backupLoop H o wr ms) (fun y => wr.stats.errors ≤ y.stats.errors) (fun y => y.stats.errors = wr.stats.errors)

theorem loopCont_spec (o : BackupOpts) (sf : SrcEntry) (rest : List Matched) (ih : ∀ wr, LoopSpec H o wr rest)
    (x : Writer × Except Err (Option ChangeKind)) :
    Spec (loopCont H o sf rest x)
      (fun y => x.1.stats.errors ≤ y.stats.errors ∧ (¬ IsOk x.2 → x.1.stats.errors < y.stats.errors))
      (fun y => y.stats.errors = x.1.stats.errors) := by
  obtain ⟨w1, r⟩ := x
  cases r with
  | error e =>
    -- the error is counted, and the count never comes down again
    refine .of_post ?_
    simp only [loopCont, logError, Prog.emit_bind, Prog.ret_bind]
    refine .emit _ ((ih _).post.imp fun y hy => ?_)
    simp only at hy ⊢
    exact ⟨⟨by omega, fun _ => by omega⟩, by omega⟩
  | ok ch =>
    simp only [loopCont]
    have h1 : Spec (match ch with
        | some ck => report (Event.change sf.apath ck)
        | none => Prog.ret ()) (fun _ => True) (fun _ => True) := by
      cases ch with
      | none => exact .ret trivial
      | some ck => exact .emit (.ret trivial)
    refine h1.bind' fun _ _ => ?_
    refine Spec.bind' (Q1 := fun w2 => w2.stats.errors = w1.stats.errors) ?_ fun w2 h2 => ?_
    · split
      · exact flushGroup_spec _
      · exact .ret rfl
    · exact (ih w2).mono (fun y hy => ⟨h2 ▸ hy, fun hn => absurd (isOk_ok _) hn⟩) fun y hy => hy.trans h2.symm

theorem backupLoop_spec (o : BackupOpts) (ms : List Matched) : ∀ wr, LoopSpec H o wr ms := by
  induction ms with
  | nil => intro wr; rw [LoopSpec, backupLoop]; exact .ret (Nat.le_refl _)
  | cons m rest ih =>
    intro wr
    have hstep : ∀ basis sf, Spec ((copyEntry H o wr basis sf).bind (loopCont H o sf rest))
        (fun y => wr.stats.errors ≤ y.stats.errors) (fun y => y.stats.errors = wr.stats.errors) := by
      intro basis sf
      refine (copyEntry_spec o wr basis sf).bind
        (fun x hx => (loopCont_spec o sf rest ih x).mono (fun y hy => hx ▸ hy.1) fun y hy => hy.trans hx.symm)
        fun x hx hn => (loopCont_spec o sf rest ih x).post.imp fun y hy => ?_
      have := hy.2 hn
      omega
    cases m with
    | left b =>
      rw [LoopSpec, backupLoop_left]
      simp only [report, Prog.emit_bind, Prog.ret_bind]
      exact .emit (ih wr)
    | right sf => rw [LoopSpec, backupLoop_right]; exact hstep none sf
    | both b sf => rw [LoopSpec, backupLoop_both]; exact hstep (some b) sf

theorem backupMain_strict (o : BackupOpts) (src : List SrcEntry) (x : Nat × List Str × List IndexEntry) :
    Strict (backupMain H o src x) (fun st => st.errors = 0) := by
  unfold backupMain
  -- what follows the loop leaves the error count alone
  have htail : ∀ w1 : Writer, Spec ((flushGroup H w1).bind fun w2 => (finishHunk w2).bind fun w3 =>
      (bandClose w3.band w3.hunksWritten).bind fun _ => Prog.ret w3.stats)
      (fun st => st.errors = w1.stats.errors) (fun _ => True) := fun w1 =>
    (flushGroup_spec w1).bind' fun w2 h2 => (finishHunk_spec w2).bind' fun w3 h3 =>
      (performUnit_spec _).bind' fun _ _ => .ret (h3.trans h2)
  exact ((backupLoop_spec o _ { band := x.1, exists_ := x.2.1 }).bind (Q := fun _ => True) (G := fun st => st.errors = 0)
    (fun w1 _ => (htail w1).mono (fun _ _ => trivial) fun _ _ => trivial)
    fun w1 _ hn => (htail w1).post.imp fun st h h0 => hn (h.symm.trans h0)).strict

end

end Conserve.Fault
