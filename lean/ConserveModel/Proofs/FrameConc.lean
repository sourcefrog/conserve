import ConserveModel.Proofs.FrameTrace
import ConserveModel.Conc
/-
The frame lemmas for two actors sharing a store (`runSched`): the store only grows, no key gets
two successful writes (across both actors), and an actor whose head write fails stops there.
-/
namespace Conserve
open Prog

theorem Actor.settle_allOps {α : Type} {P : Op → Prop} {p : Prog α} (hp : AllOps P p) (evs : List Event) :
    AllOps P (Actor.settle p evs).1 := by
  induction hp generalizing evs with
  | ret a => exact .ret a
  | fail e => exact .fail e
  | panic s => exact .panic s
  | emit ev _ ih => exact ih _
  | op ho hk _ => exact .op ho hk

theorem Actor.settle_headGuard {α : Type} {p : Prog α} (hp : HeadGuard p) (evs : List Event) :
    HeadGuard (Actor.settle p evs).1 := by
  induction hp generalizing evs with
  | ret a => exact .ret a
  | fail e => exact .fail e
  | panic s => exact .panic s
  | emit ev _ ih => exact ih _
  | op hk hg _ => exact .op hk hg

theorem Actor.settle_fail {α : Type} (e : Err) (evs : List Event) :
    (Actor.settle (Prog.fail e : Prog α) evs).1 = .fail e := rfl

theorem Actor.start_allOps {α : Type} {P : Op → Prop} {p : Prog α} (hp : AllOps P p) :
    AllOps P (Actor.start p).prog := Actor.settle_allOps hp []

theorem Actor.start_headGuard {α : Type} {p : Prog α} (hp : HeadGuard p) :
    HeadGuard (Actor.start p).prog := Actor.settle_headGuard hp []

@[simp] theorem Actor.start_trace {α : Type} (p : Prog α) : (Actor.start p).trace = [] := rfl

theorem Actor.step_allOps {α : Type} {P : Op → Prop} {a : Actor α} (e : Bool) (s : Store)
    (h : AllOps P a.prog) : AllOps P (a.step e s).2.prog := by
  unfold Actor.step
  split
  · rename_i o k hp
    rw [hp] at h
    cases h with
    | op _ hk => exact Actor.settle_allOps (hk _) _
  · exact h

theorem Actor.step_extends {α : Type} {a : Actor α} (s : Store) (h : AllOps CreateOnly a.prog) :
    Extends s (a.step true s).1 := by
  unfold Actor.step
  split
  · rename_i o k hp
    rw [hp] at h
    cases h with
    | op ho _ => exact applyOp_extends ho
  · exact Extends.refl _

theorem Actor.finish_extends {α : Type} {a : Actor α} (s : Store) (h : AllOps CreateOnly a.prog) :
    Extends s (a.finish true s).1 :=
  Prog.run_extends h { store := s, enforceCreateNew := true } rfl

theorem Actor.finish_allOps {α : Type} {P : Op → Prop} (a : Actor α) (e : Bool) (s : Store) :
    AllOps P (a.finish e s).2.prog := by
  unfold Actor.finish
  simp only
  split <;> constructor

theorem Actor.step_winv {α : Type} {a : Actor α} {s : Store} {T : List TraceEv}
    (h : AllOps BackupOp a.prog) (hw : WInv s (a.trace ++ T)) :
    WInv (a.step true s).1 ((a.step true s).2.trace ++ T) := by
  unfold Actor.step
  split
  · rename_i o k hp
    rw [hp] at h
    cases h with
    | op ho _ => exact hw.step ho
  · exact hw

theorem Actor.finish_winv {α : Type} {a : Actor α} {s : Store} {T : List TraceEv}
    (h : AllOps BackupOp a.prog) (hw : WInv s (a.trace ++ T)) :
    WInv (a.finish true s).1 ((a.finish true s).2.trace ++ T) := by
  obtain ⟨new', ht, hw'⟩ := WInv.run h (w := { store := s, enforceCreateNew := true })
    (t0 := []) (new := []) (T := a.trace ++ T) rfl rfl hw
  unfold Actor.finish
  simp only
  rw [ht]
  simpa [List.append_assoc] using hw'

/-- The actor-level form of `HeadLast`. -/
def Actor.HeadOk {α : Type} (a : Actor α) : Prop :=
  HeadGuard a.prog ∧ HeadLastP (∃ e, a.prog = .fail e) a.trace

theorem Actor.start_headOk {α : Type} {p : Prog α} (hp : HeadGuard p) : (Actor.start p).HeadOk :=
  ⟨Actor.start_headGuard hp, trivial⟩

theorem Actor.step_headOk {α : Type} {a : Actor α} (e : Bool) (s : Store) (h : a.HeadOk) :
    (a.step e s).2.HeadOk := by
  unfold Actor.step
  split
  · rename_i o k hp
    obtain ⟨hg, hl⟩ := h
    rw [hp] at hg hl
    cases hg with
    | op hk hgk =>
      -- nothing recorded so far is a failed head write: the program is still running
      refine ⟨Actor.settle_headGuard (hk _) _, hl.no_failed (fun ⟨_, hx⟩ => nomatch hx), ?_⟩
      intro hf
      obtain ⟨err, hk'⟩ := hgk hf.1 _ hf.2
      exact ⟨err, by simp only; rw [hk']; rfl⟩
  · exact h

theorem Actor.finish_headOk {α : Type} {a : Actor α} (e : Bool) (s : Store) (h : a.HeadOk) :
    (a.finish e s).2.HeadOk := by
  obtain ⟨hg, hl⟩ := h
  obtain ⟨new, ht, hnew⟩ := hg.run { store := s, enforceCreateNew := e }
  unfold Actor.finish
  simp only
  rcases hrun : a.prog.run { store := s, enforceCreateNew := e } with ⟨out, w'⟩
  rw [hrun] at ht hnew
  simp only [List.append_nil] at ht hnew
  refine ⟨by cases out <;> constructor, ?_⟩
  simp only
  rw [ht]
  cases new with
  | nil =>
    -- nothing was recorded; if the old trace ends in a failed head write the program had failed already
    cases hta : a.trace with
    | nil => trivial
    | cons e0 rest =>
      rw [hta] at hl
      refine ⟨hl.1, fun hf => ?_⟩
      obtain ⟨err, hp⟩ := hl.2 hf
      rw [hp] at hrun
      simp only [Prog.run_fail, Prod.mk.injEq] at hrun
      exact ⟨err, by rw [← hrun.1]⟩
  | cons ev rest =>
    -- something was recorded, so the program was not finished, so the old trace has no failed head write
    have hold : ∀ e' ∈ a.trace, ¬ FailedHead e' := hl.no_failed fun ⟨err, hp⟩ => by
      rw [hp] at hrun
      simp only [Prog.run_fail, Prod.mk.injEq] at hrun
      have := congrArg World.trace hrun.2
      rw [ht] at this
      cases this
    refine ⟨?_, ?_⟩
    · intro e' he'
      rcases List.mem_append.mp he' with h1 | h1
      · exact hnew.1 e' h1
      · exact hold e' h1
    · intro hf
      obtain ⟨err, ho⟩ := hnew.2 hf
      exact ⟨err, by rw [ho]⟩

/-- One walk over the schedule: what every move of either actor keeps, and every run to completion,
holds at the end. -/
theorem runSched_inv {α β : Type} {J : Store → Actor α → Actor β → Prop} (e : Bool)
    (stepA : ∀ s a b, J s a b → J (a.step e s).1 (a.step e s).2 b)
    (stepB : ∀ s a b, J s a b → J (b.step e s).1 a (b.step e s).2)
    (finA : ∀ s a b, J s a b → J (a.finish e s).1 (a.finish e s).2 b)
    (finB : ∀ s a b, J s a b → J (b.finish e s).1 a (b.finish e s).2) (sched : List Bool) :
    ∀ s a b, J s a b →
      J (runSched e sched s a b).1 (runSched e sched s a b).2.1 (runSched e sched s a b).2.2 := by
  induction sched with
  | nil => intro s a b h; exact finB _ _ _ (finA _ _ _ h)
  | cons c rest ih =>
    intro s a b h
    cases c with
    | false => exact ih _ _ _ (stepA _ _ _ h)
    | true => exact ih _ _ _ (stepB _ _ _ h)

/-- **Shared-store frame theorem.**  Whatever the schedule, two actors issuing only `CreateOnly`
operations leave a store that extends the initial one. -/
theorem runSched_extends {α β : Type} (sched : List Bool) (s : Store) (a : Actor α) (b : Actor β)
    (ha : AllOps CreateOnly a.prog) (hb : AllOps CreateOnly b.prog) :
    Extends s (runSched true sched s a b).1 :=
  (runSched_inv (J := fun s' a b => Extends s s' ∧ AllOps CreateOnly a.prog ∧ AllOps CreateOnly b.prog) true
    (fun s' _ _ h => ⟨h.1.trans (Actor.step_extends s' h.2.1), Actor.step_allOps true s' h.2.1, h.2.2⟩)
    (fun s' _ _ h => ⟨h.1.trans (Actor.step_extends s' h.2.2), h.2.1, Actor.step_allOps true s' h.2.2⟩)
    (fun s' a _ h => ⟨h.1.trans (Actor.finish_extends s' h.2.1), a.finish_allOps true s', h.2.2⟩)
    (fun s' _ b h => ⟨h.1.trans (Actor.finish_extends s' h.2.2), h.2.1, b.finish_allOps true s'⟩)
    sched s a b ⟨.refl s, ha, hb⟩).1

theorem WInv.swap {s : Store} {A B : List TraceEv} (h : WInv s (A ++ B)) : WInv s (B ++ A) :=
  h.perm List.perm_append_comm

theorem runSched_winv {α β : Type} (sched : List Bool) (s : Store) (a : Actor α) (b : Actor β)
    (ha : AllOps BackupOp a.prog) (hb : AllOps BackupOp b.prog) (hw : WInv s (a.trace ++ b.trace)) :
    WInv (runSched true sched s a b).1
      ((runSched true sched s a b).2.1.trace ++ (runSched true sched s a b).2.2.trace) :=
  (runSched_inv
    (J := fun s a b => WInv s (a.trace ++ b.trace) ∧ AllOps BackupOp a.prog ∧ AllOps BackupOp b.prog) true
    (fun s' _ _ h => ⟨Actor.step_winv h.2.1 h.1, Actor.step_allOps true s' h.2.1, h.2.2⟩)
    (fun s' _ _ h => ⟨(Actor.step_winv h.2.2 h.1.swap).swap, h.2.1, Actor.step_allOps true s' h.2.2⟩)
    (fun s' a _ h => ⟨Actor.finish_winv h.2.1 h.1, a.finish_allOps true s', h.2.2⟩)
    (fun s' _ b h => ⟨(Actor.finish_winv h.2.2 h.1.swap).swap, h.2.1, b.finish_allOps true s'⟩)
    sched s a b ⟨hw, ha, hb⟩).1

/-- Whatever the schedule (and whether or not `CreateNew` is honoured): each actor stops at a
failed head write. -/
theorem runSched_headOk {α β : Type} (e : Bool) (sched : List Bool) (s : Store) (a : Actor α) (b : Actor β)
    (ha : a.HeadOk) (hb : b.HeadOk) :
    (runSched e sched s a b).2.1.HeadOk ∧ (runSched e sched s a b).2.2.HeadOk :=
  runSched_inv (J := fun _ a b => a.HeadOk ∧ b.HeadOk) e
    (fun s' _ _ h => ⟨Actor.step_headOk e s' h.1, h.2⟩) (fun s' _ _ h => ⟨h.1, Actor.step_headOk e s' h.2⟩)
    (fun s' _ _ h => ⟨Actor.finish_headOk e s' h.1, h.2⟩) (fun s' _ _ h => ⟨h.1, Actor.finish_headOk e s' h.2⟩)
    sched s a b ⟨ha, hb⟩

end Conserve
