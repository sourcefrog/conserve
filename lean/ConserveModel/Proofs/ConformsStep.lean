import ConserveModel.Proofs.ConformsBand
import ConserveModel.Proofs.DeleteSafe
/-
C13, step level: the store invariant `CI` (`Conforms` + `DirsOk` + distinct keys) and what each
kind of operation `backup` issues does to it in EVERY world (faults, both micro-steps of a
killed write, dead): read-only operations, block-directory creation, block writes, band/index/
hunk-directory creation, the head write, a hunk write, the tail write.  No property statements here.
-/
namespace Conserve.Conf
open Conserve Conserve.Inv

theorem applyOp_write_unit_parent {s : Store} {k : Key} {v : FileVal}
    (h : (applyOp true s (.write k v .createNew)).2 = .unit) : s.parentOk k = true := by
  simp only [applyOp] at h
  split at h
  · cases h
  · rename_i hp; simpa using hp

theorem exec_createDir_cases (w : World) (k : Key) :
    (w.exec (.createDir k)).1.store = w.store ∨
    (w.store.get? k = none ∧ w.store.parentOk k = true ∧
      (w.exec (.createDir k)).1.store = w.store.put k .dir) := by
  rcases (World.exec_cases w (.createDir k)).2 with ⟨hs, _, _⟩ | ⟨k', v, m, ho, _⟩ | ⟨e, hs, _, _⟩ | ⟨hs, _, _⟩
  · exact Or.inl hs
  · cases ho
  · exact Or.inl hs
  · rw [hs]
    simp only [applyOp]
    split
    · exact Or.inl rfl
    · rename_i hhas
      split
      · exact Or.inl rfl
      · rename_i hp
        exact Or.inr ⟨by simpa [Store.has] using hhas, by simpa using hp, rfl⟩

theorem exec_write_cases (w : World) (k : Key) (v : FileVal) (he : w.enforceCreateNew = true) :
    ((w.exec (.write k v .createNew)).1.store = w.store ∧ ∃ e, (w.exec (.write k v .createNew)).2 = .err e) ∨
    ((w.store.get? k = none ∨ w.store.get? k = some .empty) ∧ w.store.parentOk k = true ∧
      (((w.exec (.write k v .createNew)).1.store = w.store.put k .empty ∧
          (w.exec (.write k v .createNew)).2 = .err .other) ∨
       ((w.exec (.write k v .createNew)).1.store = w.store.put k v ∧
          (w.exec (.write k v .createNew)).2 = .unit))) := by
  rcases (World.exec_cases w (.write k v .createNew)).2 with
    ⟨hs, _, hr⟩ | ⟨k', v', m, ho, hu, hs, _, hr⟩ | ⟨e, hs, _, hr⟩ | ⟨hs, _, hr⟩
  · exact Or.inl ⟨hs, _, hr⟩
  · cases ho
    rw [he] at hu
    exact Or.inr ⟨applyOp_createNew_pre hu, applyOp_write_unit_parent hu, Or.inl ⟨hs, hr⟩⟩
  · exact Or.inl ⟨hs, _, hr⟩
  · rw [he] at hs hr
    rcases applyOp_write_store true w.store k v .createNew with ⟨hu, hst⟩ | ⟨⟨e, herr⟩, hst⟩
    · exact Or.inr ⟨applyOp_createNew_pre hu, applyOp_write_unit_parent hu,
        Or.inr ⟨hs.trans hst, hr.trans hu⟩⟩
    · exact Or.inl ⟨hs.trans hst, e, hr.trans herr⟩

theorem exec_write_unit (w : World) (k : Key) (v : FileVal) (he : w.enforceCreateNew = true)
    (hr : (w.exec (.write k v .createNew)).2 = .unit) :
    (w.exec (.write k v .createNew)).1.store = w.store.put k v := by
  rcases exec_write_cases w k v he with ⟨_, e, h⟩ | ⟨_, _, ⟨_, h⟩ | ⟨h, _⟩⟩
  · rw [h] at hr; cases hr
  · rw [h] at hr; cases hr
  · exact h

section
variable (H : Str → Str)

/-- The store part of the C13 invariant: the archive conforms, every key's parent is a directory,
and no key occurs twice. -/
structure CI (s : Store) : Prop where
  conf : Conforms H s = true
  dirs : DirsOk s
  nodup : NoDupKeys s

variable {H}

theorem CI.put {s : Store} {k : Key} {v : FileVal} (h : CI H s)
    (hpre : s.get? k = none ∨ s.get? k = some .empty) (hp : s.parentOk k = true)
    (hblk : blockEntryOk H (k, v) = true)
    (hband : ∀ b, touchesBand k b → bandConforms H (s.put k v) b = true) : CI H (s.put k v) :=
  ⟨conforms_put H h.nodup h.conf hpre hblk (fun b ht _ => hband b ht), h.dirs.put hpre hp, Store.NoDupKeys.put h.nodup k v⟩

theorem CI.exec_ro {w : World} (h : CI H w.store) {o : Op} (ho : o.isMutating = false) :
    CI H (w.exec o).1.store := by
  rw [w.exec_readOnly_store o (.of_not_mutating ho)]; exact h

theorem CI.blocksGood {s : Store} (h : CI H s) : BlocksGood H s :=
  blocksGood_of_conform H ((conforms_iff H).1 h.conf).2.2.2.1

theorem CI.band {s : Store} (h : CI H s) {b : Nat} (hb : s.get? (.bandDir b) = some .dir) :
    bandConforms H s b = true :=
  ((conforms_iff H).1 h.conf).2.2.2.2 b ((mem_bandIdsOf_iff_get? h.nodup).2 hb)

/-- The keys `bandConforms … b` reads have the same values in both stores. -/
def BandKeysSame (b : Nat) (s s' : Store) : Prop :=
  (∀ n, s'.get? (.hunk b n) = s.get? (.hunk b n)) ∧
  s'.get? (.bandTail b) = s.get? (.bandTail b) ∧ s'.get? (.bandHead b) = s.get? (.bandHead b)

theorem BandKeysSame.refl (b : Nat) (s : Store) : BandKeysSame b s s := ⟨fun _ => rfl, rfl, rfl⟩

theorem BandKeysSame.trans {b : Nat} {s1 s2 s3 : Store} (h1 : BandKeysSame b s1 s2)
    (h2 : BandKeysSame b s2 s3) : BandKeysSame b s1 s3 :=
  ⟨fun n => (h2.1 n).trans (h1.1 n), h2.2.1.trans h1.2.1, h2.2.2.trans h1.2.2⟩

theorem BandKeysSame.of_eq {b : Nat} {s s' : Store} (h : s' = s) : BandKeysSame b s s' := by
  subst h; exact BandKeysSame.refl _ _

theorem BandKeysSame.put {b : Nat} (s : Store) {k : Key} (v : FileVal)
    (hk : ∀ n, k ≠ .hunk b n) (ht : k ≠ .bandTail b) (hh : k ≠ .bandHead b) :
    BandKeysSame b s (s.put k v) :=
  ⟨fun n => Store.get?_put_ne s v (hk n).symm, Store.get?_put_ne s v ht.symm, Store.get?_put_ne s v hh.symm⟩

/-- Nothing of band `b` below its directory that `bandConforms` looks at exists. -/
structure EmptyBand (s : Store) (b : Nat) : Prop where
  hunks : ∀ n, s.get? (.hunk b n) = none
  tail : s.get? (.bandTail b) = none
  head : s.get? (.bandHead b) = none

theorem EmptyBand.same {s s' : Store} {b : Nat} (h : EmptyBand s b) (hs : BandKeysSame b s s') :
    EmptyBand s' b :=
  ⟨fun n => (hs.1 n).trans (h.hunks n), hs.2.1.trans h.tail, hs.2.2.trans h.head⟩

/-- A band id whose directory is not there has nothing below it (parents are directories). -/
theorem EmptyBand.of_fresh {s : Store} {b : Nat} (hd : DirsOk s) (h : s.get? (.bandDir b) ≠ some .dir) :
    EmptyBand s b := by
  refine ⟨fun n => ?_, ?_, ?_⟩
  · cases hv : s.get? (.hunk b n) with
    | none => rfl
    | some v => exact absurd (hd.hunkTreeOk b n v hv).2 h
  · cases hv : s.get? (.bandTail b) with
    | none => rfl
    | some v =>
      have := hd.parent_of_get? hv
      simp only [Store.parentOk, Key.parent, beq_iff_eq] at this
      exact absurd this h
  · cases hv : s.get? (.bandHead b) with
    | none => rfl
    | some v =>
      have := hd.parent_of_get? hv
      simp only [Store.parentOk, Key.parent, beq_iff_eq] at this
      exact absurd this h

theorem HunksAre.nil_of_none {s : Store} {b : Nat} (h : ∀ n, s.get? (.hunk b n) = none) :
    HunksAre s b [] false := fun n => by simp [h n]

theorem EmptyBand.conforms {s : Store} {b : Nat} (hn : NoDupKeys s) (h : EmptyBand s b) :
    bandConforms H s b = true :=
  bandConforms_full hn (HunksAre.nil_of_none h.hunks) (by simp) (by simp) (by simp) (Or.inl h.tail)
    (Or.inr ⟨rfl, h.tail, Or.inl h.head⟩)

/-- Band `b` while its writer runs: hunks `hs` written (all decoded, numbered from zero), no
tail, head there. -/
structure BandOpen (s : Store) (b : Nat) (hs : List (List IndexEntry)) : Prop where
  hunks : HunksAre s b hs false
  tail : s.get? (.bandTail b) = none
  head : ∃ v f, s.get? (.bandHead b) = some (.head v f)

theorem BandOpen.same {s s' : Store} {b : Nat} {hs : List (List IndexEntry)} (h : BandOpen s b hs)
    (hk : BandKeysSame b s s') : BandOpen s' b hs :=
  ⟨fun n => (hk.1 n).trans (h.hunks n), hk.2.1.trans h.tail, by rw [hk.2.2]; exact h.head⟩

variable (H)

structure HsOK (s : Store) (hs : List (List IndexEntry)) : Prop where
  ne : ∀ es ∈ hs, es ≠ []
  ent : ∀ e ∈ hs.flatten, entryConforms H s e = true
  sorted : (hs.flatten.map (·.apath)).Pairwise (fun a b => apathCmp a b = .lt)

variable {H}

theorem HsOK.nil (s : Store) : HsOK H s [] := ⟨by simp, by simp, by simp⟩

theorem HsOK.mono {s s' : Store} {hs : List (List IndexEntry)} (h : HsOK H s hs) (hx : Extends s s') :
    HsOK H s' hs := ⟨h.ne, fun e he => entryConforms_mono H hx (h.ent e he), h.sorted⟩

theorem HsOK.snoc {s : Store} {hs : List (List IndexEntry)} {es : List IndexEntry} (h : HsOK H s hs)
    (hne : es ≠ []) (hent : ∀ e ∈ es, entryConforms H s e = true)
    (hsort : (es.map (·.apath)).Pairwise (fun a b => apathCmp a b = .lt))
    (hlt : ∀ a ∈ hs.flatten, ∀ e ∈ es, apathCmp a.apath e.apath = .lt) : HsOK H s (hs ++ [es]) := by
  have hfl : (hs ++ [es]).flatten = hs.flatten ++ es := by simp
  refine ⟨List.forall_mem_append.2 ⟨h.ne, List.forall_mem_singleton.2 hne⟩, ?_, ?_⟩
  · rw [hfl]
    exact List.forall_mem_append.2 ⟨h.ent, hent⟩
  · rw [hfl, List.map_append, List.pairwise_append]
    refine ⟨h.sorted, hsort, ?_⟩
    intro a ha x hx
    obtain ⟨a', ha', rfl⟩ := List.mem_map.mp ha
    obtain ⟨x', hx', rfl⟩ := List.mem_map.mp hx
    exact hlt a' ha' x' hx'

theorem touchesBand_indexDir (b' b : Nat) : ¬ touchesBand (.indexDir b') b := by
  rintro (e | e | e | ⟨n, e⟩) <;> cases e

theorem exec_createDir_plain {w : World} (h : CI H w.store) {k : Key}
    (hblk : blockEntryOk H (k, .dir) = true) (hk : ∀ b, ¬ touchesBand k b) :
    CI H (w.exec (.createDir k)).1.store := by
  rcases exec_createDir_cases w k with hs | ⟨hpre, hp, hs⟩
  · rw [hs]; exact h
  · rw [hs]; exact h.put (Or.inl hpre) hp hblk (fun b ht => absurd ht (hk b))

theorem exec_createDir_band {w : World} (h : CI H w.store) {b : Nat} (he : EmptyBand w.store b) :
    CI H (w.exec (.createDir (.bandDir b))).1.store := by
  rcases exec_createDir_cases w (.bandDir b) with hs | ⟨hpre, hp, hs⟩
  · rw [hs]; exact h
  · rw [hs]
    refine h.put (Or.inl hpre) hp rfl ?_
    intro b' ht
    obtain rfl : b = b' := by simpa [touchesBand] using ht
    exact (he.same (BandKeysSame.put _ _ (fun _ => by simp) (by simp) (by simp))).conforms (Store.NoDupKeys.put h.nodup _ _)

theorem exec_write_ci {w : World} (h : CI H w.store) (he : w.enforceCreateNew = true) {k : Key}
    {v : FileVal} (hblk0 : blockEntryOk H (k, .empty) = true) (hblk : blockEntryOk H (k, v) = true)
    (hband : ∀ b, touchesBand k b → (w.store.get? k = none ∨ w.store.get? k = some .empty) →
      bandConforms H (w.store.put k .empty) b = true ∧ bandConforms H (w.store.put k v) b = true) :
    CI H (w.exec (.write k v .createNew)).1.store := by
  rcases exec_write_cases w k v he with ⟨hs, _⟩ | ⟨hpre, hp, ⟨hs, _⟩ | ⟨hs, _⟩⟩
  · rw [hs]; exact h
  · rw [hs]; exact h.put hpre hp hblk0 (fun b ht => (hband b ht hpre).1)
  · rw [hs]; exact h.put hpre hp hblk (fun b ht => (hband b ht hpre).2)

theorem exec_write_head {w : World} (h : CI H w.store) (he : w.enforceCreateNew = true) {b : Nat}
    (hb : EmptyBand w.store b) (ver : VerClass) (flags : List Str) :
    CI H (w.exec (.write (.bandHead b) (.head ver flags) .createNew)).1.store ∧
    ((w.exec (.write (.bandHead b) (.head ver flags) .createNew)).2 = .unit →
      BandOpen (w.exec (.write (.bandHead b) (.head ver flags) .createNew)).1.store b []) := by
  have hh : ∀ v, HunksAre (w.store.put (.bandHead b) v) b [] false := fun v =>
    (HunksAre.nil_of_none hb.hunks).put_other v (fun _ => by simp)
  have ht : ∀ v, (w.store.put (.bandHead b) v).get? (.bandTail b) = none := fun v =>
    (Store.get?_put_ne _ v (by simp)).trans hb.tail
  refine ⟨exec_write_ci h he rfl rfl ?_, ?_⟩
  · intro b' ht' _
    obtain rfl : b = b' := by simpa [touchesBand] using ht'
    constructor
    · exact bandConforms_full (Store.NoDupKeys.put h.nodup _ _) (hh _) (by simp) (by simp) (by simp) (Or.inl (ht _))
        (Or.inr ⟨rfl, ht _, Or.inr (by simp)⟩)
    · exact bandConforms_full (Store.NoDupKeys.put h.nodup _ _) (hh _) (by simp) (by simp) (by simp) (Or.inl (ht _))
        (Or.inl ⟨ver, flags, by simp⟩)
  · intro hr
    rw [exec_write_unit w _ _ he hr]
    exact ⟨hh _, ht _, ver, flags, by simp⟩

/-- The zero-length file of the first micro-step is the leftover `bandConforms` permits. -/
theorem exec_write_hunk {w : World} (h : CI H w.store) (he : w.enforceCreateNew = true) {b : Nat}
    {hs : List (List IndexEntry)} (hb : BandOpen w.store b hs) (hok : HsOK H w.store hs)
    {es : List IndexEntry} (hne : es ≠ []) (hent : ∀ e ∈ es, entryConforms H w.store e = true)
    (hsort : (es.map (·.apath)).Pairwise (fun a b => apathCmp a b = .lt))
    (hlt : ∀ a ∈ hs.flatten, ∀ e ∈ es, apathCmp a.apath e.apath = .lt) :
    CI H (w.exec (.write (.hunk b hs.length) (.hunk es) .createNew)).1.store ∧
    ((w.exec (.write (.hunk b hs.length) (.hunk es) .createNew)).2 = .unit →
      BandOpen (w.exec (.write (.hunk b hs.length) (.hunk es) .createNew)).1.store b (hs ++ [es]) ∧
      HsOK H (w.exec (.write (.hunk b hs.length) (.hunk es) .createNew)).1.store (hs ++ [es])) := by
  have ht : ∀ v, (w.store.put (.hunk b hs.length) v).get? (.bandTail b) = none := fun v =>
    (Store.get?_put_ne _ v (by simp)).trans hb.tail
  have hhd : ∀ v, ∃ ver f, (w.store.put (.hunk b hs.length) v).get? (.bandHead b) = some (.head ver f) :=
    fun v => by rw [Store.get?_put_ne _ v (by simp)]; exact hb.head
  have hpost : ∀ (hpre : w.store.get? (.hunk b hs.length) = none ∨ w.store.get? (.hunk b hs.length) = some .empty),
      HsOK H (w.store.put (.hunk b hs.length) (.hunk es)) (hs ++ [es]) := fun hpre =>
    (hok.snoc hne hent hsort hlt).mono (Extends.put _ hpre)
  refine ⟨exec_write_ci h he rfl rfl ?_, ?_⟩
  · intro b' ht' hpre
    obtain rfl : b = b' := by simpa [touchesBand] using ht'
    constructor
    · have hok' := hok.mono (Extends.put .empty hpre)
      exact bandConforms_leftover (Store.NoDupKeys.put h.nodup _ _) hb.hunks.put_empty hok'.ne hok'.ent hok'.sorted
        (ht _) (hhd _)
    · have hok' := hpost hpre
      have := bandConforms_full (H := H) (Store.NoDupKeys.put h.nodup _ (.hunk es)) (hb.hunks.put_hunk es) hok'.ne hok'.ent
        hok'.sorted (Or.inl (ht _)) (Or.inl (hhd _))
      exact this
  · intro hr
    have hpre : w.store.get? (.hunk b hs.length) = none ∨ w.store.get? (.hunk b hs.length) = some .empty := by
      rcases exec_write_cases w (.hunk b hs.length) (.hunk es) he with ⟨_, e, h'⟩ | ⟨hpre, _⟩
      · rw [h'] at hr; cases hr
      · exact hpre
    rw [exec_write_unit w _ _ he hr]
    exact ⟨⟨hb.hunks.put_hunk es, ht _, hhd _⟩, hpost hpre⟩

theorem exec_write_tail {w : World} (h : CI H w.store) (he : w.enforceCreateNew = true) {b : Nat}
    {hs : List (List IndexEntry)} (hb : BandOpen w.store b hs) (hok : HsOK H w.store hs) :
    CI H (w.exec (.write (.bandTail b) (.tail (some hs.length)) .createNew)).1.store := by
  have hh : ∀ v, HunksAre (w.store.put (.bandTail b) v) b hs false := fun v =>
    hb.hunks.put_other v (fun _ => by simp)
  have hhd : ∀ v, ∃ ver f, (w.store.put (.bandTail b) v).get? (.bandHead b) = some (.head ver f) :=
    fun v => by rw [Store.get?_put_ne _ v (by simp)]; exact hb.head
  refine exec_write_ci h he rfl rfl ?_
  intro b' ht' hpre
  obtain rfl : b = b' := by simpa [touchesBand] using ht'
  constructor
  · have hok' := hok.mono (Extends.put .empty hpre)
    exact bandConforms_full (Store.NoDupKeys.put h.nodup _ _) (hh _) hok'.ne hok'.ent hok'.sorted
      (Or.inr (Or.inl (by simp))) (Or.inl (hhd _))
  · have hok' := hok.mono (Extends.put (.tail (some hs.length)) hpre)
    exact bandConforms_full (Store.NoDupKeys.put h.nodup _ _) (hh _) hok'.ne hok'.ent hok'.sorted
      (Or.inr (Or.inr (by simp))) (Or.inl (hhd _))

end

end Conserve.Conf
