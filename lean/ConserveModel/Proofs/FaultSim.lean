import ConserveModel.Proofs.ExactStore
/-
Runs in worlds WITH injected faults (but no crash point), compared with fault-free runs: an unfaulted
run in a live world is calm (`calm_of_unfaulted`), so it is what `Prog.eval` says: it has the same
outcome, final store and emitted events as the run of the same program in any fault-free world holding
the same store (`sim`), and every `RunsAt` fact (Proofs/ExactStore.lean) transfers (`sim_runsAt`).
No property statements here.
-/
namespace Conserve.Fault
open Conserve Conserve.Exact Prog

/-- Alive, no crash point, `CreateNew` honoured; ANY fault list. -/
structure Live (w : World) : Prop where
  alive : w.dead = false
  noCrash : w.crashAt = none
  ecn : w.enforceCreateNew = true

theorem Live.of_fields {s : Store} {fs : List Fault} : Live { store := s, faults := fs } := ⟨rfl, rfl, rfl⟩

theorem Live.events {w : World} (h : Live w) (evs : List Event) : Live { w with events := evs } :=
  ⟨h.alive, h.noCrash, h.ecn⟩

theorem exec_live {w : World} (h : Live w) {o : Op} (hff : w.faultFor o = none) : w.exec o = w.applied o :=
  World.exec_of_noCrash h.alive h.noCrash hff

theorem exec_fault {w : World} (h : Live w) {o : Op} {e : ErrKind} (hff : w.faultFor o = some e) :
    w.exec o = ({ w with trace := ⟨o, .err e⟩ :: w.trace }, .err e) := by
  simp [World.exec, h.alive, hff]

theorem Live.exec {w : World} (h : Live w) (o : Op) : Live (w.exec o).1 := by
  cases hf : w.faultFor o with
  | some e => rw [exec_fault h hf]; exact ⟨h.alive, h.noCrash, h.ecn⟩
  | none => rw [exec_live h hf]; exact ⟨h.alive, h.noCrash, h.ecn⟩

theorem Live.run {α : Type} (p : Prog α) {w : World} (h : Live w) : Live (p.run w).2 := by
  induction p generalizing w with
  | ret a => exact h
  | fail e => exact h
  | panic s => exact h
  | emit ev k ih => exact ih (h.events _)
  | op o k ih => rw [Prog.run_op]; exact ih _ (h.exec o)

/-- No operation of the run of `p` in `w` hits an injected fault. -/
def Unfaulted {α : Type} : Prog α → World → Prop
  | .ret _, _ => True
  | .fail _, _ => True
  | .panic _, _ => True
  | .emit ev k, w => Unfaulted k { w with events := ev :: w.events }
  | .op o k, w => w.faultFor o = none ∧ Unfaulted (k (w.exec o).2) (w.exec o).1

@[simp] theorem unfaulted_ret {α : Type} (a : α) (w : World) : Unfaulted (.ret a : Prog α) w = True := rfl
@[simp] theorem unfaulted_fail {α : Type} (e : Err) (w : World) : Unfaulted (.fail e : Prog α) w = True := rfl
@[simp] theorem unfaulted_panic {α : Type} (s : String) (w : World) : Unfaulted (.panic s : Prog α) w = True := rfl
@[simp] theorem unfaulted_emit {α : Type} (ev : Event) (k : Prog α) (w : World) :
    Unfaulted (.emit ev k) w = Unfaulted k { w with events := ev :: w.events } := rfl
@[simp] theorem unfaulted_op {α : Type} (o : Op) (k : Resp → Prog α) (w : World) :
    Unfaulted (.op o k) w = (w.faultFor o = none ∧ Unfaulted (k (w.exec o).2) (w.exec o).1) := rfl

theorem unfaulted_bind {α β : Type} {p : Prog α} {f : α → Prog β} {w : World} :
    Unfaulted (p.bind f) w ↔
      Unfaulted p w ∧ ∀ a, (p.run w).1 = .ok a → Unfaulted (f a) (p.run w).2 := by
  induction p generalizing w with
  | ret a => simp
  | fail e => simp
  | panic s => simp
  | emit ev k ih => simp only [Prog.emit_bind, unfaulted_emit, Prog.run_emit]; exact ih
  | op o k ih =>
    simp only [Prog.op_bind, unfaulted_op, Prog.run_op, and_assoc]
    exact and_congr_right fun _ => ih _

theorem unfaulted_of_allOps_false {α : Type} {p : Prog α} (hp : Prog.AllOps (fun _ => False) p) (w : World) :
    Unfaulted p w := by
  induction hp generalizing w with
  | ret a => trivial
  | fail e => trivial
  | panic s => trivial
  | emit ev _ ih => exact ih _
  | op ho _ _ => exact ho.elim

theorem calm_of_unfaulted {α : Type} (p : Prog α) : ∀ {w : World}, Live w → Unfaulted p w → Calm p w := by
  induction p with
  | ret _ | fail _ | panic _ => intro w _ _; trivial
  | emit ev k ih => intro w hl hu; exact ih (hl.events _) hu
  | op o k ih =>
    intro w hl hu
    have he := exec_live hl hu.1
    refine ⟨he, ih _ ?_ ?_⟩
    · rw [← he]; exact hl.exec o
    · rw [← he]; exact hu.2

theorem sim {α : Type} (p : Prog α) {w c : World} (hl : Live w) (hc : c.Clean) (hs : w.store = c.store)
    (hu : Unfaulted p w) :
    (p.run w).1 = (p.run c).1 ∧ (p.run w).2.store = (p.run c).2.store ∧
      ∃ ev, (p.run w).2.events = ev ++ w.events ∧ (p.run c).2.events = ev ++ c.events := by
  rw [Prog.run_eq_eval p (calm_of_unfaulted p hl hu), Prog.run_eq_eval p (hc.toQuiet.calm p), hl.ecn, hc.1, hs]
  exact ⟨rfl, rfl, _, rfl, rfl⟩

theorem sim_runsAt {α : Type} {p : Prog α} {w : World} {out : Outcome α} {s' : Store} {ev : List Event}
    (hl : Live w) (hu : Unfaulted p w) (hr : RunsAt p w.store out s' ev) :
    (p.run w).1 = out ∧ (p.run w).2.store = s' ∧ (p.run w).2.events = ev ++ w.events := by
  rw [Prog.run_eq_eval p (calm_of_unfaulted p hl hu), hl.ecn, runsAt_iff.1 hr]
  exact ⟨rfl, rfl, rfl⟩

end Conserve.Fault
