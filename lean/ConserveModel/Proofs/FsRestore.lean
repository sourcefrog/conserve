import ConserveModel.Proofs.FsGrows
/-
Each step of `restoreToFs` on a clean path is local at that path: owner and mode, one file, one
symlink, one deferral, `mkdir`; and the recursion of `create_dir_all` by what `mkdir` answered.
-/
namespace Conserve

structure Ctx (fs : Fs) (D : Path) (cs trail : List Str) : Prop where
  dest : DestOk fs D
  good : ∀ c ∈ cs, goodName c = true
  trailEmpty : ∀ c ∈ trail, c = []
  trailRoot : trail = [] ∨ cs = []
  clean : CleanTo fs D cs

theorem Local.notLink {k : FKind} {fs fs' : Fs} {p : Path} (h : Local k fs fs' p)
    (hk : k ≠ .symlink) (hf : NotLink (fs.node p)) : NotLink (fs'.node p) := by
  intro x' hx'
  cases hn : fs.node p with
  | none => rw [h.created x' hn hx']; exact hk
  | some x =>
    obtain ⟨y, hy, hky⟩ := h.self x hn
    rw [hx'] at hy; cases hy
    rw [hky]; exact hf x hn

theorem Local.ctx {k : FKind} {fs fs' : Fs} {D : Path} {cs trail : List Str}
    (h : Local k fs fs' (D ++ cs)) (hc : Ctx fs D cs trail) : Ctx fs' D cs trail :=
  ⟨hc.dest.kept h.kept, hc.good, hc.trailEmpty, hc.trailRoot, fun pre hp hne =>
    NotLink.of_eqMod (h.eqMod_of_ne (fun e => hne (List.append_cancel_left e))) (hc.clean pre hp hne)⟩

theorem Ctx.res {fs : Fs} {D : Path} {cs trail : List Str} (hc : Ctx fs D cs trail) (follow : Bool)
    (hf : NotLink (fs.node (D ++ cs))) :
    ∀ p, fs.resolve follow (D ++ cs ++ trail) = .ok p → p = D ++ cs :=
  fun p h => (resolve_clean hc.dest hc.good hc.trailEmpty hc.clean (Or.inr hf) p h).1

theorem Ctx.res_nofollow {fs : Fs} {D : Path} {cs trail : List Str} (hc : Ctx fs D cs trail) :
    ∀ p, fs.resolve false (D ++ cs ++ trail) = .ok p → p = D ++ cs := by
  rcases hc.trailRoot with h | h
  · exact fun p hp => (resolve_clean hc.dest hc.good hc.trailEmpty hc.clean (Or.inl ⟨rfl, h⟩) p hp).1
  · refine hc.res false ?_
    subst h
    rw [List.append_nil]
    exact (noneOrDir_of_isDir (hc.dest.dirs D (List.prefix_refl _))).notLink

theorem setOwnerFs_fst (uidOf gidOf : Str → Option Nat) (fs : Fs) (path : List Str) (n : RNode) :
    (setOwnerFs uidOf gidOf fs path n).1 = (fs.lchown path (n.user.bind uidOf) (n.group.bind gidOf)).1 := by
  unfold setOwnerFs
  split <;> simp_all

theorem setOwnerFs_local {k : FKind} {uidOf gidOf : Str → Option Nat} {fs : Fs} {D : Path}
    {cs trail : List Str} {n : RNode} (hc : Ctx fs D cs trail) :
    Local k fs (setOwnerFs uidOf gidOf fs (D ++ cs ++ trail) n).1 (D ++ cs) := by
  rw [setOwnerFs_fst]
  exact Fs.lchown_local hc.res_nofollow

theorem setPermsFs_fst (fs : Fs) (path : List Str) (n : RNode) :
    (setPermsFs fs path n).1 = match n.unixMode with
      | none => fs
      | some m => (fs.chmod path m).1 := by
  unfold setPermsFs
  cases n.unixMode with
  | none => rfl
  | some m =>
    dsimp only
    split <;> simp_all

theorem setPermsFs_local {k : FKind} {fs : Fs} {D : Path} {cs trail : List Str} {n : RNode}
    (hc : Ctx fs D cs trail) (hf : NotLink (fs.node (D ++ cs))) :
    Local k fs (setPermsFs fs (D ++ cs ++ trail) n).1 (D ++ cs) := by
  rw [setPermsFs_fst]
  cases n.unixMode with
  | none => exact Local.refl _ _ _
  | some m => exact Fs.chmod_local (hc.res true hf)

/-- `restore_file` after a successful `File::create`, for a complete entry. -/
theorem restoreFileFs_complete {uidOf gidOf : Str → Option Nat} {old : Bool} {fs fs1 : Fs}
    {path : List Str} {h : Path} {n : RNode} (hcr : fs.create path = (fs1, .ok h))
    (hcomp : n.complete = true) :
    restoreFileFs uidOf gidOf old fs path n =
      (let fs3 := (fs1.writeAt h n.content).futimensAt h n.mtimeNs
       if old then
         let r1 := setPermsFs fs3 path n
         let r2 := setOwnerFs uidOf gidOf r1.1 path n
         (r2.1, errIf .restorePermissions n.apath r1.2 ++ errIf .restoreOwnership n.apath r2.2)
       else
         let r1 := setOwnerFs uidOf gidOf fs3 path n
         let r2 := setPermsFs r1.1 path n
         (r2.1, errIf .restoreOwnership n.apath r1.2 ++ errIf .restorePermissions n.apath r2.2)) := by
  unfold restoreFileFs
  rw [hcr]
  simp only [hcomp, Bool.not_true, Bool.false_eq_true, if_false]

theorem restoreFileFs_written {fs fs1 : Fs} {D : Path} {cs trail : List Str} {h : Path} {n : RNode}
    (hc : Ctx fs D cs trail) (hf0 : NotLink (fs.node (D ++ cs)))
    (hcr : fs.create (D ++ cs ++ trail) = (fs1, .ok h)) :
    h = D ++ cs ∧ Local .file fs (fs1.writeAt h n.content) h ∧
      Local .file fs ((fs1.writeAt h n.content).futimensAt h n.mtimeNs) h ∧
      ∃ x, ((fs1.writeAt h n.content).futimensAt h n.mtimeNs).node h = some x ∧ x.kind = .file := by
  obtain ⟨L1, hh⟩ := Fs.create_local (hc.res true hf0)
  rw [hcr] at L1 hh
  obtain ⟨rfl, x1, hx1, hk1⟩ := hh h rfl
  have L2 := L1.trans (Fs.writeAt_local (k := .file) fs1 (D ++ cs) n.content)
  have L13 := (Fs.writeAt_local (k := .file) fs1 (D ++ cs) n.content).trans
    (Fs.futimensAt_local _ _ n.mtimeNs)
  obtain ⟨x3, hx3, hk3⟩ := L13.self x1 hx1
  exact ⟨rfl, L2, L1.trans L13, x3, hx3, hk3.trans hk1⟩

theorem restoreFileFs_local {uidOf gidOf : Str → Option Nat} {old : Bool} {fs : Fs} {D : Path}
    {cs trail : List Str} {n : RNode} (hc : Ctx fs D cs trail) (hf0 : NotLink (fs.node (D ++ cs))) :
    Local .file fs (restoreFileFs uidOf gidOf old fs (D ++ cs ++ trail) n).1 (D ++ cs) := by
  have hfile : FKind.file ≠ .symlink := by decide
  rcases hcr : fs.create (D ++ cs ++ trail) with ⟨fs1, r⟩
  cases r with
  | error e =>
    have L1 := (Fs.create_local (hc.res true hf0)).1
    unfold restoreFileFs
    rw [hcr] at L1 ⊢
    exact L1
  | ok h =>
    obtain ⟨rfl, L2, L3, -⟩ := restoreFileFs_written (n := n) hc hf0 hcr
    by_cases hcomp : n.complete = true
    · rw [restoreFileFs_complete hcr hcomp]
      cases old with
      | true =>
        have L4 := L3.trans (setPermsFs_local (k := .file) (n := n) (L3.ctx hc) (L3.notLink hfile hf0))
        exact L4.trans (setOwnerFs_local (L4.ctx hc))
      | false =>
        have L4 := L3.trans (setOwnerFs_local (k := .file) (uidOf := uidOf) (gidOf := gidOf) (n := n) (L3.ctx hc))
        exact L4.trans (setPermsFs_local (L4.ctx hc) (L4.notLink hfile hf0))
    · unfold restoreFileFs
      rw [hcr]
      simp only [hcomp, Bool.not_false, if_true]
      exact L2

theorem restoreSymlinkFs_local {uidOf gidOf : Str → Option Nat} {fs : Fs} {D : Path}
    {cs trail : List Str} {n : RNode} (hc : Ctx fs D cs trail) :
    Local .symlink fs (restoreSymlinkFs uidOf gidOf fs (D ++ cs ++ trail) n).1 (D ++ cs) := by
  unfold restoreSymlinkFs
  cases n.target with
  | none => exact Local.refl _ _ _
  | some target =>
    dsimp only
    have L1 : Local .symlink fs (fs.symlink target (D ++ cs ++ trail)).1 (D ++ cs) :=
      Fs.symlink_local hc.res_nofollow
    rcases hs : fs.symlink target (D ++ cs ++ trail) with ⟨fs1, r⟩
    rw [hs] at L1
    cases r with
    | error e => exact L1
    | ok u =>
      dsimp only
      have L2 : Local .symlink fs (setOwnerFs uidOf gidOf fs1 (D ++ cs ++ trail) n).1 (D ++ cs) :=
        L1.trans (setOwnerFs_local (L1.ctx hc))
      rcases ho : setOwnerFs uidOf gidOf fs1 (D ++ cs ++ trail) n with ⟨fs2, e⟩
      rw [ho] at L2
      cases e with
      | some e => exact L2
      | none =>
        dsimp only
        have L3 : Local .symlink fs (fs2.utimes false (D ++ cs ++ trail) n.mtimeNs).1 (D ++ cs) :=
          L2.trans (Fs.utimes_local (L2.ctx hc).res_nofollow)
        rcases hu : fs2.utimes false (D ++ cs ++ trail) n.mtimeNs with ⟨fs3, r3⟩
        rw [hu] at L3
        cases r3 <;> exact L3

theorem applyDeferralFs_local {uidOf gidOf : Str → Option Nat} {fs : Fs} {D : Path}
    {cs trail : List Str} {n : RNode} (hc : Ctx fs D cs trail) (hf0 : NotLink (fs.node (D ++ cs))) :
    Local .dir fs (applyDeferralFs uidOf gidOf fs { path := D ++ cs ++ trail, node := n }).1 (D ++ cs) := by
  have hdir : FKind.dir ≠ .symlink := by decide
  unfold applyDeferralFs
  dsimp only
  have L1 : Local .dir fs (setOwnerFs uidOf gidOf fs (D ++ cs ++ trail) n).1 (D ++ cs) :=
    setOwnerFs_local hc
  have L2 := L1.trans (setPermsFs_local (k := .dir) (n := n) (L1.ctx hc) (L1.notLink hdir hf0))
  exact L2.trans (Fs.utimes_local ((L2.ctx hc).res true (L2.notLink hdir hf0)))

/-- Making an entry never says ENOENT: that comes from the resolution. -/
theorem Fs.mkdir_enoent {fs fs1 : Fs} {path : List Str} (h : fs.mkdir path = (fs1, .error .ENOENT)) :
    fs.resolve false path = .error .ENOENT := by
  rw [Fs.mkdir_eq] at h
  rcases Fs.onPath_eq h with ⟨e, hr, he⟩ | ⟨p, _, hk⟩
  · cases he; exact hr
  · rcases Fs.newAt_eq hk with ⟨_, _, e⟩ | ⟨_, _, e⟩ <;> cases e

/-- Where a run of changes may have made nothing but a directory, the kinds allowed before are those allowed after. -/
theorem Grows.kind_of {P : FKind → Prop} {D : Path} {T N : List Str → Prop} {fs fs' : Fs} {c : List Str}
    (h : Grows D T N fs fs') (hd : P .dir) (hN : fs.node (D ++ c) = none → ¬ N c)
    (hc : ∀ x, fs.node (D ++ c) = some x → P x.kind) : ∀ x, fs'.node (D ++ c) = some x → P x.kind := by
  intro x hx
  cases hn : fs.node (D ++ c) with
  | none => exact (h.fresh c x hn hx).elim (fun hk => hk ▸ hd) (fun h' => absurd h' (hN hn))
  | some y =>
    obtain ⟨x', hx', hk'⟩ := h.kept _ y hn
    rw [hx] at hx'; cases hx'
    rw [hk']; exact hc y hn

theorem Grows.cleanFull {D : Path} {T : List Str → Prop} {fs fs' : Fs} {cs : List Str}
    (h : Grows D T (fun _ => False) fs fs') (hc : CleanFull fs D cs) : CleanFull fs' D cs :=
  fun pre hp => h.kind_of (P := (· = .dir)) rfl (fun _ h => h) (hc pre hp)

theorem Grows.cleanFullL {D : Path} {T : List Str → Prop} {fs fs' : Fs} {cs : List Str}
    (h : Grows D T (fun _ => False) fs fs') (hc : CleanFullL fs D cs) : CleanFullL fs' D cs :=
  fun pre hp => h.kind_of (P := (· ≠ .symlink)) (by decide) (fun _ h => h) (hc pre hp)

theorem mkdir_grows {fs : Fs} {D : Path} {cs : List Str} (hD : DestOk fs D)
    (hg : ∀ c ∈ cs, goodName c = true) (hc : CleanFullL fs D cs) :
    Grows D (· <+: cs) (fun _ => False) fs (fs.mkdir (D ++ cs)).1 := by
  have hctx : Ctx fs D cs [] := ⟨hD, hg, (fun _ h => nomatch h), Or.inl rfl, hc.to⟩
  have L : Local .dir fs (fs.mkdir (D ++ cs ++ [])).1 (D ++ cs) := Fs.mkdir_local hctx.res_nofollow
  rw [List.append_nil] at L
  exact (L.grows hD.node_ne_none).mono (fun c h => h ▸ List.prefix_refl _) (fun c h => h.2 rfl)

/-- The last step of `create_dir_all`, on the way down and on the way back: `mkdir`, and on an
error accept the path if `is_dir()`. -/
def mkdirOrDir (fs : Fs) (path : List Str) : Fs × Except Errno Unit :=
  match fs.mkdir path with
  | (fs2, .ok _) => (fs2, .ok ())
  | (_, .error e) => if fs.statIsDir path then (fs, .ok ()) else (fs, .error e)

theorem Fs.mkdirAll_of_enoent {k : Nat} {fs fs1 : Fs} {path : List Str}
    (h : fs.mkdir path = (fs1, .error .ENOENT)) (hp : path ≠ []) :
    Fs.mkdirAll (k + 1) fs path =
      match Fs.mkdirAll k fs path.dropLast with
      | (fs1, .error e) => (fs1, .error e)
      | (fs1, .ok _) => mkdirOrDir fs1 path := by
  simp only [Fs.mkdirAll, h, hp, if_false]
  rfl

theorem Fs.mkdirAll_of_ne_enoent {k : Nat} {fs : Fs} {path : List Str}
    (h : (fs.mkdir path).2 ≠ .error .ENOENT) : Fs.mkdirAll (k + 1) fs path = mkdirOrDir fs path := by
  unfold Fs.mkdirAll mkdirOrDir
  rcases hm : fs.mkdir path with ⟨fs1, r⟩
  rw [hm] at h
  cases r with
  | ok u => rfl
  | error e =>
    cases e
    case ENOENT => exact absurd rfl h
    all_goals rfl

/-- `mkdir` of the destination itself does not say ENOENT. -/
theorem mkdir_cs_ne_nil {fs fs1 : Fs} {D : Path} {cs : List Str} (hD : DestOk fs D)
    (h : fs.mkdir (D ++ cs) = (fs1, .error .ENOENT)) : cs ≠ [] := by
  intro e
  rw [e, List.append_nil] at h
  exact resolve_dest_ne_enoent hD (Fs.mkdir_enoent h)

theorem restoreDirFs_fst (fs : Fs) (path : List Str) :
    (restoreDirFs fs path).1 = (Fs.mkdirAll (path.length + 1) fs path).1 := by
  unfold restoreDirFs
  split <;> simp_all

end Conserve
