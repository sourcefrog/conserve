import ConserveModel.Proofs.FaultStrict
import ConserveModel.Proofs.ExactTop
import ConserveModel.Proofs.NoPanicRead
/-
`backup()` in a world with ANY injected faults (no crash point) that returns statistics with
`errors = 0`: the prelude found what the fault-free prelude finds (except for the basis listing,
which may be any list of usable entries), the main part hit no fault (`backupMain_strict`), hence
ran exactly like the fault-free main part (`Fault.sim`), hence the archive it leaves is `Final`.
No property statements here.
-/
set_option linter.unusedSimpArgs false
namespace Conserve.Fault
open Conserve Conserve.Exact Conserve.Inv Prog

variable {H : Str → Str} {o : BackupOpts}

/-- Nothing is claimed of the value; returning at all means no fault was hit. -/
abbrev StrictAny {α : Type} (p : Prog α) : Prop := Spec p (fun _ => True) (fun _ => True)

theorem listBandIds_strict : StrictAny listBandIds := by
  unfold listBandIds
  simp only [Prog.bind_def, Prog.pure_def, perform, Prog.op_bind, Prog.ret_bind]
  refine .op (fun e => .fail _) fun r => ?_
  split
  · exact .ret trivial
  · exact .fail _
  · exact .fail _

theorem lastBandId_strict : StrictAny lastBandId := by
  unfold lastBandId
  simp only [Prog.bind_def, Prog.pure_def]
  exact listBandIds_strict.bind' fun _ _ => .ret trivial

theorem bandCreate_strict : StrictAny bandCreate := by
  unfold bandCreate
  simp only [Prog.bind_def, Prog.pure_def]
  refine lastBandId_strict.bind' fun _ _ => ?_
  refine (performUnit_spec _).bind' fun _ _ => ?_
  refine (performUnit_spec _).bind' fun _ _ => ?_
  exact (performUnit_spec _).bind' fun _ _ => .ret trivial

theorem listBlocks_go_strict (ps : List Str) : ∀ acc, StrictAny (listBlocks.go ps acc) := by
  induction ps with
  | nil => intro acc; unfold listBlocks.go; exact .ret trivial
  | cons p ps ih =>
    intro acc
    unfold listBlocks.go
    simp only [Prog.bind_def, Prog.pure_def, perform, Prog.op_bind, Prog.ret_bind]
    refine .op (fun e => .fail _) fun r => ?_
    split
    · exact ih _
    · exact .fail _
    · exact .fail _

theorem listBlocks_strict : StrictAny listBlocks := by
  unfold listBlocks
  simp only [Prog.bind_def, Prog.pure_def, perform, Prog.op_bind, Prog.ret_bind]
  refine .op (fun e => .fail _) fun r => ?_
  split
  · exact listBlocks_go_strict _ _
  · exact .fail _
  · exact .fail _

/-- What a live world looks like after a program ran: still live, the store as stated. -/
structure LiveAt (w : World) (s : Store) : Prop where
  live : Live w
  store : w.store = s

/-- From any live world on `s`: if `p` returns `a`, then `Q a` and the world is live on `s'`. -/
def Keeps {α : Type} (p : Prog α) (s s' : Store) (Q : α → Prop) : Prop :=
  ∀ w, LiveAt w s → Framed (fun _ _ => True) p w (fun a w' => Q a ∧ LiveAt w' s')

namespace Keeps
variable {α β : Type} {s s1 s' : Store}

theorem ret {a : α} {Q : α → Prop} (h : Q a) : Keeps (.ret a) s s Q := fun _ hw => .ret trivial ⟨h, hw⟩

theorem fail (e : Err) (Q : α → Prop) : Keeps (.fail e : Prog α) s s' Q := fun _ _ => .fail trivial

theorem bind {p : Prog α} {f : α → Prog β} {Q1 : α → Prop} {Q : β → Prop} (hp : Keeps p s s1 Q1)
    (hf : ∀ a, Q1 a → Keeps (f a) s1 s' Q) : Keeps (p.bind f) s s' Q :=
  fun w hw => .bind ((hp w hw).mono fun a w1 _ h => hf a h.1 w1 h.2) fun _ _ _ _ _ => trivial

theorem of_strict {p : Prog α} {out : Outcome α} {ev : List Event} (hp : StrictAny p)
    (hr : RunsAt p s out s' ev) : Keeps p s s' (fun a => out = .ok a) := by
  refine fun w hw => ⟨trivial, fun a hrun => ?_⟩
  have hu := hp.strict w hw.live a hrun trivial
  obtain ⟨h1, h2, _⟩ := sim_runsAt hw.live hu (hw.store ▸ hr)
  exact ⟨h1.symm.trans hrun, hw.live.run p, h2⟩

/-- A reading program leaves the store alone, whatever faults it swallows. -/
theorem of_ro {p : Prog α} {Q : α → Prop} (hp : Prog.AllOps ReadOnly p) (hq : ∀ w a, (p.run w).1 = .ok a → Q a) :
    Keeps p s s Q :=
  fun w hw => ⟨trivial, fun a ha => ⟨hq w a ha, hw.live.run p, (Prog.run_readOnly_store hp w).trans hw.store⟩⟩

end Keeps

/-- **The prelude with faults.**  From a good archive, in a live world (any faults): if the prelude
returns, it returns the new version's id, the names of all present blocks, and SOME list of usable
entries as the basis listing (read faults may have shortened or changed it); the store is the one
with the new version's directory, index directory and head. -/
theorem prelude_faulty {s : Store} (hst : StoreOK H s) :
    Keeps backupPrelude s (withNewBand s)
      (fun x => x.1 = newBandOf s ∧ x.2.1 = blockNamesOf (withNewBand s) ∧ NP.AllUsable x.2.2) := by
  have hst1 : StoreOK H (withNewBand s) := withNewBand_storeOK hst
  unfold backupPrelude
  -- the first look at the lock
  refine (Keeps.of_ro (Q := fun _ => True) gcIsLocked_ro fun _ _ _ => trivial).bind fun locked _ => ?_
  cases locked with
  | true => exact .fail _ _
  | false =>
    simp only [Bool.false_eq_true, if_false]
    refine (Keeps.of_strict lastBandId_strict (lastBandId_runsAt hst)).bind fun bb _ => ?_
    refine (Keeps.of_strict bandCreate_strict (bandCreate_runs hst)).bind fun band hband => ?_
    -- the second look at the lock
    refine (Keeps.of_ro (Q := fun _ => True) gcLockListed_ro fun _ _ _ => trivial).bind fun locked2 _ => ?_
    cases locked2 with
    | true => exact .fail _ _
    | false =>
      simp only [Bool.false_eq_true, if_false]
      refine (Keeps.of_strict listBlocks_strict (listBlocks_runsAt hst1)).bind fun blocks hbl => ?_
      simp only [Outcome.ok.injEq] at hband hbl
      cases bb with
      | none => exact .ret ⟨hband.symm, hbl.symm, NP.AllUsable.nil⟩
      | some b =>
        exact (Keeps.of_ro (listEntries_ro b [slash] fun _ => false)
          fun _ _ h => (listEntries_tree b [slash] fun _ => false).run h).bind
            fun _ hus => .ret ⟨hband.symm, hbl.symm, hus⟩

/-- **Success with no error counted, under any faults, leaves the final store of a complete backup.**
`w`: any fault list, no crash point, alive.  If `backup` returns statistics with `errors = 0`, the
archive it leaves holds the new version with hunks `hs` recording exactly the source (`Final`), and
the run emitted no error event after the prelude. -/
theorem backup_faulty_final (hlen : ∀ d, subdirNameChars ≤ (H d).length) (hmax : 0 < o.maxBlockSize)
    {src : List SrcEntry} {s : Store} (hsrc : SrcGood src) (hst : StoreOK H s) {w : World} (hw : LiveAt w s)
    {stats : Stats} (hrun : ((backup H o src).run w).1 = .ok stats) (herr : stats.errors = 0) :
    ∃ hs, Final H o (newBandOf s) s ((backup H o src).run w).2.store hs src := by
  rw [backup_eq] at hrun ⊢
  obtain ⟨x, h1, hrun⟩ := Prog.run_bind_ok_inv hrun
  rw [Prog.run_bind_ok h1]
  obtain ⟨⟨hx1, hx2, hus⟩, hw1⟩ := (prelude_faulty hst w hw).2 x h1
  obtain ⟨band, blocks, basis⟩ := x
  simp only at hx1 hx2 hus
  subst hx1 hx2
  have hl : LInv H o (newBandOf s) s (withNewBand s)
      { band := newBandOf s, exists_ := blockNamesOf (withNewBand s) } [] [] [] 0 := prelude_linv hlen hst
  obtain ⟨s', hs, evs, stats', hr2, _, _, hf⟩ :=
    backupMain_runs hmax (newBandOf s, blockNamesOf (withNewBand s), basis) hl hsrc.entryGood
      (fun b hb => entryUsable_time (hus b hb)) hsrc.sorted hsrc.bytes
  have hu := backupMain_strict (H := H) o src (newBandOf s, blockNamesOf (withNewBand s), basis) _ hw1.live stats hrun herr
  have hr2' : RunsAt (backupMain H o src (newBandOf s, blockNamesOf (withNewBand s), basis))
      (backupPrelude.run w).2.store (.ok stats') s' evs := by rw [hw1.store]; exact hr2
  obtain ⟨_, h2, _⟩ := sim_runsAt hw1.live hu hr2'
  rw [h2]; exact ⟨hs, hf⟩

end Conserve.Fault
