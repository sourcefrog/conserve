import ConserveModel.Proofs.ValidateGood
import ConserveModel.Proofs.StoreNoDup
/-
Single-file damage: `s'` is `s` with the file at one key removed or replaced.  What the
specification functions (`listSpec`, `listErrors`, `bandIdsOf`, `hunkNumsOf`, …) do under such a
change, and that the damaged store is still well-formed enough for `reads_validate`.
No property statements.
-/
set_option linter.unusedSimpArgs false
namespace Conserve

/-- Nothing lives below `k` (it is a file position: header, head, tail, hunk, block, …). -/
def Key.isLeaf (k : Key) : Prop := ∀ k' : Key, k'.parent ≠ some k

theorem Key.parent_isDirKey {k' k : Key} (h : k'.parent = some k) :
    match k with
    | .root | .bandDir _ | .indexDir _ | .hunkDir _ _ | .blockRoot | .blockDir _ => True
    | _ => False := by
  cases k' <;> cases h <;> trivial

theorem Key.isLeaf_header : Key.isLeaf .header := fun _ h => Key.parent_isDirKey h
theorem Key.isLeaf_bandHead (b : Nat) : Key.isLeaf (.bandHead b) := fun _ h => Key.parent_isDirKey h
theorem Key.isLeaf_hunk (b n : Nat) : Key.isLeaf (.hunk b n) := fun _ h => Key.parent_isDirKey h
theorem Key.isLeaf_block (h : Str) : Key.isLeaf (.block h) := fun _ h => Key.parent_isDirKey h

/-- `s'` is `s` with the FILE at `k` damaged: now absent (`d = none`) or holding `d = some v`
(not a directory); every other path is untouched; `s'` is still a function. -/
structure DamagedAt (k : Key) (d : Option FileVal) (s s' : Store) : Prop where
  nodup : keysNodup s' = true
  was : ∃ v, s.get? k = some v ∧ v.isDir = false
  now : s'.get? k = d
  notDir : d ≠ some .dir
  same : ∀ k', k' ≠ k → s'.get? k' = s.get? k'

theorem DamagedAt.erase {s : Store} {k : Key} (hn : keysNodup s = true)
    (was : ∃ v, s.get? k = some v ∧ v.isDir = false) : DamagedAt k none s (s.erase k) :=
  ⟨NP.keysNodup_erase hn k, was, by simp, by simp,
    fun k' h => Store.get?_erase_ne s h⟩

theorem DamagedAt.put {s : Store} {k : Key} {v : FileVal} (hn : keysNodup s = true)
    (was : ∃ v, s.get? k = some v ∧ v.isDir = false) (hv : v ≠ .dir) :
    DamagedAt k (some v) s (s.put k v) :=
  ⟨NP.keysNodup_put hn k v, was, by simp, by simpa using hv,
    fun k' h => Store.get?_put_ne s v h⟩

section
variable {k : Key} {d : Option FileVal} {s s' : Store}

theorem DamagedAt.uniqueKeys' (dm : DamagedAt k d s s') : UniqueKeys s' := .of_keysNodup dm.nodup

theorem DamagedAt.get?_dir (dm : DamagedAt k d s s') (p : Key) :
    s'.get? p = some .dir ↔ s.get? p = some .dir := by
  by_cases hp : p = k
  · subst hp
    obtain ⟨v, hv, hnd⟩ := dm.was
    rw [dm.now, hv]
    constructor
    · intro h; exact absurd h dm.notDir
    · intro h; cases h; simp [FileVal.isDir] at hnd
  · rw [dm.same p hp]

theorem DamagedAt.dirsOk' (dm : DamagedAt k d s s') (hd : DirsOk s) : DirsOk s' := by
  obtain ⟨v, hv, hf⟩ := dm.was
  have tr : treeShaped s = true := by simp only [treeShaped, List.all_eq_true]; exact hd
  have := NP.Damage.treeShaped dm.same tr dm.nodup (fun _ => by simp [hv])
    fun h => by rw [hv] at h; cases h; cases hf
  simp only [treeShaped, List.all_eq_true] at this
  exact this

theorem DamagedAt.bandIdsOf_eq (dm : DamagedAt k d s s') (hn : UniqueKeys s) : bandIdsOf s' = bandIdsOf s :=
  bandSel_picks.sortNat_congr ((uniqueKeys_iff_nodup s).1 hn) (of_decide_eq_true dm.nodup) fun b => by
    simp only [exists_eq_right, dm.get?_dir]

theorem DamagedAt.mem_hunkNumsOf_erased {b n : Nat} {s s' : Store} (dm : DamagedAt (.hunk b n) none s s')
    (hn : UniqueKeys s) {m : Nat} : m ∈ hunkNumsOf s' b ↔ m ∈ hunkNumsOf s b ∧ m ≠ n := by
  rw [mem_hunkNumsOf_get? (of_decide_eq_true dm.nodup), mem_hunkNumsOf_get? ((uniqueKeys_iff_nodup s).1 hn)]
  by_cases hm : m = n
  · subst hm
    simp [dm.now]
  · rw [dm.same _ (by simpa using hm)]
    simp [hm]

theorem DamagedAt.mem_of_mem (dm : DamagedAt k none s s') : ∀ kv ∈ s', kv ∈ s := by
  rintro ⟨k1, v1⟩ hm
  have hg := (Store.mem_iff_get? dm.uniqueKeys').mp hm
  by_cases hk : k1 = k
  · subst hk
    rw [dm.now] at hg
    cases hg
  · rw [dm.same _ hk] at hg
    exact Store.mem_of_get? hg

theorem DamagedAt.hunkNumsOf_eq (dm : DamagedAt k d s s') (hn : UniqueKeys s) (b : Nat)
    (h : ∀ n, k ≠ .hunk b n) : hunkNumsOf s' b = hunkNumsOf s b :=
  hunkNumsOf_congr ((uniqueKeys_iff_nodup s).1 hn) (of_decide_eq_true dm.nodup)
    fun n => dm.same _ (Ne.symm (h n))

theorem DamagedAt.archWF (dm : DamagedAt k d s s') (hnh : ∀ es, d ≠ some (.hunk es))
    (wf : ArchWF s) : ArchWF s' := by
  refine NP.Damage.archWF dm.same wf dm.nodup ?_ fun b n hk => ?_
  · simp only [treeShaped, List.all_eq_true]; exact dm.dirsOk' wf.dirsOk
  · subst hk
    unfold usableHunk
    rw [dm.now]
    cases hd : d with
    | none => exact .inl rfl
    | some v => cases v <;> first | exact .inl rfl | exact .inr rfl | exact absurd hd (hnh _)

theorem DamagedAt.archOK (dm : DamagedAt k d s s') (hnh : ∀ es, d ≠ some (.hunk es))
    (ok : ArchOK s) : ArchOK s' :=
  ⟨dm.archWF hnh ok.wf, (dm.get?_dir _).mpr ok.root, (dm.get?_dir _).mpr ok.blockRoot⟩

end

/-- The two stores hold the same versions, heads, tails, index directories and hunk files. -/
structure IndexSame (s s' : Store) : Prop where
  nums : ∀ b, hunkNumsOf s' b = hunkNumsOf s b
  hunk : ∀ b n, s'.get? (.hunk b n) = s.get? (.hunk b n)
  head : ∀ b, s'.get? (.bandHead b) = s.get? (.bandHead b)
  tail : ∀ b, s'.get? (.bandTail b) = s.get? (.bandTail b)
  idir : ∀ b, s'.get? (.indexDir b) = s.get? (.indexDir b)

theorem DamagedAt.indexSame {k : Key} {d : Option FileVal} {s s' : Store} (dm : DamagedAt k d s s')
    (hn : UniqueKeys s)
    (hk : ∀ b n, k ≠ .hunk b n ∧ k ≠ .bandHead b ∧ k ≠ .bandTail b ∧ k ≠ .indexDir b) : IndexSame s s' :=
  ⟨fun b => dm.hunkNumsOf_eq hn b fun n => (hk b n).1,
   fun b n => dm.same _ (Ne.symm (hk b n).1),
   fun b => dm.same _ (Ne.symm (hk b 0).2.1),
   fun b => dm.same _ (Ne.symm (hk b 0).2.2.1),
   fun b => dm.same _ (Ne.symm (hk b 0).2.2.2)⟩

section
variable {s s' : Store} (h : IndexSame s s')
include h

theorem IndexSame.sameBand (b : Nat) : NP.SameBand s s' b := ⟨h.head b, h.tail b, h.idir b, h.hunk b⟩

theorem IndexSame.listSpec_eq (n : Nat) : listSpec s' n = listSpec s n :=
  NP.listSpec_congr_of_nums n (fun b _ => h.sameBand b) fun b _ => h.nums b

theorem IndexSame.chain_eq (n : Nat) : chain s' n = chain s n :=
  NP.chain_congr n fun b _ => h.sameBand b

theorem IndexSame.listErrors_eq (n : Nat) : listErrors s' n = listErrors s n :=
  NP.listErrors_congr_of_nums n (fun b _ => h.sameBand b) fun b _ => h.nums b

theorem IndexSame.headError_eq (b : Nat) : headError s' b = headError s b := by
  simp only [headError, h.head]

theorem IndexSame.bandRefs_eq : bandRefs s' = bandRefs s := by
  funext m b
  simp only [bandRefs, h.headError_eq, h.listSpec_eq]

end

end Conserve
