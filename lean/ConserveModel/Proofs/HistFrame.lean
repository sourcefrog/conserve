import ConserveModel.Proofs.HistCongr
import ConserveModel.Proofs.ConformsMain
import ConserveModel.Proofs.FrameBand
/-
C02 (history): in EVERY world (faults, crash point, dead) a `backup` leaves every key at or under the
directory of an existing version alone (`backup_bandSame`).  The new version's id is above every
existing one (it is computed from a root listing that shows them all), and everything the index
writer touches carries the id `bandCreate` returned.  The argument is a small Hoare logic `BSat`:
frame `BandSame _ _ b`, precondition "`b`'s directory exists", postcondition on the returned value;
the main part is the walk of Proofs/BackupLoop.lean with the writer's `band` field as writer invariant
(`offLoop`).
-/
set_option linter.unusedSimpArgs false
namespace Conserve.Hist
open Conserve Conserve.Exact Conserve.Inv Conserve.Conf Prog

/-- The operation cannot change a key at or under `b`'s directory: it reads, or it creates / writes /
removes one file or directory elsewhere (never `removeDirAll`). -/
def OffBand (b : Nat) : Op → Prop
  | .read _ | .listDir _ | .metadata _ => True
  | .createDir k | .write k _ _ | .removeFile k => Key.isUnder (.bandDir b) k = false
  | .removeDirAll _ => False

theorem OffBand.not_affects {b : Nat} {o : Op} {k : Key} (ho : OffBand b o)
    (hk : Key.isUnder (.bandDir b) k = true) : o.affects k = false := by
  cases o with
  | removeDirAll _ => exact ho.elim
  | read _ | listDir _ | metadata _ => rfl
  | write _ _ _ | createDir _ | removeFile _ =>
    refine beq_eq_false_iff_ne.mpr ?_
    rintro rfl
    rw [show Key.isUnder (.bandDir b) k = false from ho] at hk
    cases hk

theorem exec_offBand (w : World) (o : Op) {b : Nat} (ho : OffBand b o) :
    BandSame w.store (w.exec o).1.store b :=
  fun k hk => World.exec_get?_of_not_affects w o k (ho.not_affects hk)

theorem run_bandSame {α : Type} {p : Prog α} {b : Nat} (hp : AllOps (OffBand b) p) (w : World) :
    BandSame w.store (p.run w).2.store b :=
  Prog.run_store_rel (R := fun s s' => BandSame s s' b) (fun s => BandSame.refl s b)
    (fun _ _ _ h1 h2 => h1.trans h2) (fun w o ho => exec_offBand w o ho) hp w

/-- `BSat b p Q`: from every world in which `b`'s directory exists, running `p` — whatever the
outcome, faults and crash point — leaves every key at or under `b`'s directory alone; and if `p`
returns `a` then `Q a`. -/
def BSat {α : Type} (b : Nat) (p : Prog α) (Q : α → Prop) : Prop :=
  ∀ w : World, w.store.get? (.bandDir b) = some .dir →
    BandSame w.store (p.run w).2.store b ∧ ∀ a, (p.run w).1 = .ok a → Q a

namespace BSat
variable {α β : Type} {b : Nat}

theorem framed {p : Prog α} {Q : α → Prop} :
    BSat b p Q ↔ ∀ w : World, w.store.get? (.bandDir b) = some .dir →
      Framed (fun w w' => BandSame w.store w'.store b) p w (fun a _ => Q a) := Iff.rfl

theorem ret {a : α} {Q : α → Prop} (h : Q a) : BSat b (.ret a) Q :=
  framed.2 fun _ _ => .ret (BandSame.refl _ _) h

theorem fail {e : Err} {Q : α → Prop} : BSat b (.fail e : Prog α) Q :=
  framed.2 fun _ _ => .fail (BandSame.refl _ _)

theorem panic {m : String} {Q : α → Prop} : BSat b (.panic m : Prog α) Q :=
  framed.2 fun _ _ => .panic (BandSame.refl _ _)

theorem emit {ev : Event} {k : Prog α} {Q : α → Prop} (h : BSat b k Q) : BSat b (.emit ev k) Q :=
  fun w hw => h { w with events := ev :: w.events } hw

theorem bind {p : Prog α} {f : α → Prog β} {Q1 : α → Prop} {Q : β → Prop}
    (hp : BSat b p Q1) (hf : ∀ a, Q1 a → BSat b (f a) Q) : BSat b (p.bind f) Q :=
  framed.2 fun w hw => .bind ((framed.1 hp w hw).mono fun a w1 h1 ha => hf a ha w1 (h1.bandDir.trans hw))
    fun _ _ _ h1 h2 => h1.trans h2

theorem of_allOps {p : Prog α} {Q : α → Prop} (hp : AllOps (OffBand b) p) (hr : RetSpec p Q) : BSat b p Q :=
  fun w _ => ⟨run_bandSame hp w, fun a ha => hr w a ha⟩

theorem of_readOnly {p : Prog α} (hp : AllOps ReadOnly p) : BSat b p (fun _ => True) :=
  of_allOps (hp.mono fun o ho => by cases o <;> first | trivial | cases ho) (fun _ _ _ => trivial)

end BSat

theorem _root_.Conserve.BlockWr.offBand {H : Str → Str} {b : Nat} {o : Op} (h : BlockWr H o) : OffBand b o := by
  cases h <;> exact isUnder_bandDir_of_bandOf_none rfl

theorem _root_.Conserve.IndexWr.offBand {n b : Nat} {o : Op} (h : IndexWr n o) (hne : n ≠ b) : OffBand b o := by
  cases h <;> exact isUnder_bandDir_other (isUnder_bandDir_iff.2 rfl) hne

theorem _root_.Conserve.BandNew.offBand {n b : Nat} {o : Op} (h : BandNew n o) (hne : n ≠ b) : OffBand b o := by
  cases h <;> exact isUnder_bandDir_other (isUnder_bandDir_iff.2 rfl) hne

section writer
variable (H : Str → Str) (b : Nat)

theorem combinerFlush_off (w : Writer) : AllOps (OffBand b) (combinerFlush H w) :=
  (combinerFlush_fp H w).mono fun _ => BlockWr.offBand

theorem copyEntry_off (o : BackupOpts) (w : Writer) (basis : Option IndexEntry) (s : SrcEntry) :
    AllOps (OffBand b) (copyEntry H o w basis s) :=
  (copyEntry_fp H o w basis s).mono fun _ => BlockWr.offBand

theorem performUnit_off {o : Op} (h : OffBand b o) : AllOps (OffBand b) (performUnit o) :=
  performUnit_allOps h

end writer

theorem BSat.of_offBand {b : Nat} {o : Op} (h : OffBand b o) : BSat b (performUnit o) (fun _ => True) :=
  BSat.of_allOps (performUnit_off b h) (fun _ _ _ => trivial)

section main
variable (H : Str → Str) {b n : Nat}

theorem finishHunk_bsat (wr : Writer) (hwr : wr.band = n) (hne : n ≠ b) :
    BSat b (finishHunk wr) (fun wr' => wr'.band = n) :=
  BSat.of_allOps ((finishHunk_tree wr).allOps.mono fun _ ho => ho.indexWr.offBand (hwr ▸ hne))
    fun w wr' h => by cases (finishHunk_tree wr).run h <;> exact hwr

theorem flushGroup_bsat (wr : Writer) (hwr : wr.band = n) (hne : n ≠ b) :
    BSat b (flushGroup H wr) (fun wr' => wr'.band = n) := by
  unfold flushGroup
  simp only [Prog.bind_def]
  refine BSat.bind (BSat.of_allOps (combinerFlush_off H b wr)
    ((combinerFlush_ret H wr).mono fun x hx => hx.1.band.trans hwr)) ?_
  rintro ⟨w1, r⟩ hb
  cases r with
  | error e => exact BSat.fail
  | ok u => exact finishHunk_bsat _ hb hne

theorem copyEntry_bsat (o : BackupOpts) (wr : Writer) (hwr : wr.band = n) (basis : Option IndexEntry)
    (sf : SrcEntry) : BSat b (copyEntry H o wr basis sf) (fun x => x.1.band = n) :=
  BSat.of_allOps (copyEntry_off H b o wr basis sf)
    ((copyEntry_ret H o wr basis sf).mono fun x hx => by obtain ⟨_, _, h⟩ := hx; exact h.band.trans hwr)

/-- `BSat b` read at one world, as a triple: the precondition rides in the relation. -/
theorem BSat.at {α : Type} {p : Prog α} {Q : α → Prop} (h : BSat b p Q) {w : World}
    (hw : w.store.get? (.bandDir b) = some .dir ∧ BandSame w.store w.store b) :
    Framed (fun w w' => w.store.get? (.bandDir b) = some .dir ∧ BandSame w.store w'.store b) p w (fun a _ => Q a) :=
  ⟨⟨hw.1, (h w hw.1).1⟩, (h w hw.1).2⟩

/-- The walk of Proofs/BackupLoop.lean with the writer's `band` field as writer invariant. -/
theorem offLoop (o : BackupOpts) (hne : n ≠ b) :
    LoopInvW H o (fun w w' => w.store.get? (.bandDir b) = some .dir ∧ BandSame w.store w'.store b)
      (fun _ _ wr => wr.band = n) (fun _ _ _ => True) where
  frame := ⟨fun _ _ _ h1 h2 => ⟨h1.1, h1.2.trans h2.2⟩, fun h => ⟨h.2.bandDir.trans h.1, BandSame.refl _ _⟩,
    fun _ h => h⟩
  carry _ h := h
  events _ h := h
  setStats _ h := h
  copyEntry wr basis sf hw hwr _ := (copyEntry_bsat H o wr hwr basis sf).at hw
  flushGroup wr hw hwr := (flushGroup_bsat H wr hwr hne).at hw
  close wr hw hwr := (BSat.of_offBand (o := .write (.bandTail wr.band) (.tail (some wr.hunksWritten)) .createNew)
    (isUnder_bandDir_other (isUnder_bandDir_iff.2 rfl) (hwr ▸ hne))).at hw

end main

theorem exec_listDir_root_listing {w : World} {xs : List DirEnt}
    (h : (w.exec (.listDir .root)).2 = .listing xs) : xs = w.store.children .root :=
  World.exec_listDir_listing h

theorem mem_bandIdsOf_of_get? {s : Store} {b : Nat} (h : s.get? (.bandDir b) = some .dir) : b ∈ bandIdsOf s :=
  mem_bandIdsOf'.2 (Store.mem_of_get? h)

/-- Whatever the faults, a root listing that comes back shows `b`'s directory, so the newest id is at
least `b`. -/
theorem lastBandId_bsat {b : Nat} : BSat b lastBandId (fun l => ∃ m, l = some m ∧ b ≤ m) := by
  intro w hw
  refine ⟨(BSat.of_readOnly lastBandId_ro w hw).1, fun l hl => ?_⟩
  unfold lastBandId at hl
  simp only [Prog.bind_def, Prog.pure_def] at hl
  obtain ⟨ids, hids, hl⟩ := Prog.run_bind_ok_inv hl
  obtain ⟨xs, hx, rfl⟩ := listBandIds_run_ok hids
  have hb : b ∈ listingBandIds xs := by
    rw [exec_listDir_root_listing hx, show listingBandIds _ = _ from bandIds_listing w.store]
    exact mem_bandIdsOf_of_get? hw
  simp only [Prog.run_ret, Outcome.ok.injEq] at hl
  subst hl
  cases hm : maxNat? (listingBandIds xs) with
  | none => rw [maxNat?_none hm] at hb; cases hb
  | some m => exact ⟨m, rfl, maxNat?_ge hm b hb⟩

theorem bandCreate_bsat {b : Nat} : BSat b bandCreate (fun band => band ≠ b) := by
  unfold bandCreate
  simp only [Prog.bind_def, Prog.pure_def]
  refine BSat.bind lastBandId_bsat ?_
  rintro _ ⟨m, rfl, hm⟩
  have hne : m + 1 ≠ b := by omega
  refine BSat.bind (BSat.of_offBand (BandNew.dir.offBand hne)) fun _ _ => ?_
  refine BSat.bind (BSat.of_offBand (BandNew.index.offBand hne)) fun _ _ => ?_
  exact BSat.bind (BSat.of_offBand (BandNew.head.offBand hne)) fun _ _ => BSat.ret hne

theorem backupPrelude_bsat {b : Nat} : BSat b backupPrelude (fun x => x.1 ≠ b) := by
  rw [backupPrelude_eq]
  refine BSat.bind (BSat.of_readOnly preludeHead_ro) fun basisBand _ => ?_
  refine BSat.bind bandCreate_bsat fun band hband => ?_
  exact fun w hw => ⟨(BSat.of_readOnly (preludeTail_ro basisBand band) w hw).1,
    fun x hx => ((preludeTail_spec id w.store basisBand band w rfl).2 x hx).1 ▸ hband⟩

/-- **In every world — any faults, any crash point, dead or alive — `backup` leaves every key at or
under the directory of an existing version alone** (any options, any source). -/
theorem backup_bandSame (H : Str → Str) (o : BackupOpts) (src : List SrcEntry) (w : World) {b : Nat}
    (hb : w.store.get? (.bandDir b) = some .dir) :
    BandSame w.store ((backup H o src).run w).2.store b := by
  rw [Inv.backup_eq]
  refine ((BSat.bind (Q := fun _ => True) backupPrelude_bsat fun x hx w1 hw1 => ?_) w hb).1
  have h := backupMain_framed (src := src) (offLoop H o hx) x w1 ⟨hw1, BandSame.refl _ _⟩ rfl
    fun _ _ _ _ => trivial
  exact ⟨h.1.2, h.2⟩

theorem _root_.Conserve.BackupFp.puts_head {H : Str → Str} {o : Op} {b : Nat} {v : FileVal} (ho : BackupFp H o)
    (hp : o.Puts (.bandHead b) v) : v = .empty ∨ v = .head .ok [] := by
  cases hp with
  | torn => exact .inl rfl
  | write =>
    cases ho with
    | rd h => exact h.elim
    | new h => cases h; exact .inr rfl
    | wr h => rcases h with h | ⟨_, h⟩ <;> cases h
  | dir =>
    cases ho with
    | rd h => exact h.elim
    | new h => cases h
    | wr h => rcases h with h | ⟨_, h⟩ <;> cases h

/-- In every world, a head file a `backup` leaves is the old one, or zero-length (a killed write), or the
head `Band::create` writes. -/
theorem backup_head (H : Str → Str) (o : BackupOpts) (src : List SrcEntry) (w : World) {b : Nat} {v : FileVal}
    (h : ((backup H o src).run w).2.store.get? (.bandHead b) = some v) :
    w.store.get? (.bandHead b) = some v ∨ v = .empty ∨ v = .head .ok [] :=
  Prog.run_store_inv
    (I := fun s => ∀ k v, s.get? k = some v → ∀ b, k = .bandHead b →
      w.store.get? k = some v ∨ v = .empty ∨ v = .head .ok [])
    (fun w' _ ho hI => w'.exec_pointwise (fun _ _ hp _ hk => .inr (ho.puts_head (hk ▸ hp))) hI)
    (backup_fp H o src) w (fun _ _ hg _ _ => .inl hg) _ _ h b rfl

end Conserve.Hist
