import ConserveModel.Proofs.ConformsStore
/-
C13, store level, part 2: the general `put` lemma for `Conforms` (`conforms_put`: putting a value
where there was nothing, or a zero-length file, keeps `Conforms` provided the band the key belongs
to, if any, conforms afterwards), and `bandConforms` computed from an explicit description of a
band's hunk files (`HunksAre`).  No property statements here.
-/
namespace Conserve.Conf
open Conserve Conserve.Inv

section
variable (H : Str → Str)

/-- Keys `bandConforms … b` looks at, plus the band directory itself. -/
def touchesBand (k : Key) (b : Nat) : Prop :=
  k = .bandDir b ∨ k = .bandTail b ∨ k = .bandHead b ∨ ∃ n, k = .hunk b n

/-- All other bands are untouched, and what their addresses resolve to can only grow. -/
theorem conforms_put {s : Store} {k : Key} {v : FileVal} (hn : NoDupKeys s)
    (hc : Conforms H s = true) (hpre : s.get? k = none ∨ s.get? k = some .empty)
    (hblk : blockEntryOk H (k, v) = true)
    (hband : ∀ b, touchesBand k b → (s.put k v).get? (.bandDir b) = some .dir →
      bandConforms H (s.put k v) b = true) :
    Conforms H (s.put k v) = true := by
  have hx : Extends s (s.put k v) := Extends.put v hpre
  have hn' : NoDupKeys (s.put k v) := Store.NoDupKeys.put hn k v
  rw [conforms_iff] at hc ⊢
  obtain ⟨h1, h2, h3, h4, h5⟩ := hc
  have keep : ∀ k' v', s.get? k' = some v' → v' ≠ .empty → (s.put k v).get? k' = some v' := by
    intro k' v' hg hne
    rcases hx k' v' hg with h | ⟨h, _⟩
    · exact h
    · exact absurd h hne
  refine ⟨keep _ _ h1 (by simp), keep _ _ h2 (by simp), keep _ _ h3 (by simp),
    blocksConform_put H h4 hblk, ?_⟩
  intro b hb
  have hb' := (mem_bandIdsOf_iff_get? hn').1 hb
  by_cases ht : touchesBand k b
  · exact hband b ht hb'
  · have hne : ∀ k', touchesBand k' b → (s.put k v).get? k' = s.get? k' := by
      intro k' hk'
      rw [Store.get?_put, if_neg]
      rintro rfl
      exact ht hk'
    have hbd : s.get? (.bandDir b) = some .dir := by
      rw [← hne _ (Or.inl rfl)]; exact hb'
    have hhk : ∀ n, (s.put k v).get? (.hunk b n) = s.get? (.hunk b n) :=
      fun n => hne _ (Or.inr (Or.inr (Or.inr ⟨n, rfl⟩)))
    exact bandConforms_congr H (hunkNumsOf_congr hn hn' hhk) hhk (hne _ (Or.inr (Or.inl rfl)))
      (hne _ (Or.inr (Or.inr (Or.inl rfl)))) (fun _ _ _ _ _ => entryConforms_mono H hx)
      (h5 b ((mem_bandIdsOf_iff_get? hn).2 hbd))

/-- The hunk files of band `b` are exactly `hs` (decoded), numbered from zero, plus — if `lo` —
one zero-length leftover right after them. -/
def HunksAre (s : Store) (b : Nat) (hs : List (List IndexEntry)) (lo : Bool) : Prop :=
  ∀ n, s.get? (.hunk b n) =
    if h : n < hs.length then some (.hunk hs[n])
    else if lo = true ∧ n = hs.length then some .empty else none

/-- The decoder `bandConforms` applies to the hunk files it finds. -/
def decodeVal (v : Option FileVal) : Option (List IndexEntry) :=
  match v with
  | some (.hunk es) => some es
  | _ => none

/-- `bandConforms` with its three local definitions named. -/
theorem bandConforms_of {s : Store} {b : Nat} (nums : List Nat) (vals : List (Option FileVal))
    (decoded : List (List IndexEntry)) (hnums : hunkNumsOf s b = nums)
    (hvals : nums.map (fun n => s.get? (.hunk b n)) = vals) (hdec : vals.filterMap decodeVal = decoded) :
    bandConforms H s b =
      (nums == List.range nums.length &&
      (decoded.length == vals.length ||
        (!isComplete s b && vals.getLast? == some (some .empty) && decoded.length + 1 == vals.length)) &&
      decoded.all (fun es => !es.isEmpty) &&
      (decoded.flatten).all (entryConforms H s) &&
      strictlySorted ((decoded.flatten).map (·.apath)) &&
      (match s.get? (.bandTail b) with
       | none => true
       | some (.tail (some n)) => n == nums.length && decoded.length == vals.length
       | some .empty => decoded.length == vals.length
       | some _ => false) &&
      (match s.get? (.bandHead b) with
       | some (.head _ _) => true
       | some .empty => nums.isEmpty && !isComplete s b
       | none => nums.isEmpty && !isComplete s b
       | some _ => false)) := by
  subst hnums hvals hdec
  rfl

theorem decode_hunks (hs : List (List IndexEntry)) :
    (hs.map fun es => some (FileVal.hunk es)).filterMap decodeVal = hs := by
  induction hs with
  | nil => rfl
  | cons es hs ih => simp [decodeVal, ih]

variable {H}

theorem HunksAre.nums {s : Store} {b : Nat} {hs : List (List IndexEntry)} {lo : Bool}
    (hn : NoDupKeys s) (hh : HunksAre s b hs lo) :
    hunkNumsOf s b = List.range (hs.length + lo.toNat) := by
  apply hunkNumsOf_eq_range hn
  intro n
  rw [hh n]
  by_cases h1 : n < hs.length
  · simp only [h1, dite_true]
    constructor
    · intro _; omega
    · intro _; exact ⟨_, rfl, rfl⟩
  · simp only [h1, dite_false]
    cases lo with
    | false => simp; omega
    | true =>
      by_cases h2 : n = hs.length
      · simp only [h2, and_self, if_true, Bool.toNat_true]
        constructor
        · intro _; omega
        · intro _; exact ⟨_, rfl, rfl⟩
      · simp only [h2, and_false, if_false, Bool.toNat_true]
        constructor
        · rintro ⟨_, h, _⟩; cases h
        · intro _; omega

theorem HunksAre.vals {s : Store} {b : Nat} {hs : List (List IndexEntry)} {lo : Bool}
    (hh : HunksAre s b hs lo) :
    (List.range hs.length).map (fun n => s.get? (.hunk b n)) = hs.map fun es => some (FileVal.hunk es) := by
  apply List.ext_getElem
  · simp
  · intro i h1 h2
    simp only [List.length_map, List.length_range] at h1
    simp only [List.getElem_map, List.getElem_range]
    rw [hh i]
    simp [h1]

theorem bandConforms_full {s : Store} {b : Nat} {hs : List (List IndexEntry)} (hn : NoDupKeys s)
    (hh : HunksAre s b hs false) (hne : ∀ es ∈ hs, es ≠ [])
    (hent : ∀ e ∈ hs.flatten, entryConforms H s e = true)
    (hsort : (hs.flatten.map (·.apath)).Pairwise (fun a b => apathCmp a b = .lt))
    (htail : s.get? (.bandTail b) = none ∨ s.get? (.bandTail b) = some .empty ∨
      s.get? (.bandTail b) = some (.tail (some hs.length)))
    (hhead : (∃ v f, s.get? (.bandHead b) = some (.head v f)) ∨
      (hs = [] ∧ s.get? (.bandTail b) = none ∧
        (s.get? (.bandHead b) = none ∨ s.get? (.bandHead b) = some .empty))) :
    bandConforms H s b = true := by
  have hnums := hh.nums hn
  simp only [Bool.toNat_false, Nat.add_zero] at hnums
  rw [bandConforms_of H _ _ hs hnums hh.vals (decode_hunks hs)]
  simp only [Bool.and_eq_true]
  refine ⟨⟨⟨⟨⟨⟨?_, ?_⟩, ?_⟩, ?_⟩, ?_⟩, ?_⟩, ?_⟩
  · simp
  · simp
  · rw [List.all_eq_true]; intro es he; simpa using hne es he
  · rw [List.all_eq_true]; exact hent
  · exact (strictlySorted_iff _).2 hsort
  · rcases htail with h | h | h <;> rw [h] <;> simp
  · rcases hhead with ⟨v, f, h⟩ | ⟨rfl, ht, h | h⟩
    · rw [h]
    · rw [h]; simp [isComplete, ht]
    · rw [h]; simp [isComplete, ht]

/-- A band whose last hunk file is the zero-length leftover of a killed write, without tail. -/
theorem bandConforms_leftover {s : Store} {b : Nat} {hs : List (List IndexEntry)} (hn : NoDupKeys s)
    (hh : HunksAre s b hs true) (hne : ∀ es ∈ hs, es ≠ [])
    (hent : ∀ e ∈ hs.flatten, entryConforms H s e = true)
    (hsort : (hs.flatten.map (·.apath)).Pairwise (fun a b => apathCmp a b = .lt))
    (htail : s.get? (.bandTail b) = none)
    (hhead : ∃ v f, s.get? (.bandHead b) = some (.head v f)) :
    bandConforms H s b = true := by
  have hnums := hh.nums hn
  simp only [Bool.toNat_true] at hnums
  have hlast : s.get? (.hunk b hs.length) = some .empty := by
    rw [hh hs.length]; simp
  have hvals : (List.range (hs.length + 1)).map (fun n => s.get? (.hunk b n)) =
      (hs.map fun es => some (FileVal.hunk es)) ++ [some .empty] := by
    rw [List.range_succ, List.map_append, hh.vals]
    simp [hlast]
  have hdec : ((hs.map fun es => some (FileVal.hunk es)) ++ [some FileVal.empty]).filterMap decodeVal = hs := by
    rw [List.filterMap_append, decode_hunks]
    simp [decodeVal]
  rw [bandConforms_of H _ _ hs hnums hvals hdec]
  simp only [Bool.and_eq_true]
  refine ⟨⟨⟨⟨⟨⟨?_, ?_⟩, ?_⟩, ?_⟩, ?_⟩, ?_⟩, ?_⟩
  · simp
  · simp [isComplete, htail]
  · rw [List.all_eq_true]; intro es he; simpa using hne es he
  · rw [List.all_eq_true]; exact hent
  · exact (strictlySorted_iff _).2 hsort
  · rw [htail]
  · obtain ⟨v, f, h⟩ := hhead
    rw [h]

end

theorem HunksAre.put_other {s : Store} {b : Nat} {hs : List (List IndexEntry)} {lo : Bool}
    (hh : HunksAre s b hs lo) {k : Key} (v : FileVal) (hk : ∀ n, k ≠ .hunk b n) :
    HunksAre (s.put k v) b hs lo :=
  fun n => (Store.get?_put_ne s v (hk n).symm).trans (hh n)

/-- First micro-step of writing the next hunk: a zero-length file appears after the decoded ones. -/
theorem HunksAre.put_empty {s : Store} {b : Nat} {hs : List (List IndexEntry)}
    (hh : HunksAre s b hs false) : HunksAre (s.put (.hunk b hs.length) .empty) b hs true := by
  intro n
  rw [Store.get?_put]
  by_cases hn : n = hs.length
  · subst hn; simp
  · have : Key.hunk b n ≠ Key.hunk b hs.length := by simp [hn]
    rw [if_neg this, hh n]
    simp [hn]

theorem HunksAre.put_hunk {s : Store} {b : Nat} {hs : List (List IndexEntry)} {lo : Bool}
    (hh : HunksAre s b hs lo) (es : List IndexEntry) :
    HunksAre (s.put (.hunk b hs.length) (.hunk es)) b (hs ++ [es]) false := by
  intro n
  rw [Store.get?_put]
  by_cases hn : n = hs.length
  · subst hn; simp
  · have : Key.hunk b n ≠ Key.hunk b hs.length := by simp [hn]
    rw [if_neg this, hh n]
    by_cases h1 : n < hs.length
    · have h2 : n < (hs ++ [es]).length := by simp; omega
      simp only [h1, h2, dite_true]
      rw [List.getElem_append_left]
    · have h2 : ¬ n < (hs ++ [es]).length := by simp; omega
      simp [h1, hn]
      omega

end Conserve.Conf
