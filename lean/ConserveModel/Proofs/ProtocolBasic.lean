import ConserveModel.Protocol
/-
Basic facts about the protocol skeleton: the run combinators preserve every invariant that
both step functions preserve; `newestId` / `hasBand` characterisations; the two step functions as
relations (`StepB`, `StepG`), on which all preservation proofs rest; both actors have finished at
the end of `runProto`.
-/
namespace Conserve.Proto

/-! ### Invariants of runs -/

theorem runB_inv {P : State → Prop} (hB : ∀ p, P p → P (stepB p)) : ∀ n p, P p → P (runB n p)
  | 0, _, h => h
  | n + 1, p, h => runB_inv hB n (stepB p) (hB p h)

theorem runG_inv {P : State → Prop} (hG : ∀ p, P p → P (stepG p)) : ∀ n p, P p → P (runG n p)
  | 0, _, h => h
  | n + 1, p, h => runG_inv hG n (stepG p) (hG p h)

/-- Whatever both step functions preserve holds after every schedule. -/
theorem runProto_inv {P : State → Prop} (hB : ∀ p, P p → P (stepB p)) (hG : ∀ p, P p → P (stepG p)) :
    ∀ (sched : Schedule) p, P p → P (runProto sched p)
  | [], p, h => by
    unfold runProto finish
    exact runG_inv hG _ _ (runB_inv hB _ _ h)
  | false :: rest, p, h => by
    unfold runProto
    exact runProto_inv hB hG rest _ (hB p h)
  | true :: rest, p, h => by
    unfold runProto
    exact runProto_inv hB hG rest _ (hG p h)

/-- Follow a schedule and stop there (no running to the end): the states a run passes through. -/
def runSteps : Schedule → State → State
  | [], p => p
  | false :: rest, p => runSteps rest (stepB p)
  | true :: rest, p => runSteps rest (stepG p)

/-- Whatever both step functions preserve holds at every point of every run. -/
theorem runSteps_inv {P : State → Prop} (hB : ∀ p, P p → P (stepB p)) (hG : ∀ p, P p → P (stepG p)) :
    ∀ (sched : Schedule) p, P p → P (runSteps sched p)
  | [], p, h => h
  | false :: rest, p, h => by
    unfold runSteps
    exact runSteps_inv hB hG rest _ (hB p h)
  | true :: rest, p, h => by
    unfold runSteps
    exact runSteps_inv hB hG rest _ (hG p h)

/-! ### `newestId`, `hasBand` -/

theorem newestId_none {bs : List Band} : newestId bs = none ↔ bs = [] := by
  cases bs with
  | nil => simp [newestId]
  | cons b bs => cases h : newestId bs <;> simp [newestId, h]

theorem newestId_some {bs : List Band} {m : Nat} (h : newestId bs = some m) :
    (∀ b ∈ bs, b.id ≤ m) ∧ ∃ b ∈ bs, b.id = m := by
  induction bs generalizing m with
  | nil => simp [newestId] at h
  | cons b bs ih =>
    cases h' : newestId bs with
    | none =>
      have : bs = [] := newestId_none.mp h'
      subst this
      simp [newestId] at h
      subst h
      simp
    | some m' =>
      simp [newestId, h'] at h
      obtain ⟨h1, b', hb', h2⟩ := ih h'
      subst h
      constructor
      · intro x hx
        rcases List.mem_cons.mp hx with rfl | hx
        · exact Nat.le_max_left _ _
        · exact Nat.le_trans (h1 x hx) (Nat.le_max_right _ _)
      · by_cases hle : b.id ≤ m'
        · exact ⟨b', List.mem_cons_of_mem _ hb', by rw [h2]; omega⟩
        · exact ⟨b, List.mem_cons_self, by omega⟩

theorem lt_nextId {bs : List Band} {b : Band} (hb : b ∈ bs) : b.id < nextId bs := by
  unfold nextId
  cases h : newestId bs with
  | none => rw [newestId_none.mp h] at hb; simp at hb
  | some m => have := (newestId_some h).1 b hb; simp; omega

theorem hasBand_iff {bs : List Band} {i : Nat} : hasBand bs i = true ↔ ∃ b ∈ bs, b.id = i := by
  simp [hasBand]

theorem hasBand_false_iff {bs : List Band} {i : Nat} : hasBand bs i = false ↔ ∀ b ∈ bs, b.id ≠ i := by
  simp [hasBand]

/-! ### The two step functions as relations

`StepB p q` / `StepG p q`: `q` is what one step of the backup / of gc makes of `p`, one constructor
per branch of `stepB` / `stepG`, with the branch's conditions as premises and the new state written
out.  Every invariant is proved preserved by `cases` on these relations, so that no proof about the invariant
unfolds the step functions: that is done in `stepB_spec` / `stepG_spec`. -/

inductive StepB (p : State) : State → Prop
  | lockCheck_refused : p.b.pc = .lockCheck → p.lock = true →
      StepB p { p with b := { p.b with pc := .refused }, log := .bLockCheck :: p.log }
  | lockCheck : p.b.pc = .lockCheck → p.lock = false →
      StepB p { p with b := { p.b with pc := .listBasis }, log := .bLockCheck :: p.log }
  | listBasis : p.b.pc = .listBasis →
      StepB p { p with b := { p.b with pc := .listId }, log := .bListBasis :: p.log }
  | listId : p.b.pc = .listId →
      StepB p { p with b := { p.b with pc := .mkdir, newId := nextId p.bands }, log := .bListId :: p.log }
  | mkdir_exists : p.b.pc = .mkdir → hasBand p.bands p.b.newId = true →
      StepB p { p with b := { p.b with pc := .head }, log := .bMkdir :: p.log }
  | mkdir : p.b.pc = .mkdir → hasBand p.bands p.b.newId = false →
      StepB p { p with bands := p.bands ++ [⟨p.b.newId, false, false, []⟩]
                       b := { p.b with pc := .head }, log := .bMkdir :: p.log }
  | head_recheck : p.b.pc = .head → hasBand p.bands p.b.newId = true → p.b.recheck = true →
      StepB p { p with bands := p.bands.map (setHead p.b.newId)
                       b := { p.b with pc := .lockCheck2 }, log := .bHead :: p.log }
  | head : p.b.pc = .head → hasBand p.bands p.b.newId = true → p.b.recheck = false →
      StepB p { p with bands := p.bands.map (setHead p.b.newId)
                       b := { p.b with pc := .listBlocks }, log := .bHead :: p.log }
  | head_failed : p.b.pc = .head → hasBand p.bands p.b.newId = false →
      StepB p { p with b := { p.b with pc := .failed }, log := .bHead :: p.log }
  | lockCheck2_refused : p.b.pc = .lockCheck2 → p.lock = true →
      StepB p { p with b := { p.b with pc := .refused2 }, log := .bLockCheck2 :: p.log }
  | lockCheck2 : p.b.pc = .lockCheck2 → p.lock = false →
      StepB p { p with b := { p.b with pc := .listBlocks }, log := .bLockCheck2 :: p.log }
  | listBlocks : p.b.pc = .listBlocks →
      StepB p { p with b := { p.b with pc := .blocks, exists_ := p.present, todo := p.b.needed },
                       log := .bListBlocks :: p.log }
  | block_dedup : p.b.pc = .blocks → ∀ g rest, p.b.todo = g :: rest → g ∈ p.b.exists_ →
      StepB p { p with b := { p.b with todo := rest }, log := .bBlock g false :: p.log }
  | block_rewrite : p.b.pc = .blocks → ∀ g rest, p.b.todo = g :: rest → g ∉ p.b.exists_ → g ∈ p.present →
      StepB p { p with b := { p.b with todo := rest, exists_ := g :: p.b.exists_ }
                       log := .bBlock g true :: p.log }
  | block_write : p.b.pc = .blocks → ∀ g rest, p.b.todo = g :: rest → g ∉ p.b.exists_ → g ∉ p.present →
      StepB p { p with present := g :: p.present
                       b := { p.b with todo := rest, exists_ := g :: p.b.exists_ }
                       log := .bBlock g true :: p.log }
  | hunk : p.b.pc = .blocks → p.b.todo = [] → hasBand p.bands p.b.newId = true →
      StepB p { p with bands := p.bands.map (setRefs p.b.newId p.b.needed)
                       b := { p.b with pc := .tail }, log := .bHunk :: p.log }
  | hunk_failed : p.b.pc = .blocks → p.b.todo = [] → hasBand p.bands p.b.newId = false →
      StepB p { p with b := { p.b with pc := .failed }, log := .bHunk :: p.log }
  | tail : p.b.pc = .tail → hasBand p.bands p.b.newId = true →
      StepB p { p with bands := p.bands.map (setComplete p.b.newId)
                       b := { p.b with pc := .done }, log := .bTail :: p.log }
  | tail_failed : p.b.pc = .tail → hasBand p.bands p.b.newId = false →
      StepB p { p with b := { p.b with pc := .failed }, log := .bTail :: p.log }
  | fin : p.b.pc.fin = true → StepB p p

theorem stepB_spec (p : State) : StepB p (stepB p) := by
  have nt {b : Bool} (h : ¬b = true) : b = false := (Bool.not_eq_true b).mp h
  unfold stepB
  split
  · split
    · exact .lockCheck_refused ‹_› ‹_›
    · exact .lockCheck ‹_› (nt ‹_›)
  · exact .listBasis ‹_›
  · exact .listId ‹_›
  · split
    · exact .mkdir_exists ‹_› ‹_›
    · exact .mkdir ‹_› (nt ‹_›)
  · split
    · split
      · exact .head_recheck ‹_› ‹_› ‹_›
      · exact .head ‹_› ‹_› (nt ‹_›)
    · exact .head_failed ‹_› (nt ‹_›)
  · split
    · exact .lockCheck2_refused ‹_› ‹_›
    · exact .lockCheck2 ‹_› (nt ‹_›)
  · exact .listBlocks ‹_›
  · split
    · split
      · exact .block_dedup ‹_› _ _ ‹_› ‹_›
      · split
        · exact .block_rewrite ‹_› _ _ ‹_› ‹_› ‹_›
        · exact .block_write ‹_› _ _ ‹_› ‹_› ‹_›
    · split
      · exact .hunk ‹_› ‹_› ‹_›
      · exact .hunk_failed ‹_› ‹_› (nt ‹_›)
  · split
    · exact .tail ‹_› ‹_›
    · exact .tail_failed ‹_› (nt ‹_›)
  all_goals exact .fin (by simp [BPc.fin, *])

inductive StepG (p : State) : State → Prop
  | last : p.g.pc = .last →
      StepG p { p with g := { p.g with pc := .tailCheck, newest := newestId p.bands }, log := .gLast :: p.log }
  | tailCheck : p.g.pc = .tailCheck → newestClosed p.bands p.g.newest = true →
      StepG p { p with g := { p.g with pc := .lockCheck }, log := .gTailCheck :: p.log }
  | tailCheck_refused : p.g.pc = .tailCheck → newestClosed p.bands p.g.newest = false →
      StepG p { p with g := { p.g with pc := .refused }, log := .gTailCheck :: p.log }
  | lockCheck_refused : p.g.pc = .lockCheck → p.lock = true →
      StepG p { p with g := { p.g with pc := .refused }, log := .gLockCheck :: p.log }
  | lockCheck : p.g.pc = .lockCheck → p.lock = false →
      StepG p { p with g := { p.g with pc := .lockWrite }, log := .gLockCheck :: p.log }
  | lockWrite_refused : p.g.pc = .lockWrite → p.lock = true →
      StepG p { p with g := { p.g with pc := .refused }, log := .gLockWrite :: p.log }
  | lockWrite : p.g.pc = .lockWrite → p.lock = false →
      StepG p { p with lock := true, g := { p.g with pc := .listKeep }, log := .gLockWrite :: p.log }
  | listKeep : p.g.pc = .listKeep →
      StepG p { p with g := { p.g with pc := .readRefs, keep := (p.bands.map (·.id)).filter fun i => i ∉ p.g.del },
                       log := .gListKeep :: p.log }
  | readRefs_abort : p.g.pc = .readRefs → (p.bands.any fun b => decide (b.id ∈ p.g.keep) && !b.head) = true →
      StepG p { p with g := { p.g with pc := .abort }, log := .gReadRefs :: p.log }
  | readRefs : p.g.pc = .readRefs → (p.bands.any fun b => decide (b.id ∈ p.g.keep) && !b.head) = false →
      StepG p { p with g := { p.g with pc := .listBlocks,
                                        referenced := (p.bands.filter fun b => b.id ∈ p.g.keep).flatMap (·.refs) },
                       log := .gReadRefs :: p.log }
  | listBlocks : p.g.pc = .listBlocks →
      StepG p { p with g := { p.g with pc := .measure, unref := p.present.filter fun g => g ∉ p.g.referenced,
                                        toStat := p.present.filter fun g => g ∉ p.g.referenced },
                       log := .gListBlocks :: p.log }
  | stat : p.g.pc = .measure → ∀ g rest, p.g.toStat = g :: rest → g ∈ p.present →
      StepG p { p with g := { p.g with toStat := rest }, log := .gStat g :: p.log }
  | stat_abort : p.g.pc = .measure → ∀ g rest, p.g.toStat = g :: rest → g ∉ p.present →
      StepG p { p with g := { p.g with pc := .abort }, log := .gStat g :: p.log }
  | check : p.g.pc = .measure → p.g.toStat = [] → newestId p.bands = p.g.newest →
      StepG p { p with g := { p.g with pc := .sweep, passed := true, todoBands := p.g.del, todoBlocks := p.g.unref },
                       log := .gCheck :: p.log }
  | check_abort : p.g.pc = .measure → p.g.toStat = [] → newestId p.bands ≠ p.g.newest →
      StepG p { p with g := { p.g with pc := .abort }, log := .gCheck :: p.log }
  | rmBand : p.g.pc = .sweep → ∀ b rest, p.g.todoBands = b :: rest → hasBand p.bands b = true →
      StepG p { p with bands := p.bands.filter fun x => x.id ≠ b
                       g := { p.g with todoBands := rest }, log := .gRmBand b :: p.log }
  | rmBand_abort : p.g.pc = .sweep → ∀ b rest, p.g.todoBands = b :: rest → hasBand p.bands b = false →
      StepG p { p with g := { p.g with pc := .abort }, log := .gRmBand b :: p.log }
  | rmBlock : p.g.pc = .sweep → p.g.todoBands = [] → ∀ g rest, p.g.todoBlocks = g :: rest →
      StepG p { p with present := p.present.filter fun x => x ≠ g
                       g := { p.g with todoBlocks := rest }, log := .gRmBlock g :: p.log }
  | unlock : p.g.pc = .sweep → p.g.todoBands = [] → p.g.todoBlocks = [] →
      StepG p { p with lock := false, g := { p.g with pc := .done }, log := .gUnlock :: p.log }
  | abort : p.g.pc = .abort →
      StepG p { p with lock := false, g := { p.g with pc := .failed }, log := .gUnlock :: p.log }
  | fin : p.g.pc.fin = true → StepG p p

theorem stepG_spec (p : State) : StepG p (stepG p) := by
  have nt {b : Bool} (h : ¬b = true) : b = false := (Bool.not_eq_true b).mp h
  unfold stepG
  split
  · exact .last ‹_›
  · split
    · exact .tailCheck ‹_› ‹_›
    · exact .tailCheck_refused ‹_› (nt ‹_›)
  · split
    · exact .lockCheck_refused ‹_› ‹_›
    · exact .lockCheck ‹_› (nt ‹_›)
  · split
    · exact .lockWrite_refused ‹_› ‹_›
    · exact .lockWrite ‹_› (nt ‹_›)
  · exact .listKeep ‹_›
  · split
    · exact .readRefs_abort ‹_› ‹_›
    · exact .readRefs ‹_› (nt ‹_›)
  · exact .listBlocks ‹_›
  · split
    · split
      · exact .stat ‹_› _ _ ‹_› ‹_›
      · exact .stat_abort ‹_› _ _ ‹_› ‹_›
    · split
      · exact .check ‹_› ‹_› ‹_›
      · exact .check_abort ‹_› ‹_› ‹_›
  · split
    · split
      · exact .rmBand ‹_› _ _ ‹_› ‹_›
      · exact .rmBand_abort ‹_› _ _ ‹_› (nt ‹_›)
    · split
      · exact .rmBlock ‹_› ‹_› _ _ ‹_›
      · exact .unlock ‹_› ‹_› ‹_›
  · exact .abort ‹_›
  all_goals exact .fin (by simp [GPc.fin, *])

/-! ### Both actors have finished after `runProto` -/

theorem StepB.g_eq {p q : State} (hs : StepB p q) : q.g = p.g := by cases hs <;> rfl
theorem StepG.b_eq {p q : State} (hs : StepG p q) : q.b = p.b := by cases hs <;> rfl

/-- Is the event one of the backup's (the others are gc's)? -/
def Ev.ofBackup : Ev → Bool
  | .bLockCheck | .bListBasis | .bListId | .bMkdir | .bHead | .bLockCheck2 | .bListBlocks
  | .bBlock .. | .bHunk | .bTail => true
  | _ => false

/-- A step logs at most one event, and only one of its own actor: what the log says about the
other actor's events does not change. -/
theorem StepB.mem_log_iff {p q : State} (hs : StepB p q) {e : Ev} (he : e.ofBackup = false) :
    e ∈ q.log ↔ e ∈ p.log := by
  cases hs <;> first | exact Iff.rfl | exact List.mem_cons.trans (or_iff_right (by rintro rfl; cases he))

theorem StepG.mem_log_iff {p q : State} (hs : StepG p q) {e : Ev} (he : e.ofBackup = true) :
    e ∈ q.log ↔ e ∈ p.log := by
  cases hs <;> first | exact Iff.rfl | exact List.mem_cons.trans (or_iff_right (by rintro rfl; cases he))

theorem stepB_g (p : State) : (stepB p).g = p.g := (stepB_spec p).g_eq
theorem stepG_b (p : State) : (stepG p).b = p.b := (stepG_spec p).b_eq

theorem StepB.needed_eq {p q : State} (hs : StepB p q) : q.b.needed = p.b.needed := by cases hs <;> rfl
theorem StepG.del_eq {p q : State} (hs : StepG p q) : q.g.del = p.g.del := by cases hs <;> rfl

theorem stepB_needed (p : State) : (stepB p).b.needed = p.b.needed := (stepB_spec p).needed_eq
theorem stepG_del (p : State) : (stepG p).g.del = p.g.del := (stepG_spec p).del_eq

theorem StepB.rank_lt {p q : State} (hs : StepB p q) (h : p.b.pc.fin = false) : bRank q < bRank p := by
  cases hs <;> simp_all [BPc.fin, bRank]

theorem StepG.rank_lt {p q : State} (hs : StepG p q) (h : p.g.pc.fin = false) : gRank q < gRank p := by
  have hf := List.length_filter_le (fun g => !decide (g ∈ p.g.referenced)) p.present
  cases hs <;> simp_all [GPc.fin, gRank] <;> omega

theorem bRank_step (p : State) (h : p.b.pc.fin = false) : bRank (stepB p) < bRank p :=
  (stepB_spec p).rank_lt h

theorem gRank_step (p : State) (h : p.g.pc.fin = false) : gRank (stepG p) < gRank p :=
  (stepG_spec p).rank_lt h

theorem bRank_fin (p : State) (h : p.b.pc.fin = true) : bRank p = 0 := by
  unfold bRank; cases hpc : p.b.pc <;> simp_all [BPc.fin]

theorem gRank_fin (p : State) (h : p.g.pc.fin = true) : gRank p = 0 := by
  unfold gRank; cases hpc : p.g.pc <;> simp_all [GPc.fin]

theorem stepB_fin (p : State) (h : p.b.pc.fin = true) : stepB p = p := by
  unfold stepB; cases hpc : p.b.pc <;> simp_all [BPc.fin]

theorem stepG_fin (p : State) (h : p.g.pc.fin = true) : stepG p = p := by
  unfold stepG; cases hpc : p.g.pc <;> simp_all [GPc.fin]

theorem runB_fin : ∀ n p, bRank p ≤ n → (runB n p).b.pc.fin = true
  | 0, p, h => by
    unfold runB
    cases hf : p.b.pc.fin with
    | true => rfl
    | false => have := bRank_step p hf; omega
  | n + 1, p, h => by
    unfold runB
    cases hf : p.b.pc.fin with
    | true =>
      rw [stepB_fin p hf]
      exact runB_fin n p (by rw [bRank_fin p hf]; omega)
    | false => exact runB_fin n _ (by have := bRank_step p hf; omega)

theorem runG_fin : ∀ n p, gRank p ≤ n → (runG n p).g.pc.fin = true
  | 0, p, h => by
    unfold runG
    cases hf : p.g.pc.fin with
    | true => rfl
    | false => have := gRank_step p hf; omega
  | n + 1, p, h => by
    unfold runG
    cases hf : p.g.pc.fin with
    | true =>
      rw [stepG_fin p hf]
      exact runG_fin n p (by rw [gRank_fin p hf]; omega)
    | false => exact runG_fin n _ (by have := gRank_step p hf; omega)

theorem runG_b : ∀ n p, (runG n p).b = p.b
  | 0, _ => rfl
  | n + 1, p => by unfold runG; rw [runG_b n, stepG_b]

/-- After `runProto` both actors have finished (succeeded, refused or failed). -/
theorem runProto_finished : ∀ (sched : Schedule) (p : State),
    (runProto sched p).b.pc.fin = true ∧ (runProto sched p).g.pc.fin = true
  | [], p => by
    unfold runProto finish
    exact ⟨by rw [runG_b]; exact runB_fin _ _ (Nat.le_refl _), runG_fin _ _ (Nat.le_refl _)⟩
  | false :: rest, p => by unfold runProto; exact runProto_finished rest _
  | true :: rest, p => by unfold runProto; exact runProto_finished rest _

end Conserve.Proto
