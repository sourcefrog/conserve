import ConserveModel.Proofs.FsTop
/-
ORDER-AWARE confinement of `restoreToFs` (the C16e gap).

`ConfinableL` (Proofs/FsLoop.lean) asks that NO entry anywhere in the list is a symlink and an
ancestor of another entry.  What the guard of `restoreEntries` gives for an unsorted index is weaker
and ordered: no LATER entry lies at or below an EARLIER symlink entry (`NotBelowLink`, pairwise).  The
loop (`Ready`, FsLoop.lean) needs only that; the difficulty is the DEFERRED directory
metadata (`apply_deferrals`, which runs after ALL entries, so a symlink entry listed after `/a/b` but
naming `/a` is "earlier" from its point of view).

The argument: when `restore_dir(dest/P)` succeeds, every prefix of `dest/P` exists afterwards
and is no symlink (`SolidTo`), or the path runs into a file (`Blocked`); nothing is ever removed or
changes kind; `symlink()` refuses an existing name.  So at deferral time `dest/P` still has no symlink
on it (or still does not resolve), whatever symlink entries came later.
-/
namespace Conserve

theorem restoreBody_outside_ord {uidOf gidOf : Str → Option Nat} {old : Bool} {D : Path} {fs : Fs}
    {nodes : List RNode} (R : Ready D fs nodes) :
    ∀ q, ¬ D <+: q → (restoreBodyFs uidOf gidOf old D fs nodes).1.node q = fs.node q := by
  obtain ⟨G, hdefs⟩ := restoreLoopFs_grows (uidOf := uidOf) (gidOf := gidOf) (old := old) nodes fs R
  have G2 := applyDeferralsFs_grows (uidOf := uidOf) (gidOf := gidOf) _ _ (G.destOk R.dest) hdefs
  exact fun q hq => (G2.outside q hq).trans (G.outside q hq)

/-- **Confinement, order-aware.**  Entries may come in any order, may lie below LATER symlink entries,
and non-symlink apaths may even repeat.  The one change outside: creating an absent destination stamps
the mtime of its parent directory. -/
theorem restoreToFs_confined_ord {uidOf gidOf : Str → Option Nat} {old : Bool} {fs : Fs} {D : Path}
    {nodes : List RNode} (hv : ∀ n ∈ nodes, isValid n.apath = true) (hp : nodes.Pairwise NotBelowLink)
    (hwf : fs.wf = true) (hP : DestPlain fs D) :
    (∀ q, ¬ D <+: q → (q ≠ D.dropLast ∨ fs.node D ≠ none) →
      (restoreToFs fs D false nodes uidOf gidOf old).1.node q = fs.node q) ∧
    (D ≠ [] →
      EqMod (fs.node D.dropLast) ((restoreToFs fs D false nodes uidOf gidOf old).1.node D.dropLast)) := by
  obtain ⟨fs0, L, hrun⟩ := restoreToFs_cases (uidOf := uidOf) (gidOf := gidOf) (old := old) nodes hwf hP
  -- outside the destination the result is what `ensure_dir_exists` left
  have hout : ∀ q, ¬ D <+: q → (restoreToFs fs D false nodes uidOf gidOf old).1.node q = fs0.node q := by
    intro q hq
    rcases hrun with h | ⟨⟨hD0, he⟩, h⟩
    · rw [h.1]
    · rw [h]
      exact restoreBody_outside_ord (Ready.of_empty hD0 he hv hp) q hq
  refine ⟨fun q hq hor => (hout q hq).trans (L.outside_dest q hq hor), fun hD => ?_⟩
  have hlt := length_dropLast_lt hD
  rw [hout D.dropLast fun h => by have := h.length_le; omega]
  exact (L.parent fun e => by rw [e] at hlt; omega).1

theorem notBelowLink_of_guard {nodes : List RNode} (hv : ∀ n ∈ nodes, isValid n.apath = true)
    (hg : nodes.Pairwise fun m n => m.kind = .symlink → comps m ≠ [] → comps m <+: comps n →
      comps m = comps n)
    (hd : nodes.Pairwise fun m n => m.kind = .symlink → m.apath ≠ n.apath) :
    nodes.Pairwise NotBelowLink := by
  have h2 := hg.and hd
  exact h2.imp_of_mem fun {a b} ha hb h hk hne hpre =>
    h.2 hk (apath_eq_of_comps_eq (hv a ha) (hv b hb) (h.1 hk hne hpre))

end Conserve
