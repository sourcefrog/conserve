import ConserveModel.Proofs.WalkPrune
/-
Helper lemmas: valid paths are exactly `pathOf` of good components; the strict descendants of
a directory form an interval of the order.
-/
namespace Conserve
open Std

theorem not_mem_splitSlash {s p : Str} (h : p ∈ splitSlash s) : slash ∉ p := by
  induction s generalizing p with
  | nil => simp [splitSlash] at h; subst h; simp
  | cons c cs ih =>
    rw [splitSlash] at h
    split at h
    · rcases List.mem_cons.1 h with rfl | h
      · simp
      · exact ih h
    · rename_i hc
      cases hs : splitSlash cs with
      | nil => exact absurd hs (splitSlash_ne_nil cs)
      | cons q qs =>
        rw [hs] at h ih
        rcases List.mem_cons.1 h with rfl | h
        · intro hm
          rcases List.mem_cons.1 hm with e | hm
          · exact hc e.symm
          · exact ih List.mem_cons_self hm
        · exact ih (List.mem_cons_of_mem _ h)

theorem valid_eq_pathOf {a : Str} (h : isValid a = true) :
    GoodComps (components a) ∧ a = pathOf (components a) := by
  rw [C11.valid_iff_spec] at h
  obtain ⟨hh, ht⟩ := h
  cases a with
  | nil => simp at hh
  | cons c rest =>
    simp only [List.head?_cons, Option.some.injEq] at hh
    subst hh
    cases hr : rest with
    | nil => exact ⟨fun c hc => by simp [components] at hc, rfl⟩
    | cons r rs =>
      rw [← hr]
      have hne : rest ≠ [] := by rw [hr]; simp
      have hcomp : components (slash :: rest) = splitSlash rest := components_cons rest hne
      have hspec : ∀ c ∈ components (slash :: rest), c ≠ [] ∧ c ≠ [dot] ∧ c ≠ [dot, dot] ∧ 0 ∉ c := by
        rcases ht with ht | ht
        · simp [hr] at ht
        · exact ht
      rw [hcomp] at hspec ⊢
      constructor
      · intro c hc
        have := hspec c hc
        exact (goodName_iff c).2 ⟨this.1, not_mem_splitSlash hc, this.2.2.2, this.2.1, this.2.2.1⟩
      · cases hs : splitSlash rest with
        | nil => exact absurd hs (splitSlash_ne_nil rest)
        | cons p ps => rw [pathOf, ← hs, joinSlash_splitSlash]

theorem valid_iff_pathOf (a : Str) :
    isValid a = true ↔ ∃ cs, GoodComps cs ∧ a = pathOf cs :=
  ⟨fun h => ⟨_, valid_eq_pathOf h⟩, fun ⟨_, hg, e⟩ => e ▸ pathOf_valid hg⟩

theorem strictDesc_valid {cd : List Str} {a : Str} (hcd : GoodComps cd) (ha : isValid a = true)
    (h : StrictDesc (pathOf cd) a) :
    ∃ x t, GoodComps (cd ++ x :: t) ∧ a = pathOf (cd ++ x :: t) := by
  obtain ⟨hg, ea⟩ := valid_eq_pathOf ha
  rw [ea] at h
  obtain ⟨x, t, e⟩ := (strictDesc_pathOf_iff hcd hg).1 h
  exact ⟨x, t, e ▸ hg, e ▸ ea⟩

theorem compare_nil_of_lt {kb : List Str} {l : List Str} (h : compare l kb = .lt) : kb ≠ [] := by
  rintro rfl
  cases l with
  | nil =>
    have : compare ([] : List Str) [] = .eq := ReflOrd.compare_self
    rw [this] at h; cases h
  | cons a l => rw [List.compare_cons_nil] at h; cases h

theorem lex_convex (P ra rc kb : List Str) (h1 : compare (P ++ ra) kb = .lt)
    (h2 : compare kb (P ++ rc) = .lt) :
    ∃ rb, kb = P ++ rb ∧ compare ra rb = .lt ∧ compare rb rc = .lt := by
  induction P generalizing kb with
  | nil => exact ⟨kb, rfl, h1, h2⟩
  | cons k P ih =>
    cases kb with
    | nil => exact absurd rfl (compare_nil_of_lt h1)
    | cons k' kb' =>
      simp only [List.cons_append] at h1 h2
      rw [List.compare_cons_cons] at h1 h2
      have hsw := OrientedCmp.eq_swap (cmp := (compare : Str → Str → Ordering)) (a := k) (b := k')
      cases hk : compare k k' with
      | lt =>
        have : compare k' k = .gt := by
          rw [hk] at hsw
          generalize compare k' k = o at hsw
          cases o
          · exact absurd hsw (by decide)
          · exact absurd hsw (by decide)
          · rfl
        rw [this] at h2; cases h2
      | gt => rw [hk] at h1; cases h1
      | eq =>
        have e : k = k' := LawfulEqOrd.eq_of_compare hk
        subst e
        rw [hk] at h1
        have hkk : compare k k = .eq := ReflOrd.compare_self
        rw [hkk] at h2
        obtain ⟨rb, e, h3, h4⟩ := ih kb' h1 h2
        exact ⟨rb, by rw [e]; rfl, h3, h4⟩

theorem keysOf_eq_append {o p : Str} {rest ps rb : List Str}
    (h : keysOf o rest = (p :: ps).map (1 :: ·) ++ rb) (hrb : rb ≠ []) :
    ∃ x t, o :: rest = (p :: ps) ++ x :: t ∧ rb = keysOf x t := by
  induction ps generalizing o p rest with
  | nil =>
    cases rest with
    | nil =>
      cases rb with
      | nil => exact absurd rfl hrb
      | cons r rb => simp [keysOf] at h
    | cons r rest =>
      simp only [keysOf, List.map_cons, List.map_nil, List.cons_append, List.nil_append,
        List.cons.injEq] at h
      exact ⟨r, rest, by rw [h.1.2]; rfl, h.2.symm⟩
  | cons q ps ih =>
    cases rest with
    | nil => simp [keysOf] at h
    | cons r rest =>
      simp only [keysOf, List.map_cons, List.cons_append, List.cons.injEq] at h
      obtain ⟨x, t, e, hr⟩ := ih (o := r) (p := q) (rest := rest) (by simpa using h.2)
      exact ⟨x, t, by rw [h.1.2, e]; rfl, hr⟩

theorem compare_keysOf_good_root {x : Str} (t : List Str) (hx : x ≠ []) :
    compare (keysOf x t) (keysOf [] []) = .gt := by
  rw [← cmpLoop_eq_keys]
  cases t with
  | cons y t => rfl
  | nil =>
    cases x with
    | nil => exact absurd rfl hx
    | cons a x => exact List.compare_cons_nil

theorem components_of_splitSlash {b : Str} {L : List Str} (h : splitSlash b = [] :: L)
    (hne : L ≠ [[]]) : components b = L := by
  cases b with
  | nil => exact (List.cons.inj h).2
  | cons c0 b' =>
    rw [splitSlash] at h
    split at h
    · rename_i hc0
      subst hc0
      have hb' : splitSlash b' = L := (List.cons.inj h).2
      have : b' ≠ [] := by rintro rfl; exact hne hb'.symm
      rw [components_cons b' this, hb']
    · obtain ⟨q, qs, hsb⟩ := List.exists_cons_of_ne_nil (splitSlash_ne_nil b')
      rw [hsb] at h
      simp at h

theorem strict_descendants_convex_comps {cd : List Str} (hcd : GoodComps cd) {a b c : Str}
    (ha : isValid a = true) (hc : isValid c = true)
    (hda : StrictDesc (pathOf cd) a) (hdc : StrictDesc (pathOf cd) c)
    (hab : apathCmp a b = .lt) (hbc : apathCmp b c = .lt) : StrictDesc (pathOf cd) b := by
  obtain ⟨xa, ta, hga, rfl⟩ := strictDesc_valid hcd ha hda
  obtain ⟨xc, tc, hgc, rfl⟩ := strictDesc_valid hcd hc hdc
  rw [apathCmp_eq_keys, keys_pathOf hga] at hab
  rw [apathCmp_eq_keys, keys_pathOf hgc] at hbc
  -- the keys of `b` continue the keys of the directory
  obtain ⟨rb, hkb, hrab, _⟩ := lex_convex _ _ _ _ hab hbc
  have hrb : rb ≠ [] := compare_nil_of_lt hrab
  unfold keys at hkb
  obtain ⟨o, rest, hs⟩ := List.exists_cons_of_ne_nil (splitSlash_ne_nil b)
  rw [hs] at hkb
  obtain ⟨x, t, hsplit, rfl⟩ := keysOf_eq_append (p := []) (ps := cd) (by simpa [dirKeys] using hkb) hrb
  simp only [List.cons_append, List.cons.injEq] at hsplit
  obtain ⟨rfl, rfl⟩ := hsplit
  -- so its pieces continue the components, and "/" itself is below every descendant
  refine strictDesc_of_components hcd (components_of_splitSlash hs ?_)
  intro e
  obtain ⟨rfl, e⟩ : cd = [] ∧ x :: t = [[]] := by
    cases cd with
    | nil => exact ⟨rfl, e⟩
    | cons _ _ => simp at e
  cases e
  rw [compare_keysOf_good_root ta ((goodName_iff xa).1 (hga xa (by simp))).1] at hrab
  cases hrab

end Conserve
