import ConserveModel.Proofs.ProducedBackup
import ConserveModel.Proofs.ExactStore
/-
C09 (first sentence) / C14: exactly which operations `backup` and `delete_bands` issue (`FineOp`;
`Fine2` = those other than creating a version directory / index directory or writing a head, i.e.
everything but `Band::create`), read off their footprints (Proofs/Footprint.lean), and two store
invariants every such operation keeps in EVERY world:
* `HeadsOK` — every version directory has a readable head and an index directory (kept by `Fine2`);
* `KindsOK` — directories where the layout has directories, files where it has files (kept by `FineOp`:
  Proofs/ProducedArchive.lean).
No property statements here.
-/
namespace Conserve.Rng
open Conserve Conserve.Inv Conserve.Conf Prog

/-- The operations `backup` and `delete_bands` issue. -/
def FineOp : Op → Prop
  | .read _ | .listDir _ | .metadata _ => True
  | .createDir k => (∃ b, k = .bandDir b) ∨ (∃ b, k = .indexDir b) ∨ (∃ b d, k = .hunkDir b d) ∨ (∃ p, k = .blockDir p)
  | .write k v m => m = .createNew ∧
      ((∃ b ver fl, k = .bandHead b ∧ v = .head ver fl) ∨ (∃ b n es, k = .hunk b n ∧ v = .hunk es) ∨
       (∃ b c, k = .bandTail b ∧ v = .tail c) ∨ (∃ h c, k = .block h ∧ v = .blockData c) ∨
       (k = .gcLock ∧ v = .lock))
  | .removeFile k => k = .gcLock ∨ ∃ h, k = .block h
  | .removeDirAll k => ∃ b, k = .bandDir b

/-- … other than the three of `Band::create`. -/
def Fine2 (o : Op) : Prop := FineOp o ∧ ¬ isHeadWrite o ∧ ¬ isBandDirCreate o

theorem ReadOnly.fine2 {o : Op} (h : ReadOnly o) : Fine2 o := by
  cases o <;> simp_all [ReadOnly, Fine2, FineOp, isHeadWrite, isBandDirCreate]

theorem AllOps.ro_fine2 {α : Type} {p : Prog α} (h : Prog.AllOps ReadOnly p) : Prog.AllOps Fine2 p :=
  h.mono fun _ => ReadOnly.fine2

theorem AllOps.fine2_fine {α : Type} {p : Prog α} (h : Prog.AllOps Fine2 p) : Prog.AllOps FineOp p :=
  h.mono fun _ h => h.1

theorem BlockWr.fine2 {H : Str → Str} {o : Op} (h : BlockWr H o) : Fine2 o := by
  cases h <;> simp [Fine2, FineOp, isHeadWrite, isBandDirCreate]

theorem IndexWr.fine2 {b : Nat} {o : Op} (h : IndexWr b o) : Fine2 o := by
  cases h <;> simp [Fine2, FineOp, isHeadWrite, isBandDirCreate]

theorem WrOp.fine2 {H : Str → Str} {o : Op} : WrOp H o → Fine2 o :=
  WrOp.elim (fun _ => BlockWr.fine2) (fun _ _ => IndexWr.fine2) o

theorem backupMain_fine2 (H : Str → Str) (o : BackupOpts) (src : List SrcEntry)
    (x : Nat × List Str × List IndexEntry) : AllOps Fine2 (backupMain H o src x) :=
  .bind ((backupLoop_fp H o _ _).mono fun _ => WrOp.fine2) fun w =>
    .bind ((flushGroup_fp H w).mono fun _ => WrOp.fine2) fun w =>
      .bind ((finishHunk_fp w).mono fun _ => IndexWr.fine2) fun _ =>
        .bind (performUnit_allOps (by simp [Fine2, FineOp, isHeadWrite, isBandDirCreate])) fun _ => .ret _

theorem BackupFp.fineOp {H : Str → Str} {o : Op} (h : BackupFp H o) : FineOp o := by
  cases h with
  | rd h => exact (ReadOnly.fine2 h.readOnly).1
  | new h => cases h <;> simp [FineOp]
  | wr h => exact (WrOp.fine2 h).1
  | tail b n => simp [FineOp]

theorem backup_fine (H : Str → Str) (o : BackupOpts) (src : List SrcEntry) : AllOps FineOp (backup H o src) :=
  (backup_fp H o src).mono fun _ => BackupFp.fineOp

theorem GcOp.fine2 {D : List Nat} {Q : Str → Prop} {o : Op} (h : GcOp D Q o) : Fine2 o := by
  cases h with
  | rd h => exact ReadOnly.fine2 h
  | _ => simp [Fine2, FineOp, isHeadWrite, isBandDirCreate]

theorem deleteBands_fine2 (strict : Bool) (D : List Nat) (o : DeleteOpts) :
    AllOps Fine2 (deleteBands strict D o) :=
  (deleteBands_fp strict D o).mono fun _ => GcOp.fine2

/-- `AllHeadsReadable`, stated with `get?` (equivalent when keys are distinct). -/
def HeadsOK (s : Store) : Prop := ∀ b, s.get? (.bandDir b) = some .dir → bandReadable s b = true

theorem headsOK_iff {s : Store} (hn : NoDupKeys s) : HeadsOK s ↔ AllHeadsReadable s := by
  constructor
  · intro h b hb
    exact h b ((mem_bandIdsOf_iff_get? hn).1 hb)
  · intro h b hb
    exact h b ((mem_bandIdsOf_iff_get? hn).2 hb)

/-- The three keys of a version `HeadsOK` looks at. -/
def isBandTop : Key → Prop
  | .bandDir _ | .bandHead _ | .indexDir _ => True
  | _ => False

/-- `bandReadable` only reads the head and the index directory. -/
theorem bandReadable_congr {s s' : Store} {b : Nat} (h1 : s'.get? (.bandHead b) = s.get? (.bandHead b))
    (h2 : s'.get? (.indexDir b) = s.get? (.indexDir b)) : bandReadable s' b = bandReadable s b := by
  unfold bandReadable
  rw [h1, h2]

theorem headsOK_of_same {s s' : Store} (h : HeadsOK s) (hs : ∀ k, isBandTop k → s'.get? k = s.get? k) :
    HeadsOK s' := by
  intro b hb
  rw [hs _ (by simp [isBandTop])] at hb
  rw [bandReadable_congr (hs _ (by simp [isBandTop])) (hs _ (by simp [isBandTop]))]
  exact h b hb

theorem headsOK_eraseTree {s : Store} (h : HeadsOK s) (b0 : Nat) : HeadsOK (s.eraseTree (.bandDir b0)) := by
  intro b hb
  obtain ⟨hne, hd⟩ := bandDir_of_eraseTree hb
  rw [bandReadable_congr (get?_eraseTree_other_band hne (isUnder_bandDir_iff.2 rfl))
    (get?_eraseTree_other_band hne (isUnder_bandDir_iff.2 rfl))]
  exact h b hd

/-- Of the `Fine2` operations only the removal of a version touches a key `HeadsOK` looks at. -/
theorem Fine2.affects_bandTop {o : Op} (ho : Fine2 o) {k : Key} (ha : Op.affects o k = true) (hk : isBandTop k) :
    ∃ b, o = .removeDirAll (.bandDir b) := by
  obtain ⟨hf, hh, hb⟩ := ho
  cases o with
  | read _ | listDir _ | metadata _ => cases ha
  | removeDirAll k' => obtain ⟨b, rfl⟩ := hf; exact ⟨b, rfl⟩
  | write k' v m | createDir k' | removeFile k' =>
    obtain rfl : k = k' := by simpa [Op.affects] using ha
    cases k <;> simp_all [isBandTop, FineOp, isHeadWrite, isBandDirCreate]

theorem exec_headsOK (w : World) {o : Op} (ho : Fine2 o) (h : HeadsOK w.store) : HeadsOK (w.exec o).1.store := by
  by_cases hr : ∃ b, o = .removeDirAll (.bandDir b)
  · obtain ⟨b, rfl⟩ := hr
    exact w.exec_store_inv _ (fun _ _ hp => nomatch hp) (fun _ hk => nomatch hk)
      (fun _ hk => by cases hk; exact headsOK_eraseTree h b) h
  · exact headsOK_of_same h fun k hk => World.exec_get?_of_not_affects w o k <| by
      cases ha : Op.affects o k with
      | false => rfl
      | true => exact absurd (ho.affects_bandTop ha hk) hr

theorem run_headsOK {α : Type} {p : Prog α} (hp : Prog.AllOps Fine2 p) (w : World) (h : HeadsOK w.store) :
    HeadsOK (p.run w).2.store :=
  Prog.run_store_inv (fun w' _ ho h' => exec_headsOK w' ho h') hp w h

/-- Directories where the layout has directories, files where it has files (`StoreOK.kinds`). -/
def KindsOK (s : Store) : Prop := ∀ k v, s.get? k = some v → Exact.kindOk k v = true

end Conserve.Rng
