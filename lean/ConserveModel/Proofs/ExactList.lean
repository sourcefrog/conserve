import ConserveModel.Proofs.ExactMain
import ConserveModel.Proofs.ExactRestore
import ConserveModel.Proofs.HistLatest
/-
The archive after a fault-free backup (`Final`): the new version lists exactly the recorded
entries, silently; restoring them gives exactly the source.  Also `restore` as a whole on a
well-formed store.  No property statements here.
-/
namespace Conserve.Exact
open Conserve Prog

variable {H : Str → Str} {o : BackupOpts}

/-- Two lists of the same length whose elements at equal positions are related. -/
inductive Paired {α β : Type} (R : α → β → Prop) : List α → List β → Prop
  | nil : Paired R [] []
  | cons {a : α} {b : β} {l1 : List α} {l2 : List β} : R a b → Paired R l1 l2 → Paired R (a :: l1) (b :: l2)

theorem paired_of_map_eq {α β γ : Type} {f : α → γ} {g : β → γ} :
    ∀ {l1 : List α} {l2 : List β}, l1.map f = l2.map g → Paired (fun a b => f a = g b) l1 l2
  | [], [], _ => .nil
  | [], _ :: _, h => by simp at h
  | _ :: _, [], h => by simp at h
  | a :: l1, b :: l2, h => by
    simp only [List.map_cons, List.cons.injEq] at h
    exact .cons h.1 (paired_of_map_eq h.2)

theorem Paired.imp_mem {α β : Type} {R R' : α → β → Prop} {l1 : List α} {l2 : List β} (h : Paired R l1 l2)
    (himp : ∀ a ∈ l1, ∀ b ∈ l2, R a b → R' a b) : Paired R' l1 l2 := by
  induction h with
  | nil => exact .nil
  | cons hab _ ih =>
    refine .cons (himp _ (List.mem_cons_self ..) _ (List.mem_cons_self ..) hab) (ih ?_)
    intro a ha b hb
    exact himp a (List.mem_cons_of_mem _ ha) b (List.mem_cons_of_mem _ hb)

theorem Paired.flip {α β : Type} {R : α → β → Prop} {l1 : List α} {l2 : List β} (h : Paired R l1 l2) :
    Paired (fun b a => R a b) l2 l1 := by
  induction h with
  | nil => exact .nil
  | cons hab _ ih => exact .cons hab ih

theorem Paired.mem_right {α β : Type} {R : α → β → Prop} {l1 : List α} {l2 : List β} (h : Paired R l1 l2)
    {b : β} (hb : b ∈ l2) : ∃ a ∈ l1, R a b := by
  induction h with
  | nil => cases hb
  | cons hab _ ih =>
    rcases List.mem_cons.mp hb with rfl | hb
    · exact ⟨_, List.mem_cons_self .., hab⟩
    · obtain ⟨a, ha, hr⟩ := ih hb
      exact ⟨a, List.mem_cons_of_mem _ ha, hr⟩

theorem Paired.map_eq {α β γ : Type} {R : α → β → Prop} {l1 : List α} {l2 : List β} (h : Paired R l1 l2)
    (f : α → γ) (g : β → γ) (hfg : ∀ a b, R a b → f a = g b) : l1.map f = l2.map g := by
  induction h with
  | nil => rfl
  | @cons a b l1 l2 hab _ ih => rw [List.map_cons, List.map_cons, hfg a b hab, ih]

theorem filterMap_range_getElem? {α : Type} (l : List α) (L : Nat) :
    (List.range L).filterMap (fun k => l[k]?) = l.take L := by
  induction L with
  | zero => simp
  | succ L ih =>
    rw [List.range_succ, List.filterMap_append, ih, List.take_add_one]
    congr 1

/-- What C01 (a) assumes of the source listing (the walk of a tree of directories, regular files and
symlinks). -/
structure SrcGood (src : List SrcEntry) : Prop where
  /-- for files, `st_size` is the length of what reading returns -/
  wf : Inv.SrcWF src
  /-- strictly increasing paths (the order of the walk, C11) -/
  sorted : (src.map (·.apath)).Pairwise fun a b => apathCmp a b = .lt
  valid : ∀ sf ∈ src, isValid sf.apath = true
  /-- directories, regular files and symlinks only -/
  kinds : ∀ sf ∈ src, sf.kind ≠ .unknown
  /-- a symlink has a target -/
  targets : ∀ sf ∈ src, sf.kind = .symlink → sf.target.isSome = true
  /-- modification times jiff can represent -/
  mtimes : ∀ sf ∈ src, -377705023201 * nanosPerSec ≤ sf.mtimeNs ∧ sf.mtimeNs < 253402207201 * nanosPerSec
  /-- nothing lies below a symlink (it is a tree) -/
  noBelowSymlink : ∀ a ∈ src, ∀ b ∈ src, a.kind = .symlink → a.apath ≠ [slash] → a.apath ≠ b.apath →
    isPrefixOfImpl a.apath b.apath = false
  /-- the file sizes add up to less than 2^64 -/
  bytes : totalSize src < 18446744073709551616

theorem SrcGood.entryGood {src : List SrcEntry} (h : SrcGood src) : ∀ sf ∈ src, EntryGood sf :=
  fun sf hsf => ⟨h.kinds sf hsf, h.wf sf hsf⟩

theorem SrcGood.inj {src : List SrcEntry} (h : SrcGood src) :
    ∀ x ∈ src, ∀ y ∈ src, x.apath = y.apath → x = y :=
  pairwise_lt_inj (by have := h.sorted; rwa [List.pairwise_map] at this)

/-- Index entry `e` records source entry `sf` in store `s`. -/
structure Records (H : Str → Str) (o : BackupOpts) (s : Store) (sf : SrcEntry) (e : IndexEntry) : Prop where
  /-- everything but the addresses is `metadata_from` of the source entry -/
  same : strip e = Inv.metaOf o sf
  /-- a file's addresses read back to exactly its bytes -/
  content : sf.kind = .file → readBack H s e.addrs = some (sf.content.take sf.size)
  nonfile : sf.kind ≠ .file → e.addrs = []

theorem Records.apath {s : Store} {sf : SrcEntry} {e : IndexEntry} (h : Records H o s sf e) :
    e.apath = sf.apath := congrArg IndexEntry.apath h.same
theorem Records.kind {s : Store} {sf : SrcEntry} {e : IndexEntry} (h : Records H o s sf e) :
    e.kind = sf.kind := congrArg IndexEntry.kind h.same
theorem Records.mtime {s : Store} {sf : SrcEntry} {e : IndexEntry} (h : Records H o s sf e) :
    e.mtime = sf.mtimeNs.fdiv nanosPerSec := congrArg IndexEntry.mtime h.same
theorem Records.mtimeNanos {s : Store} {sf : SrcEntry} {e : IndexEntry} (h : Records H o s sf e) :
    e.mtimeNanos = (sf.mtimeNs.fmod nanosPerSec).toNat := congrArg IndexEntry.mtimeNanos h.same
theorem Records.target {s : Store} {sf : SrcEntry} {e : IndexEntry} (h : Records H o s sf e) :
    e.target = sf.target := congrArg IndexEntry.target h.same

theorem Records.time_ok {s : Store} {sf : SrcEntry} {e : IndexEntry} (h : Records H o s sf e)
    (hm : -377705023201 * nanosPerSec ≤ sf.mtimeNs ∧ sf.mtimeNs < 253402207201 * nanosPerSec) :
    entryTimeNs e.mtime e.mtimeNanos = some sf.mtimeNs := by
  obtain ⟨sec, nanos, h1, _, h3⟩ := C01.mtime_roundtrip sf.mtimeNs hm.1 hm.2
  simp only [mtimeToIndex, Option.some.injEq, Prod.mk.injEq] at h1
  rw [h.mtime, h.mtimeNanos, h1.1, h1.2]
  exact h3

theorem addrs_small {s : Store} (hs : BlocksSmall s) {as : List Addr} {x : Str}
    (h : readBack H s as = some x) :
    as.all (fun a => a.start + a.len < 18446744073709551616) = true := by
  rw [List.all_eq_true]
  intro a ha
  obtain ⟨c, hc, hle⟩ := Inv.readAddrPure_isSome H (Inv.readBack_addr_isSome H h a ha)
  have := hs _ _ ((Inv.blockContent_eq_some H).mp hc).1
  simp only [decide_eq_true_eq]
  omega

theorem Records.usable {s : Store} {sf : SrcEntry} {e : IndexEntry} (h : Records H o s sf e)
    {src : List SrcEntry} (hg : SrcGood src) (hsf : sf ∈ src) (hs : BlocksSmall s) : entryUsable e = true := by
  have ht := h.time_ok (hg.mtimes sf hsf)
  have hk : e.kind ≠ .unknown := by rw [h.kind]; exact hg.kinds sf hsf
  have hsym : e.kind ≠ .symlink ∨ e.target.isSome = true := by
    by_cases hk' : sf.kind = .symlink
    · right; rw [h.target]; exact hg.targets sf hsf hk'
    · left; rw [h.kind]; exact hk'
  have haddr : e.addrs.all (fun a => a.start + a.len < 18446744073709551616) = true := by
    by_cases hf : sf.kind = .file
    · exact addrs_small hs (h.content hf)
    · rw [h.nonfile hf]; rfl
  simp only [entryUsable, Bool.and_eq_true, h.apath, hg.valid sf hsf, ht, Option.isSome_some, bne_iff_ne, ne_eq,
    hk, not_false_eq_true, Bool.or_eq_true, true_and, haddr, and_true]
  rcases hsym with h1 | h1
  · exact Or.inl h1
  · exact Or.inr h1

/-- The recorded entries of the final store, given the content theorem of the all-worlds
development (`newRec`: every file entry of a new hunk restores to a source file with its path). -/
theorem final_records {nb : Nat} {s0 s : Store} {hs : List (List IndexEntry)} {src : List SrcEntry}
    (hf : Final H o nb s0 s hs src) (hg : SrcGood src)
    (hrec : ∀ n es, hunkAt s nb n = some es → ∀ e ∈ es, e.kind = .file → Inv.RecOK H src s e) :
    Paired (Records H o s) src hs.flatten := by
  have h0 : Paired (fun sf e => Inv.metaOf o sf = strip e) src hs.flatten := paired_of_map_eq hf.shape.symm
  refine h0.imp_mem ?_
  intro sf hsf e he hmeta
  have hk : e.kind = sf.kind := congrArg IndexEntry.kind hmeta.symm
  refine ⟨hmeta.symm, ?_, fun hnf => hf.hsNonfile e he (by rw [hk]; exact hnf)⟩
  intro hfile
  obtain ⟨l, hl, hel⟩ := List.mem_flatten.mp he
  obtain ⟨n, hn⟩ := List.getElem?_of_mem hl
  have hh : hunkAt s nb n = some l := by simp [hunkAt, hf.hunk n, hn]
  obtain ⟨sf', hsf', hap, _, hrb⟩ := hrec n l hh e hel (hk.trans hfile)
  have hap' : sf'.apath = sf.apath := hap.trans (congrArg IndexEntry.apath hmeta.symm)
  rw [hg.inj sf' hsf' sf hsf hap'] at hrb
  exact hrb

theorem badEmptyHunk_nonEmpty (closed : Bool) (l : List (Nat × Bool)) (h : ∀ p ∈ l, p.2 = true) :
    badEmptyHunk closed l = false := by
  induction l with
  | nil => rfl
  | cons p l ih =>
    obtain ⟨n, ne⟩ := p
    have hne : ne = true := h (n, ne) (List.mem_cons_self ..)
    subst hne
    cases l with
    | nil => simp [badEmptyHunk]
    | cons q l =>
      simp only [badEmptyHunk, Bool.not_true, Bool.false_or]
      exact ih (fun p hp => h p (List.mem_cons_of_mem _ hp))

section final
variable {nb : Nat} {s0 s : Store} {hs : List (List IndexEntry)} {src : List SrcEntry}

theorem final_hunkNums (hf : Final H o nb s0 s hs src) : hunkNumsOf s nb = List.range hs.length := by
  refine eq_of_sorted_lt (hunkNumsOf_sorted_lt hf.st.noDup nb) List.pairwise_lt_range fun n => ?_
  simp only [mem_hunkNumsOf, Store.mem_iff_get? hf.st.uniqueKeys, hf.hunk, List.mem_range]
  constructor
  · rintro ⟨v, hv, _⟩
    cases hn : hs[n]? with
    | none => simp [hn] at hv
    | some es => exact (List.getElem?_eq_some_iff.mp hn).1
  · intro hn
    exact ⟨.hunk hs[n], by simp [List.getElem?_eq_getElem hn], rfl⟩

theorem final_usableHunk (hf : Final H o nb s0 s hs src) (hu : ∀ e ∈ hs.flatten, entryUsable e = true) (n : Nat) :
    usableHunk s nb n = hs[n]? := by
  simp only [usableHunk, hf.hunk]
  cases hn : hs[n]? with
  | none => rfl
  | some es =>
    have : es.all entryUsable = true := by
      rw [List.all_eq_true]
      intro e he
      exact hu e (List.mem_flatten.mpr ⟨es, List.mem_of_getElem? hn, he⟩)
    simp [this]

theorem final_ownEntries (hf : Final H o nb s0 s hs src) (hu : ∀ e ∈ hs.flatten, entryUsable e = true) :
    ownEntries s nb = hs.flatten := by
  unfold ownEntries
  rw [final_hunkNums hf]
  have : (fun n => usableHunk s nb n) = fun n => hs[n]? := funext (final_usableHunk hf hu)
  rw [show usableHunk s nb = fun n => usableHunk s nb n from rfl, this, filterMap_range_getElem?, List.take_length]

theorem final_readable (hf : Final H o nb s0 s hs src) : bandReadable s nb = true := by
  simp [bandReadable, hf.head, hf.indexDir]

theorem final_complete (hf : Final H o nb s0 s hs src) : isComplete s nb = true := by
  simp [isComplete, hf.tail, FileVal.isDir]

theorem final_headOutcome (hf : Final H o nb s0 s hs src) : headOutcome s nb = .ok () :=
  headOutcome_of_readable (by simp [headReadable, hf.head])

theorem final_bandIds_mem (hf : Final H o nb s0 s hs src) : nb ∈ bandIdsOf s :=
  (mem_bandIdsOf hf.st).2 hf.bandDir

theorem final_bandIds_old (hf : Final H o nb s0 s hs src) (hst : StoreOK H s0) {b : Nat}
    (hb : b ∈ bandIdsOf s) (hne : b ≠ nb) : b ∈ bandIdsOf s0 := by
  have := (mem_bandIdsOf hf.st).1 hb
  rw [hf.frame _ (by simp [newKey, Key.isUnder, Key.parent, isBlockish, hne])] at this
  exact (mem_bandIdsOf hst).2 this

theorem final_bandIds_le (hf : Final H o (newBandOf s0) s0 s hs src) (hst : StoreOK H s0) :
    ∀ b ∈ bandIdsOf s, b ≤ newBandOf s0 := by
  intro b hb
  by_cases hne : b = newBandOf s0
  · omega
  · exact Nat.le_of_lt (nextBandId_gt _ b (final_bandIds_old hf hst hb hne))

theorem final_listSpec (hf : Final H o nb s0 s hs src) (hu : ∀ e ∈ hs.flatten, entryUsable e = true) :
    listSpec s nb = hs.flatten := by
  simp [listSpec, bandEntries, final_readable hf, final_complete hf, final_ownEntries hf hu]

theorem final_bandGood (hf : Final H o nb s0 s hs src) (hu : ∀ e ∈ hs.flatten, entryUsable e = true) :
    BandGood s nb := by
  refine ⟨final_readable hf, ?_, ?_⟩
  · have hti : tailInfo s nb = (true, some hs.length) := by simp [tailInfo, hf.tail]
    simp only [indexCheckError, final_hunkNums hf, List.length_range, bne_self_eq_false, Bool.false_eq_true,
      if_false, hti, countMismatch]
    rw [badEmptyHunk_nonEmpty]
    · simp
    · intro p hp
      obtain ⟨n, hn, rfl⟩ := List.mem_map.mp hp
      rw [List.mem_range] at hn
      simp [hunkNonEmpty, hf.hunk, List.getElem?_eq_getElem hn]
  · intro k hk
    rw [final_hunkNums hf, List.mem_range] at hk
    have : hs[k].all entryUsable = true := by
      rw [List.all_eq_true]
      intro e he
      exact hu e (List.mem_flatten.mpr ⟨hs[k], List.getElem_mem hk, he⟩)
    simp [hunkError, hf.hunk, List.getElem?_eq_getElem hk, this]

theorem final_listErrors (hf : Final H o nb s0 s hs src) (hu : ∀ e ∈ hs.flatten, entryUsable e = true) :
    listErrors s nb = [] := by
  -- the new version is complete: the listing never walks down
  obtain ⟨h1, h2, h3⟩ := final_bandGood hf hu
  simp only [listErrors, final_complete hf, if_true, List.append_nil, bandErrors, h1, h2, Option.toList,
    List.nil_append, List.filterMap_eq_nil_iff]
  exact h3

theorem final_archWF (hf : Final H o nb s0 s hs src) (wf0 : ArchWF s0)
    (hu : ∀ e ∈ hs.flatten, entryUsable e = true)
    (hsorted : (src.map (·.apath)).Pairwise fun a b => apathCmp a b = .lt) : ArchWF s := by
  refine archWF_frame wf0 hf.st hf.frame ?_
  rw [final_ownEntries hf hu, strictlySorted_iff]
  have : hs.flatten.map (·.apath) = src.map (·.apath) := by
    have := congrArg (List.map (·.apath)) hf.shape
    simpa [List.map_map, Function.comp_def, Inv.metaOf] using this
  rw [this]
  exact hsorted

end final

/-- What restore must create for a source entry: path, kind, bytes (files), whole-second and
nanosecond modification time as stored (`mtimeToIndex`), mode bits, owner and group (when the backup
recorded owners), symlink target; completely restored. -/
def expectedNode (o : BackupOpts) (sf : SrcEntry) : RNode :=
  { apath := sf.apath, kind := sf.kind,
    content := if sf.kind = .file then sf.content.take sf.size else [],
    mtime := sf.mtimeNs.fdiv nanosPerSec, mtimeNanos := (sf.mtimeNs.fmod nanosPerSec).toNat,
    unixMode := some sf.unixMode,
    user := if o.owner then sf.user else none, group := if o.owner then sf.group else none,
    target := sf.target, complete := true }

theorem ofEntry_strip (e : IndexEntry) : RNode.ofEntry (strip e) = RNode.ofEntry e := rfl

theorem nodeOf_records {s : Store} {sf : SrcEntry} {e : IndexEntry} (h : Records H o s sf e) :
    Fault.nodeOf H s e = expectedNode o sf := by
  unfold Fault.nodeOf
  rw [h.kind, ← ofEntry_strip e, h.same]
  by_cases hk : sf.kind = .file
  · rw [if_pos hk, readContentP_of_readBack (h.content hk) []]
    simp [expectedNode, hk, RNode.ofEntry, Inv.metaOf]
  · rw [if_neg hk]
    simp [expectedNode, hk, RNode.ofEntry, Inv.metaOf]

theorem records_src {src pre : List SrcEntry} {s : Store} {es : List IndexEntry}
    (h : Paired (Records H o s) pre es) (hsub : ∀ sf ∈ pre, sf ∈ src) :
    ∀ e ∈ es, ∃ sf ∈ src, sf.apath = e.apath ∧ sf.kind = e.kind := by
  intro e he
  obtain ⟨sf, hsf, hr⟩ := h.mem_right he
  exact ⟨sf, hsub sf hsf, hr.apath.symm, hr.kind.symm⟩

theorem noneBelow_of_src {src : List SrcEntry} (hsrc : SrcGood src) {es : List IndexEntry}
    (h : ∀ e ∈ es, ∃ sf ∈ src, sf.apath = e.apath ∧ sf.kind = e.kind) : Fault.NoneBelowSymlink es := by
  intro a ha b hb hk h1 h2
  obtain ⟨sa, hsa, hap, hak⟩ := h a ha
  obtain ⟨sb, hsb, hbp, _⟩ := h b hb
  rw [← hap, ← hbp]
  exact hsrc.noBelowSymlink sa hsa sb hsb (hak.trans hk) (by rw [hap]; exact h1) (by rw [hap, hbp]; exact h2)

/-- A listing that records (part of) a good source restores to it, silently. -/
theorem restoreP_records {srcAll : List SrcEntry} (hg : SrcGood srcAll) {s : Store} {src : List SrcEntry}
    {es : List IndexEntry} (hp : Paired (Records H o s) src es) (hsub : ∀ sf ∈ src, sf ∈ srcAll)
    (hus : ∀ e ∈ es, entryUsable e = true) :
    restoreP H s [] es = (.ok (src.map (expectedNode o)), []) := by
  rw [Fault.restoreP_nodes (noneBelow_of_src hg (records_src hp hsub)) hus fun e he hk => by
        obtain ⟨sf, _, r⟩ := hp.mem_right he
        rw [readContentP_of_readBack (r.content (r.kind ▸ hk)) []],
    hp.map_eq (expectedNode o) (Fault.nodeOf H s) fun _ _ r => (nodeOf_records r).symm]

/-- What `restore(Specified(b), "/", no exclusions)` returns and reports on a store. -/
def restoreSpecP (H : Str → Str) (s : Store) (b : Nat) : Outcome (List RNode) × List Event :=
  match headOutcome s b with
  | .ok () => ((restoreP H s [] (listSpec s b)).1,
                (restoreP H s [] (listSpec s b)).2 ++ ((listErrors s b).map Event.error).reverse)
  | .err e => (.err e, [])
  | .panic m => (.panic m, [])

/-- On a well-formed archive the raw function is the specification by the listing rule. -/
theorem restoreRaw_wf {s : Store} (wf : ArchWF s) (hst : StoreOK H s) (b : Nat) :
    Hist.restoreRaw H s b [slash] (fun _ => false) = restoreSpecP H s b := by
  unfold Hist.restoreRaw restoreSpecP
  rw [if_pos hst.blockRoot, stitchAllP_fst wf, stitchAllP_snd wf,
    Hist.filterP_valid fun e he _ => C08.listed_valid he, rootFilter_listSpec]
  cases headOutcome s b <;> rfl

theorem restore_specified_runs {s : Store} (wf : ArchWF s) (hst : StoreOK H s) (b : Nat) :
    RunsAt (restore H (.specified b) [slash] (fun _ => false)) s (restoreSpecP H s b).1 s
      (restoreSpecP H s b).2 :=
  restoreRaw_wf wf hst b ▸ Hist.restore_raw_runs hst.uniqueKeys b _ _

/-- The newest version is the latest complete one when its head opens and it has a tail. -/
theorem latestP_newest {s : Store} (hst : StoreOK H s) {nb : Nat}
    (hmem : nb ∈ bandIdsOf s) (hmax : ∀ b ∈ bandIdsOf s, b ≤ nb) (hhead : headOutcome s nb = .ok ())
    (hc : isComplete s nb = true) : Hist.latestP s = .ok (some nb) :=
  (Hist.latestP_eq_some_iff hst.root nb).2
    ⟨hmem, hhead, hc, fun x hx hlt => absurd (hmax x hx) (Nat.not_le.2 hlt)⟩

theorem lastCompleteBand_runs_newest {s : Store} (hst : StoreOK H s) {nb : Nat}
    (hmem : nb ∈ bandIdsOf s) (hmax : ∀ b ∈ bandIdsOf s, b ≤ nb) (hhead : headOutcome s nb = .ok ())
    (hc : isComplete s nb = true) : RunsAt lastCompleteBand s (.ok (some nb)) s [] :=
  latestP_newest hst hmem hmax hhead hc ▸ Hist.lastCompleteBand_runsAt s

theorem restoreLatestRaw_newest {s : Store} (hst : StoreOK H s) {nb : Nat}
    (hmem : nb ∈ bandIdsOf s) (hmax : ∀ b ∈ bandIdsOf s, b ≤ nb) (hhead : headOutcome s nb = .ok ())
    (hc : isComplete s nb = true) (subtree : Str) (excl : Str → Bool) :
    Hist.restoreLatestRaw H s subtree excl = Hist.restoreRaw H s nb subtree excl := by
  simp only [Hist.restoreLatestRaw, latestP_newest hst hmem hmax hhead hc]

theorem restore_latest_runs {s : Store} (wf : ArchWF s) (hst : StoreOK H s) {nb : Nat}
    (hmem : nb ∈ bandIdsOf s) (hmax : ∀ b ∈ bandIdsOf s, b ≤ nb) (hhead : headOutcome s nb = .ok ())
    (hc : isComplete s nb = true) :
    RunsAt (restore H .latestClosed [slash] (fun _ => false)) s (restoreSpecP H s nb).1 s
      (restoreSpecP H s nb).2 :=
  restoreRaw_wf wf hst nb ▸ restoreLatestRaw_newest hst hmem hmax hhead hc _ _ ▸
    Hist.restore_latest_raw_runs hst.uniqueKeys _ _

end Conserve.Exact
