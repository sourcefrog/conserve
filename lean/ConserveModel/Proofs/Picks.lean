import ConserveModel.Invariants
/-
Scans of the association list.  Every scan of the store (`bandIdsOf`, `hunkNumsOf`, and the listing
functions of Proofs/QuietWorld.lean) is `filterMap g` for a selector `g` that picks the entries at
keys of one shape `K x` whose value satisfies `C x`, and yields `x`.  That one fact about `g`
(`Picks g K C`, a case analysis on the key) gives membership, absence of repetitions, and
indifference to every change of the list at keys of another shape.  Uniqueness of keys is taken as
`(s.map Prod.fst).Nodup`: `Store.NoDupKeys` and `Inv.NoDupKeys` are that term, `UniqueKeys` is
`uniqueKeys_iff_nodup` away.
-/
namespace Conserve

theorem Store.mem_of_get? {s : Store} {k : Key} {v : FileVal} (h : s.get? k = some v) : (k, v) ∈ s := by
  induction s with
  | nil => simp [Store.get?] at h
  | cons kv s ih =>
    obtain ⟨a, b⟩ := kv
    simp only [Store.get?, List.lookup_cons] at h ih
    by_cases hk : k = a
    · subst hk; simp at h; subst h; simp
    · have : (k == a) = false := by simpa using hk
      simp only [this] at h
      exact List.mem_cons_of_mem _ (ih h)

theorem Store.get?_of_mem_nodup {s : Store} (hs : (s.map Prod.fst).Nodup) {k : Key} {v : FileVal} (h : (k, v) ∈ s) :
    s.get? k = some v := by
  induction s with
  | nil => cases h
  | cons kv s ih =>
    obtain ⟨a, b⟩ := kv
    simp only [List.map_cons, List.nodup_cons] at hs
    simp only [Store.get?, List.lookup_cons] at ih ⊢
    rcases List.mem_cons.mp h with heq | hin
    · cases heq; simp
    · have hne : k ≠ a := by
        rintro rfl
        exact hs.1 (List.mem_map.mpr ⟨(k, v), hin, rfl⟩)
      have : (k == a) = false := by simpa using hne
      simp only [this]
      exact ih hs.2 hin

def Picks {β : Type} (g : Key × FileVal → Option β) (K : β → Key) (C : β → FileVal → Prop) : Prop :=
  ∀ k v x, g (k, v) = some x ↔ k = K x ∧ C x v

namespace Picks
variable {β : Type} {g : Key × FileVal → Option β} {K : β → Key} {C : β → FileVal → Prop}

theorem mem (h : Picks g K C) {s : Store} {x : β} : x ∈ s.filterMap g ↔ ∃ v, (K x, v) ∈ s ∧ C x v := by
  simp only [List.mem_filterMap]
  constructor
  · rintro ⟨⟨k, v⟩, hm, hg⟩
    obtain ⟨rfl, hc⟩ := (h k v x).1 hg
    exact ⟨v, hm, hc⟩
  · rintro ⟨v, hm, hc⟩
    exact ⟨_, hm, (h _ v x).2 ⟨rfl, hc⟩⟩

theorem mem_get? (h : Picks g K C) {s : Store} (hn : (s.map Prod.fst).Nodup) {x : β} :
    x ∈ s.filterMap g ↔ ∃ v, s.get? (K x) = some v ∧ C x v := by
  rw [h.mem]
  exact ⟨fun ⟨v, hm, hc⟩ => ⟨v, Store.get?_of_mem_nodup hn hm, hc⟩,
    fun ⟨v, hg, hc⟩ => ⟨v, Store.mem_of_get? hg, hc⟩⟩

/-- The value picked determines the key, so distinct keys give distinct values. -/
theorem nodup (h : Picks g K C) {s : Store} (hn : (s.map Prod.fst).Nodup) : (s.filterMap g).Nodup := by
  refine List.Pairwise.filterMap g ?_ (List.pairwise_map.1 hn)
  intro a a' hne x hx x' hx' hxx
  subst hxx
  exact hne (((h a.1 a.2 x).1 hx).1.trans ((h a'.1 a'.2 x).1 hx').1.symm)

theorem none_of_ne (h : Picks g K C) {k : Key} (hk : ∀ x, k ≠ K x) (v : FileVal) : g (k, v) = none := by
  cases hg : g (k, v) with
  | none => rfl
  | some x => exact absurd ((h k v x).1 hg).1 (hk x)

theorem append_single (h : Picks g K C) {s : Store} {k : Key} (hk : ∀ x, k ≠ K x) (v : FileVal) :
    (s ++ [(k, v)]).filterMap g = s.filterMap g := by
  simp [List.filterMap_append, h.none_of_ne hk v]

theorem filter_comm (h : Picks g K C) {s : Store} (p : Key → Bool) :
    (s.filter fun kv => p kv.1).filterMap g = (s.filterMap g).filter fun x => p (K x) := by
  rw [List.filterMap_filter, List.filter_filterMap]
  refine congrArg (List.filterMap · s) (funext fun kv => ?_)
  cases hg : g kv with
  | none => simp
  | some x => simp [Option.filter, ((h kv.1 kv.2 x).1 hg).1]

/-- Filtering the store by a predicate on keys that keeps every key the selector looks at. -/
theorem filter_keeps (h : Picks g K C) {s : Store} (p : Key → Bool) (hp : ∀ x, p (K x) = true) :
    (s.filter fun kv => p kv.1).filterMap g = s.filterMap g := by
  rw [h.filter_comm, List.filter_eq_self.2 fun x _ => hp x]

end Picks

theorem mem_sortNat {n : Nat} {l : List Nat} : n ∈ sortNat l ↔ n ∈ l := List.mem_mergeSort

theorem sortNat_sorted (l : List Nat) : (sortNat l).Pairwise (· ≤ ·) := by
  have := List.pairwise_mergeSort (le := fun a b : Nat => decide (a ≤ b))
    (by intro a b c; simp; omega) (by intro a b; simp; omega) l
  exact this.imp (by intro a b h; simpa using h)

theorem sortNat_nodup {l : List Nat} (h : l.Nodup) : (sortNat l).Nodup :=
  (List.mergeSort_perm _ _).nodup_iff.2 h

theorem sortNat_of_sorted {l : List Nat} (h : l.Pairwise (· ≤ ·)) : sortNat l = l :=
  List.mergeSort_of_pairwise (h.imp (by simp))

theorem sortNat_sorted_lt {l : List Nat} (h : l.Nodup) : (sortNat l).Pairwise (· < ·) :=
  ((sortNat_sorted l).and (sortNat_nodup h)).imp (by intro a b hab; omega)

theorem sortNat_filter (p : Nat → Bool) (l : List Nat) : sortNat (l.filter p) = (sortNat l).filter p := by
  apply List.Perm.eq_of_pairwise (le := (· ≤ ·))
  · intro a b _ _ h1 h2; omega
  · exact sortNat_sorted _
  · exact (sortNat_sorted l).filter p
  · exact (List.mergeSort_perm _ _).trans ((List.mergeSort_perm l _).filter p).symm

theorem eq_of_sorted_lt {l₁ l₂ : List Nat} (h1 : l₁.Pairwise (· < ·)) (h2 : l₂.Pairwise (· < ·))
    (hm : ∀ a, a ∈ l₁ ↔ a ∈ l₂) : l₁ = l₂ := by
  have n1 : l₁.Nodup := h1.imp (by intro a b h; omega)
  have n2 : l₂.Nodup := h2.imp (by intro a b h; omega)
  exact List.Perm.eq_of_pairwise (le := (· < ·)) (by intro a b _ _ hab hba; omega) h1 h2
    ((List.perm_ext_iff_of_nodup n1 n2).2 hm)

/-- With unique keys a sorted scan is determined by what `get?` finds at the keys the selector looks at. -/
theorem Picks.sortNat_congr {g : Key × FileVal → Option Nat} {K : Nat → Key} {C : Nat → FileVal → Prop}
    (h : Picks g K C) {s s' : Store} (hn : (s.map Prod.fst).Nodup) (hn' : (s'.map Prod.fst).Nodup)
    (hk : ∀ x, (∃ v, s'.get? (K x) = some v ∧ C x v) ↔ ∃ v, s.get? (K x) = some v ∧ C x v) :
    sortNat (s'.filterMap g) = sortNat (s.filterMap g) :=
  eq_of_sorted_lt (sortNat_sorted_lt (h.nodup hn')) (sortNat_sorted_lt (h.nodup hn))
    fun x => by rw [mem_sortNat, mem_sortNat, h.mem_get? hn', h.mem_get? hn, hk]

/-- The selector of `bandIdsOf`. -/
def bandSel (kv : Key × FileVal) : Option Nat :=
  match kv.1, kv.2 with
  | .bandDir b, .dir => some b
  | _, _ => none

/-- The selector of `hunkNumsOf`. -/
def hunkSel (b : Nat) (kv : Key × FileVal) : Option Nat :=
  match kv.1 with
  | .hunk b' n => if b' = b && !kv.2.isDir then some n else none
  | _ => none

theorem bandIdsOf_eq (s : Store) : bandIdsOf s = sortNat (s.filterMap bandSel) := rfl

theorem hunkNumsOf_eq (s : Store) (b : Nat) : hunkNumsOf s b = sortNat (s.filterMap (hunkSel b)) := rfl

theorem bandSel_picks : Picks bandSel .bandDir fun _ v => v = .dir := by
  intro k v x
  cases k with
  | bandDir b => cases v <;> simp [bandSel]
  | _ => simp [bandSel]

theorem hunkSel_picks (b : Nat) : Picks (hunkSel b) (.hunk b) fun _ v => v.isDir = false := by
  intro k v n
  cases k <;> simp [hunkSel, and_assoc, and_comm, and_left_comm]

theorem mem_bandIdsOf' {s : Store} {b : Nat} : b ∈ bandIdsOf s ↔ (Key.bandDir b, FileVal.dir) ∈ s := by
  rw [bandIdsOf_eq, mem_sortNat, bandSel_picks.mem]
  exact ⟨fun ⟨_, hm, hv⟩ => hv ▸ hm, fun hm => ⟨_, hm, rfl⟩⟩

theorem mem_hunkNumsOf {s : Store} {b n : Nat} :
    n ∈ hunkNumsOf s b ↔ ∃ v, (Key.hunk b n, v) ∈ s ∧ v.isDir = false := by
  rw [hunkNumsOf_eq, mem_sortNat, (hunkSel_picks b).mem]

theorem mem_hunkNumsOf_get? {s : Store} (hn : (s.map Prod.fst).Nodup) {b n : Nat} :
    n ∈ hunkNumsOf s b ↔ ∃ v, s.get? (.hunk b n) = some v ∧ v.isDir = false := by
  rw [hunkNumsOf_eq, mem_sortNat, (hunkSel_picks b).mem_get? hn]

theorem bandIdsOf_sorted_lt {s : Store} (hn : (s.map Prod.fst).Nodup) : (bandIdsOf s).Pairwise (· < ·) :=
  sortNat_sorted_lt (bandSel_picks.nodup hn)

theorem hunkNumsOf_sorted_lt {s : Store} (hn : (s.map Prod.fst).Nodup) (b : Nat) :
    (hunkNumsOf s b).Pairwise (· < ·) :=
  sortNat_sorted_lt ((hunkSel_picks b).nodup hn)

theorem hunkNumsOf_congr {s s' : Store} (hn : (s.map Prod.fst).Nodup) (hn' : (s'.map Prod.fst).Nodup) {b : Nat}
    (h : ∀ n, s'.get? (.hunk b n) = s.get? (.hunk b n)) : hunkNumsOf s' b = hunkNumsOf s b :=
  (hunkSel_picks b).sortNat_congr hn hn' fun n => by rw [h]

end Conserve
