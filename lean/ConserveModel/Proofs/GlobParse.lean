import ConserveModel.Glob
/-
Helper lemmas for C15, parser side: what appending "/**" to a glob does to its tokens, and
where a `RecursivePrefix` token can occur.
-/
namespace Conserve

theorem runParser_append (st : PSt) (p q : Str) :
    runParser st (p ++ q) = runParser (runParser st p) q := by
  simp [runParser, List.foldl_append]

theorem runParser_snoc (st : PSt) (p : Str) (c : Nat) :
    runParser st (p ++ [c]) = step (runParser st p) c := by
  simp [runParser, List.foldl_append]

/-- "/**" as bytes. -/
def slashStarStar : Str := [47, 42, 42]

theorem exists_snoc_of_ne_nil {α : Type} {l : List α} (h : l ≠ []) : ∃ init t, l = init ++ [t] :=
  ⟨l.dropLast, l.getLast h, (List.dropLast_concat_getLast h).symm⟩

/-! ### The `match c` of the main loop, as data

`stepNormal` appends tokens that depend on the character only and enters a mode that depends on the
character only; everything the proofs below need of it is a fact about `normTok` or `normMode`. -/

def normTok (c : Nat) : List Tok :=
  if c = 63 then [.any] else if c = 42 ∨ c = 91 ∨ c = 123 ∨ c = 125 ∨ c = 92 then [] else [.lit c]

def normMode (c : Nat) : Mode :=
  if c = 42 then .star1 else if c = 91 then .cls ClsSt.init
  else if c = 123 ∨ c = 125 then .failed .unsupported else if c = 92 then .esc else .normal

theorem stepNormal_eq (toks : List Tok) (last : Option Nat) (c : Nat) :
    stepNormal toks last c = ⟨toks ++ normTok c, if c = 42 then last else some c, normMode c⟩ := by
  unfold stepNormal normTok normMode
  by_cases h1 : c = 63
  · subst h1; simp
  by_cases h2 : c = 42
  · subst h2; simp
  by_cases h3 : c = 91
  · subst h3; simp
  by_cases h4 : c = 123 ∨ c = 125
  · rcases h4 with rfl | rfl <;> simp
  by_cases h5 : c = 92
  · subst h5; simp
  · simp only [not_or] at h4
    simp [h1, h2, h3, h4, h5]

theorem recPrefix_not_mem_normTok (c : Nat) : Tok.recPrefix ∉ normTok c := by
  unfold normTok
  split
  · simp
  · split <;> simp

theorem ite_not_star {p : Prop} [Decidable p] {a b : Mode} (ha : a ≠ .star1 ∧ a ≠ .star2)
    (hb : b ≠ .star1 ∧ b ≠ .star2) :
    (if p then a else b) ≠ .star1 ∧ (if p then a else b) ≠ .star2 := by
  split <;> assumption

theorem normMode_star (c : Nat) : (normMode c = .star1 → c = 42) ∧ normMode c ≠ .star2 := by
  by_cases hc : c = 42
  · exact ⟨fun _ => hc, by rw [normMode, if_pos hc]; nofun⟩
  · have : normMode c ≠ .star1 ∧ normMode c ≠ .star2 := by
      rw [normMode, if_neg hc]
      exact ite_not_star ⟨nofun, nofun⟩
        (ite_not_star ⟨nofun, nofun⟩ (ite_not_star ⟨nofun, nofun⟩ ⟨nofun, nofun⟩))
    exact ⟨fun h => absurd h this.1, this.2⟩

/-- The `match self.pop_token()?` of `parse_star` replaces the last token, unless that is a
`RecursivePrefix` or `RecursiveSuffix`. -/
theorem popPush_snoc (init : List Tok) (t : Tok) (s : Bool) :
    popPush (init ++ [t]) s =
      init ++ [if t = .recPrefix ∨ t = .recSuffix then t else if s then .recSuffix else .recMid] := by
  cases t <;> simp [popPush]

/-- Reading '/' in a state that could finish with `ts` appends a literal '/' to `ts`, unless the
'/' closes a `**` component. -/
theorem step_slash_of_finish {st : PSt} {ts : List Tok} (h : finish st = .ok ts)
    (hm : st.mode = .star2 → st.toks ≠ [] ∧ st.last ≠ some 47) :
    step st 47 = ⟨ts ++ [.lit 47], some 47, .normal⟩ := by
  obtain ⟨toks, last, mode⟩ := st
  cases mode with
  | normal => cases h; simp [step, stepNormal]
  | star1 => cases h; simp [step, stepNormal]
  | star2 =>
    obtain ⟨h1, h2⟩ := hm rfl
    have he : toks.isEmpty = false := List.isEmpty_eq_false_iff.mpr h1
    simp only [finish, he, Bool.false_eq_true, if_false, ne_eq, h2, not_false_eq_true, if_true] at h
    cases h
    simp [step, stepStar2, stepNormal, he, h2]
  | esc => simp [finish] at h
  | cls cs => simp [finish] at h
  | failed e => simp [finish] at h

theorem finish_slashStarStar_snoc {st : PSt} {ts : List Tok} (h : finish st = .ok ts)
    (hm : st.mode = .star2 → st.toks ≠ [] ∧ st.last ≠ some 47) :
    finish (runParser st slashStarStar) = .ok (ts ++ [.recSuffix]) := by
  show finish (runParser (step st 47) [42, 42]) = _
  rw [step_slash_of_finish h hm]
  simp [runParser, step, stepNormal, finish, popPush_snoc]

/-- Appending "/**" to a glob that ends in a `**` component ("**", "…/**") leaves the tokens as
they are, and they end in `RecursivePrefix` or `RecursiveSuffix`. -/
theorem finish_slashStarStar_same {toks : List Tok} {last : Option Nat} {ts : List Tok}
    (h : finish ⟨toks, last, .star2⟩ = .ok ts) (hm : toks = [] ∨ last = some 47) :
    finish (runParser ⟨toks, last, .star2⟩ slashStarStar) = .ok ts ∧
      (ts.getLast? = some .recSuffix ∨ ts.getLast? = some .recPrefix) := by
  by_cases he : toks = []
  · subst he
    cases h
    simp [runParser, slashStarStar, step, stepStar2, stepNormal, finish, popPush]
  · obtain ⟨init, t, rfl⟩ := exists_snoc_of_ne_nil he
    have hl : last = some 47 := hm.resolve_left he
    subst hl
    simp only [finish, List.isEmpty_eq_false_iff.mpr he, Bool.false_eq_true, if_false, ne_eq,
      not_true_eq_false, popPush_snoc, if_true] at h
    cases h
    by_cases ht : t = .recPrefix ∨ t = .recSuffix
    · rcases ht with rfl | rfl <;>
        simp [runParser, slashStarStar, step, stepStar2, stepNormal, finish, popPush_snoc]
    · simp [runParser, slashStarStar, step, stepStar2, stepNormal, finish, popPush_snoc, ht]

/-- No `RecursivePrefix` after the first token. -/
def RPHead (toks : List Tok) : Prop := Tok.recPrefix ∉ toks.tail

theorem mem_tail_append {α} {x : α} {l m : List α} (h : x ∈ (l ++ m).tail) : x ∈ l.tail ∨ x ∈ m := by
  cases l with
  | nil => right; exact List.mem_of_mem_tail h
  | cons a l => simpa using h

theorem RPHead_nil : RPHead [] := by simp [RPHead]

theorem RPHead_append {toks m : List Tok} (h : RPHead toks) (hm : Tok.recPrefix ∉ m) :
    RPHead (toks ++ m) := by
  intro hx
  rcases mem_tail_append hx with h1 | h1
  · exact h h1
  · exact hm h1

theorem RPHead_of_snoc {init : List Tok} {t : Tok} (h : RPHead (init ++ [t])) : RPHead init :=
  fun hx => h (by
    cases init with
    | nil => cases hx
    | cons a l => exact List.mem_append_left _ hx)

theorem RPHead_popPush {toks : List Tok} (h : RPHead toks) (s : Bool) : RPHead (popPush toks s) := by
  by_cases he : toks = []
  · subst he; exact h
  · obtain ⟨init, t, rfl⟩ := exists_snoc_of_ne_nil he
    rw [popPush_snoc]
    split
    · exact h
    · exact RPHead_append (RPHead_of_snoc h) (by cases s <;> simp)

theorem RPHead_stepNormal {toks : List Tok} (h : RPHead toks) (last : Option Nat) (c : Nat) :
    RPHead (stepNormal toks last c).toks := by
  rw [stepNormal_eq]
  exact RPHead_append h (recPrefix_not_mem_normTok c)

/-- Inside a class the parser goes on, fails, or closes the class with a `Class` token. -/
def ClsStep.ClsOrCont : ClsStep → Prop
  | .done (.cls _ _) => True
  | .done _ => False
  | _ => True

theorem ClsStep.ClsOrCont.ite {p : Prop} [Decidable p] {a b : ClsStep} (ha : a.ClsOrCont)
    (hb : b.ClsOrCont) : (if p then a else b).ClsOrCont := by
  split <;> assumption

theorem clsAddToLast_clsOrCont (rs : List (Str × Str)) (c : Str) (f : List (Str × Str) → ClsSt) :
    (match clsAddToLast rs c with
      | some rs => ClsStep.cont (f rs)
      | none => ClsStep.err).ClsOrCont := by
  cases clsAddToLast rs c <;> trivial

theorem clsChar_clsOrCont (st : ClsSt) (c : Str) : (clsChar st c).ClsOrCont := by
  unfold clsChar
  refine .ite trivial (.ite (.ite trivial trivial)
    (.ite (.ite trivial (.ite ?_ trivial)) (.ite ?_ trivial)))
  · exact clsAddToLast_clsOrCont _ _ _
  · exact clsAddToLast_clsOrCont _ _ _

theorem clsByte_clsOrCont (st : ClsSt) (b : Nat) : (clsByte st b).ClsOrCont := by
  unfold clsByte
  exact .ite (.ite (clsChar_clsOrCont _ _) trivial) (.ite trivial (clsChar_clsOrCont _ _))

theorem clsByte_done {st : ClsSt} {b : Nat} {tok : Tok} (h : clsByte st b = .done tok) :
    Tok.recPrefix ∉ [tok] := by
  have := clsByte_clsOrCont st b
  rw [h] at this
  cases tok <;> first | exact this.elim | simp

/-- `parse_star` after "**", seeing `c`: only a '/' that closes a `**` component is special. -/
theorem stepStar2_eq (toks : List Tok) (last : Option Nat) (c : Nat) :
    stepStar2 toks last c =
      if c = 47 ∧ (toks = [] ∨ last = some 47) then
        ⟨if toks = [] then [.recPrefix] else popPush toks false, some 47, .normal⟩
      else stepNormal (toks ++ [.star, .star]) (some 42) c := by
  unfold stepStar2
  by_cases he : toks = []
  · subst he
    by_cases hc : c = 47 <;> simp [hc]
  · rw [List.isEmpty_eq_false_iff.mpr he]
    by_cases hl : last = some 47 <;> by_cases hc : c = 47 <;> simp [he, hl, hc]

theorem RPHead_step {st : PSt} (h : RPHead st.toks) (c : Nat) : RPHead (step st c).toks := by
  have hstar : ∀ m, Tok.recPrefix ∉ m → RPHead (stepNormal (st.toks ++ m) (some 42) c).toks :=
    fun m hm => RPHead_stepNormal (RPHead_append h hm) _ _
  unfold step
  split
  · exact RPHead_stepNormal h _ _
  · exact RPHead_append h (by simp)
  · split
    · exact h
    · exact hstar _ (by simp)
  · rw [stepStar2_eq]
    split
    · split
      · simp [RPHead]
      · exact RPHead_popPush h _
    · exact hstar _ (by simp)
  · split
    · exact h
    · rename_i hd
      exact RPHead_append h (clsByte_done hd)
    · exact h
  · exact h

theorem RPHead_run {st : PSt} (h : RPHead st.toks) (p : Str) : RPHead (runParser st p).toks := by
  induction p generalizing st with
  | nil => exact h
  | cons c p ih => exact ih (RPHead_step h c)

theorem RPHead_finish {st : PSt} (h : RPHead st.toks) {ts : List Tok} (hf : finish st = .ok ts) :
    RPHead ts := by
  unfold finish at hf
  split at hf
  · cases hf; exact h
  · cases hf
  · cases hf; exact RPHead_append h (by simp)
  · split at hf
    · cases hf; simp [RPHead]
    · split at hf
      · cases hf; exact RPHead_append h (by simp)
      · cases hf; exact RPHead_popPush h _
  · cases hf
  · cases hf

theorem parseGlob_eq_some {p : Str} {ts : List Tok} :
    parseGlob p = some ts ↔ parseGlobE p = .ok ts := by
  unfold parseGlob
  split <;> simp_all

theorem parseGlob_RPHead {p : Str} {ts : List Tok} (h : parseGlob p = some ts) : RPHead ts := by
  rw [parseGlob_eq_some] at h
  exact RPHead_finish (RPHead_run RPHead_nil p) h

theorem eq_recPrefix_of_getLast {ts : List Tok} (h : RPHead ts)
    (hl : ts.getLast? = some .recPrefix) : ts = [.recPrefix] := by
  cases ts with
  | nil => simp at hl
  | cons a ts =>
    cases ts with
    | nil => simpa using hl
    | cons b ts =>
      exfalso
      apply h
      rw [List.getLast?_cons_cons] at hl
      exact List.mem_of_getLast? hl

/-- What appending "/**" does to a glob that parses: the tokens get a `RecursiveSuffix` appended,
or — when the glob already ends in a `**` component — they are unchanged, and then they are
`[RecursivePrefix]` or end in `RecursiveSuffix`. -/
theorem parseGlob_slashStarStar {p : Str} {ts : List Tok} (h : parseGlob p = some ts) :
    parseGlob (p ++ slashStarStar) = some (ts ++ [.recSuffix]) ∨
    (parseGlob (p ++ slashStarStar) = some ts ∧
      (ts = [.recPrefix] ∨ ∃ ts', ts = ts' ++ [.recSuffix])) := by
  have hR := parseGlob_RPHead h
  rw [parseGlob_eq_some] at h
  simp only [parseGlob_eq_some, parseGlobE, runParser_append]
  unfold parseGlobE at h
  generalize runParser PSt.init p = st at h
  by_cases hm : st.mode = .star2 ∧ (st.toks = [] ∨ st.last = some 47)
  · obtain ⟨toks, last, mode⟩ := st
    obtain ⟨rfl, hm⟩ := hm
    obtain ⟨h1, h2⟩ := finish_slashStarStar_same h hm
    refine .inr ⟨h1, ?_⟩
    rcases h2 with h2 | h2
    · exact .inr (List.getLast?_eq_some_iff.mp h2)
    · exact .inl (eq_recPrefix_of_getLast hR h2)
  · exact .inl (finish_slashStarStar_snoc h fun h2 =>
      ⟨fun h3 => hm ⟨h2, .inl h3⟩, fun h3 => hm ⟨h2, .inr h3⟩⟩)

theorem step_mode_star (st : PSt) (c : Nat) :
    ((step st c).mode = .star1 → c = 42) ∧ ((step st c).mode = .star2 → st.mode = .star1 ∧ c = 42) := by
  have hn : ∀ toks last, ((stepNormal toks last c).mode = .star1 → c = 42) ∧
      ((stepNormal toks last c).mode = .star2 → st.mode = .star1 ∧ c = 42) := fun toks last => by
    rw [stepNormal_eq]
    exact ⟨(normMode_star c).1, fun h => absurd h (normMode_star c).2⟩
  unfold step
  split
  · exact hn _ _
  · exact ⟨nofun, nofun⟩
  · split
    · exact ⟨nofun, fun _ => ⟨by assumption, by assumption⟩⟩
    · exact hn _ _
  · rw [stepStar2_eq]
    split
    · exact ⟨nofun, nofun⟩
    · exact hn _ _
  · split <;> exact ⟨nofun, nofun⟩
  · rename_i hm
    rw [hm]
    exact ⟨nofun, nofun⟩

theorem run_mode_star2 {p : Str} (h : (runParser PSt.init p).mode = .star2) :
    ∃ q, p = q ++ [42, 42] := by
  rcases List.eq_nil_or_concat p with rfl | ⟨q, c, rfl⟩
  · simp [runParser, PSt.init] at h
  · rw [List.concat_eq_append, runParser_snoc] at h
    obtain ⟨h1, rfl⟩ := (step_mode_star _ _).2 h
    rcases List.eq_nil_or_concat q with rfl | ⟨q', c', rfl⟩
    · simp [runParser, PSt.init] at h1
    · rw [List.concat_eq_append, runParser_snoc] at h1
      have := (step_mode_star _ _).1 h1
      subst this
      exact ⟨q', by simp⟩

/-- For a glob that does not end in "**", appending "/**" appends a `RecursiveSuffix`. -/
theorem parseGlob_slashStarStar_of_not_endsWith {p : Str} {ts : List Tok}
    (h : parseGlob p = some ts) (hne : ¬ ∃ q, p = q ++ [42, 42]) :
    parseGlob (p ++ slashStarStar) = some (ts ++ [.recSuffix]) := by
  rw [parseGlob_eq_some] at h ⊢
  unfold parseGlobE at h ⊢
  rw [runParser_append]
  exact finish_slashStarStar_snoc h (fun hm => absurd (run_mode_star2 hm) hne)

end Conserve
