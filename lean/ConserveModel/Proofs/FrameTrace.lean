import ConserveModel.Proofs.FrameOps
/-
Facts about the *trace* of a run: `TraceProp` (what a program appends, in every world), the write-once
invariant `WInv` (every successful write found its key absent or zero-length, so no key is
written twice), and `HeadGuard` (a failed band-head write is the last thing a program does).
-/
namespace Conserve
open Prog

/-- `Q` holds of the events a run of `p` appends to the trace, in every world. -/
def TraceProp {α : Type} (Q : List TraceEv → Prop) (p : Prog α) : Prop :=
  ∀ w : World, ∃ new, (p.run w).2.trace = new ++ w.trace ∧ Q new

theorem TraceProp.mono {α : Type} {Q Q' : List TraceEv → Prop} (h : ∀ l, Q l → Q' l) {p : Prog α}
    (hp : TraceProp Q p) : TraceProp Q' p := by
  intro w
  obtain ⟨new, ht, hq⟩ := hp w
  exact ⟨new, ht, h _ hq⟩

/-- The key of a write that reported success. -/
def TraceEv.succWrite (ev : TraceEv) : Option Key :=
  match ev.op, ev.resp with
  | .write k _ _, .unit => some k
  | _, _ => none

def NoClash (e1 e2 : TraceEv) : Prop := ∀ k, e1.succWrite = some k → e2.succWrite ≠ some k

theorem NoClash.symm {e1 e2 : TraceEv} (h : NoClash e1 e2) : NoClash e2 e1 :=
  fun k h2 h1 => h k h1 h2

def NonEmptyAt (s : Store) (k : Key) : Prop := ∃ v, s.get? k = some v ∧ v ≠ .empty

theorem NonEmptyAt.extends {s s' : Store} {k : Key} (h : NonEmptyAt s k) (hx : Extends s s') : NonEmptyAt s' k := by
  obtain ⟨v, hv, hne⟩ := h
  exact ⟨v, hx.keeps hv hne, hne⟩

/-- The events `T` (in any order, possibly of several actors) are `BackupOp`s; every key that
received a successful write holds a non-empty file in `s`; no two successful writes hit the same key. -/
def WInv (s : Store) (T : List TraceEv) : Prop :=
  (∀ ev ∈ T, BackupOp ev.op) ∧
  (∀ ev ∈ T, ∀ k, ev.succWrite = some k → NonEmptyAt s k) ∧
  T.Pairwise NoClash

theorem WInv.nil (s : Store) : WInv s [] := ⟨by simp, by simp, List.Pairwise.nil⟩

theorem WInv.extends {s s' : Store} {T : List TraceEv} (h : WInv s T) (hx : Extends s s') : WInv s' T :=
  ⟨h.1, fun ev hev k hk => (h.2.1 ev hev k hk).extends hx, h.2.2⟩

theorem WInv.perm {s : Store} {T T' : List TraceEv} (h : WInv s T) (hp : T.Perm T') : WInv s T' :=
  ⟨fun ev hev => h.1 ev (hp.mem_iff.mpr hev),
   fun ev hev => h.2.1 ev (hp.mem_iff.mpr hev),
   (List.Perm.pairwise_iff (fun h => NoClash.symm h) hp).mp h.2.2⟩

theorem WInv.cons_fail {s : Store} {T : List TraceEv} (h : WInv s T) {ev : TraceEv}
    (ho : BackupOp ev.op) (hn : ev.succWrite = none) : WInv s (ev :: T) := by
  refine ⟨?_, ?_, ?_⟩
  · intro e he
    rcases List.mem_cons.mp he with rfl | he
    · exact ho
    · exact h.1 e he
  · intro e he k hk
    rcases List.mem_cons.mp he with rfl | he
    · rw [hn] at hk; cases hk
    · exact h.2.1 e he k hk
  · refine List.pairwise_cons.mpr ⟨?_, h.2.2⟩
    intro e' _ k hk
    rw [hn] at hk; cases hk

theorem succWrite_err (o : Op) (e : ErrKind) : (⟨o, .err e⟩ : TraceEv).succWrite = none := by
  cases o <;> rfl

theorem succWrite_some {o : Op} {r : Resp} {k : Key} (h : (⟨o, r⟩ : TraceEv).succWrite = some k) :
    ∃ v m, o = .write k v m ∧ r = .unit := by
  unfold TraceEv.succWrite at h
  split at h
  · rename_i k' v m ho hr
    simp only at ho hr
    cases h
    exact ⟨v, m, ho, hr⟩
  · cases h

theorem WInv.step {s : Store} {T : List TraceEv} (h : WInv s T) {o : Op} (ho : BackupOp o) :
    WInv (applyOp true s o).1 (⟨o, (applyOp true s o).2⟩ :: T) := by
  have hx : Extends s (applyOp true s o).1 := applyOp_extends ho.createOnly
  refine ⟨?_, ?_, ?_⟩
  · intro e he
    rcases List.mem_cons.mp he with rfl | he
    · exact ho
    · exact h.1 e he
  · intro e he k hk
    rcases List.mem_cons.mp he with rfl | he
    · obtain ⟨v, m, rfl, hr⟩ := succWrite_some hk
      rcases applyOp_write_store true s k v m with ⟨_, hs⟩ | ⟨⟨err, hr'⟩, _⟩
      · rw [hs]
        exact ⟨v, by simp [Store.get?_put], ho.2⟩
      · rw [hr'] at hr; cases hr
    · exact (h.2.1 e he k hk).extends hx
  · refine List.pairwise_cons.mpr ⟨?_, h.2.2⟩
    intro e' he' k hk hk'
    obtain ⟨v, m, rfl, hr⟩ := succWrite_some hk
    have hm : m = .createNew := ho.1
    subst hm
    obtain ⟨v', hv', hne⟩ := h.2.1 e' he' k hk'
    rcases applyOp_createNew_pre hr with h0 | h0
    · rw [h0] at hv'; cases hv'
    · rw [h0] at hv'; cases hv'; exact hne rfl

/-- One `exec` of a `BackupOp` in any world honouring `CreateNew` keeps the invariant over
"the events recorded since `t0`, plus the events `T` of anybody else". -/
theorem WInv.exec {w : World} {t0 new T : List TraceEv} (he : w.enforceCreateNew = true)
    (ht : w.trace = new ++ t0) (h : WInv w.store (new ++ T)) {o : Op} (ho : BackupOp o) :
    ∃ new', (w.exec o).1.trace = new' ++ t0 ∧ WInv (w.exec o).1.store (new' ++ T) := by
  rcases (World.exec_cases w o).2 with ⟨hs, htr, _⟩ | ⟨k, v, m, rfl, hr, hs, htr, _⟩ | ⟨e, hs, htr, _⟩ | ⟨hs, htr, _⟩
  · exact ⟨new, by rw [htr, ht], by rw [hs]; exact h⟩
  · refine ⟨new, by rw [htr, ht], ?_⟩
    rw [hs]
    have hm : m = .createNew := ho.1
    subst hm
    rw [he] at hr
    exact h.extends (Extends.put _ (applyOp_createNew_pre hr))
  · refine ⟨⟨o, .err e⟩ :: new, by rw [htr, ht]; rfl, ?_⟩
    rw [hs]
    exact h.cons_fail ho (succWrite_err o e)
  · refine ⟨⟨o, (applyOp true w.store o).2⟩ :: new, by rw [htr, ht, he]; rfl, ?_⟩
    rw [hs, he]
    exact h.step ho

theorem WInv.run {α : Type} {p : Prog α} (hp : Prog.AllOps BackupOp p) {w : World} {t0 new T : List TraceEv}
    (he : w.enforceCreateNew = true) (ht : w.trace = new ++ t0) (h : WInv w.store (new ++ T)) :
    ∃ new', (p.run w).2.trace = new' ++ t0 ∧ WInv (p.run w).2.store (new' ++ T) := by
  have := Prog.run_world_inv (P := BackupOp)
    (I := fun w' => w'.enforceCreateNew = true ∧ ∃ new', w'.trace = new' ++ t0 ∧ WInv w'.store (new' ++ T))
    (fun _ _ h => h)
    (fun w' o ho ⟨he', new', ht', h'⟩ => ⟨by simpa using he', WInv.exec he' ht' h' ho⟩)
    hp w ⟨he, new, ht, h⟩
  exact this.2

/-- After every write of a band head, any response but success leads straight to `fail`. -/
inductive HeadGuard {α : Type} : Prog α → Prop
  | ret (a : α) : HeadGuard (.ret a)
  | fail (e : Err) : HeadGuard (.fail e)
  | panic (s : String) : HeadGuard (.panic s)
  | emit (ev : Event) {k : Prog α} : HeadGuard k → HeadGuard (.emit ev k)
  | op {o : Op} {k : Resp → Prog α} : (∀ r, HeadGuard (k r)) →
      (isHeadWrite o → ∀ r, r ≠ .unit → ∃ e, k r = .fail e) → HeadGuard (.op o k)

theorem HeadGuard.bind {α β : Type} {p : Prog α} {f : α → Prog β}
    (hp : HeadGuard p) (hf : ∀ a, HeadGuard (f a)) : HeadGuard (p.bind f) := by
  induction hp with
  | ret a => exact hf a
  | fail e => exact .fail e
  | panic s => exact .panic s
  | emit ev _ ih => exact .emit ev ih
  | op _ hg ih =>
    refine .op ih ?_
    intro hw r hr
    obtain ⟨e, he⟩ := hg hw r hr
    exact ⟨e, by simp [he]⟩

theorem HeadGuard.of_allOps {α : Type} {p : Prog α} (hp : Prog.AllOps (fun o => ¬ isHeadWrite o) p) :
    HeadGuard p := by
  induction hp with
  | ret a => exact .ret a
  | fail e => exact .fail e
  | panic s => exact .panic s
  | emit ev _ ih => exact .emit ev ih
  | op ho _ ih => exact .op ih (fun hw => absurd hw ho)

theorem HeadGuard.of_writerOp {α : Type} {p : Prog α} (hp : Prog.AllOps WriterOp p) : HeadGuard p :=
  HeadGuard.of_allOps (hp.mono fun _ h => h.2.1)

theorem HeadGuard.of_readOnly {α : Type} {p : Prog α} (hp : Prog.AllOps ReadOnly p) : HeadGuard p :=
  HeadGuard.of_writerOp hp.ro_wr

def FailedHead (ev : TraceEv) : Prop := isHeadWrite ev.op ∧ ev.resp ≠ .unit

/-- Shape of a list of events (newest first): only the newest one may be a failed head write,
and then `F` holds. -/
def HeadLastP (F : Prop) : List TraceEv → Prop
  | [] => True
  | ev :: rest => (∀ e ∈ rest, ¬ FailedHead e) ∧ (FailedHead ev → F)

/-- Shape of the events appended by a run: only the newest one may be a failed head write, and
then the run ended in an error. -/
def HeadLast {α : Type} (out : Outcome α) : List TraceEv → Prop := HeadLastP (∃ e, out = .err e)

theorem HeadLastP.of_mem {F : Prop} {l : List TraceEv} (h : HeadLastP F l) {ev : TraceEv} (hev : ev ∈ l)
    (hf : FailedHead ev) : (∃ rest, l = ev :: rest) ∧ F := by
  cases l with
  | nil => cases hev
  | cons e0 rest =>
    rcases List.mem_cons.mp hev with rfl | hin
    · exact ⟨⟨rest, rfl⟩, h.2 hf⟩
    · exact absurd hf (h.1 ev hin)

theorem HeadLastP.no_failed {F : Prop} {l : List TraceEv} (h : HeadLastP F l) (hF : ¬ F) :
    ∀ ev ∈ l, ¬ FailedHead ev := by
  cases l with
  | nil => intro ev hev; cases hev
  | cons e0 rest =>
    intro ev hev
    rcases List.mem_cons.mp hev with rfl | hin
    · exact fun hf => hF (h.2 hf)
    · exact h.1 ev hin

/-- In every world: if a `HeadGuard` program records a head write that did not succeed, that is the
last operation it records and it ends with a conserve error. -/
theorem HeadGuard.run {α : Type} {p : Prog α} (hp : HeadGuard p) (w : World) :
    ∃ new, (p.run w).2.trace = new ++ w.trace ∧ HeadLast (p.run w).1 new := by
  induction hp generalizing w with
  | ret a => exact ⟨[], rfl, trivial⟩
  | fail e => exact ⟨[], rfl, trivial⟩
  | panic s => exact ⟨[], rfl, trivial⟩
  | emit ev _ ih => simpa using ih { w with events := ev :: w.events }
  | @op o k _ hg ih =>
    rw [Prog.run_op]
    obtain ⟨n1, ht1, hl1⟩ := ih (w.exec o).2 (w.exec o).1
    rcases World.exec_trace_resp w o with ht | ht
    · exact ⟨n1, by rw [ht1, ht], hl1⟩
    · by_cases hfh : FailedHead ⟨o, (w.exec o).2⟩
      · obtain ⟨e, hk⟩ := hg hfh.1 _ hfh.2
        refine ⟨[⟨o, (w.exec o).2⟩], ?_, ?_⟩
        · rw [hk]; simpa using ht
        · rw [hk]; exact ⟨by simp, fun _ => ⟨e, rfl⟩⟩
      · refine ⟨n1 ++ [⟨o, (w.exec o).2⟩], by rw [ht1, ht]; simp, ?_⟩
        cases n1 with
        | nil => exact ⟨by simp, fun h => absurd h hfh⟩
        | cons e1 rest1 =>
          refine ⟨?_, hl1.2⟩
          intro e he
          rcases List.mem_append.mp he with he | he
          · exact hl1.1 e he
          · rw [List.mem_singleton.mp he]; exact hfh

end Conserve
