import ConserveModel.Proofs.QuietWorld
import ConserveModel.Proofs.Footprint
/-
`deleteBands` when nothing interferes, step by step, as pure functions of the store: `eval_X` for
each part of Gc.lean, composed by `eval_bind`.  Helper lemmas for Props/C05.lean.
-/
set_option linter.unusedSimpArgs false
namespace Conserve
open Prog

/-- `gcLockNew` after the newest-band check. -/
def lockTail (last : Option Nat) : Prog (Option Nat) :=
  (unwrapOr (isFile .gcLock) true).bind fun l =>
    if l = true then .fail .gcLockHeld
    else (performUnit (.write .gcLock .lock .createNew)).bind fun _ => .ret last

theorem gcLockNew_eq :
    gcLockNew = lastBandId.bind fun last =>
      match last with
      | some b => (bandIsClosed b).bind fun c =>
          if (!c) = true then .fail (.deleteWithIncompleteBackup b) else lockTail last
      | none => lockTail last := by
  simp only [gcLockNew, bind_def, pure_def, fail_bind, ret_bind, lockTail]
  rfl

def lockTailOutcome (s : Store) (last : Option Nat) : Outcome (Option Nat) × Store :=
  if fileAt s .gcLock then (.err .gcLockHeld, s)
  else match s.get? .gcLock with
    | none => (.ok last, s.put .gcLock .lock)
    | some _ => (.err (.transport .other), s)

/-- Outcome and final store of `gcLockNew`. -/
def lockOutcome (s : Store) : Outcome (Option Nat) × Store :=
  match maxNat? (bandIdsOf s) with
  | some b => if !isComplete s b then (.err (.deleteWithIncompleteBackup b), s)
              else lockTailOutcome s (some b)
  | none => lockTailOutcome s none

theorem eval_lockTail (e : Bool) {s : Store} (hroot : s.get? .root = some .dir) (last : Option Nat) :
    (lockTail last).eval e s = ((lockTailOutcome s last).1, (lockTailOutcome s last).2, []) := by
  simp only [lockTail, eval_bind, eval_unwrapOr_isFile, andThen_ok, ← fileAt_eq_isFileP, lockTailOutcome]
  cases hf : fileAt s .gcLock with
  | true => rfl
  | false =>
    simp only [Bool.false_eq_true, if_false, performUnit, perform, bind_def, op_bind, ret_bind, eval_op]
    cases hg : s.get? .gcLock with
    | none => simp [applyOp, Store.parentOk, Key.parent, hroot, hg]
    | some v =>
      have hv : v = .dir := by
        simp only [fileAt, hg] at hf
        cases v <;> simp [FileVal.isDir] at hf ⊢
      subst hv
      simp [applyOp, Store.parentOk, Key.parent, hroot, hg]

theorem eval_gcLockNew (e : Bool) {s : Store} (hroot : s.get? .root = some .dir) :
    gcLockNew.eval e s = ((lockOutcome s).1, (lockOutcome s).2, []) := by
  rw [gcLockNew_eq, eval_bind, eval_lastBandId e hroot, andThen_ok]
  simp only [lockOutcome]
  cases maxNat? (bandIdsOf s) with
  | none => exact eval_lockTail e hroot none
  | some b =>
    simp only [bandIsClosed, eval_bind, eval_isFile, andThen_ok, ← fileAt_eq_isFileP, ← isComplete_eq_fileAt]
    cases isComplete s b with
    | false => rfl
    | true => exact eval_lockTail e hroot (some b)

/-- Outcome and final store of `gcBreakLock`. -/
def breakOutcome (s : Store) : Outcome (Option Nat) × Store :=
  if fileAt s .gcLock then lockOutcome (s.erase .gcLock) else lockOutcome s

theorem removeFile_resp_of_file {s : Store} {k : Key} (h : fileAt s k = true) :
    applyOp ecn s (.removeFile k) = (s.erase k, .unit) := by
  simp only [fileAt] at h
  simp only [applyOp]
  cases hg : s.get? k with
  | none => simp [hg] at h
  | some v => cases v <;> simp_all [FileVal.isDir]

theorem eval_gcBreakLock (e : Bool) {s : Store} (hroot : s.get? .root = some .dir) :
    gcBreakLock.eval e s = ((breakOutcome s).1, (breakOutcome s).2, []) := by
  simp only [gcBreakLock, gcIsLocked, bind_def, eval_bind, eval_isFile, andThen_ok, ← fileAt_eq_isFileP,
    breakOutcome]
  cases hf : fileAt s .gcLock with
  | false => simpa using eval_gcLockNew e hroot
  | true =>
    simp only [if_true, performUnit, perform, bind_def, op_bind, ret_bind, eval_op, removeFile_resp_of_file hf]
    simpa using eval_gcLockNew e (s := s.erase .gcLock) (by rw [Store.get?_erase_ne _ (by decide)]; exact hroot)

def hunkEntriesOf (s : Store) (b : Nat) (ns : List Nat) : List IndexEntry :=
  ns.flatMap fun n => (hunkAt s b n).getD []

def bandRefHashes (s : Store) (b : Nat) : List Str :=
  (hunkEntriesOf s b (hunksListed s b)).flatMap fun e => e.addrs.map (·.hash)

/-- What `referenced_blocks` returns on bands whose hunks all decode. -/
def refsOf (s : Store) : List Nat → List Str
  | [] => []
  | b :: bs => dedupStr (bandRefHashes s b ++ refsOf s bs)

theorem mem_dedupStr {h : Str} {l : List Str} : h ∈ dedupStr l ↔ h ∈ l := by
  induction l with
  | nil => simp [dedupStr]
  | cons x xs ih =>
    simp only [dedupStr]
    split
    · rename_i hc
      rw [ih, List.mem_cons, or_iff_right_of_imp]
      rintro rfl
      simpa using hc
    · simp [ih]

theorem mem_refsOf {s : Store} {h : Str} {bs : List Nat} :
    h ∈ refsOf s bs ↔ ∃ b ∈ bs, h ∈ bandRefHashes s b := by
  induction bs with
  | nil => simp [refsOf]
  | cons b bs ih => simp [refsOf, mem_dedupStr, ih]

theorem eval_bandHunkEntries (e : Bool) {s : Store} (b : Nat) (ns : List Nat)
    (hdec : ∀ n ∈ ns, hunkUsable s b n = true) :
    (bandHunkEntries true b ns).eval e s = (.ok (hunkEntriesOf s b ns), s, []) := by
  induction ns with
  | nil => rfl
  | cons n ns ih =>
    simp only [bandHunkEntries, bind_def, pure_def, eval_bind, eval_attempt_toOutcome e s (eval_readHunk e s b n),
      readHunkP_of_usable (hdec n (List.mem_cons_self ..)), andThen_ok,
      ih fun m hm => hdec m (List.mem_cons_of_mem _ hm)]
    simp [hunkEntriesOf]

/-- The bands `referenced_blocks` has to read can be read: accepted head, index directory in
place, every listed hunk file is readable (`hunkUsable`: decodes with all entries passing
`IndexEntry::check`, or zero-length). -/
structure BandReadable (s : Store) (b : Nat) : Prop where
  head : headReadable s b = true
  index : s.get? (.indexDir b) = some .dir
  hunks : ∀ n ∈ hunksListed s b, hunkUsable s b n = true

theorem eval_referencedBlocks (e : Bool) {s : Store} (hn : UniqueKeys s) (bs : List Nat)
    (hb : ∀ b ∈ bs, BandReadable s b) :
    (referencedBlocks true bs).eval e s = (.ok (refsOf s bs), s, []) := by
  induction bs with
  | nil => rfl
  | cons b bs ih =>
    have hbr := hb b (List.mem_cons_self ..)
    simp only [referencedBlocks, bind_def, pure_def, if_true, eval_bind, eval_bandOpen, eval_hunksAvailable,
      bandOpenP_of_readable hbr.head, hunksAvailableP_listed hbr.index (hunkDirs_are_dirs hn b), toOutcome,
      andThen_ok, eval_bandHunkEntries e b _ hbr.hunks, ih fun b' hb' => hb b' (List.mem_cons_of_mem _ hb')]
    rfl

theorem eval_measure (e : Bool) {s : Store} (hs' : List Str) (hp : ∀ h ∈ hs', (s.get? (.block h)).isSome = true) :
    (deleteBody.measure hs').eval e s = (.ok (), s, []) := by
  induction hs' with
  | nil => rfl
  | cons h hs' ih =>
    obtain ⟨v, hv⟩ := Option.isSome_iff_exists.1 (hp h (List.mem_cons_self ..))
    simp only [deleteBody.measure, perform, bind_def, op_bind, ret_bind, eval_op, applyOp_metadata, statResp, hv]
    exact ih fun h' hh' => hp h' (List.mem_cons_of_mem _ hh')

theorem eval_gcLockCheck (e : Bool) {s : Store} (hroot : s.get? .root = some .dir) :
    (gcLockCheck (maxNat? (bandIdsOf s))).eval e s = (.ok (), s, []) := by
  simp [gcLockCheck, eval_bind, eval_lastBandId e hroot]

/-- The store after `Band::delete` of every band in `D`. -/
def eraseBands (s : Store) (D : List Nat) : Store := D.foldl (fun s b => s.eraseTree (.bandDir b)) s

/-- The store after `delete_block` of every hash in `hs`. -/
def eraseBlocks (s : Store) (hs : List Str) : Store := hs.foldl (fun s h => s.erase (.block h)) s

theorem eval_delBands_cons (e : Bool) (s : Store) (b : Nat) (D : List Nat) (n : Nat) :
    (deleteBody.delBands (b :: D) n).eval e s =
      if (s.get? (.bandDir b)).isSome then (deleteBody.delBands D (n + 1)).eval e (s.eraseTree (.bandDir b))
      else (.err (.bandNotFound b), s, []) := by
  simp only [deleteBody.delBands, bandDelete, perform, bind_def, op_bind, ret_bind, eval_op, applyOp]
  cases s.get? (.bandDir b) <;> rfl

/-- Every band of the list still has its directory when its turn comes in the removal loop. -/
def Removable : Store → List Nat → Prop
  | _, [] => True
  | s, b :: D => (s.get? (.bandDir b)).isSome = true ∧ Removable (s.eraseTree (.bandDir b)) D

/-- An id that occurs twice has lost its directory the second time: that is all `Nodup` is needed for. -/
theorem removable_iff : ∀ {D : List Nat} {s : Store},
    Removable s D ↔ D.Nodup ∧ ∀ b ∈ D, (s.get? (.bandDir b)).isSome = true
  | [], _ => by simp [Removable]
  | b :: D, s => by
    simp only [Removable, removable_iff (D := D), Store.get?_eraseTree_bandDir, List.nodup_cons,
      List.forall_mem_cons]
    constructor
    · rintro ⟨hb, hnd, hall⟩
      exact ⟨⟨fun hm => by simpa using hall b hm, hnd⟩, hb, fun b' hb' => by
        have := hall b' hb'; split at this <;> simp_all⟩
    · rintro ⟨⟨hb', hnd⟩, hb, hall⟩
      exact ⟨hb, hnd, fun b' hm => by rw [if_neg fun h : b' = b => hb' (h ▸ hm)]; exact hall b' hm⟩

theorem eval_delBands_append (e : Bool) : ∀ (pre : List Nat) {rest : List Nat} (s : Store) (n : Nat),
    Removable s pre →
    (deleteBody.delBands (pre ++ rest) n).eval e s =
      (deleteBody.delBands rest (n + pre.length)).eval e (eraseBands s pre)
  | [], _, _, _, _ => rfl
  | b :: pre, rest, s, n, h => by
    rw [List.cons_append, eval_delBands_cons, if_pos h.1, eval_delBands_append e pre _ _ h.2, List.length_cons,
      Nat.add_assoc, Nat.add_comm 1]
    rfl

theorem eval_delBands (e : Bool) (D : List Nat) (s : Store) (n : Nat) (hnd : D.Nodup)
    (hex : ∀ b ∈ D, (s.get? (.bandDir b)).isSome = true) :
    (deleteBody.delBands D n).eval e s = (.ok (n + D.length), eraseBands s D, []) := by
  have := eval_delBands_append e D (rest := []) s n (removable_iff.2 ⟨hnd, hex⟩)
  rwa [List.append_nil] at this

theorem eval_delBlocks (e : Bool) (hs' : List Str) :
    ∀ (s : Store) (errs : Nat), hs'.Nodup → (∀ h ∈ hs', fileAt s (.block h) = true) →
      (deleteBody.delBlocks hs' errs).eval e s = (.ok errs, eraseBlocks s hs', []) := by
  induction hs' with
  | nil => intro s errs _ _; rfl
  | cons h hs' ih =>
    intro s errs hnd hf
    rw [List.nodup_cons] at hnd
    simp only [deleteBody.delBlocks, perform, bind_def, op_bind, ret_bind, eval_op,
      removeFile_resp_of_file (hf h (List.mem_cons_self ..))]
    exact ih (s.erase (.block h)) errs hnd.2 fun h' hh' => by
      have : h' ≠ h := fun e => hnd.1 (e ▸ hh')
      simp only [fileAt, Store.get?_erase_ne s (show Key.block h' ≠ Key.block h by simpa using this)]
      exact hf h' (List.mem_cons_of_mem _ hh')

theorem eval_gcLockRelease (e : Bool) {s : Store} (hl : fileAt s .gcLock = true) :
    gcLockRelease.eval e s = (.ok (), s.erase .gcLock, []) := by
  simp only [gcLockRelease, performUnit, perform, bind_def, op_bind, ret_bind, eval_op, removeFile_resp_of_file hl]
  rfl

def underAny (D : List Nat) (k : Key) : Bool := D.any fun b => Key.isUnder (.bandDir b) k

def blockIn (hs : List Str) : Key → Bool
  | .block h => hs.contains h
  | _ => false

theorem eraseBands_eq_filter (D : List Nat) (s : Store) :
    eraseBands s D = s.filter fun kv => !underAny D kv.1 := by
  induction D generalizing s with
  | nil =>
    simp only [eraseBands, underAny, List.foldl_nil, List.any_nil, Bool.not_false]
    exact (List.filter_eq_self.2 fun _ _ => rfl).symm
  | cons b D ih =>
    have : eraseBands s (b :: D) = eraseBands (s.eraseTree (.bandDir b)) D := rfl
    rw [this, ih, Store.eraseTree, List.filter_filter]
    congr 1
    funext kv
    simp [underAny, Bool.and_comm]

theorem eraseBlocks_eq_filter (hs : List Str) (s : Store) :
    eraseBlocks s hs = s.filter fun kv => !blockIn hs kv.1 := by
  induction hs generalizing s with
  | nil =>
    simp only [eraseBlocks, List.foldl_nil]
    symm
    rw [List.filter_eq_self]
    intro kv _
    cases h : kv.1 <;> simp [blockIn]
  | cons h hs ih =>
    have : eraseBlocks s (h :: hs) = eraseBlocks (s.erase (.block h)) hs := rfl
    rw [this, ih, Store.erase, List.filter_filter]
    congr 1
    funext kv
    cases hk : kv.1 with
    | block h' =>
      by_cases e : h' = h
      · subst e; simp [blockIn, hk]
      · have e' : (h' == h) = false := by simpa using e
        simp [blockIn, hk, e, e', List.contains_cons]
    | _ => simp [blockIn, hk]

theorem get?_eraseBands (s : Store) (D : List Nat) (k : Key) :
    (eraseBands s D).get? k = if underAny D k then none else s.get? k := by
  rw [eraseBands_eq_filter, Store.get?_filter_key (fun k => !underAny D k)]
  cases underAny D k <;> simp

theorem get?_eraseBlocks (s : Store) (hs : List Str) (k : Key) :
    (eraseBlocks s hs).get? k = if blockIn hs k then none else s.get? k := by
  rw [eraseBlocks_eq_filter, Store.get?_filter_key (fun k => !blockIn hs k)]
  cases blockIn hs k <;> simp

theorem underAny_eq_true {D : List Nat} {k : Key} : underAny D k = true ↔ ∃ b ∈ D, k.bandOf = some b := by
  simp [underAny, isUnder_bandDir]

theorem underAny_of_bandOf_none (D : List Nat) {k : Key} (h : k.bandOf = none) : underAny D k = false := by
  cases hu : underAny D k with
  | false => rfl
  | true =>
    obtain ⟨b, _, hb⟩ := underAny_eq_true.1 hu
    rw [h] at hb
    cases hb

@[simp] theorem underAny_block (D : List Nat) (h : Str) : underAny D (.block h) = false :=
  underAny_of_bandOf_none D rfl

@[simp] theorem underAny_gcLock (D : List Nat) : underAny D .gcLock = false :=
  underAny_of_bandOf_none D rfl

def keptOf (s : Store) (D : List Nat) : List Nat := (bandIdsOf s).filter fun b => !D.contains b

/-- The blocks `delete_bands` finds unreferenced (in the order it removes them). -/
def unrefOf (s : Store) (D : List Nat) : List Str :=
  ((blockNamesOf s).filter fun h => !(refsOf s (keptOf s D)).contains h).mergeSort strLe

/-- The unreferenced set for a GIVEN referenced set (whatever `referenced_blocks` returned);
`unrefOf s D` is `unrefGiven s (refsOf s (keptOf s D))`. -/
def unrefGiven (s : Store) (refs : List Str) : List Str :=
  ((blockNamesOf s).filter fun h => !refs.contains h).mergeSort strLe

theorem mem_unrefGiven {s : Store} {refs : List Str} {h : Str} :
    h ∈ unrefGiven s refs ↔ h ∈ blockNamesOf s ∧ h ∉ refs := by
  simp [unrefGiven, List.mem_mergeSort]

theorem nodup_unrefGiven {s : Store} (hn : UniqueKeys s) (refs : List Str) : (unrefGiven s refs).Nodup := by
  rw [unrefGiven, (List.mergeSort_perm _ _).nodup_iff]
  exact List.Nodup.sublist List.filter_sublist (nodup_blockNamesOf hn)

theorem mem_unrefOf {s : Store} {D : List Nat} {h : Str} :
    h ∈ unrefOf s D ↔ h ∈ blockNamesOf s ∧ h ∉ refsOf s (keptOf s D) := mem_unrefGiven

theorem nodup_unrefOf {s : Store} (hn : UniqueKeys s) (D : List Nat) : (unrefOf s D).Nodup :=
  nodup_unrefGiven hn _

theorem blockNamesOf_file {s : Store} (hn : UniqueKeys s) {h : Str} (hm : h ∈ blockNamesOf s) :
    fileAt s (.block h) = true := by
  simp only [blockNamesOf, mem_blockNamesFrom, List.not_mem_nil, false_or, mem_blocksInDir] at hm
  obtain ⟨p, _, _, v, hv, h1, _⟩ := hm
  simp [fileAt, (Store.mem_iff_get? hn).1 hv, h1]

/-- What the store must satisfy while the lock is held for `deleteBody` to run through. -/
structure BodyOK (s : Store) (D : List Nat) : Prop where
  nodup : UniqueKeys s
  root : s.get? .root = some .dir
  blockRoot : s.get? .blockRoot = some .dir
  kept : ∀ b ∈ keptOf s D, BandReadable s b
  lock : fileAt s .gcLock = true

def dryStats (s : Store) (D : List Nat) : DeleteStats := { unreferencedBlockCount := (unrefOf s D).length }

def realStats (s : Store) (D : List Nat) : DeleteStats :=
  { unreferencedBlockCount := (unrefOf s D).length, deletedBandCount := D.length,
    deletedBlockCount := (unrefOf s D).length, deletionErrors := 0 }

/-- `deleteBody` after the referenced set is known. -/
def bodyRest (D : List Nat) (o : DeleteOpts) (held : Option Nat) (referenced : List Str) : Prog DeleteStats :=
  listBlocks.bind fun present =>
    (deleteBody.measure ((List.filter (fun h => !referenced.contains h) present).mergeSort strLe)).bind fun _ =>
      if o.dryRun = true then
        (ret ({ unreferencedBlockCount :=
            ((List.filter (fun h => !referenced.contains h) present).mergeSort strLe).length } : DeleteStats)).bind
          fun stats => gcLockRelease.bind fun _ => ret stats
      else
        (gcLockCheck held).bind fun _ =>
          (deleteBody.delBands D 0).bind fun nb =>
            (deleteBody.delBlocks ((List.filter (fun h => !referenced.contains h) present).mergeSort strLe) 0).bind
              fun errs =>
              (ret ({ unreferencedBlockCount :=
                        ((List.filter (fun h => !referenced.contains h) present).mergeSort strLe).length,
                      deletedBandCount := nb,
                      deletedBlockCount :=
                        ((List.filter (fun h => !referenced.contains h) present).mergeSort strLe).length - errs,
                      deletionErrors := errs } : DeleteStats)).bind
                fun stats => gcLockRelease.bind fun _ => ret stats

theorem deleteBody_eq (strict : Bool) (D : List Nat) (o : DeleteOpts) (held : Option Nat) :
    deleteBody strict D o held =
      listBandIds.bind fun all =>
        (referencedBlocks strict (List.filter (fun b => !D.contains b) all)).bind fun referenced =>
          bodyRest D o held referenced := by
  simp only [deleteBody, bind_def, pure_def, bodyRest]

/-- `bodyRest` once the unreferenced blocks `u` have been listed and measured. -/
def bodyTail (D : List Nat) (o : DeleteOpts) (held : Option Nat) (u : List Str) : Prog DeleteStats :=
  if o.dryRun = true then
    gcLockRelease.bind fun _ => ret { unreferencedBlockCount := u.length }
  else
    (gcLockCheck held).bind fun _ =>
      (deleteBody.delBands D 0).bind fun nb =>
        (deleteBody.delBlocks u 0).bind fun errs =>
          gcLockRelease.bind fun _ =>
            ret { unreferencedBlockCount := u.length, deletedBandCount := nb,
                  deletedBlockCount := u.length - errs, deletionErrors := errs }

theorem eval_bodyRest (e : Bool) {s : Store} (hn : UniqueKeys s) (hbr : s.get? .blockRoot = some .dir)
    (refs : List Str) (D : List Nat) (o : DeleteOpts) (held : Option Nat) :
    (bodyRest D o held refs).eval e s = (bodyTail D o held (unrefGiven s refs)).eval e s := by
  have h2 : (deleteBody.measure (unrefGiven s refs)).eval e s = (.ok (), s, []) :=
    eval_measure e _ fun h hh => by
      have := blockNamesOf_file hn (mem_unrefGiven.1 hh).1
      simp only [fileAt] at this
      cases hg : s.get? (.block h) <;> simp_all
  simp only [unrefGiven] at h2
  simp only [bodyRest, eval_bind, eval_listBlocks e hbr (blockSubdirs_are_dirs hn), andThen_ok, h2]
  rfl

theorem eval_deleteBody (e : Bool) {s : Store} {D : List Nat} (ok : BodyOK s D) (o : DeleteOpts)
    (held : Option Nat) :
    (deleteBody true D o held).eval e s = (bodyTail D o held (unrefOf s D)).eval e s := by
  have h := eval_referencedBlocks e ok.nodup _ ok.kept
  simp only [keptOf] at h
  rw [deleteBody_eq]
  simp only [eval_bind, eval_listBandIds, if_pos ok.root, andThen_ok, h]
  exact eval_bodyRest e ok.nodup ok.blockRoot _ D o held

theorem eval_bodyTail_dry (e : Bool) {s : Store} (hl : fileAt s .gcLock = true) (D : List Nat) {o : DeleteOpts}
    (hdry : o.dryRun = true) (held : Option Nat) (u : List Str) :
    (bodyTail D o held u).eval e s = (.ok { unreferencedBlockCount := u.length }, s.erase .gcLock, []) := by
  simp only [bodyTail, hdry, if_true, eval_bind, eval_gcLockRelease e hl, andThen_ok, eval_ret]

theorem eval_bodyTail_real (e : Bool) {s : Store} (hroot : s.get? .root = some .dir)
    (hl : fileAt s .gcLock = true) {D : List Nat} {o : DeleteOpts} (hdry : o.dryRun = false) (hnd : D.Nodup)
    (hex : ∀ b ∈ D, (s.get? (.bandDir b)).isSome = true) {u : List Str} (hu : u.Nodup)
    (hf : ∀ h ∈ u, fileAt s (.block h) = true) :
    (bodyTail D o (maxNat? (bandIdsOf s)) u).eval e s =
      (.ok { unreferencedBlockCount := u.length, deletedBandCount := D.length,
             deletedBlockCount := u.length, deletionErrors := 0 },
        (eraseBlocks (eraseBands s D) u).erase .gcLock, []) := by
  have hf' : ∀ h ∈ u, fileAt (eraseBands s D) (.block h) = true := by
    intro h hh
    simp only [fileAt, get?_eraseBands, underAny_block, Bool.false_eq_true, if_false]
    exact hf h hh
  have hl' : fileAt (eraseBlocks (eraseBands s D) u) .gcLock = true := by
    simp only [fileAt, get?_eraseBlocks, blockIn, get?_eraseBands, underAny_gcLock, Bool.false_eq_true, if_false]
    exact hl
  simp only [bodyTail, hdry, Bool.false_eq_true, if_false, eval_bind, eval_gcLockCheck e hroot, andThen_ok,
    eval_delBands e D s 0 hnd hex, eval_delBlocks e u _ 0 hu hf', eval_gcLockRelease e hl', eval_ret]
  simp

theorem put_lock_eq {s : Store} (h : s.get? .gcLock = none) (v : FileVal) :
    s.put .gcLock v = s ++ [(.gcLock, v)] := by
  rw [Store.put, Store.erase_absent s _ h]

theorem hunkAt_congr {s s' : Store} {b n : Nat} (h : s'.get? (.hunk b n) = s.get? (.hunk b n)) :
    hunkAt s' b n = hunkAt s b n := by
  simp only [hunkAt, h]

section lockfile
variable (s : Store) (v : FileVal)

theorem bandIdsOf_lock : bandIdsOf (s ++ [(.gcLock, v)]) = bandIdsOf s :=
  congrArg sortNat (bandSel_picks.append_single (k := .gcLock) (fun _ h => nomatch h) v)

theorem hunkDirsOf_lock (b : Nat) : hunkDirsOf (s ++ [(.gcLock, v)]) b = hunkDirsOf s b :=
  congrArg sortNat ((hunkDirSel_picks b).append_single (k := .gcLock) (fun _ h => nomatch h) v)

theorem hunksInDir_lock (b d : Nat) : hunksInDir (s ++ [(.gcLock, v)]) b d = hunksInDir s b d :=
  congrArg sortNat ((hunkInDirSel_picks b d).append_single (k := .gcLock) (fun _ h => nomatch h) v)

theorem hunksListed_lock (b : Nat) : hunksListed (s ++ [(.gcLock, v)]) b = hunksListed s b := by
  simp only [hunksListed, hunkDirsOf_lock]
  congr 1
  funext d
  exact hunksInDir_lock s v b d

theorem get?_lock {k : Key} (hk : k ≠ .gcLock) : Store.get? (s ++ [(.gcLock, v)]) k = s.get? k := by
  rw [Store.get?_append]
  have : Store.get? [(Key.gcLock, v)] k = none := by
    have hb : (k == Key.gcLock) = false := by simpa using hk
    simp [Store.get?, List.lookup, hb]
  rw [this]
  cases s.get? k <;> rfl

theorem hunkUsable_lock (b n : Nat) : hunkUsable (s ++ [(.gcLock, v)]) b n = hunkUsable s b n := by
  simp only [hunkUsable, get?_lock s v (show Key.hunk b n ≠ .gcLock by simp)]

theorem hunkAt_lock (b n : Nat) : hunkAt (s ++ [(.gcLock, v)]) b n = hunkAt s b n :=
  hunkAt_congr (get?_lock s v (by simp))

theorem blockSubdirsOf_lock : blockSubdirsOf (s ++ [(.gcLock, v)]) = blockSubdirsOf s :=
  congrArg (List.mergeSort · _) (blockDirSel_picks.append_single (k := .gcLock) (fun _ h => nomatch h) v)

theorem blocksInDir_lock (p : Str) : blocksInDir (s ++ [(.gcLock, v)]) p = blocksInDir s p :=
  (blockInDirSel_picks p).append_single (k := .gcLock) (fun _ h => nomatch h) v

theorem blockNamesFrom_lock (ps : List Str) :
    ∀ acc, blockNamesFrom (s ++ [(.gcLock, v)]) ps acc = blockNamesFrom s ps acc := by
  induction ps with
  | nil => intro acc; rfl
  | cons p ps ih => intro acc; simp only [blockNamesFrom, blocksInDir_lock, ih]

theorem blockNamesOf_lock : blockNamesOf (s ++ [(.gcLock, v)]) = blockNamesOf s := by
  simp only [blockNamesOf, blockSubdirsOf_lock, blockNamesFrom_lock]

theorem bandRefs_lock (b : Nat) : bandRefHashes (s ++ [(.gcLock, v)]) b = bandRefHashes s b := by
  simp only [bandRefHashes, hunkEntriesOf, hunksListed_lock, hunkAt_lock]

theorem refsOf_lock (bs : List Nat) : refsOf (s ++ [(.gcLock, v)]) bs = refsOf s bs := by
  induction bs with
  | nil => rfl
  | cons b bs ih => simp only [refsOf, bandRefs_lock, ih]

theorem keptOf_lock (D : List Nat) : keptOf (s ++ [(.gcLock, v)]) D = keptOf s D := by
  simp only [keptOf, bandIdsOf_lock]

theorem unrefOf_lock (D : List Nat) : unrefOf (s ++ [(.gcLock, v)]) D = unrefOf s D := by
  simp only [unrefOf, blockNamesOf_lock, refsOf_lock, keptOf_lock]

theorem bandReadable_lock {b : Nat} (h : BandReadable s b) : BandReadable (s ++ [(.gcLock, v)]) b := by
  refine ⟨?_, ?_, ?_⟩
  · simpa only [headReadable, get?_lock s v (show Key.bandHead b ≠ .gcLock by simp)] using h.head
  · rw [get?_lock s v (by simp)]; exact h.index
  · simpa only [hunksListed_lock, hunkUsable_lock] using h.hunks

end lockfile

theorem no_lock_entry {s : Store} (h : s.get? .gcLock = none) : ∀ kv ∈ s, kv.1 ≠ .gcLock := by
  intro kv hm hk
  have := List.lookup_eq_none_iff.1 h kv hm
  simp [hk] at this

theorem uniqueKeys_lock {s : Store} (hn : UniqueKeys s) (h : s.get? .gcLock = none) (v : FileVal) :
    UniqueKeys (s ++ [(.gcLock, v)]) := by
  rw [UniqueKeys, List.pairwise_append]
  refine ⟨hn, List.pairwise_singleton _ _, ?_⟩
  intro a ha b hb
  simp only [List.mem_singleton] at hb
  subst hb
  exact no_lock_entry h a ha

def survives (s : Store) (D : List Nat) (k : Key) : Bool :=
  !underAny D k && !blockIn (unrefOf s D) k

/-- The archive after deleting the versions `D` and collecting garbage. -/
def deleted (s : Store) (D : List Nat) : Store := s.filter fun kv => survives s D kv.1

theorem filter_lock_erase {s : Store} (h : s.get? .gcLock = none) (v : FileVal) (p : Key × FileVal → Bool) :
    Store.erase ((s ++ [(Key.gcLock, v)]).filter p) .gcLock = s.filter p := by
  simp only [Store.erase, List.filter_filter, List.filter_append]
  have h1 : List.filter (fun a => a.1 != Key.gcLock && p a) [(Key.gcLock, v)] = [] := by simp
  rw [h1, List.append_nil]
  apply List.filter_congr
  intro kv hm
  have : (kv.1 != Key.gcLock) = true := by simpa using no_lock_entry h kv hm
  simp [this]

theorem erased_lock_eq_deleted {s : Store} (h : s.get? .gcLock = none) (D : List Nat) (v : FileVal) :
    (eraseBlocks (eraseBands (s ++ [(.gcLock, v)]) D) (unrefOf s D)).erase .gcLock = deleted s D := by
  simp only [eraseBands_eq_filter, eraseBlocks_eq_filter, List.filter_filter, deleted, survives, Bool.and_comm]
  exact filter_lock_erase h v _

def acquireOutcome (o : DeleteOpts) (s : Store) : Outcome (Option Nat) × Store :=
  if o.breakLock then breakOutcome s else lockOutcome s

theorem eval_acquire (e : Bool) {s : Store} (hroot : s.get? .root = some .dir) (o : DeleteOpts) :
    (acquire o).eval e s = ((acquireOutcome o s).1, (acquireOutcome o s).2, []) := by
  simp only [acquire, acquireOutcome]
  cases o.breakLock with
  | true => simpa using eval_gcBreakLock e hroot
  | false => simpa using eval_gcLockNew e hroot

theorem eval_deleteBands_refuse (e : Bool) {s : Store} (hroot : s.get? .root = some .dir) (strict : Bool)
    (D : List Nat) (o : DeleteOpts) {err : Err} (he : (acquireOutcome o s).1 = .err err) :
    (deleteBands strict D o).eval e s = (.err err, (acquireOutcome o s).2, []) := by
  rw [deleteBands_eq, eval_bind, eval_acquire e hroot, he]
  rfl

theorem eval_withLock_ok {e : Bool} {strict : Bool} {D : List Nat} {o : DeleteOpts} {held : Option Nat}
    {s s2 : Store} {st : DeleteStats} (h : (deleteBody strict D o held).eval e s = (.ok st, s2, [])) :
    (withLock strict D o held).eval e s = (.ok st, s2, []) := by
  rw [withLock, eval_bind, eval_attemptAll, h]
  rfl

theorem eval_gcLockDrop (e : Bool) {s : Store} (hl : fileAt s .gcLock = true) :
    gcLockDrop.eval e s = (.ok (), s.erase .gcLock, []) := by
  simp only [gcLockDrop, perform, bind_def, op_bind, ret_bind, pure_def, eval_op, removeFile_resp_of_file hl]
  rfl

theorem gcLockDrop_runs {s : Store} (hl : fileAt s .gcLock = true) :
    ∀ w : World, w.Quiet → w.store = s → Runs gcLockDrop w (.ok ()) (s.erase .gcLock) [] :=
  fun _ hq hs => hq.runs (by rw [hs]; exact eval_gcLockDrop _ hl)

theorem eval_gcLockReleaseOnError (e : Bool) {s : Store} (hl : fileAt s .gcLock = true) :
    gcLockReleaseOnError.eval e s = (.ok (), s.erase .gcLock, []) := by
  simp only [gcLockReleaseOnError, perform, bind_def, op_bind, ret_bind, pure_def, eval_op,
    removeFile_resp_of_file hl]
  rfl

theorem eval_withLock_err {e : Bool} {strict : Bool} {D : List Nat} {o : DeleteOpts} {held : Option Nat}
    {s s2 : Store} {err : Err} (h : (deleteBody strict D o held).eval e s = (.err err, s2, []))
    (hl : fileAt s2 .gcLock = true) :
    (withLock strict D o held).eval e s = (.err err, s2.erase .gcLock, []) := by
  rw [withLock, eval_bind, eval_attemptAll, h]
  simp [andThen, eval_bind, eval_gcLockReleaseOnError e hl]

/-- The newest band directory (if any) has a tail file. -/
def newestComplete (s : Store) : Prop := ∀ b, maxNat? (bandIdsOf s) = some b → isComplete s b = true

instance (s : Store) : Decidable (newestComplete s) := by
  unfold newestComplete
  cases h : maxNat? (bandIdsOf s) with
  | none => exact isTrue (by intro b hb; cases hb)
  | some b =>
    by_cases hc : isComplete s b = true
    · exact isTrue (by intro b' hb'; cases hb'; exact hc)
    · exact isFalse (fun hall => hc (hall b rfl))

theorem newestComplete_of_max {s : Store} {b : Nat} (hm : maxNat? (bandIdsOf s) = some b)
    (hc : isComplete s b = true) : newestComplete s := by
  intro b' hb'
  rw [hm] at hb'
  cases hb'
  exact hc

theorem lockOutcome_of_complete {s : Store} (hnew : newestComplete s) :
    lockOutcome s = lockTailOutcome s (maxNat? (bandIdsOf s)) := by
  simp only [lockOutcome]
  cases hm : maxNat? (bandIdsOf s) with
  | none => rfl
  | some b => simp [hnew b hm]

theorem lockOutcome_ok {s : Store} (hfree : s.get? .gcLock = none) (hnew : newestComplete s) :
    lockOutcome s = (.ok (maxNat? (bandIdsOf s)), s ++ [(.gcLock, .lock)]) := by
  rw [lockOutcome_of_complete hnew]
  simp [lockTailOutcome, fileAt, hfree, put_lock_eq hfree]

theorem acquireOutcome_ok {s : Store} (hfree : s.get? .gcLock = none) (hnew : newestComplete s)
    (o : DeleteOpts) :
    acquireOutcome o s = (.ok (maxNat? (bandIdsOf s)), s ++ [(.gcLock, .lock)]) := by
  simp only [acquireOutcome, breakOutcome, fileAt, hfree, Bool.false_eq_true, if_false]
  cases o.breakLock <;> simp [lockOutcome_ok hfree hnew]

/-- Hypotheses of the functional-correctness theorem about the archive `s` and the set `D`. -/
structure DelArchOK (s : Store) (D : List Nat) : Prop where
  nodup : UniqueKeys s
  root : s.get? .root = some .dir
  blockRoot : s.get? .blockRoot = some .dir
  kept : ∀ b ∈ keptOf s D, BandReadable s b

theorem DelArchOK.of_readable {s : Store} (hn : UniqueKeys s) (hroot : s.get? .root = some .dir)
    (hbr : s.get? .blockRoot = some .dir) (hr : ∀ b ∈ bandIdsOf s, BandReadable s b) (D : List Nat) :
    DelArchOK s D :=
  ⟨hn, hroot, hbr, fun b hb => hr b (List.mem_filter.1 hb).1⟩

theorem DelArchOK.bodyOK {s : Store} {D : List Nat} (ok : DelArchOK s D) (hfree : s.get? .gcLock = none) :
    BodyOK (s ++ [(.gcLock, .lock)]) D where
  nodup := uniqueKeys_lock ok.nodup hfree _
  root := by rw [get?_lock _ _ (by simp)]; exact ok.root
  blockRoot := by rw [get?_lock _ _ (by simp)]; exact ok.blockRoot
  kept := by
    intro b hb
    rw [keptOf_lock] at hb
    exact bandReadable_lock _ _ (ok.kept b hb)
  lock := by
    have := put_lock_eq hfree .lock
    rw [← this]
    simp [fileAt, FileVal.isDir]

/-- The lock was obtained on the lock-free store `s0` (which is `s`, or `s` with a stale lock file
broken). -/
def LockTaken (o : DeleteOpts) (s s0 : Store) : Prop :=
  acquireOutcome o s = (.ok (maxNat? (bandIdsOf s0)), s0 ++ [(.gcLock, .lock)])

theorem lockTaken_free {s : Store} (hfree : s.get? .gcLock = none) (hnew : newestComplete s)
    (o : DeleteOpts) : LockTaken o s s := acquireOutcome_ok hfree hnew o

theorem eval_deleteBands_of_lock (e : Bool) {s s0 : Store} {D : List Nat} {strict : Bool} {o : DeleteOpts}
    (hroot : s.get? .root = some .dir) (hacq : LockTaken o s s0) :
    (deleteBands strict D o).eval e s =
      (withLock strict D o (maxNat? (bandIdsOf s0))).eval e (s0 ++ [(.gcLock, .lock)]) := by
  rw [deleteBands_eq, eval_bind, eval_acquire e hroot, hacq, andThen_ok]

theorem eval_deleteBody_locked (e : Bool) {s0 : Store} {D : List Nat} (ok : DelArchOK s0 D)
    (hfree : s0.get? .gcLock = none) (o : DeleteOpts) (held : Option Nat) :
    (deleteBody true D o held).eval e (s0 ++ [(.gcLock, .lock)]) =
      (bodyTail D o held (unrefOf s0 D)).eval e (s0 ++ [(.gcLock, .lock)]) := by
  rw [eval_deleteBody e (ok.bodyOK hfree), unrefOf_lock]

theorem eval_deleteBands_dry_gen (e : Bool) {s s0 : Store} {D : List Nat} (ok : DelArchOK s0 D)
    (hroot : s.get? .root = some .dir) (hfree : s0.get? .gcLock = none)
    (o : DeleteOpts) (hacq : LockTaken o s s0) (hdry : o.dryRun = true) :
    (deleteBands true D o).eval e s = (.ok (dryStats s0 D), s0, []) := by
  rw [eval_deleteBands_of_lock e hroot hacq, eval_withLock_ok ((eval_deleteBody_locked e ok hfree o _).trans
    (eval_bodyTail_dry e (ok.bodyOK hfree).lock D hdry _ _)), ← put_lock_eq hfree,
    Store.erase_put_absent _ _ _ hfree]
  rfl

theorem eval_deleteBands_dry (e : Bool) {s : Store} {D : List Nat} (ok : DelArchOK s D)
    (hfree : s.get? .gcLock = none) (hnew : newestComplete s) (o : DeleteOpts) (hdry : o.dryRun = true) :
    (deleteBands true D o).eval e s = (.ok (dryStats s D), s, []) :=
  eval_deleteBands_dry_gen e ok ok.root hfree o (lockTaken_free hfree hnew o) hdry

theorem eval_deleteBands_real_gen (e : Bool) {s s0 : Store} {D : List Nat} (ok : DelArchOK s0 D)
    (hroot : s.get? .root = some .dir) (hfree : s0.get? .gcLock = none)
    (o : DeleteOpts) (hacq : LockTaken o s s0) (hdry : o.dryRun = false) (hnd : D.Nodup)
    (hex : ∀ b ∈ D, (s0.get? (.bandDir b)).isSome = true) :
    (deleteBands true D o).eval e s = (.ok (realStats s0 D), deleted s0 D, []) := by
  have bok := ok.bodyOK hfree
  have ht := eval_bodyTail_real e bok.root bok.lock hdry hnd
    (fun b hb => by rw [get?_lock _ _ (by simp)]; exact hex b hb) (nodup_unrefOf ok.nodup D)
    fun h hh => blockNamesOf_file bok.nodup (by rw [blockNamesOf_lock]; exact (mem_unrefOf.1 hh).1)
  rw [bandIdsOf_lock] at ht
  rw [eval_deleteBands_of_lock e hroot hacq, eval_withLock_ok ((eval_deleteBody_locked e ok hfree o _).trans ht),
    erased_lock_eq_deleted hfree D]
  rfl

theorem eval_deleteBands_real (e : Bool) {s : Store} {D : List Nat} (ok : DelArchOK s D)
    (hfree : s.get? .gcLock = none) (hnew : newestComplete s) (o : DeleteOpts) (hdry : o.dryRun = false)
    (hnd : D.Nodup) (hex : ∀ b ∈ D, (s.get? (.bandDir b)).isSome = true) :
    (deleteBands true D o).eval e s = (.ok (realStats s D), deleted s D, []) :=
  eval_deleteBands_real_gen e ok ok.root hfree o (lockTaken_free hfree hnew o) hdry hnd hex

end Conserve
