import ConserveModel.Props.C10
import ConserveModel.Proofs.ValidateDamage
import ConserveModel.Proofs.ConformsStep
/-
C10 (full containment): what follows from `C10.Good` (the documented format, a map, a tree, no gc
lock — NOT "heads readable", NOT "values in range") and how the listing rule reacts to single-file
damage that is not the loss of one of the version's own hunks.  No property statements here.
-/
set_option linter.unusedSimpArgs false
namespace Conserve.Contain
open Conserve Conserve.NP

variable {H : Str → Str}

theorem conforms_parts {s : Store} (hc : Conforms H s = true) :
    s.get? .root = some .dir ∧ s.get? .blockRoot = some .dir ∧ blocksConform H s = true ∧
      ∀ b ∈ bandIdsOf s, BandOK H s b := by
  obtain ⟨_, hroot, hblocks, hconf, hbands⟩ := (Conf.conforms_iff H).1 hc
  exact ⟨hroot, hblocks, hconf, fun b hb => bandOK_of_conforms (hbands b hb)⟩

theorem conforms_blockDir_len {s : Store} (hc : Conforms H s = true) {p : Str} {v : FileVal}
    (hg : s.get? (.blockDir p) = some v) : p.length = subdirNameChars := by
  have := (conforms_parts hc).2.2.1
  simp only [blocksConform, List.all_eq_true] at this
  have := this _ (Store.mem_of_get? hg)
  simp only [Bool.and_eq_true, beq_iff_eq] at this
  exact this.2

theorem good_dirsOk {s : Store} (g : C10.Good H s) : DirsOk s := by
  have := g.2.2.1
  simp only [treeShaped, List.all_eq_true] at this
  exact this

theorem good_keys {s : Store} (g : C10.Good H s) : (s.map (·.1)).Nodup := by
  simpa [keysNodup] using g.2.1

theorem good_bandOK {s : Store} (g : C10.Good H s) {b : Nat} (hb : b ∈ bandIdsOf s) : BandOK H s b :=
  (conforms_parts g.1).2.2.2 b hb

theorem good_blockRoot {s : Store} (g : C10.Good H s) : s.get? .blockRoot = some .dir :=
  (conforms_parts g.1).2.1

theorem good_root {s : Store} (g : C10.Good H s) : s.get? .root = some .dir :=
  (conforms_parts g.1).1

theorem bandIds_of_tail {s : Store} (hd : DirsOk s) {b : Nat} {v : FileVal}
    (h : s.get? (.bandTail b) = some v) : b ∈ bandIdsOf s :=
  mem_bandIdsOf'.mpr (Store.mem_of_get? (parent_dir hd h rfl))

theorem isComplete_of_tail {s : Store} {b m : Nat} (h : s.get? (.bandTail b) = some (.tail (some m))) :
    isComplete s b = true := by
  simp [isComplete, h, FileVal.isDir]

/-- **good_archWF** (gap (i) of C10, first half).  `C10.Good` — the documented format, a map, a tree, no
lock — implies C08's well-formedness `ArchWF`, the hypothesis of every §6/§6b theorem of Props/C10. -/
theorem good_archWF {s : Store} (g : C10.Good H s) : ArchWF s := archWF_of_conforms g.1 g.2.1 g.2.2.1

/-- C13's invariant gives C08's well-formedness. -/
theorem archWF_of_ci {s : Store} (hci : Conf.CI H s) : ArchWF s :=
  archWF_of_conforms hci.conf (by simp only [keysNodup, decide_eq_true_eq]; exact hci.nodup)
    (by simp only [treeShaped, List.all_eq_true]; exact hci.dirs)

theorem readBack_of_all_isSome {s : Store} {as : List Addr}
    (h : ∀ a ∈ as, (readAddrPure H s a).isSome = true) : ∃ c, readBack H s as = some c := by
  induction as with
  | nil => exact ⟨[], rfl⟩
  | cons a as ih =>
    obtain ⟨c, hc⟩ := ih (fun x hx => h x (List.mem_cons_of_mem _ hx))
    obtain ⟨x, hx⟩ := Option.isSome_iff_exists.mp (h a (List.mem_cons_self ..))
    exact ⟨x ++ c, by simp [readBack, hx, hc]⟩

theorem bandOK_readBack {s : Store} {b n : Nat} (ok : BandOK H s b) {es : List IndexEntry}
    (hh : hunkAt s b n = some es) {e : IndexEntry} (he : e ∈ es) (hk : e.kind = .file) :
    ∃ c, readBack H s e.addrs = some c := by
  have hg := hunkAt_eq_some_iff.mp hh
  have hc := ok.entries n (hunkNumsOf_of_hunkAt hh) es hg e he
  unfold entryConforms at hc
  simp only [hk, Bool.and_eq_true, List.all_eq_true] at hc
  exact readBack_of_all_isSome hc.2.2

theorem flatten_pairwise_unique {ι α : Type} {R : α → α → Prop} (hR : ∀ a, ¬ R a a) {f : ι → Option (List α)} :
    ∀ {l : List ι}, ((l.filterMap f).flatten).Pairwise R → ∀ {i j : ι}, i ∈ l → j ∈ l →
      ∀ {a b : List α}, f i = some a → f j = some b → ∀ {e : α}, e ∈ a → e ∈ b →
      (l.Pairwise (· ≠ ·)) → i = j := by
  intro l
  induction l with
  | nil => intro _ i j hi; cases hi
  | cons x l ih =>
    intro hp i j hi hj a b hfi hfj e hea heb hnd
    have inRest : ∀ {t : ι} {c : List α}, t ∈ l → f t = some c → e ∈ c → e ∈ (l.filterMap f).flatten :=
      fun ht hft hec => List.mem_flatten.mpr ⟨_, List.mem_filterMap.mpr ⟨_, ht, hft⟩, hec⟩
    rcases List.mem_cons.mp hi with rfl | hi'
    · rcases List.mem_cons.mp hj with rfl | hj'
      · rfl
      · exfalso
        simp only [List.filterMap_cons, hfi, List.flatten_cons, List.pairwise_append] at hp
        exact hR e (hp.2.2 e hea e (inRest hj' hfj heb))
    · rcases List.mem_cons.mp hj with rfl | hj'
      · exfalso
        simp only [List.filterMap_cons, hfj, List.flatten_cons, List.pairwise_append] at hp
        exact hR e (hp.2.2 e heb e (inRest hi' hfi hea))
      · have hp' : ((l.filterMap f).flatten).Pairwise R := by
          cases hx : f x with
          | none => simpa [List.filterMap_cons, hx] using hp
          | some c =>
            simp only [List.filterMap_cons, hx, List.flatten_cons, List.pairwise_append] at hp
            exact hp.2.1
        exact ih hp' hi' hj' hfi hfj hea heb (List.pairwise_cons.mp hnd).2

theorem bandOK_hunk_unique {s : Store} (nd : (s.map (·.1)).Nodup) {b : Nat} (ok : BandOK H s b)
    {n1 n2 : Nat} {es1 es2 : List IndexEntry}
    (h1 : hunkAt s b n1 = some es1) (h2 : hunkAt s b n2 = some es2) {e : IndexEntry}
    (he1 : e ∈ es1) (he2 : e ∈ es2) : n1 = n2 := by
  have conv : ∀ {n es}, hunkAt s b n = some es → s.get? (.hunk b n) = some (.hunk es) :=
    hunkAt_eq_some_iff.mp
  have mem : ∀ {n es}, hunkAt s b n = some es → n ∈ hunkNumsOf s b := fun hh =>
    (mem_hunkNumsOf_get? nd).mpr ⟨_, conv hh, rfl⟩
  have hs := ok.sorted
  rw [Conserve.strictlySorted_iff, List.pairwise_map] at hs
  have hnd : (hunkNumsOf s b).Pairwise (· ≠ ·) :=
    (hunkNumsOf_sorted_lt nd b).imp (fun h => Nat.ne_of_lt h)
  exact flatten_pairwise_unique (R := fun x y : IndexEntry => apathCmp x.apath y.apath = .lt)
    (fun a => C11.cmp_irrefl a.apath) hs (mem h1) (mem h2)
    (by simp [conv h1, selHunk]) (by simp [conv h2, selHunk]) he1 he2 hnd

theorem ownEntries_damage {s s' : Store} (nd : (s.map (·.1)).Nodup) (nd' : (s'.map (·.1)).Nodup)
    {k : Key} (hd : Damage s s' k) {b : Nat} (hk : ∀ n, k ≠ .hunk b n) : ownEntries s' b = ownEntries s b := by
  have hh : ∀ x, s'.get? (.hunk b x) = s.get? (.hunk b x) := fun x => hd _ (fun e => hk x e.symm)
  unfold ownEntries
  rw [hunkNumsOf_congr nd nd' hh]
  congr 2
  funext x
  unfold usableHunk
  rw [hh x]

theorem archWF_of_nonhunk_damage {s s' : Store} (wf : ArchWF s) (nd' : keysNodup s' = true)
    (tr' : treeShaped s' = true) {k : Key} (hd : Damage s s' k) (hk : ∀ b n, k ≠ .hunk b n) : ArchWF s' :=
  hd.archWF wf nd' tr' fun b n e => absurd e (hk b n)

/-- Equal unless the tail is gone; then entries of earlier versions that sort after the last own path
follow. -/
theorem listSpec_prefix_of_damage {s s' : Store} (nd : (s.map (·.1)).Nodup) (nd' : (s'.map (·.1)).Nodup)
    {k : Key} (hd : Damage s s' k) {b m : Nat} (hk : ∀ n, k ≠ .hunk b n)
    (htail : s.get? (.bandTail b) = some (.tail (some m))) (hr' : bandReadable s' b = true) :
    listSpec s b <+: listSpec s' b := by
  simp only [listSpec, isComplete_of_tail htail, if_true, List.append_nil, bandEntries, hr']
  rw [ownEntries_damage nd nd' hd hk]
  by_cases hr : bandReadable s b = true
  · simp only [hr, if_true]; exact List.prefix_append _ _
  · simp only [hr]; exact List.nil_prefix

theorem listSpec_eq_of_damage {s s' : Store} (nd : (s.map (·.1)).Nodup) (nd' : (s'.map (·.1)).Nodup)
    {k : Key} (hd : Damage s s' k) {b m : Nat} (hk : ∀ n, k ≠ .hunk b n) (hkt : k ≠ .bandTail b)
    (htail : s.get? (.bandTail b) = some (.tail (some m))) (hr : bandReadable s b = true)
    (hr' : bandReadable s' b = true) : listSpec s' b = listSpec s b := by
  have hc' : isComplete s' b = true :=
    isComplete_of_tail ((hd (.bandTail b) (fun e => hkt e.symm)).trans htail)
  simp only [listSpec, isComplete_of_tail htail, hc', if_true, List.append_nil, bandEntries, hr, hr']
  exact ownEntries_damage nd nd' hd hk

theorem readBack_damage_nonblock {s s' : Store} {k : Key} (hd : Damage s s' k) (hk : ∀ h, k ≠ .block h)
    (as : List Addr) : readBack H s' as = readBack H s as :=
  readBack_congr H as fun a _ => hd _ (fun e => hk a.hash e.symm)

section fileDamage
variable {s s' : Store} {k : Key}

theorem isDir_false_of_ne_dir {v : FileVal} (h : v ≠ .dir) : v.isDir = false := by
  cases v <;> first | rfl | exact absurd rfl h

theorem _root_.Conserve.C10.FileDamage.wasFile (hd : C10.FileDamage s s' k) :
    ∃ v, s.get? k = some v ∧ v.isDir = false :=
  hd.2.2.1.imp fun _ h => ⟨h.1, isDir_false_of_ne_dir h.2⟩

/-- C10's damage relation is C09's (`DamagedAt`, Proofs/ValidateDamage.lean) at a path other than the
header; that the damaged store is still a tree follows (`DamagedAt.dirsOk'`). -/
theorem _root_.Conserve.C10.FileDamage.damagedAt (hd : C10.FileDamage s s' k) : DamagedAt k (s'.get? k) s s' :=
  ⟨hd.2.2.2.2.1, hd.wasFile, rfl, hd.2.2.2.1, hd.1⟩

theorem fileDamage_iff (tr : treeShaped s = true) :
    C10.FileDamage s s' k ↔ k ≠ .header ∧ DamagedAt k (s'.get? k) s s' := by
  refine ⟨fun hd => ⟨hd.2.1, hd.damagedAt⟩, fun ⟨hk, dm⟩ => ?_⟩
  obtain ⟨v, hv, hf⟩ := dm.was
  refine ⟨dm.same, hk, ⟨v, hv, fun e => by rw [e] at hf; cases hf⟩, dm.notDir, dm.nodup, ?_⟩
  simp only [treeShaped, List.all_eq_true] at tr ⊢
  exact dm.dirsOk' tr

theorem _root_.Conserve.C10.FileDamage.keys' (hd : C10.FileDamage s s' k) : (s'.map (·.1)).Nodup := by
  simpa [keysNodup] using hd.2.2.2.2.1

theorem _root_.Conserve.C10.FileDamage.ne_of (hd : C10.FileDamage s s' k) {k' : Key}
    (h : ∀ v, s.get? k' = some v → v = .dir) : k' ≠ k := by
  obtain ⟨v, hv, hf⟩ := hd.wasFile
  rintro rfl
  rw [h v hv] at hf
  cases hf

theorem _root_.Conserve.C10.FileDamage.dir_kept (hd : C10.FileDamage s s' k) {k' : Key}
    (h : s.get? k' = some .dir) : s'.get? k' = some .dir :=
  (hd.1 k' (hd.ne_of fun _ hv => Option.some.inj (hv.symm.trans h))).trans h

theorem _root_.Conserve.C10.FileDamage.none_kept (hd : C10.FileDamage s s' k) {k' : Key}
    (h : s.get? k' = none) : s'.get? k' = none :=
  (hd.1 k' (hd.ne_of fun _ hv => nomatch hv.symm.trans h)).trans h

theorem get?_of_loss (hd : Damage s s' k) (hdel : s'.get? k = none ∨ s'.get? k = some .empty)
    {k' : Key} {v : FileVal} (h : s'.get? k' = some v) (hv : v ≠ .empty) : s.get? k' = some v := by
  by_cases hk : k' = k
  · subst hk
    rcases hdel with h' | h'
    · rw [h'] at h; cases h
    · rw [h'] at h; cases h; exact absurd rfl hv
  · rw [← hd k' hk]; exact h

end fileDamage

end Conserve.Contain
