import ConserveModel.Proofs.BackupReadOnly
/-
What the read-only programs of `backup`'s prelude return, in every world (`ROSpec`): with no band
directory `last_band_id` finds none; `list_blocks` names present intact blocks; every entry of
the stitched basis listing is an entry of some decodable hunk of the store, so that the
assumption `backup` makes about unchanged files can be stated on the initial store alone.
-/
namespace Conserve.Inv
open Conserve Prog

/-- `ROSpec s p Q`: in every world whose store is `s` — any faults, any crash point — the
program leaves the store alone and, if it returns `a`, then `Q a`. -/
def ROSpec (s : Store) {α : Type} (p : Prog α) (Q : α → Prop) : Prop :=
  ∀ w : World, w.store = s → (p.run w).2.store = s ∧ ∀ a, (p.run w).1 = .ok a → Q a

namespace ROSpec
variable {s : Store}

theorem invSat {α : Type} {p : Prog α} {Q : α → Prop} :
    ROSpec s p Q ↔ InvSat (fun w => w.store = s) p Q := Iff.rfl

theorem ret {α : Type} {a : α} {Q : α → Prop} (h : Q a) : ROSpec s (.ret a) Q := invSat.2 (.ret h)

theorem fail {α : Type} {e : Err} {Q : α → Prop} : ROSpec s (.fail e : Prog α) Q := invSat.2 .fail

theorem panic {α : Type} {m : String} {Q : α → Prop} : ROSpec s (.panic m : Prog α) Q := invSat.2 .panic

theorem emit {α : Type} {ev : Event} {k : Prog α} {Q : α → Prop} (h : ROSpec s k Q) :
    ROSpec s (.emit ev k) Q := fun w hw => h { w with events := ev :: w.events } hw

theorem bind {α β : Type} {p : Prog α} {f : α → Prog β} {Q1 : α → Prop} {Q : β → Prop}
    (hp : ROSpec s p Q1) (hf : ∀ a, Q1 a → ROSpec s (f a) Q) : ROSpec s (p.bind f) Q :=
  invSat.2 (.bind (invSat.1 hp) hf)

theorem attempt {α : Type} {p : Prog α} {Q : α → Prop} (hp : ROSpec s p Q) :
    ROSpec s p.attempt (fun r => ∀ a, r = .ok a → Q a) := invSat.2 (invSat.1 hp).attempt

theorem mono {α : Type} {p : Prog α} {Q Q' : α → Prop} (hp : ROSpec s p Q) (h : ∀ a, Q a → Q' a) :
    ROSpec s p Q' := invSat.2 ((invSat.1 hp).mono h)

theorem ite {α : Type} {c : Prop} [Decidable c] {p q : Prog α} {Q : α → Prop}
    (hp : ROSpec s p Q) (hq : ROSpec s q Q) : ROSpec s (if c then p else q) Q := by
  split <;> assumption

theorem of_ro {α : Type} {p : Prog α} (hp : Prog.AllOps ReadOnly p) : ROSpec s p (fun _ => True) :=
  fun w hw => ⟨(Prog.run_readOnly_store hp w).trans hw, fun _ _ => trivial⟩

end ROSpec

/-- What a read-only operation answers in any world: what local storage answers, or an error
(injected fault, dead world). -/
theorem ROSpec.op (s : Store) {o : Op} (ho : ReadOnly o) :
    ROSpec s (perform o) (fun r => (∃ b, r = (applyOp b s o).2) ∨ ∃ e, r = .err e) := by
  intro w hw
  refine ⟨(w.exec_readOnly_store o ho).trans hw, fun r hr => ?_⟩
  cases hr
  rcases (w.exec_cases o).2 with ⟨_, _, h⟩ | ⟨_, _, _, _, _, _, _, h⟩ | ⟨_, _, _, h⟩ | ⟨_, _, h⟩
  · exact Or.inr ⟨_, h⟩
  · exact Or.inr ⟨_, h⟩
  · exact Or.inr ⟨_, h⟩
  · exact Or.inl ⟨_, hw ▸ h⟩

theorem ROSpec.read (s : Store) (k : Key) :
    ROSpec s (perform (.read k)) (fun r => ∀ v, r = .val v → s.get? k = some v) := by
  refine (ROSpec.op s (o := .read k) trivial).mono fun r hr v hv => ?_
  subst hv
  rcases hr with ⟨b, h⟩ | ⟨_, h⟩
  · simp only [applyOp] at h
    split at h
    · cases h
    · cases h
    · cases h; assumption
  · cases h

theorem ROSpec.listDir (s : Store) (k : Key) :
    ROSpec s (perform (.listDir k)) (fun r => ∀ xs, r = .listing xs → xs = s.children k) := by
  refine (ROSpec.op s (o := .listDir k) trivial).mono fun r hr xs hxs => ?_
  subst hxs
  rcases hr with ⟨b, h⟩ | ⟨_, h⟩
  · simp only [applyOp] at h
    split at h <;> cases h
    rfl
  · cases h

theorem mem_children {s : Store} {k : Key} {e : DirEnt} (h : e ∈ s.children k) :
    ∃ kv ∈ s, kv.1.parent = some k ∧ e.key = kv.1 ∧ e.isDir = kv.2.isDir ∧
      e.nonEmpty = (!kv.2.isDir && !kv.2.isEmptyFile) := by
  unfold Store.children at h
  obtain ⟨kv, hkv, rfl⟩ := List.mem_map.mp h
  obtain ⟨hm, hp⟩ := List.mem_filter.mp hkv
  exact ⟨kv, hm, by simpa using hp, rfl, rfl, rfl⟩

theorem lastBandId_spec (s : Store) : ROSpec s lastBandId (fun r => NoBands s → r = none) := by
  unfold lastBandId listBandIds
  simp only [Prog.bind_def, Prog.pure_def]
  refine ROSpec.bind (Q1 := fun ids => NoBands s → ids = []) (ROSpec.bind (ROSpec.listDir s .root) fun r hr => ?_)
    (fun ids hids => ROSpec.ret fun hnb => by rw [hids hnb]; rfl)
  split
  · rename_i xs
    refine ROSpec.ret fun hnb => ?_
    have : ∀ l : List Nat, l = [] → sortNat l = [] := fun l hl => by subst hl; exact List.mergeSort_nil
    apply this
    rw [List.filterMap_eq_nil_iff]
    intro e he
    rw [hr xs rfl] at he
    obtain ⟨kv, hkv, _, hkey, _⟩ := mem_children he
    split
    · rename_i b hb
      exact absurd (hkey ▸ hb) (hnb kv hkv b)
    · rfl
  · exact ROSpec.fail
  · exact ROSpec.fail

section
variable {H : Str → Str}

theorem block_of_listing {s : Store} (hnd : NoDupKeys s) (hbg : BlocksGood H s) {k : Key} {e : DirEnt}
    (he : e ∈ s.children k) {h : Str} (hkey : e.key = .block h) (hne : (!e.isDir && e.nonEmpty) = true) :
    ∃ c, blockContent H s h = some c := by
  obtain ⟨kv, hkv, _, hk, hd, hn⟩ := mem_children he
  obtain ⟨k', v⟩ := kv
  simp only at hk hd hn
  rw [hkey] at hk
  subst hk
  have hget := Store.get?_of_mem_nodup hnd hkv
  rcases hbg h v hget with rfl | ⟨c, rfl, hc⟩
  · simp [hn, FileVal.isEmptyFile] at hne
  · exact ⟨c, (blockContent_eq_some H).mpr ⟨hget, hc⟩⟩

theorem listBlocks_go_spec {s : Store} (hnd : NoDupKeys s) (hbg : BlocksGood H s) (ps acc : List Str)
    (hacc : ExistsOK H s acc) : ROSpec s (listBlocks.go ps acc) (ExistsOK H s) := by
  induction ps generalizing acc with
  | nil => exact ROSpec.ret hacc
  | cons p ps ih =>
    unfold listBlocks.go
    simp only [Prog.bind_def]
    refine ROSpec.bind (ROSpec.listDir s _) fun r hr => ?_
    split
    · rename_i ys
      refine ih _ fun a ha => ?_
      rcases List.mem_append.mp ha with ha | ha
      · exact hacc a ha
      · obtain ⟨e, he, hsome⟩ := List.mem_filterMap.mp (List.mem_filter.mp ha).1
        rw [hr ys rfl] at he
        split at hsome
        · rename_i h' hkey
          split at hsome
          · rename_i hcond
            cases hsome
            exact block_of_listing hnd hbg he hkey hcond
          · cases hsome
        · cases hsome
    · exact ROSpec.fail
    · exact ROSpec.fail

theorem listBlocks_spec {s : Store} (hnd : NoDupKeys s) (hbg : BlocksGood H s) :
    ROSpec s listBlocks (ExistsOK H s) := by
  unfold listBlocks
  simp only [Prog.bind_def]
  refine ROSpec.bind (ROSpec.listDir s _) fun r _ => ?_
  split
  · exact listBlocks_go_spec hnd hbg _ [] fun _ h => nomatch h
  · exact ROSpec.fail
  · exact ROSpec.fail

end

/-- Every entry of the list sits in some decodable hunk of the store. -/
def FromHunks (s : Store) (es : List IndexEntry) : Prop :=
  ∀ e ∈ es, ∃ b n hes, hunkAt s b n = some hes ∧ e ∈ hes

theorem FromHunks.nil (s : Store) : FromHunks s [] := fun _ h => nomatch h

theorem FromHunks.append {s : Store} {xs ys : List IndexEntry} (hx : FromHunks s xs) (hy : FromHunks s ys) :
    FromHunks s (xs ++ ys) := fun e he => by
  rcases List.mem_append.mp he with h | h
  · exact hx e h
  · exact hy e h

theorem FromHunks.sub {s : Store} {xs ys : List IndexEntry} (hy : FromHunks s ys) (h : ∀ e ∈ xs, e ∈ ys) :
    FromHunks s xs := fun e he => hy e (h e he)

theorem readHunk_spec (s : Store) (b n : Nat) :
    ROSpec s (readHunk b n) (fun r => ∀ es, r = some es → hunkAt s b n = some es ∨ es = []) := by
  unfold readHunk
  simp only [Prog.bind_def, Prog.pure_def]
  refine ROSpec.bind (ROSpec.read s _) (fun r hr => ?_)
  split
  · exact ROSpec.ret (fun _ h => nomatch h)
  · exact ROSpec.fail
  · rename_i es
    split
    · refine ROSpec.ret (fun es' h => ?_)
      cases h
      left
      simp [hunkAt, hr _ rfl]
    · exact ROSpec.fail
  · refine ROSpec.ret (fun es' h => ?_)
    cases h
    right; rfl
  · exact ROSpec.fail
  · exact ROSpec.fail

theorem readHunks_spec (s : Store) (b : Nat) (ns : List Nat) (after last : Option Str) :
    ROSpec s (readHunks b ns after last) (fun r => FromHunks s r.1) := by
  induction ns generalizing after last with
  | nil => exact ROSpec.ret (FromHunks.nil s)
  | cons n rest ih =>
    unfold readHunks
    simp only [Prog.bind_def, Prog.pure_def, logError]
    refine ROSpec.bind (readHunk_spec s b n).attempt (fun r hr => ?_)
    have hcat : ∀ (part : List IndexEntry) a l, FromHunks s part →
        ROSpec s ((readHunks b rest a l).bind fun x => Prog.ret (part ++ x.1, x.2))
          (fun r => FromHunks s r.1) := fun part a l hp =>
      ROSpec.bind (ih a l) (fun x hx => ROSpec.ret (hp.append hx))
    split
    · exact ROSpec.ret (FromHunks.nil s)
    · exact ROSpec.emit (ROSpec.bind (Q1 := fun _ => True) (ROSpec.ret trivial) (fun _ _ => ih _ _))
    · rename_i es
      have hes : FromHunks s es := fun e he => by
        rcases hr _ rfl es rfl with h | h
        · exact ⟨b, n, es, h, he⟩
        · subst h; cases he
      have htrim : ∀ a, FromHunks s (trimAfter a es) := fun a =>
        hes.sub fun e he => (List.dropWhile_sublist _).subset he
      cases after with
      | some a => exact ROSpec.ite (ih _ _) (ROSpec.ite (hcat es _ _ hes) (hcat _ _ _ (htrim _)))
      | none => exact ROSpec.ite (ih _ _) (hcat es _ _ hes)

theorem readBand_spec (s : Store) (b : Nat) (last : Option Str) :
    ROSpec s (readBand b last) (fun r => FromHunks s r.1) := by
  unfold readBand
  simp only [Prog.bind_def, Prog.pure_def, logError]
  refine ROSpec.bind (ROSpec.of_ro (bandOpen_ro b).attempt) (fun r _ => ?_)
  split
  · exact ROSpec.emit (ROSpec.bind (Q1 := fun _ => True) (ROSpec.ret trivial)
      (fun _ _ => ROSpec.ret (FromHunks.nil s)))
  · refine ROSpec.bind (ROSpec.of_ro (hunksAvailable_ro b).attempt) (fun r _ => ?_)
    split
    · exact ROSpec.emit (ROSpec.bind (Q1 := fun _ => True) (ROSpec.ret trivial)
        (fun _ _ => ROSpec.ret (FromHunks.nil s)))
    · refine ROSpec.bind (ROSpec.of_ro (checkIndexHunks_ro b).attempt) (fun r _ => ?_)
      split
      · exact ROSpec.emit (ROSpec.bind (Q1 := fun _ => True) (ROSpec.ret trivial)
          (fun _ _ => readHunks_spec s b _ _ _))
      · exact readHunks_spec s b _ _ _

theorem stitchDown_spec (s : Store) (b : Nat) (last : Option Str) :
    ROSpec s (stitchDown b last) (FromHunks s) := by
  induction b generalizing last with
  | zero => exact ROSpec.ret (FromHunks.nil s)
  | succ b ih =>
    unfold stitchDown
    simp only [Prog.bind_def, Prog.pure_def]
    refine ROSpec.bind (ROSpec.of_ro (unwrapOr_isFile_ro _ _)) (fun r _ => ?_)
    split
    · refine ROSpec.bind (readBand_spec s _ _) (fun x hx => ?_)
      refine ROSpec.bind (ROSpec.of_ro (unwrapOr_isFile_ro _ _)) (fun r _ => ?_)
      split
      · exact ROSpec.ret hx
      · exact ROSpec.bind (ih _) (fun more hm => ROSpec.ret (hx.append hm))
    · refine ROSpec.bind (ROSpec.of_ro (unwrapOr_isFile_ro _ _)) (fun r _ => ?_)
      split
      · exact ROSpec.emit (ih _)
      · exact ih _

theorem stitchAll_spec (s : Store) (b : Nat) : ROSpec s (stitchAll b) (FromHunks s) := by
  unfold stitchAll
  simp only [Prog.bind_def, Prog.pure_def]
  refine ROSpec.bind (readBand_spec s _ _) (fun x hx => ?_)
  refine ROSpec.bind (ROSpec.of_ro (unwrapOr_isFile_ro _ _)) (fun r _ => ?_)
  split
  · exact ROSpec.ret hx
  · exact ROSpec.bind (stitchDown_spec s _ _) (fun more hm => ROSpec.ret (hx.append hm))

theorem filterEntries_spec (s : Store) (subtree : Str) (excl : Str → Bool) (es : List IndexEntry) :
    ROSpec s (filterEntries subtree excl es) (fun r => ∀ e ∈ r, e ∈ es) := by
  induction es with
  | nil => exact ROSpec.ret (fun _ h => nomatch h)
  | cons e es ih =>
    unfold filterEntries
    simp only [Prog.bind_def, Prog.pure_def]
    have hskip : ROSpec s (filterEntries subtree excl es) (fun r => ∀ x ∈ r, x ∈ e :: es) :=
      ih.mono fun r hr x hx => List.mem_cons_of_mem _ (hr x hx)
    refine ROSpec.ite hskip (ROSpec.ite ROSpec.panic (ROSpec.ite hskip
      (ROSpec.bind ih fun rest hrest => ROSpec.ret fun x hx => ?_)))
    rcases List.mem_cons.mp hx with rfl | hx
    · exact List.mem_cons_self ..
    · exact List.mem_cons_of_mem _ (hrest x hx)

theorem listEntries_spec (s : Store) (b : Nat) (subtree : Str) (excl : Str → Bool) :
    ROSpec s (listEntries b subtree excl) (FromHunks s) := by
  unfold listEntries
  simp only [Prog.bind_def]
  exact ROSpec.bind (stitchAll_spec s b) (fun es hes => (filterEntries_spec s _ _ es).mono fun r hr => hes.sub hr)

end Conserve.Inv
