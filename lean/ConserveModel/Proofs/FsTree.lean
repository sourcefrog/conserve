import ConserveModel.Proofs.FsTop
/-
Tree-consistent listings can be replayed safely (`Confinable`), and decidable forms of the
side conditions.
-/
namespace Conserve

theorem prefix_dropLast_of_ne {α : Type} {a b : List α} (h : a <+: b) (hne : a ≠ b) : a <+: b.dropLast := by
  obtain ⟨t, rfl⟩ := h
  have ht : t ≠ [] := fun e => hne (by rw [e, List.append_nil])
  rw [List.dropLast_append_of_ne_nil ht]
  exact List.prefix_append _ _

theorem prefix_antisymm' {α : Type} {a b : List α} (h1 : a <+: b) (h2 : b <+: a) : a = b :=
  h1.eq_of_length_le h2.length_le

theorem tcFrom_spec {head : RNode} : ∀ (rest earlier : List RNode), tcFrom head earlier rest = true →
    ∀ n ∈ rest, comps head <+: comps n ∧
      ∃ d ∈ earlier ++ rest, d.kind = .dir ∧ comps d = (comps n).dropLast := by
  intro rest
  induction rest with
  | nil => intro _ _ n hn; cases hn
  | cons x rest ih =>
    intro earlier h n hn
    simp only [tcFrom, Bool.and_eq_true] at h
    obtain ⟨⟨h1, h2⟩, h3⟩ := h
    rcases List.mem_cons.1 hn with rfl | hn
    · refine ⟨List.isPrefixOf_iff_prefix.1 h1, ?_⟩
      obtain ⟨d, hd, hd2⟩ := List.any_eq_true.1 h2
      simp only [Bool.and_eq_true, beq_iff_eq] at hd2
      exact ⟨d, List.mem_append_left _ hd, hd2.1, hd2.2⟩
    · obtain ⟨hp, d, hd, hk, hc⟩ := ih (earlier ++ [x]) h3 n hn
      refine ⟨hp, d, ?_, hk, hc⟩
      simpa using hd

theorem confinable_of_treeConsistent {nodes : List RNode} (h : treeConsistent nodes = true) :
    Confinable nodes := by
  simp only [treeConsistent, Bool.and_eq_true, List.all_eq_true, decide_eq_true_eq] at h
  obtain ⟨⟨hv, hs⟩, ht⟩ := h
  have hdist := comps_distinct_of_sorted hv hs
  refine ⟨hv, hdist, ?_⟩
  cases nodes with
  | nil => intro m hm; cases hm
  | cons hd rest =>
    have hspec := tcFrom_spec rest [hd] ht
    -- induction on the length of the descendant's path
    have key : ∀ (k : Nat) (n : RNode), n ∈ hd :: rest → (comps n).length = k →
        ∀ m ∈ hd :: rest, comps m <+: comps n → comps m ≠ comps n → m.kind = .dir := by
      intro k
      induction k using Nat.strongRecOn with
      | _ k ih =>
        intro n hn hk m hm hpre hne
        rcases List.mem_cons.1 hn with rfl | hn'
        · -- n is the head: nothing listed is a proper ancestor of it
          rcases List.mem_cons.1 hm with rfl | hm'
          · exact absurd rfl hne
          · exact absurd (prefix_antisymm' hpre (hspec m hm').1) hne
        · obtain ⟨_, d, hdm, hdk, hdc⟩ := hspec n hn'
          have hdmem : d ∈ hd :: rest := by simpa using hdm
          have hpd : comps m <+: comps d := hdc ▸ prefix_dropLast_of_ne hpre hne
          by_cases heq : comps m = comps d
          · rw [eq_of_pairwise_ne_key hdist hm hdmem heq]; exact hdk
          · have hlen : (comps d).length < k := by
              rw [hdc, List.length_dropLast, ← hk]
              have : comps n ≠ [] := by
                intro e
                rw [e] at hpre
                exact hne (by rw [e]; exact List.prefix_nil.1 hpre)
              have := List.length_pos_iff.2 this
              omega
            exact ih _ hlen d hdmem rfl m hm hpd heq
    intro m hm n hn hpre hne
    exact key _ n hn rfl m hm hpre hne

def destPlainB (fs : Fs) (D : Path) : Bool :=
  D.all goodName && ((List.range (D.length + 1)).all fun i => D.take i == D || fs.isDir (D.take i)) &&
  (match fs.node D with
   | some x => x.kind == .dir
   | none => true)

theorem destPlain_of_B {fs : Fs} {D : Path} (h : destPlainB fs D = true) : DestPlain fs D := by
  simp only [destPlainB, Bool.and_eq_true, List.all_eq_true] at h
  obtain ⟨⟨h1, h2⟩, h3⟩ := h
  refine ⟨h1, fun pre hp hne => ?_, fun x hx => ?_⟩
  · have e := List.prefix_iff_eq_take.1 hp
    have := h2 pre.length (List.mem_range.2 (Nat.lt_succ_of_le hp.length_le))
    rw [← e] at this
    simpa [hne] using this
  · rw [hx] at h3
    simpa using h3

end Conserve
