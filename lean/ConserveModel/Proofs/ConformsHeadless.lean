import ConserveModel.Proofs.ConformsStep
import ConserveModel.Proofs.StitchStore
/-
A conforming archive (C13: `CI` — conforms to the format, a tree, a map) has no version that lost
its head: `bandConforms` allows a version directory without head file only with NO hunk files at all
("killed right after creating the directory").  So the repaired `previous_existing_band`, which
reports an id without head whose index holds hunk 0 (`headLost`, StitchSpec.lean), is silent on every
archive the tool can produce.  No property statements here (Props/C10h.lean).
-/
namespace Conserve.Conf
open Conserve Conserve.Inv

variable {H : Str → Str}

theorem CI.headLost_false {s : Store} (h : CI H s) (c : Nat) : headLost s c = false := by
  unfold headLost
  cases hg : s.get? (.hunk c 0) with
  | none => simp
  | some v =>
    by_cases hv : v.isDir = true
    · simp [hv]
    · have hv' : v.isDir = false := by simpa using hv
      have hb := h.band (h.dirs.hunkTreeOk c 0 v hg).2
      have h0 : 0 ∈ hunkNumsOf s c := (mem_hunkNumsOf_get? h.nodup).mpr ⟨v, hg, hv'⟩
      unfold bandConforms at hb
      simp only [Bool.and_eq_true] at hb
      have hhead := hb.2
      have hne : (hunkNumsOf s c).isEmpty = false := by
        cases hl : hunkNumsOf s c with
        | nil => rw [hl] at h0; cases h0
        | cons _ _ => rfl
      have hp : bandPresent s c = true := by
        unfold bandPresent
        cases hh : s.get? (.bandHead c) with
        | none => simp [hh, hne] at hhead
        | some hv => cases hv <;> simp [hh, hne, FileVal.isDir] at hhead ⊢
      simp [hp]

end Conserve.Conf
