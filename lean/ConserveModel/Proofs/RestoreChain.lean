import ConserveModel.Proofs.FsGuard
import ConserveModel.Proofs.StitchRule
import ConserveModel.Props.C08
import ConserveModel.Proofs.FrameOps
/-
`restore()` taken apart: whatever the archive looks like, a successful store-level `restore` is a
run of the per-entry loop `restoreEntries H []` on a list of index entries with valid apaths; on a
well-formed archive (`ArchWF`) in the fault-free world that list is the filtered rule listing of
the resolved version, hence strictly increasing.
-/
namespace Conserve
open Prog

theorem Quiet.run_bind_ok {α β : Type} {p : Prog α} {f : α → Prog β} {s : Store} {evs : List Event}
    {w w' : World} {b : β} (hp : Prog.AllOps ReadOnly p) (q : Quiet s evs w)
    (h : (p.bind f).run w = (.ok b, w')) :
    ∃ a evs1 w1, Quiet s evs1 w1 ∧ (f a).run w1 = (.ok b, w') := by
  obtain ⟨a, -, e⟩ := Prog.run_bind_ok_split (congrArg Prod.fst h)
  obtain ⟨w1, h1, q1, -⟩ := q.run_eval hp
  rw [h1] at e
  exact ⟨a, _, w1, q1, e ▸ h⟩

section
variable (H : Str → Str)

/-- Any archive, any world. -/
theorem restore_is_loop {sel : BandSelection} {subtree : Str} {excl : Str → Bool} {w w' : World}
    {nodes : List RNode} (h : (restore H sel subtree excl).run w = (.ok nodes, w')) :
    ∃ es w1, (∀ e ∈ es, isValid e.apath = true) ∧ (restoreEntries H [] es).run w1 = (.ok nodes, w') := by
  simp only [restore, bind_def] at h
  obtain ⟨b, -, h⟩ := Prog.run_bind_ok_run h
  obtain ⟨_, -, h⟩ := Prog.run_bind_ok_run h
  obtain ⟨_, -, h⟩ := Prog.run_bind_ok_run h
  obtain ⟨es, hes, h⟩ := Prog.run_bind_ok_run h
  exact ⟨es, _, fun e he => NP.usable_valid ((listEntries_tree b subtree excl).run hes e he), h⟩

/-- Well-formed archive, fault-free world, any selection: the list is the filtered RULE listing
(`listSpec`, C08) of the version the selection resolved to. -/
theorem restore_is_loop_on_listing {s : Store} (wf : ArchWF s) {sel : BandSelection} {subtree : Str}
    {excl : Str → Bool} {w' : World} {nodes : List RNode}
    (h : (restore H sel subtree excl).run (World.clean s) = (.ok nodes, w')) :
    ∃ b w1, (restoreEntries H []
      ((listSpec s b).filter fun e => isPrefixOfImpl subtree e.apath && !excl e.apath)).run w1 = (.ok nodes, w') := by
  simp only [restore, bind_def] at h
  obtain ⟨b, _, _, q1, h⟩ := Quiet.run_bind_ok (resolveBandId_ro sel) (Quiet.clean s) h
  obtain ⟨_, _, _, q2, h⟩ := Quiet.run_bind_ok (bandOpen_ro b) q1 h
  obtain ⟨_, _, w3, q3, h⟩ := Quiet.run_bind_ok listBlocks_ro q2 h
  obtain ⟨w5, h5, _⟩ := C08.run_listEntries wf b subtree excl q3
  rw [Prog.run_bind, h5] at h
  exact ⟨b, _, h⟩

end

theorem filtered_listing_valid_sorted {s : Store} (wf : ArchWF s) (b : Nat) (p : IndexEntry → Bool) :
    (∀ e ∈ (listSpec s b).filter p, isValid e.apath = true) ∧
    ((listSpec s b).filter p).Pairwise fun a c => apathCmp a.apath c.apath = .lt := by
  refine ⟨fun e he => C08.listed_valid (List.mem_filter.1 he).1, ?_⟩
  have := C08.stitch_sorted wf b
  rw [List.pairwise_map] at this
  exact this.sublist List.filter_sublist

end Conserve
