import ConserveModel.Proofs.WalkOrder
/-
The walk does not depend on the order of the directory listings: the set of what it emits
(`Forest.Below`) does not, and the walk is that set in increasing order.
-/
namespace Conserve
open Std

theorem compare_eq_of_le_le {κ : Type} [Ord κ] [OrientedOrd κ] {x y : κ}
    (h1 : (compare x y != .gt) = true) (h2 : (compare y x != .gt) = true) : compare x y = .eq := by
  simp only [bne_iff_ne, ne_eq] at h1 h2
  cases hc : compare x y with
  | eq => rfl
  | lt => exact absurd (OrientedCmp.gt_iff_lt.2 hc) h2
  | gt => exact absurd hc h1

theorem Forest.PermEq.refl (f : Forest) : Forest.PermEq f f := by
  induction f using Forest.induct with
  | nil => exact .nil
  | cons name n rest ih => exact .cons name n ih

theorem Forest.PermEq.symm {f g : Forest} (h : Forest.PermEq f g) : Forest.PermEq g f := by
  induction h with
  | nil => exact .nil
  | cons name n _ ih => exact .cons name n ih
  | consDir name m _ _ ih1 ih2 => exact .consDir name m ih1 ih2
  | swap a n b m r => exact .swap b m a n r
  | trans _ _ ih1 ih2 => exact .trans ih2 ih1

theorem Node.PermEq.entry {a b : Node} (h : Node.PermEq a b) (ap : Str) : a.entry ap = b.entry ap := by
  rcases h with rfl | ⟨m, k₁, k₂, rfl, rfl, _⟩ <;> rfl

theorem Node.PermEq.isDir {a b : Node} (h : Node.PermEq a b) : a.isDir = b.isDir := by
  rcases h with rfl | ⟨m, k₁, k₂, rfl, rfl, _⟩ <;> rfl

theorem Node.PermEq.kids {a b : Node} (h : Node.PermEq a b) : Forest.PermEq a.kids b.kids := by
  rcases h with rfl | ⟨m, k₁, k₂, rfl, rfl, h⟩
  · exact .refl _
  · exact h

theorem Forest.PermEq.mem {f g : Forest} (h : Forest.PermEq f g) :
    ∀ p ∈ f.toList, ∃ q ∈ g.toList, q.1 = p.1 ∧ Node.PermEq p.2 q.2 := by
  induction h with
  | nil => nofun
  | cons name n _ ih =>
    intro p hp
    rcases List.mem_cons.1 hp with rfl | hp
    · exact ⟨_, List.mem_cons_self, rfl, .inl rfl⟩
    · obtain ⟨q, hq, h⟩ := ih p hp
      exact ⟨q, List.mem_cons_of_mem _ hq, h⟩
  | consDir name m hk _ _ ih =>
    intro p hp
    rcases List.mem_cons.1 hp with rfl | hp
    · exact ⟨_, List.mem_cons_self, rfl, .inr ⟨_, _, _, rfl, rfl, hk⟩⟩
    · obtain ⟨q, hq, h⟩ := ih p hp
      exact ⟨q, List.mem_cons_of_mem _ hq, h⟩
  | swap a n b m r =>
    intro p hp
    exact ⟨p, (List.Perm.swap _ _ _).mem_iff.1 hp, rfl, .inl rfl⟩
  | trans _ _ ih1 ih2 =>
    intro p hp
    obtain ⟨q, hq, e1, h1⟩ := ih1 p hp
    obtain ⟨r, hr, e2, h2⟩ := ih2 q hq
    refine ⟨r, hr, e2.trans e1, ?_⟩
    rcases h1 with e | ⟨m, k₁, k₂, ep, eq, hk⟩
    · exact e ▸ h2
    · rcases h2 with e | ⟨m', k₂', k₃, eq', er, hk'⟩
      · exact .inr ⟨m, k₁, k₂, ep, e ▸ eq, hk⟩
      · rw [eq] at eq'
        cases eq'
        exact .inr ⟨m, k₁, k₃, ep, er, hk.trans hk'⟩

/-- No well-formedness is needed for the set; it is needed to know that both walks are sorted. -/
theorem Forest.Below.perm {excl : Str → Bool} {f : Forest} {ap : Str} {n : Node} {ap' : Str}
    (h : Forest.Below excl f ap n ap') :
    ∀ {g}, Forest.PermEq f g → ∃ n', Forest.Below excl g ap n' ap' ∧ n.entry ap' = n'.entry ap' := by
  induction h with
  | child hp =>
    intro g hfg
    obtain ⟨q, hq, e, hn⟩ := hfg.mem _ (mem_live.1 hp).1
    exact ⟨q.2, e ▸ .child (mem_live.2 ⟨hq, e ▸ (mem_live.1 hp).2⟩), hn.entry _⟩
  | deeper hp hd _ ih =>
    intro g hfg
    obtain ⟨q, hq, e, hn⟩ := hfg.mem _ (mem_live.1 hp).1
    obtain ⟨n', hb, he⟩ := ih hn.kids
    exact ⟨n', .deeper (mem_live.2 ⟨hq, e ▸ (mem_live.1 hp).2⟩) (hn.isDir ▸ hd) (e ▸ hb), he⟩

theorem Forest.PermEq.wf {f g : Forest} (h : Forest.PermEq f g) :
    (f.toList.map (·.1)).Perm (g.toList.map (·.1)) ∧ (f.WF = true → g.WF = true) := by
  induction h with
  | nil => exact ⟨List.Perm.refl _, id⟩
  | cons name n _ ih =>
    refine ⟨List.Perm.cons _ ih.1, fun hwf => ?_⟩
    rw [Forest.WF_cons] at hwf ⊢
    exact ⟨hwf.1, fun hm => hwf.2.1 (ih.1.mem_iff.2 hm), hwf.2.2.1, ih.2 hwf.2.2.2⟩
  | @consDir name m k₁ k₂ r₁ r₂ _ _ ihk ihr =>
    refine ⟨List.Perm.cons _ ihr.1, fun hwf => ?_⟩
    rw [Forest.WF_cons] at hwf ⊢
    exact ⟨hwf.1, fun hm => hwf.2.1 (ihr.1.mem_iff.2 hm),
      by simpa [Node.WF] using ihk.2 (by simpa [Node.WF] using hwf.2.2.1), ihr.2 hwf.2.2.2⟩
  | swap a n b m r =>
    refine ⟨List.Perm.swap _ _ _, fun hwf => ?_⟩
    rw [Forest.WF_cons, Forest.WF_cons] at hwf ⊢
    obtain ⟨ga, hna, wn, gb, hnb, wm, wr⟩ := hwf
    simp only [Forest.toList, List.map_cons, List.mem_cons, not_or] at hna ⊢
    exact ⟨gb, ⟨fun e => hna.1 e.symm, hnb⟩, wm, ga, hna.2, wn, wr⟩
  | trans _ _ ih1 ih2 => exact ⟨ih1.1.trans ih2.1, fun hwf => ih2.2 (ih1.2 hwf)⟩

theorem Forest.PermEq.walkBelow_eq {f g : Forest} (h : Forest.PermEq f g) (hwf : f.WF = true)
    (excl : Str → Bool) {cs : List Str} (hcs : GoodComps cs) :
    f.walkBelow excl (pathOf cs) = g.walkBelow excl (pathOf cs) := by
  refine sorted_ext SrcEntry.apath (walkBelow_sorted excl f cs hcs hwf)
    (walkBelow_sorted excl g cs hcs (h.wf.2 hwf)) fun e => ?_
  simp only [Forest.mem_walkBelow]
  constructor
  · rintro ⟨n, ap', hb, rfl⟩
    obtain ⟨n', hb', e⟩ := hb.perm h
    exact ⟨n', ap', hb', e⟩
  · rintro ⟨n, ap', hb, rfl⟩
    obtain ⟨n', hb', e⟩ := hb.perm h.symm
    exact ⟨n', ap', hb', e⟩

end Conserve
