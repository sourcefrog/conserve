import ConserveModel.Props.C13
/-
C14p residuals: the last archive of a `C13` history is among those it visits (`C13.states`).
-/
namespace Conserve.Gaps.Kinds
open Conserve

theorem final_mem_states (H : Str → Str) (hist : List C13.Step) (s : Store) :
    hist.foldl (fun s st => st.run H s) s ∈ C13.states H hist s := by
  induction hist generalizing s with
  | nil => simp [C13.states]
  | cons st rest ih =>
    simp only [List.foldl_cons, C13.states, List.mem_cons]
    exact Or.inr (ih _)

end Conserve.Gaps.Kinds
