import ConserveModel.Proofs.ProtocolInv
/-
What one step of an actor can do to each component of the state, each fact proved once by `cases` on
the step relation (`StepB`, `StepG` of Proofs/ProtocolBasic.lean).  The preservation lemmas of
Proofs/ProtocolInv1.lean … ProtocolInv6.lean argue from these.  (The file comes after
Proofs/ProtocolInv.lean, not inside ProtocolBasic.lean, because what the backup does to the bands is said
in terms of `isNew`, and `own_band`, `seen` need the clauses `Below`, `NewestWitness`, `SawDone`.)
-/
namespace Conserve.Proto

variable {c : Config} {p q : State}

/-! ### The backup -/

theorem StepB.lock_eq (hs : StepB p q) : q.lock = p.lock := by cases hs <;> rfl
theorem StepB.recheck_eq (hs : StepB p q) : q.b.recheck = p.b.recheck := by cases hs <;> rfl

theorem StepB.eq_of_fin (hs : StepB p q) (h : p.b.pc.fin = true) : q = p := by
  cases hs <;> first | rfl | simp_all [BPc.fin]

theorem StepB.present_mono (hs : StepB p q) {g : Nat} (h : g ∈ p.present) : g ∈ q.present := by
  cases hs <;> first | exact h | exact List.mem_cons_of_mem _ h

theorem StepB.log_cases (hs : StepB p q) : q.log = p.log ∨ ∃ e, e.ofBackup = true ∧ q.log = e :: p.log := by
  cases hs <;> first | exact .inl rfl | exact .inr ⟨_, rfl, rfl⟩

theorem StepB.safeLog (hs : StepB p q) (h : SafeLog c q.log) : SafeLog c p.log := by
  rcases hs.log_cases with e | ⟨e, _, he⟩
  · rwa [e] at h
  · rw [he] at h; exact h.tail

theorem StepB.mkdirBeforeCheck_eq (hs : StepB p q) : mkdirBeforeCheck q.log = mkdirBeforeCheck p.log := by
  rcases hs.log_cases with e | ⟨e, h, he⟩
  · rw [e]
  · rw [he]; exact mkdirBeforeCheck_cons_of_ne _ (by rintro rfl; cases h)

theorem StepB.newId_eq (hs : StepB p q) (h : p.b.pc ≠ .listId) : q.b.newId = p.b.newId := by
  cases hs <;> first | rfl | exact absurd ‹_› h

theorem StepB.mkdirDone_mono (hs : StepB p q) (h : p.b.pc.mkdirDone = true) : q.b.pc.mkdirDone = true := by
  cases hs <;> first | exact h | rfl | simp_all [BPc.mkdirDone]

/-- Only `B.mkdir` makes `mkdirDone` true. -/
theorem StepB.mkdirDone_new (hs : StepB p q) (h : q.b.pc.mkdirDone = true) :
    p.b.pc.mkdirDone = true ∨ p.b.pc = .mkdir := by
  cases hs <;> first | exact .inl h | exact .inr ‹_› | simp_all [BPc.mkdirDone]

theorem mem_map_touch {f : Band → Band} {i : Nat} (hne : ∀ b, b.id ≠ i → f b = b)
    {bs : List Band} {b' : Band} (h : b' ∈ bs.map f) : b' ∈ bs ∨ ∃ b ∈ bs, b.id = i ∧ b' = f b := by
  obtain ⟨b, hb, rfl⟩ := List.mem_map.mp h
  by_cases hi : b.id = i
  · exact .inr ⟨b, hb, hi, rfl⟩
  · rw [hne b hi]; exact .inl hb

/-- A step of the backup leaves the bands of others alone. -/
theorem StepB.old_band (hs : StepB p q) {b : Band} (hb : b ∈ q.bands) (hn : ¬isNew q b) :
    b ∈ p.bands ∧ ¬isNew p b := by
  have touch {f : Band → Band} (hid : ∀ b, (f b).id = b.id) (hne : ∀ b, b.id ≠ p.b.newId → f b = b)
      (hb : b ∈ p.bands.map f) (hn : b.id ≠ p.b.newId) : b ∈ p.bands ∧ b.id ≠ p.b.newId := by
    rcases mem_map_touch hne hb with h | ⟨b0, _, h0, rfl⟩
    · exact ⟨h, hn⟩
    · exact absurd ((hid b0).trans h0) hn
  cases hs
  case mkdir hpc _ =>
    rcases List.mem_append.mp hb with h | h
    · exact ⟨h, fun h' => by have := h'.1; simp [hpc, BPc.mkdirDone] at this⟩
    · rw [List.mem_singleton.mp h] at hn; exact absurd ⟨rfl, rfl⟩ hn
  case head_recheck hpc _ _ =>
    have := touch (setHead_id _) (fun _ => setHead_of_ne) hb (fun h => hn ⟨rfl, h⟩)
    exact ⟨this.1, fun h => this.2 h.2⟩
  case head hpc _ _ =>
    have := touch (setHead_id _) (fun _ => setHead_of_ne) hb (fun h => hn ⟨rfl, h⟩)
    exact ⟨this.1, fun h => this.2 h.2⟩
  case hunk hpc _ _ =>
    have := touch (setRefs_id _ _) (fun _ => setRefs_of_ne) hb (fun h => hn ⟨rfl, h⟩)
    exact ⟨this.1, fun h => this.2 h.2⟩
  case tail hpc _ =>
    have := touch (setComplete_id _) (fun _ => setComplete_of_ne) hb (fun h => hn ⟨rfl, h⟩)
    exact ⟨this.1, fun h => this.2 h.2⟩
  all_goals
    refine ⟨hb, fun h => ?_⟩
    simp_all [isNew, BPc.mkdirDone]

/-- What a step of the backup makes of its own band, `b'` in the new state: it is created empty, or
it is the own band `b` of the old state, as it was (the head aside), with the references written
(`B.hunk`), or marked complete (`B.tail`). -/
inductive OwnStep (p q : State) (b' : Band) : Prop
  | created : p.b.pc = .mkdir → b'.refs = [] → b'.complete = false → OwnStep p q b'
  | same (b : Band) : b ∈ p.bands → isNew p b → b'.id = b.id → b'.refs = b.refs → b'.complete = b.complete →
      (q.b.pc = p.b.pc ∨ (p.b.pc ≠ .tail ∧ p.b.pc ≠ .done)) → OwnStep p q b'
  | hunk (b : Band) : b ∈ p.bands → isNew p b → p.b.pc = .blocks → p.b.todo = [] → q.b.pc = .tail →
      b'.refs = p.b.needed → b'.complete = b.complete → OwnStep p q b'
  | tail (b : Band) : b ∈ p.bands → isNew p b → p.b.pc = .tail → q.b.pc = .done → b'.refs = b.refs →
      OwnStep p q b'

/-- `B.mkdir` never finds its directory there: the new id is above every id (`Below`). -/
theorem Below.fresh (h : Below p) (hpc : p.b.pc = .mkdir) : hasBand p.bands p.b.newId = false :=
  hasBand_false_iff.mpr fun b hb hid =>
    Nat.lt_irrefl _ (hid ▸ h (by rw [hpc]; rfl) b hb fun hn => by have := hn.1; rw [hpc] at this; cases this)

theorem StepB.own_band (hs : StepB p q) (hbel : Below p) {b' : Band} (hb : b' ∈ q.bands) (hn : isNew q b') :
    OwnStep p q b' := by
  cases hs
  case mkdir_exists hpc h => rw [hbel.fresh hpc] at h; cases h
  case mkdir hpc h =>
    rcases List.mem_append.mp hb with h' | h'
    · exact absurd hn.2 (hasBand_false_iff.mp h b' h')
    · rw [List.mem_singleton.mp h']; exact .created hpc rfl rfl
  case head_recheck hpc _ _ =>
    obtain ⟨b, hb0, rfl⟩ := List.mem_map.mp hb
    exact .same b hb0 ⟨by rw [hpc]; rfl, (setHead_id _ b).symm.trans hn.2⟩ (setHead_id ..) (setHead_refs ..)
      (setHead_complete ..) (.inr (by simp [hpc]))
  case head hpc _ _ =>
    obtain ⟨b, hb0, rfl⟩ := List.mem_map.mp hb
    exact .same b hb0 ⟨by rw [hpc]; rfl, (setHead_id _ b).symm.trans hn.2⟩ (setHead_id ..) (setHead_refs ..)
      (setHead_complete ..) (.inr (by simp [hpc]))
  case hunk hpc htodo _ =>
    obtain ⟨b, hb0, rfl⟩ := List.mem_map.mp hb
    have hid : b.id = p.b.newId := (setRefs_id _ _ b).symm.trans hn.2
    exact .hunk b hb0 ⟨by rw [hpc]; rfl, hid⟩ hpc htodo rfl (setRefs_of_eq hid) (setRefs_complete ..)
  case tail hpc _ =>
    obtain ⟨b, hb0, rfl⟩ := List.mem_map.mp hb
    exact .tail b hb0 ⟨by rw [hpc]; rfl, (setComplete_id _ b).symm.trans hn.2⟩ hpc rfl (setComplete_refs ..)
  all_goals
    first
    | exact .same b' hb hn rfl rfl rfl (.inl rfl)
    | (have := hn.1; have := hn.2; simp_all [isNew, BPc.mkdirDone, hasBand_false_iff]; done)
    | exact .same b' hb ⟨by simp_all [BPc.mkdirDone], hn.2⟩ rfl rfl rfl (.inr (by simp_all))

theorem StepB.old_kept (hs : StepB p q) {b : Band} (hb : b ∈ p.bands) (hn : ¬isNew p b) : b ∈ q.bands := by
  cases hs
  case mkdir => exact List.mem_append_left _ hb
  case head_recheck hpc _ _ =>
    exact List.mem_map.mpr ⟨b, hb, setHead_of_ne fun e => hn ⟨by rw [hpc]; rfl, e⟩⟩
  case head hpc _ _ =>
    exact List.mem_map.mpr ⟨b, hb, setHead_of_ne fun e => hn ⟨by rw [hpc]; rfl, e⟩⟩
  case hunk hpc _ _ =>
    exact List.mem_map.mpr ⟨b, hb, setRefs_of_ne fun e => hn ⟨by rw [hpc]; rfl, e⟩⟩
  case tail hpc _ =>
    exact List.mem_map.mpr ⟨b, hb, setComplete_of_ne fun e => hn ⟨by rw [hpc]; rfl, e⟩⟩
  all_goals exact hb

/-- The ids of the bands: the backup adds its own at `B.mkdir` and changes nothing else. -/
theorem StepB.hasId_iff (hs : StepB p q) {i : Nat} :
    (∃ b ∈ q.bands, b.id = i) ↔ (∃ b ∈ p.bands, b.id = i) ∨ (p.b.pc = .mkdir ∧ p.b.newId = i) := by
  have map {f : Band → Band} (hid : ∀ b, (f b).id = b.id) (hpc : p.b.pc ≠ .mkdir) :
      (∃ b ∈ p.bands.map f, b.id = i) ↔ (∃ b ∈ p.bands, b.id = i) ∨ (p.b.pc = .mkdir ∧ p.b.newId = i) := by
    constructor
    · rintro ⟨_, hb', rfl⟩
      obtain ⟨b, hb, rfl⟩ := List.mem_map.mp hb'
      exact .inl ⟨b, hb, (hid b).symm⟩
    · rintro (⟨b, hb, rfl⟩ | ⟨h, _⟩)
      · exact ⟨f b, List.mem_map_of_mem hb, hid b⟩
      · exact absurd h hpc
  cases hs
  case mkdir_exists hpc h =>
    exact ⟨.inl, fun h' => h'.elim id fun ⟨_, e⟩ => e ▸ hasBand_iff.mp h⟩
  case mkdir hpc _ => simp [hpc, or_and_right, exists_or]
  case head_recheck hpc _ _ => exact map (setHead_id _) (by simp [hpc])
  case head hpc _ _ => exact map (setHead_id _) (by simp [hpc])
  case hunk hpc _ _ => exact map (setRefs_id _ _) (by simp [hpc])
  case tail hpc _ => exact map (setComplete_id _) (by simp [hpc])
  case fin h => exact (or_iff_left fun ⟨e, _⟩ => by rw [e] at h; cases h).symm
  all_goals
    have hpc := ‹BSt.pc _ = _›
    exact (or_iff_left fun ⟨e, _⟩ => by rw [hpc] at e; cases e).symm

/-- The new id is chosen at `B.listId`, above every id there is, and never changes afterwards. -/
theorem StepB.newId_cases (hs : StepB p q) :
    (q.b.newId = nextId p.bands ∧ q.bands = p.bands) ∨
      (q.b.newId = p.b.newId ∧ (q.b.pc.listIdDone = true → p.b.pc.listIdDone = true)) := by
  cases hs <;> first | exact .inl ⟨rfl, rfl⟩ | exact .inr ⟨rfl, id⟩ | exact .inr ⟨rfl, by simp_all [BPc.listIdDone, BPc.mkdirDone]⟩

theorem StepB.to_done (hs : StepB p q) (h : q.b.pc = .done) : p.b.pc = .done ∨ p.b.pc = .tail := by
  cases hs <;> first | exact .inr ‹_› | exact .inl h | cases h

/-- gc remembered the backup's own band as the newest one. -/
def Seen (p : State) : Prop := p.b.pc.mkdirDone = true ∧ p.g.newest = some p.b.newId

/-- The backup cannot make its band the one gc remembered: the remembered id is the id of a band
that is there, and `B.mkdir` creates a band above all of them. -/
theorem StepB.seen (hs : StepB p q) (h2 : Inv2 c p) (hpend : p.g.pc.pending = true) (h : Seen q) : Seen p := by
  rcases hs.mkdirDone_new h.1 with hm | hpc
  · have hpc : p.b.pc ≠ .listId := fun e => by rw [e] at hm; cases hm
    exact ⟨hm, by rw [← hs.newId_eq hpc, ← hs.g_eq]; exact h.2⟩
  · exfalso
    have hn := h.2
    rw [hs.g_eq, hs.newId_eq (by simp [hpc])] at hn
    obtain ⟨b, hb, hid⟩ := h2.newestWitness hpend _ hn
    exact hasBand_false_iff.mp (h2.below.fresh hpc) b hb hid

/-- Once gc is past `G.tailCheck` with the backup's band as the newest, the backup has finished. -/
theorem StepB.eq_of_seen (hs : StepB p q) (h2 : Inv2 c p) (hd : SawDone p) (hpend : p.g.pc.pending2 = true)
    (h : Seen q) : q = p :=
  have hp := hs.seen h2 (by cases hpc : p.g.pc <;> simp_all [GPc.pending, GPc.pending2]) h
  hs.eq_of_fin (by rw [hd hpend hp.1 hp.2]; rfl)

/-! ### gc -/

theorem StepG.bands_sub (hs : StepG p q) {b : Band} (h : b ∈ q.bands) : b ∈ p.bands := by
  cases hs <;> first | exact h | exact (List.mem_filter.mp h).1

theorem StepG.isNew_iff (hs : StepG p q) {b : Band} : isNew q b ↔ isNew p b := by
  unfold isNew; rw [hs.b_eq]

theorem StepG.log_cases (hs : StepG p q) : q.log = p.log ∨ ∃ e, e.ofBackup = false ∧ q.log = e :: p.log := by
  cases hs <;> first | exact .inl rfl | exact .inr ⟨_, rfl, rfl⟩

theorem StepG.safeLog (hs : StepG p q) (h : SafeLog c q.log) : SafeLog c p.log := by
  rcases hs.log_cases with e | ⟨e, _, he⟩
  · rwa [e] at h
  · rw [he] at h; exact h.tail

theorem StepG.eq_of_fin (hs : StepG p q) (h : p.g.pc.fin = true) : q = p := by
  cases hs <;> first | rfl | simp_all [GPc.fin]

theorem StepG.lockWriteBeforeLockCheck_eq (hs : StepG p q) :
    lockWriteBeforeLockCheck q.log = lockWriteBeforeLockCheck p.log := by
  rcases hs.log_cases with e | ⟨e, h, he⟩
  · rw [e]
  · rw [he]; exact lockWriteBeforeLockCheck_cons_of_ne _ (by rintro rfl; cases h)

/-- `check()` has passed, or gc has given up. -/
def GPc.late : GPc → Bool
  | .sweep | .abort | .done | .failed => true
  | _ => false

theorem GPc.late_iff {pc : GPc} : pc.late = true ↔ pc = .sweep ∨ pc = .abort ∨ pc = .done ∨ pc = .failed := by
  cases pc <;> simp [GPc.late]

theorem StepG.late_mono (hs : StepG p q) (h : p.g.pc.late = true) : q.g.pc.late = true := by
  cases hs <;> first | exact h | rfl | (simp_all [GPc.late]; done)

theorem StepG.lockedOrFin_mono (hs : StepG p q) (h : p.g.pc.locked = true ∨ p.g.pc.fin = true) :
    q.g.pc.locked = true ∨ q.g.pc.fin = true := by
  cases hs <;> first | exact h | exact .inl rfl | exact .inr rfl | (simp_all [GPc.locked, GPc.fin]; done)

/-- The step is `G.rmBlock g`. -/
def RmBlock (p q : State) (g : Nat) : Prop :=
  p.g.pc = .sweep ∧ p.g.todoBands = [] ∧ g ∈ p.g.todoBlocks ∧ q.log = .gRmBlock g :: p.log

/-- A block disappears only by `G.rmBlock`. -/
theorem StepG.present_kept (hs : StepG p q) {g : Nat} (h : g ∈ p.present) : g ∈ q.present ∨ RmBlock p q g := by
  cases hs
  case rmBlock hpc htb g0 rest hg0 =>
    by_cases e : g = g0
    · exact .inr ⟨hpc, htb, by rw [hg0, e]; exact List.mem_cons_self, by rw [e]⟩
    · exact .inl (List.mem_filter.mpr ⟨h, by simpa using e⟩)
  all_goals exact .inl h

/-! What gc computes -/

theorem mem_keep {bs : List Band} {del : List Nat} {b : Band} (hb : b ∈ bs) (hd : b.id ∉ del) :
    b.id ∈ (bs.map (·.id)).filter fun i => i ∉ del :=
  List.mem_filter.mpr ⟨List.mem_map_of_mem hb, by simpa using hd⟩

theorem mem_referenced {bs : List Band} {keep : List Nat} {b : Band} {g : Nat} (hb : b ∈ bs) (hk : b.id ∈ keep)
    (hg : g ∈ b.refs) : g ∈ (bs.filter fun b => b.id ∈ keep).flatMap (·.refs) :=
  List.mem_flatMap.mpr ⟨b, List.mem_filter.mpr ⟨hb, by simpa using hk⟩, hg⟩

theorem not_mem_unref {present referenced : List Nat} {g : Nat} (hg : g ∈ referenced) :
    g ∉ present.filter fun g => g ∉ referenced :=
  fun h => by simpa [hg] using (List.mem_filter.mp h).2

end Conserve.Proto
