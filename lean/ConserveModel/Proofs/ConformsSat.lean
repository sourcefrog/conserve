import ConserveModel.Proofs.ConformsBlock
/-
C13: the Hoare logic `CSat` over `Prog.run` (world invariant: `CreateNew` enforced and the store
invariant `CI`; frame: the store only grows), and the pure order/shape invariant of the buffered
entries (`BufOK`).  No property statements here.
-/
namespace Conserve.Conf
open Conserve Conserve.Inv Prog

section
variable {H : Str → Str}

structure CWOK (H : Str → Str) (w : World) : Prop where
  enforce : w.enforceCreateNew = true
  ci : CI H w.store

/-- What every piece of `backup` guarantees about the world it ends in, whatever the outcome. -/
structure CFrame (H : Str → Str) (w w' : World) : Prop where
  wok : CWOK H w'
  ext : Extends w.store w'.store

theorem CFrame.ci {w w' : World} (h : CFrame H w w') : CI H w'.store := h.wok.ci

theorem CFrame.refl {w : World} (hw : CWOK H w) : CFrame H w w := ⟨hw, Extends.refl _⟩

theorem CFrame.trans {a b c : World} (h1 : CFrame H a b) (h2 : CFrame H b c) :
    CFrame H a c := ⟨h2.wok, h1.ext.trans h2.ext⟩

/-- `CSat p w Q`: running `p` in `w` ends — whatever the outcome, whatever faults, wherever the
world is killed — in a world that keeps the invariant and extends `w`'s store; if it returns `a`
then `Q a` holds of the final world. -/
def CSat (H : Str → Str) {α : Type} (p : Prog α) (w : World) (Q : α → World → Prop) : Prop :=
  Framed (CFrame H) p w Q

theorem CSat.ret {α : Type} {a : α} {w : World} {Q : α → World → Prop} (hw : CWOK H w)
    (hq : Q a w) : CSat H (.ret a) w Q := Framed.ret (CFrame.refl hw) hq

theorem CSat.fail {α : Type} {e : Err} {w : World} {Q : α → World → Prop} (hw : CWOK H w) :
    CSat H (.fail e) w Q := Framed.fail (CFrame.refl hw)

theorem CSat.panic {α : Type} {s : String} {w : World} {Q : α → World → Prop} (hw : CWOK H w) :
    CSat H (.panic s) w Q := Framed.panic (CFrame.refl hw)

theorem CSat.bind {α β : Type} {p : Prog α} {f : α → Prog β} {w : World} {Q : β → World → Prop}
    (hp : CSat H p w (fun a w' => CSat H (f a) w' Q)) : CSat H (p.bind f) w Q :=
  Framed.bind hp fun _ _ _ => CFrame.trans

theorem CSat.mono {α : Type} {p : Prog α} {w : World} {Q Q' : α → World → Prop}
    (hp : CSat H p w Q) (h : ∀ a w', CFrame H w w' → Q a w' → Q' a w') :
    CSat H p w Q' := Framed.mono hp h

theorem CWOK.events {w : World} (hw : CWOK H w) (ev : Event) :
    CWOK H { w with events := ev :: w.events } := ⟨hw.enforce, hw.ci⟩

theorem CSat.and_run {α : Type} {p : Prog α} {w : World} {Q Q' : α → World → Prop}
    (hp : CSat H p w Q) (h : ∀ a, (p.run w).1 = .ok a → Q' a (p.run w).2) :
    CSat H p w (fun a w' => Q a w' ∧ Q' a w') := Framed.and_run hp h

theorem CSat.of_ro {α : Type} {p : Prog α} (hp : Prog.AllOps ReadOnly p) {w : World} (hw : CWOK H w) :
    CSat H p w (fun _ w' => w'.store = w.store) := by
  have hst := Prog.run_readOnly_store hp w
  refine ⟨⟨⟨?_, ?_⟩, ?_⟩, fun _ _ => hst⟩
  · rw [Prog.run_enforce]; exact hw.enforce
  · rw [hst]; exact hw.ci
  · rw [hst]; exact Extends.refl _

theorem CSat.of_roSpec {α : Type} {p : Prog α} {Q : α → Prop} {w : World} (hw : CWOK H w)
    (hp : ROSpec w.store p Q) : CSat H p w (fun a w' => w'.store = w.store ∧ Q a) := by
  obtain ⟨hst, hq⟩ := hp w rfl
  exact ⟨⟨⟨(p.run_enforce w).trans hw.enforce, hst ▸ hw.ci⟩, hst ▸ Extends.refl _⟩, fun a ha => ⟨hst, hq a ha⟩⟩

theorem CSat.of_blk (hlen : HashLen H) {α : Type} {p : Prog α} (hp : Prog.AllOps (BlockOp H) p)
    {w : World} (hw : CWOK H w) :
    CSat H p w (fun _ w' => NonBlockSame w.store w'.store) := by
  obtain ⟨h1, h2, h3⟩ := run_blockOps hlen hp w hw.enforce hw.ci
  exact ⟨⟨⟨by rw [Prog.run_enforce]; exact hw.enforce, h1⟩, h3⟩, fun _ _ => h2⟩

theorem CSat.op {α : Type} {o : Op} {k : Resp → Prog α} {w : World} {Q : α → World → Prop}
    (hw : CWOK H w) (ho : Inv.CreateOnly o) (hci : CI H (w.exec o).1.store)
    (hk : ∀ r, r = (w.exec o).2 → CSat H (k r) (w.exec o).1 Q) : CSat H (.op o k) w Q :=
  Framed.op ⟨⟨by simpa using hw.enforce, hci⟩, w.exec_extends o hw.enforce ho.createOnly⟩ hk
    fun _ _ _ => CFrame.trans

theorem CSat.performUnit {o : Op} {w : World} (hw : CWOK H w) (ho : Inv.CreateOnly o)
    (hci : CI H (w.exec o).1.store) :
    CSat H (performUnit o) w (fun _ w' => w' = (w.exec o).1 ∧ (w.exec o).2 = .unit) :=
  have hw1 : CWOK H (w.exec o).1 := ⟨by simpa using hw.enforce, hci⟩
  Framed.performUnit ⟨hw1, w.exec_extends o hw.enforce ho.createOnly⟩ (CFrame.refl hw1) fun _ _ _ => CFrame.trans

theorem createOnly_createDir (k : Key) : Inv.CreateOnly (.createDir k) := Or.inr (Or.inl ⟨k, rfl⟩)

theorem createOnly_write (k : Key) (v : FileVal) : Inv.CreateOnly (.write k v .createNew) :=
  Or.inr (Or.inr ⟨k, v, rfl⟩)

end

/-- What an index entry must satisfy besides its addresses: valid path, a target exactly for
symlinks, a known kind. -/
def MetaOKs (g : Sig) : Prop := isValid g.1 = true ∧ (g.2.1 = .symlink ↔ g.2.2.isSome = true) ∧ g.2.1 ≠ .unknown

def SrcEntryOK (sf : SrcEntry) : Prop := isValid sf.apath = true ∧ (sf.kind = .symlink ↔ sf.target.isSome = true)

structure SrcOK (todo : List SrcEntry) : Prop where
  sorted : (todo.map (·.apath)).Pairwise (fun a b => apathCmp a b = .lt)
  each : ∀ sf ∈ todo, SrcEntryOK sf

theorem SrcOK.tail {sf : SrcEntry} {todo : List SrcEntry} (h : SrcOK (sf :: todo)) : SrcOK todo :=
  ⟨(List.pairwise_cons.mp h.sorted).2, fun x hx => h.each x (List.mem_cons_of_mem _ hx)⟩

/-- The invariant relating the buffered entries (`sigs`), the paths already written to the band
(`written`) and the source entries still to come (`todo`). -/
structure BufOK (todo : List SrcEntry) (written : List Str) (sigs : List Sig) : Prop where
  shape : ∀ g ∈ sigs, MetaOKs g
  nodup : (sigs.map (·.1)).Nodup
  lt_todo : ∀ g ∈ sigs, ∀ t ∈ todo, apathCmp g.1 t.apath = .lt
  written_lt : ∀ a ∈ written, ∀ g ∈ sigs, apathCmp a g.1 = .lt
  written_todo : ∀ a ∈ written, ∀ t ∈ todo, apathCmp a t.apath = .lt

theorem BufOK.init (todo : List SrcEntry) : BufOK todo [] [] :=
  ⟨(by intro g hg; cases hg), List.nodup_nil, (by intro g hg; cases hg), (by intro a ha; cases ha),
   (by intro a ha; cases ha)⟩

theorem BufOK.perm {todo : List SrcEntry} {written : List Str} {a b : List Sig} (h : BufOK todo written a)
    (hp : b.Perm a) : BufOK todo written b :=
  ⟨fun g hg => h.shape g (hp.mem_iff.mp hg), (hp.map _).nodup_iff.mpr h.nodup,
   fun g hg => h.lt_todo g (hp.mem_iff.mp hg), fun x hx g hg => h.written_lt x hx g (hp.mem_iff.mp hg),
   h.written_todo⟩

theorem BufOK.step {o : BackupOpts} {sf : SrcEntry} {todo : List SrcEntry} {written : List Str}
    {a b xs : List Sig} (h : BufOK (sf :: todo) written a) (hsrc : SrcOK (sf :: todo))
    (hxs : xs = [] ∨ (xs = [sig (metaOf o sf)] ∧ sf.kind ≠ .unknown)) (hp : b.Perm (a ++ xs)) :
    BufOK todo written b := by
  have hweak : BufOK todo written a :=
    ⟨h.shape, h.nodup, fun g hg t ht => h.lt_todo g hg t (List.mem_cons_of_mem _ ht), h.written_lt,
     fun x hx t ht => h.written_todo x hx t (List.mem_cons_of_mem _ ht)⟩
  rcases hxs with rfl | ⟨rfl, hk⟩
  · exact hweak.perm (by simpa using hp)
  · refine BufOK.perm ?_ hp
    have hsf := hsrc.each sf (List.mem_cons_self ..)
    have hself := List.mem_cons_self (a := sf) (l := todo)
    -- each clause: the old entries by `h`, the new one by what is assumed of `sf`
    refine ⟨List.forall_mem_append.2 ⟨h.shape, List.forall_mem_singleton.2 ⟨hsf.1, hsf.2, hk⟩⟩, ?_,
      List.forall_mem_append.2 ⟨hweak.lt_todo, List.forall_mem_singleton.2 fun t ht =>
        (List.pairwise_cons.mp hsrc.sorted).1 _ (List.mem_map.mpr ⟨t, ht, rfl⟩)⟩,
      fun x hx => List.forall_mem_append.2 ⟨h.written_lt x hx, List.forall_mem_singleton.2
        (h.written_todo x hx sf hself)⟩, hweak.written_todo⟩
    rw [List.map_append, List.nodup_append]
    refine ⟨h.nodup, by simp, ?_⟩
    intro x hx y hy
    obtain ⟨g, hg, rfl⟩ := List.mem_map.mp hx
    simp only [List.map_cons, List.map_nil, List.mem_singleton] at hy
    subst hy
    intro heq
    have := h.lt_todo g hg sf hself
    rw [heq] at this
    exact C11.cmp_irrefl _ this
end Conserve.Conf
