import ConserveModel.Proofs.ExactTop
/-
`restore` and `listVersion` under a subtree path and an exclusion predicate on a well-formed archive, as
pure functions of the store (`restoreSelP`, `listSelP`; `restoreSpecP` is the case "/", nothing excluded:
`restoreSelP_root`), and what they give on the archive a fault-free backup leaves.
No property statements here.
-/
set_option linter.unusedSimpArgs false
namespace Conserve.Exact
open Conserve Prog

variable {H : Str → Str} {o : BackupOpts}

/-- The test of `Stitch::next` on a path: inside the subtree and not excluded. -/
def selKeep (subtree : Str) (excl : Str → Bool) (a : Str) : Bool :=
  isPrefixOfImpl subtree a && !excl a

/-- What `restore(Specified(b), subtree, excl)` returns and reports on a store. -/
def restoreSelP (H : Str → Str) (s : Store) (b : Nat) (subtree : Str) (excl : Str → Bool) :
    Outcome (List RNode) × List Event :=
  match headOutcome s b with
  | .ok () =>
    ((restoreP H s [] ((listSpec s b).filter fun e => selKeep subtree excl e.apath)).1,
      (restoreP H s [] ((listSpec s b).filter fun e => selKeep subtree excl e.apath)).2
        ++ ((listErrors s b).map Event.error).reverse)
  | .err e => (.err e, [])
  | .panic m => (.panic m, [])

/-- What `Archive::iter_entries(Specified(b), subtree, excl)` (collected) returns and reports. -/
def listSelP (s : Store) (b : Nat) (subtree : Str) (excl : Str → Bool) :
    Outcome (List IndexEntry) × List Event :=
  match headOutcome s b with
  | .ok () => (.ok ((listSpec s b).filter fun e => selKeep subtree excl e.apath),
                ((listErrors s b).map Event.error).reverse)
  | .err e => (.err e, [])
  | .panic m => (.panic m, [])

/-- With subtree "/" and nothing excluded this is the specification C01a uses. -/
theorem restoreSelP_root (s : Store) (b : Nat) :
    restoreSelP H s b [slash] (fun _ => false) = restoreSpecP H s b := by
  unfold restoreSelP restoreSpecP selKeep
  rw [rootFilter_listSpec]
  cases headOutcome s b <;> rfl

/-- On a well-formed archive the raw function is the specification by the listing rule. -/
theorem restoreRaw_wf_sel {s : Store} (wf : ArchWF s) (hst : StoreOK H s) (b : Nat) (subtree : Str)
    (excl : Str → Bool) : Hist.restoreRaw H s b subtree excl = restoreSelP H s b subtree excl := by
  unfold Hist.restoreRaw restoreSelP selKeep
  rw [if_pos hst.blockRoot, stitchAllP_fst wf, stitchAllP_snd wf,
    Hist.filterP_valid fun e he _ => C08.listed_valid he]
  cases headOutcome s b <;> rfl

theorem restore_specified_sel_runs {s : Store} (wf : ArchWF s) (hst : StoreOK H s) (b : Nat)
    (subtree : Str) (excl : Str → Bool) :
    RunsAt (restore H (.specified b) subtree excl) s (restoreSelP H s b subtree excl).1 s
      (restoreSelP H s b subtree excl).2 :=
  restoreRaw_wf_sel wf hst b subtree excl ▸ Hist.restore_raw_runs hst.uniqueKeys b subtree excl

theorem restore_latest_sel_runs {s : Store} (wf : ArchWF s) (hst : StoreOK H s) {nb : Nat}
    (hmem : nb ∈ bandIdsOf s) (hmax : ∀ b ∈ bandIdsOf s, b ≤ nb) (hhead : headOutcome s nb = .ok ())
    (hc : isComplete s nb = true) (subtree : Str) (excl : Str → Bool) :
    RunsAt (restore H .latestClosed subtree excl) s (restoreSelP H s nb subtree excl).1 s
      (restoreSelP H s nb subtree excl).2 :=
  restoreRaw_wf_sel wf hst nb subtree excl ▸ restoreLatestRaw_newest hst hmem hmax hhead hc subtree excl ▸
    Hist.restore_latest_raw_runs hst.uniqueKeys subtree excl

theorem listVersion_specified_runs {s : Store} (wf : ArchWF s) (b : Nat) (subtree : Str)
    (excl : Str → Bool) :
    RunsAt (listVersion (.specified b) subtree excl) s (listSelP s b subtree excl).1 s
      (listSelP s b subtree excl).2 := by
  have hbody : RunsAt ((bandOpen b).bind fun _ => listEntries b subtree excl) s
      (listSelP s b subtree excl).1 s (listSelP s b subtree excl).2 := by
    unfold listSelP
    have ho := bandOpen_runsAt s b
    cases hh : headOutcome s b with
    | ok u =>
      rw [hh] at ho
      exact RunsAt.bind0 ho (listEntries_runsAt wf b subtree excl)
    | err e => rw [hh] at ho; exact RunsAt.bind_err ho
    | panic m => rw [hh] at ho; exact RunsAt.bind_panic ho
  simpa [listVersion, resolveBandId] using hbody

theorem Paired.filter {α β : Type} {R : α → β → Prop} {l1 : List α} {l2 : List β} (h : Paired R l1 l2)
    (p : α → Bool) (q : β → Bool) (hpq : ∀ a b, R a b → p a = q b) :
    Paired R (l1.filter p) (l2.filter q) := by
  induction h with
  | nil => exact .nil
  | @cons a b l1 l2 hab _ ih =>
    rw [List.filter_cons, List.filter_cons, hpq a b hab]
    cases q b
    · exact ih
    · exact .cons hab ih

theorem map_expectedNode_apath (o : BackupOpts) (l : List SrcEntry) :
    (l.map (expectedNode o)).map (·.apath) = l.map (·.apath) := by
  rw [List.map_map]; rfl

theorem filter_map_expectedNode (o : BackupOpts) (k : Str → Bool) (l : List SrcEntry) :
    (l.map (expectedNode o)).filter (fun n => k n.apath) = (l.filter fun sf => k sf.apath).map (expectedNode o) := by
  rw [List.filter_map]; rfl

theorem filter_selKeep_root (ex : Str → Bool) (src : List SrcEntry) (hv : ∀ sf ∈ src, isValid sf.apath = true) :
    (src.filter fun sf => selKeep [slash] ex sf.apath) = src.filter fun sf => !ex sf.apath := by
  apply List.filter_congr
  intro sf hsf
  simp [selKeep, valid_prefix_slash (hv sf hsf)]

theorem filter_sel_split {α : Type} (ap : α → Str) (S : Str) (excl : Str → Bool) (l : List α)
    (hv : ∀ e ∈ l, isValid (ap e) = true) :
    (l.filter fun e => selKeep S excl (ap e)) =
      (l.filter fun e => selKeep [slash] excl (ap e)).filter fun e => isPrefixOfImpl S (ap e) := by
  rw [List.filter_filter]
  apply List.filter_congr
  intro e he
  simp only [selKeep, valid_prefix_slash (hv e he), Bool.true_and]

section final
variable {src : List SrcEntry} {s s' : Store} {hs : List (List IndexEntry)}

/-- **What the archive a fault-free backup leaves restores to**, under any selection: the selected
source entries, in order, silently — for the new version by id and as the latest complete one. -/
theorem restore_sel_of_records (hf : Final H o (newBandOf s) s s' hs src) (hsrc : SrcGood src) (hst : StoreOK H s)
    (hrecs : Paired (Records H o s') src hs.flatten) (husable : ∀ e ∈ hs.flatten, entryUsable e = true)
    (wf : ArchWF s') (subtree : Str) (excl : Str → Bool) :
    (((restore H (.specified (newBandOf s)) subtree excl).run (World.clean s')).1
        = .ok ((src.filter fun sf => selKeep subtree excl sf.apath).map (expectedNode o)) ∧
      ((restore H (.specified (newBandOf s)) subtree excl).run (World.clean s')).2.events = []) ∧
    (((restore H .latestClosed subtree excl).run (World.clean s')).1
        = .ok ((src.filter fun sf => selKeep subtree excl sf.apath).map (expectedNode o)) ∧
      ((restore H .latestClosed subtree excl).run (World.clean s')).2.events = []) := by
  have hhead := final_headOutcome hf
  have hspecP : restoreSelP H s' (newBandOf s) subtree excl =
      (.ok ((src.filter fun sf => selKeep subtree excl sf.apath).map (expectedNode o)), []) := by
    unfold restoreSelP
    rw [hhead, final_listSpec hf husable, final_listErrors hf husable,
      restoreP_records hsrc (hrecs.filter _ _ fun _ _ hr => by rw [hr.apath])
        (fun _ hx => (List.mem_filter.mp hx).1) fun e he => husable e (List.mem_filter.mp he).1]
    rfl
  have hspec := (restore_specified_sel_runs wf hf.st (newBandOf s) subtree excl).clean
  have hlatest := (restore_latest_sel_runs wf hf.st (final_bandIds_mem hf) (final_bandIds_le hf hst) hhead
    (final_complete hf) subtree excl).clean
  rw [hspecP] at hspec hlatest
  exact ⟨⟨hspec.1, hspec.2.2⟩, hlatest.1, hlatest.2.2⟩

theorem filter_selKeep_all (hsrc : SrcGood src) :
    (src.filter fun sf => selKeep [slash] (fun _ => false) sf.apath) = src :=
  List.filter_eq_self.mpr fun sf hsf => by simp [selKeep, valid_prefix_slash (hsrc.valid sf hsf)]

/-- … and with subtree "/" and nothing excluded: the whole source. -/
theorem restore_of_records (hf : Final H o (newBandOf s) s s' hs src) (hsrc : SrcGood src) (hst : StoreOK H s)
    (hrecs : Paired (Records H o s') src hs.flatten) (husable : ∀ e ∈ hs.flatten, entryUsable e = true)
    (wf : ArchWF s') :
    (((restore H (.specified (newBandOf s)) [slash] (fun _ => false)).run (World.clean s')).1
        = .ok (src.map (expectedNode o)) ∧
      ((restore H (.specified (newBandOf s)) [slash] (fun _ => false)).run (World.clean s')).2.events = []) ∧
    (((restore H .latestClosed [slash] (fun _ => false)).run (World.clean s')).1 = .ok (src.map (expectedNode o)) ∧
      ((restore H .latestClosed [slash] (fun _ => false)).run (World.clean s')).2.events = []) := by
  have h := restore_sel_of_records hf hsrc hst hrecs husable wf [slash] (fun _ => false)
  rwa [filter_selKeep_all hsrc] at h

end final

section summary
variable {src : List SrcEntry} {s s' : Store} {hs : List (List IndexEntry)} {stats : Stats} {evs : List Event}

theorem Summary.records_sel (h : Summary H o src s s' hs stats evs) (k : Str → Bool) :
    Paired (Records H o s') (src.filter fun sf => k sf.apath) (hs.flatten.filter fun e => k e.apath) :=
  h.records.filter _ _ (fun _ _ hr => by rw [hr.apath])

theorem Summary.listSel (h : Summary H o src s s' hs stats evs) (subtree : Str) (excl : Str → Bool) :
    listSelP s' (newBandOf s) subtree excl =
      (.ok (hs.flatten.filter fun e => selKeep subtree excl e.apath), []) := by
  unfold listSelP
  rw [h.head_ok, final_listSpec h.final h.usable, final_listErrors h.final h.usable]
  rfl

theorem Summary.listSel_paths (h : Summary H o src s s' hs stats evs) (k : Str → Bool) :
    (hs.flatten.filter fun e => k e.apath).map (·.apath) = (src.map (·.apath)).filter k := by
  rw [← (h.records_sel k).map_eq (·.apath) (·.apath) (fun _ _ hr => hr.apath.symm), List.filter_map]
  rfl

/-- `listEntries` (the stitcher alone, without `StoredTree::open`) on the new version. -/
theorem Summary.listEntries_runs (h : Summary H o src s s' hs stats evs) (subtree : Str)
    (excl : Str → Bool) :
    RunsAt (listEntries (newBandOf s) subtree excl) s'
      (.ok (hs.flatten.filter fun e => selKeep subtree excl e.apath)) s' [] := by
  have := listEntries_runsAt h.wf (newBandOf s) subtree excl
  rw [final_listSpec h.final h.usable, final_listErrors h.final h.usable] at this
  exact this

end summary

theorem ArchiveGood.mono {src src' : List SrcEntry} {s : Store} (h : ArchiveGood H src s)
    (hsub : ∀ sf ∈ src', sf ∈ src) : ArchiveGood H src' s :=
  ⟨h.st, h.sorted, h.noLock, h.bands, h.noDangling,
    fun b n es hh e he sf hsf => h.heuristic b n es hh e he sf (hsub sf hsf)⟩

theorem totalSize_filter_le (p : SrcEntry → Bool) (l : List SrcEntry) : totalSize (l.filter p) ≤ totalSize l := by
  induction l with
  | nil => simp
  | cons a l ih =>
    rw [List.filter_cons]
    split
    · simp only [totalSize_cons]; omega
    · simp only [totalSize_cons]; omega

/-- What listing and restoring the version a backup made give under a subtree / exclusion selection. -/
structure SelExact (H : Str → Str) (o : BackupOpts) (src : List SrcEntry) (s : Store) (subtree : Str)
    (excl : Str → Bool) : Prop where
  restoreSpecified :
    ((restore H (.specified (newBandOf s)) subtree excl).run
        (World.clean ((backup H o src).run (World.clean s)).2.store)).1
      = .ok ((src.filter fun sf => selKeep subtree excl sf.apath).map (expectedNode o))
  restoreSpecifiedSilent :
    ((restore H (.specified (newBandOf s)) subtree excl).run
        (World.clean ((backup H o src).run (World.clean s)).2.store)).2.events = []
  restoreLatest :
    ((restore H .latestClosed subtree excl).run
        (World.clean ((backup H o src).run (World.clean s)).2.store)).1
      = .ok ((src.filter fun sf => selKeep subtree excl sf.apath).map (expectedNode o))
  restoreLatestSilent :
    ((restore H .latestClosed subtree excl).run
        (World.clean ((backup H o src).run (World.clean s)).2.store)).2.events = []
  list : ∃ es,
    ((listVersion (.specified (newBandOf s)) subtree excl).run
        (World.clean ((backup H o src).run (World.clean s)).2.store)).1 = .ok es ∧
    es.map strip = (src.filter fun sf => selKeep subtree excl sf.apath).map (Inv.metaOf o) ∧
    es.map (·.apath) = (src.map (·.apath)).filter (selKeep subtree excl)
  listSilent :
    ((listVersion (.specified (newBandOf s)) subtree excl).run
        (World.clean ((backup H o src).run (World.clean s)).2.store)).2.events = []

/-- Backup of a good source into a good archive, then list / restore that version under any subtree
path and any exclusion predicate. -/
theorem backup_then_select (hinj : Function.Injective H) (hlen : ∀ d, subdirNameChars ≤ (H d).length)
    (s : Store) (o : BackupOpts) (src : List SrcEntry) (ho : 0 < o.maxBlockSize) (hsrc : SrcGood src)
    (hs : ArchiveGood H src s) (subtree : Str) (excl : Str → Bool) : SelExact H o src s subtree excl := by
  obtain ⟨hks, stats, evs, h⟩ := backup_summary_run (o := o) hinj hlen ho hsrc hs
  have hr := restore_sel_of_records h.final hsrc hs.st h.records h.usable h.wf subtree excl
  have hlist := (listVersion_specified_runs h.wf (newBandOf s) subtree excl).clean
  rw [h.listSel] at hlist
  exact ⟨hr.1.1, hr.1.2, hr.2.1, hr.2.2,
    ⟨_, hlist.1,
      ((h.records_sel (selKeep subtree excl)).map_eq (Inv.metaOf o) strip (fun _ _ hr => hr.same.symm)).symm,
      h.listSel_paths (selKeep subtree excl)⟩,
    hlist.2.2⟩

end Conserve.Exact
