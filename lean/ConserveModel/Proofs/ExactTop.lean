import ConserveModel.Proofs.ExactList
import ConserveModel.Props.C03
/-
Assembly for C01 (a): what a fault-free backup of a good source leaves (`backup_leaves` with
`FairSummary`, on any well-formed archive; `backup_summary_run` with `Summary`, its case for a good archive),
that a good archive is good again, and that the restore of every earlier version is unchanged.
No property statements here.
-/
namespace Conserve.Contain
open Conserve Conserve.Exact Prog

/-- What a fault-free `backup H o src` from archive `s` leaves (`s'`, with the new version's hunks `hs`),
whatever the earlier versions of `s` look like. -/
structure FairSummary (H : Str → Str) (o : BackupOpts) (src : List SrcEntry) (s s' : Store)
    (hs : List (List IndexEntry)) (stats : Stats) (evs : List Event) : Prop where
  runs : RunsAt (backup H o src) s (.ok stats) s' evs
  noErr : stats.errors = 0
  final : Final H o (newBandOf s) s s' hs src
  records : Paired (Records H o s') src hs.flatten
  usable : ∀ e ∈ hs.flatten, entryUsable e = true
  wf : ArchWF s'
  ext : Extends s s'

end Conserve.Contain

namespace Conserve.Exact
open Conserve Prog Contain

variable {H : Str → Str} {o : BackupOpts}

/-- `FairSummary` for a good archive: the run reports nothing and leaves no dangling reference. -/
structure Summary (H : Str → Str) (o : BackupOpts) (src : List SrcEntry) (s s' : Store)
    (hs : List (List IndexEntry)) (stats : Stats) (evs : List Event) : Prop where
  runs : RunsAt (backup H o src) s (.ok stats) s' evs
  noErr : stats.errors = 0
  noEv : NoErrorEvents evs
  final : Final H o (newBandOf s) s s' hs src
  records : Paired (Records H o s') src hs.flatten
  usable : ∀ e ∈ hs.flatten, entryUsable e = true
  wf : ArchWF s'
  ext : Extends s s'
  noDangling : NoDangling H s'

theorem archiveOK_of_good {src : List SrcEntry} {s : Store} (hg : ArchiveGood H src s) :
    C03.ArchiveOK H src s := ⟨hg.st.noDup, hg.st.blocks, hg.noDangling, hg.heuristic⟩

/-- **What a fault-free backup of a good source leaves**, on an archive that is only "fair" — a
well-formed map and tree with sorted hunks and no lock (`StoreOK`, `ArchWF`), but possibly with versions
that do not list silently, hunks missing, and index entries that refer to missing blocks: the run
completes, reports the errors of the basis listing and then none, and the new version records the source.
The tool's "looks unchanged ⇒ is unchanged" assumption is needed only for basis entries whose blocks
are all present (`Inv.HeuristicSound`, which is stated that way). -/
theorem backup_leaves (hinj : Function.Injective H) (hlen : ∀ d, subdirNameChars ≤ (H d).length)
    (hmax : 0 < o.maxBlockSize) {src : List SrcEntry} {s : Store} (hsrc : SrcGood src)
    (hst : StoreOK H s) (hwf : ArchWF s) (noLock : s.get? .gcLock = none)
    (hheur : Inv.NoBands s ∨ Inv.HeuristicSound H src (World.clean s)) :
    ∃ hs stats evs, FairSummary H o src s ((backup H o src).run (World.clean s)).2.store hs stats
      (evs ++ evsOf (basisErrors s)) ∧ NoErrorEvents evs := by
  have hr1 := backupPrelude_runs_fair hst hwf noLock
  obtain ⟨s', hs, evs, stats, hr2, herr, hne, hf⟩ :=
    backupMain_runs hmax (newBandOf s, blockNamesOf (withNewBand s), basisListing s) (prelude_linv (o := o) hlen hst)
      hsrc.entryGood (basisListing_times s) hsrc.sorted hsrc.bytes
  have hrun : RunsAt (backup H o src) s (.ok stats) s' (evs ++ evsOf (basisErrors s)) := by
    rw [Inv.backup_eq]
    exact RunsAt.bind hr1 hr2
  obtain ⟨_, hstore, _⟩ := hrun.clean
  subst hstore
  have hset : C04.Setting H o src (World.clean s) := ⟨hinj, hmax, hsrc.wf, rfl, hst.noDup, hst.blocks, hheur⟩
  have hrecs := final_records hf hsrc fun n es hh =>
    C04.faults_recorded_content hset (newBandOf s) n es
      (by simp [hunkAt, fresh_under_new hst (k := .hunk (newBandOf s) n) (isUnder_bandDir_iff.2 rfl)]) hh
  have husable : ∀ e ∈ hs.flatten, entryUsable e = true := fun e he => by
    obtain ⟨sf, hsf, hr⟩ := hrecs.mem_right he
    exact hr.usable hsrc hsf hf.st.small
  exact ⟨hs, stats, evs, ⟨hrun, herr, hf, hrecs, husable, final_archWF hf hwf husable hsrc.sorted,
    C04.faults_extends hset⟩, hne⟩

theorem backup_summary_run (hinj : Function.Injective H) (hlen : ∀ d, subdirNameChars ≤ (H d).length)
    (hmax : 0 < o.maxBlockSize) {src : List SrcEntry} {s : Store} (hsrc : SrcGood src)
    (hg : ArchiveGood H src s) :
    ∃ hs stats evs, Summary H o src s ((backup H o src).run (World.clean s)).2.store hs stats evs := by
  have hset : C04.Setting H o src (World.clean s) :=
    C04.Setting.of_store hinj hmax hsrc.wf rfl hg.st.noDup hg.st.blocks hg.noDangling hg.heuristic
  obtain ⟨hs, stats, evs, h, hne⟩ := backup_leaves (o := o) hinj hlen hmax hsrc hg.st hg.wf hg.noLock hset.basis
  rw [hg.basisErrors_nil] at h
  exact ⟨hs, stats, _, h.runs, h.noErr, by simpa [evsOf] using hne, h.final, h.records, h.usable, h.wf, h.ext,
    C04.faults_no_dangling hset hg.noDangling⟩

theorem backup_summary (hinj : Function.Injective H) (hlen : ∀ d, subdirNameChars ≤ (H d).length)
    (hmax : 0 < o.maxBlockSize) {src : List SrcEntry} {s : Store} (hsrc : SrcGood src)
    (hg : ArchiveGood H src s) :
    ∃ s' hs stats evs, Summary H o src s s' hs stats evs :=
  let ⟨hs, stats, evs, h⟩ := backup_summary_run (o := o) hinj hlen hmax hsrc hg
  ⟨_, hs, stats, evs, h⟩

/-- **Every world** (faults, crash points): after `backup` of `src`, the tool's "looks unchanged ⇒ is
unchanged" assumption holds again for the SAME source: old hunks by the assumption before, new hunks
because every file entry the run recorded reads back to the source file with its path (C04). -/
theorem heuristic_after_backup (hinj : Function.Injective H) {src : List SrcEntry} (ho : 0 < o.maxBlockSize)
    (hsrc : SrcGood src) {w : World} (he : w.enforceCreateNew = true) (hnd : Inv.NoDupKeys w.store)
    (hbg : Inv.BlocksGood H w.store) (hd : NoDangling H w.store) (hh : Inv.HeuristicSoundStore H src w.store) :
    Inv.HeuristicSoundStore H src ((backup H o src).run w).2.store := by
  have hset : C04.Setting H o src w := C04.Setting.of_store hinj ho hsrc.wf he hnd hbg hd hh
  have hx := C04.faults_extends hset
  intro b n es hhunk e hee sf hsf hkf hap hheur hblocks
  cases h0 : hunkAt w.store b n with
  | none =>
    have hk : e.kind = .file := (Inv.heuristicallyUnchanged_kind hheur).trans hkf
    obtain ⟨sf', hsf', hap', _, hrb⟩ := C04.faults_recorded_content hset b n es h0 hhunk e hee hk
    have : sf' = sf := hsrc.inj sf' hsf' sf hsf (hap'.trans hap)
    subst this
    exact hrb
  | some es0 =>
    have heq : es0 = es := by
      have := Inv.hunkAt_mono h0 hx
      rw [hhunk] at this
      cases this; rfl
    subst heq
    have hprem : ∀ a ∈ e.addrs, ∃ c, blockContent H w.store a.hash = some c := fun a ha =>
      let ⟨c, hc, _⟩ := hd.content h0 hee ha; ⟨c, hc⟩
    exact Inv.readBack_mono H (hh b n es0 h0 e hee sf hsf hkf hap hheur hprem) hx

theorem ArchiveGood.heuristic_after (hinj : Function.Injective H) (ho : 0 < o.maxBlockSize) {src : List SrcEntry}
    {s : Store} (hsrc : SrcGood src) (hg : ArchiveGood H src s) :
    Inv.HeuristicSoundStore H src ((backup H o src).run (World.clean s)).2.store :=
  heuristic_after_backup hinj ho hsrc rfl hg.st.noDup hg.st.blocks hg.noDangling hg.heuristic

section summary
variable {src : List SrcEntry} {s s' : Store} {hs : List (List IndexEntry)} {stats : Stats} {evs : List Event}

theorem Summary.head_ok (h : Summary H o src s s' hs stats evs) : headOutcome s' (newBandOf s) = .ok () :=
  final_headOutcome h.final

theorem Summary.bandIds_mem (h : Summary H o src s s' hs stats evs) : newBandOf s ∈ bandIdsOf s' :=
  final_bandIds_mem h.final

theorem Summary.bandIds_le (h : Summary H o src s s' hs stats evs) (hst : StoreOK H s) :
    ∀ b ∈ bandIdsOf s', b ≤ newBandOf s := final_bandIds_le h.final hst

theorem Summary.bandSame (h : Summary H o src s s' hs stats evs) {b : Nat} (hb : b ≠ newBandOf s) :
    BandSame s s' b := bandSame_of_frame h.final.frame hb

theorem Summary.archiveGood (h : Summary H o src s s' hs stats evs) (hg : ArchiveGood H src s)
    {src' : List SrcEntry} (hheur : Inv.HeuristicSoundStore H src' s') : ArchiveGood H src' s' := by
  refine ⟨h.final.st, fun b n v hgv => h.wf.sorted_of_get? hgv, ?_, ?_, h.noDangling, hheur⟩
  · rw [h.final.frame _ (by simp [newKey, Key.isUnder, Key.parent, isBlockish])]
    exact hg.noLock
  · intro b hb
    by_cases hne : b = newBandOf s
    · subst hne; exact final_bandGood h.final h.usable
    · exact (hg.bands b (final_bandIds_old h.final hg.st hb hne)).of_same hg.st.noDup h.final.st.noDup (h.bandSame hne)

theorem Summary.restoreSpec_old (h : Summary H o src s s' hs stats evs) (hg : ArchiveGood H src s)
    {b : Nat} (hb : b < newBandOf s) : restoreSpecP H s' b = restoreSpecP H s b := by
  have hsame : ∀ b', b' ≤ b → BandSame s s' b' := fun b' hb' => h.bandSame (by omega)
  have hn := hg.wf.uniqueKeys
  have hn' := h.final.st.uniqueKeys
  have hhead : headOutcome s' b = headOutcome s b := by
    simp only [headOutcome, (hsame b (Nat.le_refl b)).head]
  have hrest : restoreP H s' [] (listSpec s b) = restoreP H s [] (listSpec s b) :=
    Hist.restoreP_content (fun e he => listed_blockContent hg.noDangling h.ext he) []
  simp only [restoreSpecP, hhead, listSpec_same hn hn' b hsame, listErrors_same hn hn' b hsame, hrest]

end summary

theorem noBands_no_hunk {s : Store} (hst : StoreOK H s) (hnb : Inv.NoBands s) (b n : Nat) :
    s.get? (.hunk b n) = none := by
  have hband : s.get? (.bandDir b) = none := by
    cases hg : s.get? (.bandDir b) with
    | none => rfl
    | some v => exact absurd rfl (hnb _ (Store.mem_of_get? hg) b)
  exact hst.none_of_parent_none rfl (hst.none_of_parent_none (k := .hunkDir _ _) rfl
    (hst.none_of_parent_none (k := .indexDir _) rfl hband))

/-- An archive without any version (just initialised, possibly with blocks) is good for any source. -/
theorem ArchiveGood.of_noBands {s : Store} (hst : StoreOK H s) (hnb : Inv.NoBands s)
    (hlock : s.get? .gcLock = none) (src : List SrcEntry) : ArchiveGood H src s := by
  have hh : ∀ b n, hunkAt s b n = none := fun b n => by simp [hunkAt, noBands_no_hunk hst hnb b n]
  refine ⟨hst, ?_, hlock, ?_, ?_, ?_⟩
  · intro b n v hg
    rw [noBands_no_hunk hst hnb] at hg; cases hg
  · intro b hb
    have := (mem_bandIdsOf hst).1 hb
    exact absurd rfl (hnb _ (Store.mem_of_get? this) b)
  · intro b n es h; rw [hh] at h; cases h
  · intro b n es h; rw [hh] at h; cases h

/-- The checks behind `StoreOK`, as a computable predicate (for concrete archives). -/
def storeChecks (H : Str → Str) (s : Store) : Bool :=
  decide (s.map Prod.fst).Nodup && s.all (fun kv => s.parentOk kv.1) && s.all (fun kv => kindOk kv.1 kv.2) &&
  (s.get? .root == some .dir) && (s.get? .blockRoot == some .dir) &&
  s.all (fun kv =>
    match kv.1, kv.2 with
    | .block h, .blockData c => H c == h && decide (c.length < 18446744073709551616)
    | .block _, .empty => true
    | .block _, _ => false
    | _, _ => true)

theorem StoreOK.of_checks {s : Store} (h : storeChecks H s = true) : StoreOK H s := by
  simp only [storeChecks, Bool.and_eq_true, decide_eq_true_eq, List.all_eq_true, beq_iff_eq] at h
  obtain ⟨⟨⟨⟨⟨h1, h2⟩, h3⟩, h4⟩, h5⟩, h6⟩ := h
  refine ⟨h1, fun k v hg => h2 _ (Store.mem_of_get? hg), fun k v hg => h3 _ (Store.mem_of_get? hg), h4, h5, ?_, ?_⟩
  · intro hh v hg
    have := h6 _ (Store.mem_of_get? hg)
    cases v <;> simp at this ⊢
    exact this.1
  · intro hh c hg
    have := h6 _ (Store.mem_of_get? hg)
    simp at this
    exact this.2

end Conserve.Exact
