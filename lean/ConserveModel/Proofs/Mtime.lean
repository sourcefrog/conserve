import ConserveModel.Mtime
/-
Truncating division in terms of flooring division (which `omega` knows), the borrow that turns
one into the other, and when `IndexEntry::mtime()` succeeds.
-/
namespace Conserve.DM

theorem asSecond_eq (t : Int) :
    asSecond t = if 0 ≤ t ∨ t % 1000000000 = 0 then t / 1000000000 else t / 1000000000 + 1 := by
  unfold asSecond nsPerSec
  rw [Int.tdiv_eq_ediv]
  simp only [Int.dvd_iff_emod_eq_zero]
  split
  · exact Int.add_zero _
  · rfl

theorem subsec_eq (t : Int) :
    subsecNanosecond t =
      if 0 ≤ t ∨ t % 1000000000 = 0 then t % 1000000000 else t % 1000000000 - 1000000000 := by
  unfold subsecNanosecond nsPerSec
  rw [Int.tmod_eq_emod]
  simp only [Int.dvd_iff_emod_eq_zero]
  split
  · exact Int.sub_zero _
  · rfl

theorem subsec_neg_iff (t : Int) : subsecNanosecond t < 0 ↔ t < 0 ∧ t % 1000000000 ≠ 0 := by
  rw [subsec_eq]
  split <;> omega

theorem subsec_range (t : Int) :
    -1000000000 < subsecNanosecond t ∧ subsecNanosecond t < 1000000000 := by
  rw [subsec_eq]
  split <;> omega

/-- The adjustment that `metadata_from` and `to_file_time` share — truncate, then borrow one
second if the fraction is negative — is flooring division. -/
theorem floorPair (t : Int) :
    (if subsecNanosecond t < 0 then (asSecond t - 1, subsecNanosecond t + 1000000000)
      else (asSecond t, subsecNanosecond t)) = (t / 1000000000, t % 1000000000) := by
  rw [subsec_eq, asSecond_eq]
  by_cases hc : 0 ≤ t ∨ t % 1000000000 = 0
  · rw [if_pos hc, if_pos hc, if_neg (by omega)]
  · rw [if_neg hc, if_neg hc, if_pos (by omega)]
    congr 1 <;> omega

theorem indexMtime_eq_ok {sec : Int} {nanos : Nat} (hn : nanos ≤ 999999999)
    (h1 : secMin ≤ sec) (h2 : sec ≤ secMax) :
    indexMtime sec nanos = .ok (sec * nsPerSec + nanos) := by
  unfold indexMtime
  rw [if_neg (by omega), if_neg (by omega)]

theorem indexMtime_panics {sec : Int} {nanos : Nat}
    (h : ¬ (nanos ≤ 999999999 ∧ secMin ≤ sec ∧ sec ≤ secMax)) :
    ∃ site, indexMtime sec nanos = .panic site := by
  unfold indexMtime
  split
  · exact ⟨_, rfl⟩
  · rw [if_pos (by omega)]
    exact ⟨_, rfl⟩

end Conserve.DM
