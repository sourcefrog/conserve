import ConserveModel.Backup
import ConserveModel.Proofs.ProgLemmas
/-
`copy_file` cut into the pieces every walk over it uses: `metadata_from` as a total function
(`metaOf`), the "store it" half (`copyFileStore`), and the three ways `copy_file` goes on after
looking at the basis entry (`copyFile_cases`).  No property statements here.
-/
namespace Conserve.Inv
open Conserve Prog

/-- `IndexEntry::metadata_from` as a total function (after the repair of D3). -/
def metaOf (o : BackupOpts) (s : SrcEntry) : IndexEntry :=
  { apath := s.apath, kind := s.kind, mtime := s.mtimeNs.fdiv nanosPerSec,
    mtimeNanos := (s.mtimeNs.fmod nanosPerSec).toNat,
    unixMode := some s.unixMode,
    user := if o.owner then s.user else none,
    group := if o.owner then s.group else none,
    addrs := [], target := s.target }

theorem metadataFrom_eq (o : BackupOpts) (s : SrcEntry) : metadataFrom o s = some (metaOf o s) := rfl

theorem metadataFrom_isSome (o : BackupOpts) (s : SrcEntry) : (metadataFrom o s).isSome = true := rfl

/-- The "store it" half of `copy_file` (after the decision not to reuse the basis addresses). -/
def copyFileStore (H : Str → Str) (o : BackupOpts) (w : Writer) (ck : ChangeKind) (s : SrcEntry) :
    Prog (Writer × Except Err (Option ChangeKind)) :=
  if s.size = 0 then
    match metadataFrom o s with
    | none => .panic "metadata_from: mtime_nanos try_into u32 unwrap"
    | some ie =>
      pure ({ w with pending := w.pending ++ [ie],
                     stats := { w.stats with emptyFiles := w.stats.emptyFiles + 1 } }, .ok (some ck))
  else if s.size ≤ o.smallFileCap then do
    let (w, r) ← combinerPush H o w s
    match r with
    | .error e => pure (w, .error e)
    | .ok () => pure (w, .ok (some ck))
  else do
    let (w, r) ← storeFileContent H o w s
    match r with
    | .error e => pure (w, .error e)
    | .ok addrs =>
      match metadataFrom o s with
      | none => .panic "metadata_from: mtime_nanos try_into u32 unwrap"
      | some ie => pure ({ w with pending := w.pending ++ [{ ie with addrs := addrs }] }, .ok (some ck))

section
variable {H : Str → Str}

theorem copyFile_none (o : BackupOpts) (w : Writer) (s : SrcEntry) :
    copyFile H o w none s =
      copyFileStore H o { w with stats := { w.stats with files := w.stats.files + 1,
                                                          newFiles := w.stats.newFiles + 1 } } .added s := rfl

theorem copyFile_panic (o : BackupOpts) (w : Writer) (b : IndexEntry) (s : SrcEntry)
    (h : heuristicallyUnchanged s b = none) :
    copyFile H o w (some b) s = .panic "IndexEntry::mtime: Timestamp::new expect" := by
  unfold copyFile
  simp only [h]

theorem copyFile_changed (o : BackupOpts) (w : Writer) (b : IndexEntry) (s : SrcEntry)
    (h : heuristicallyUnchanged s b = some false) :
    copyFile H o w (some b) s =
      copyFileStore H o { w with stats := { w.stats with files := w.stats.files + 1,
                                                          modifiedFiles := w.stats.modifiedFiles + 1 } } .changed s := by
  unfold copyFile
  simp only [h]
  rfl

theorem copyFile_damaged (o : BackupOpts) (w : Writer) (b : IndexEntry) (s : SrcEntry)
    (h : heuristicallyUnchanged s b = some true)
    (hall : b.addrs.all (fun a => w.exists_.contains a.hash) = false) :
    copyFile H o w (some b) s =
      copyFileStore H o { w with stats := { w.stats with files := w.stats.files + 1,
                                                          modifiedFiles := w.stats.modifiedFiles + 1,
                                                          replacedDamagedBlocks := w.stats.replacedDamagedBlocks + 1 } } .changed s := by
  unfold copyFile
  simp only [h, hall]
  rfl

theorem copyFile_unchanged (o : BackupOpts) (w : Writer) (b : IndexEntry) (s : SrcEntry)
    (h : heuristicallyUnchanged s b = some true)
    (hall : b.addrs.all (fun a => w.exists_.contains a.hash) = true) :
    ∃ st' ck, st'.errors = w.stats.errors ∧ copyFile H o w (some b) s =
      .ret ({ w with pending := w.pending ++ [{ metaOf o s with addrs := b.addrs }], stats := st' }, .ok (some ck)) := by
  unfold copyFile
  simp only [h, hall, metadataFrom_eq]
  exact ⟨_, _, by rfl, rfl⟩

/-- The three ways `copy_file` goes on after looking at the basis entry: the "store it" half on a
writer with updated counters; the panic of `IndexEntry::mtime()` on a stored time out of range;
or — unchanged since a basis entry all of whose blocks are present — it returns at once with the
basis addresses.  The error counter is not touched. -/
theorem copyFile_cases (o : BackupOpts) (wr : Writer) (basis : Option IndexEntry) (sf : SrcEntry) :
    (∃ st ck, st.errors = wr.stats.errors ∧
      copyFile H o wr basis sf = copyFileStore H o { wr with stats := st } ck sf) ∨
    (∃ b m, basis = some b ∧ heuristicallyUnchanged sf b = none ∧ copyFile H o wr basis sf = .panic m) ∨
    (∃ b st ck, basis = some b ∧ heuristicallyUnchanged sf b = some true ∧
      b.addrs.all (fun a => wr.exists_.contains a.hash) = true ∧ st.errors = wr.stats.errors ∧
      copyFile H o wr basis sf =
        .ret ({ wr with pending := wr.pending ++ [{ metaOf o sf with addrs := b.addrs }], stats := st },
          .ok (some ck))) := by
  cases basis with
  | none => exact Or.inl ⟨_, _, by rfl, copyFile_none (H := H) o wr sf⟩
  | some b =>
    cases hh : heuristicallyUnchanged sf b with
    | none => exact Or.inr (Or.inl ⟨b, _, rfl, hh, copyFile_panic (H := H) o wr b sf hh⟩)
    | some t =>
      cases t with
      | false => exact Or.inl ⟨_, _, by rfl, copyFile_changed (H := H) o wr b sf hh⟩
      | true =>
        cases hall : b.addrs.all (fun a => wr.exists_.contains a.hash) with
        | false => exact Or.inl ⟨_, _, by rfl, copyFile_damaged (H := H) o wr b sf hh hall⟩
        | true =>
          obtain ⟨st, ck, he, heq⟩ := copyFile_unchanged (H := H) o wr b sf hh hall
          exact Or.inr (Or.inr ⟨b, st, ck, rfl, hh, hall, he, heq⟩)

end

end Conserve.Inv
