import ConserveModel.Proofs.NoPanicLogic
import ConserveModel.Proofs.FrameOps
import ConserveModel.Validate
/-
No panic on the read side (property C10).  The archive and band functions, the version selection,
the index reader, the stitched listing and the exclusion filter are walked in Proofs/Footprint.lean
and Proofs/FrameOps.lean (`readHunk_tree`: `readHunk` only returns entries that pass
`IndexEntry::check`; `listEntries_tree`); the walks of restore and validate
(Proofs/NoPanicRestore.lean) and of `conserve versions` (Props/C10.lean) put them in.
-/
namespace Conserve.NP
open Conserve Prog

theorem archiveOpen_safe : Safe (fun _ => True) archiveOpen := (archiveOpen_tree (O := fun _ => True) trivial).safe

end Conserve.NP
