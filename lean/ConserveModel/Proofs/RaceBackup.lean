import ConserveModel.Proofs.RaceProg
import ConserveModel.Proofs.ConformsBackup
/-
C06 on the full model — `backup` cut at its storage operations up to the second look at the gc lock:
the residual program at every point as an explicit term (`bkL1 … bkL2`), and the rest (`crit`:
block listing, basis listing, main loop, tail) as one program.  No property statements here.
-/
set_option linter.unusedSimpArgs false
namespace Conserve
open Prog Conserve.Conf Conserve.Inv

section
variable (H : Str → Str) (o : BackupOpts) (src : List SrcEntry)

def basisListing : Option Nat → Prog (List IndexEntry)
  | some b => listEntries b [slash] fun _ => false
  | none => .ret []

/-- `backup` after its second look at the lock: list the blocks, list the basis, write. -/
def crit (basis : Option Nat) (n : Nat) : Prog Stats :=
  listBlocks.bind fun blocks => (basisListing basis).bind fun be => backupMain H o src (n, blocks, be)

/-- At the second look at the lock (`list_dir` of the archive directory). -/
def bkL2 (basis : Option Nat) (n : Nat) : Prog Stats :=
  .op (.listDir .root) (onLockListed fun l => if l = true then .fail .gcLockHeld else crit H o src basis n)

/-- At the write of the band head. -/
def bkHead (basis : Option Nat) (n : Nat) : Prog Stats :=
  .op (.write (.bandHead n) (.head .ok []) .createNew) (onUnit (bkL2 H o src basis n))

/-- At `create_dir bN/i`. -/
def bkMkI (basis : Option Nat) (n : Nat) : Prog Stats :=
  .op (.createDir (.indexDir n)) (onUnit (bkHead H o src basis n))

/-- At `create_dir bN`. -/
def bkMkdir (basis : Option Nat) (n : Nat) : Prog Stats :=
  .op (.createDir (.bandDir n)) (onUnit (bkMkI H o src basis n))

/-- At `last_band_id` inside `Band::create`. -/
def bkIdl (basis : Option Nat) : Prog Stats :=
  .op (.listDir .root) (onIds fun ids => bkMkdir H o src basis (nextId (maxNat? ids)))

/-- At `last_band_id` for the basis. -/
def bkBasis : Prog Stats := .op (.listDir .root) (onIds fun ids => bkIdl H o src (maxNat? ids))

/-- At the first look at the lock. -/
def bkL1 : Prog Stats :=
  .op (.metadata .gcLock) (onFile fun l => if l = true then .fail .gcLockHeld else bkBasis H o src)

theorem backup_start : backup H o src = bkL1 H o src := by
  rw [backup_eq]
  simp only [backupPrelude, gcIsLocked, isFile_bind, Prog.op_bind, onFile_bind, bkL1]
  congr 1; funext r; congr 1; funext l
  cases l
  · simp only [Bool.false_eq_true, if_false, Prog.bind_assoc, lastBandId_bind, Prog.op_bind, onIds_bind, bkBasis]
    congr 1; funext r; congr 1; funext ids
    simp only [bandCreate_eq, Prog.bind_assoc, lastBandId_bind, bkIdl, Prog.op_bind, onIds_bind]
    congr 1; funext r; congr 1; funext ids'
    simp only [bandCreateTail, Prog.bind_assoc, performUnit_bind, Prog.ret_bind, gcLockListed_bind, bkMkdir, bkMkI,
      bkHead, bkL2, Prog.op_bind, onUnit_bind, onLockListed_bind]
    congr 1; funext r; congr 1; congr 1; funext r; congr 1; congr 1; funext r; congr 1; congr 1; funext r
    congr 1; funext l
    cases l
    · simp only [Bool.false_eq_true, if_false, Prog.bind_assoc, crit]
      congr 1; funext blocks
      cases maxNat? ids <;> simp [basisListing, Prog.bind_assoc]
    · rfl
  · rfl

end

end Conserve
