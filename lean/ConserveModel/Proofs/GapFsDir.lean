import ConserveModel.Proofs.GapFsWalk
import ConserveModel.Proofs.FsRestore
/-
What `restore_dir` (`create_dir_all`, AlreadyExists accepted) does on a path below the destination
none of whose prefixes is a symlink: it touches prefixes of the path only and creates directories
only (`Grows`); and when it SUCCEEDS either every prefix of the path now
exists and is no symlink (`SolidTo`), or the path runs into a non-directory (`Blocked`: that is how
`create_dir_all` can return EEXIST).  Both facts survive everything restore does later (nodes are
never removed and keep their kind), and both make the deferred metadata calls harmless.
-/
namespace Conserve

def SolidTo (fs : Fs) (D : Path) (cs : List Str) : Prop :=
  ∀ pre, pre <+: cs → ∃ x, fs.node (D ++ pre) = some x ∧ x.kind ≠ .symlink

def Blocked (fs : Fs) (D : Path) (cs : List Str) : Prop :=
  ∃ pre0, pre0 <+: cs ∧ SolidTo fs D pre0 ∧ ∃ x, fs.node (D ++ pre0) = some x ∧ x.kind ≠ .dir

theorem SolidTo.kept {fs fs' : Fs} {D : Path} {cs : List Str} (h : SolidTo fs D cs) (hk : Kept fs fs') :
    SolidTo fs' D cs := by
  intro pre hp
  obtain ⟨x, hx, hxk⟩ := h pre hp
  obtain ⟨x', hx', hk'⟩ := hk _ x hx
  exact ⟨x', hx', by rw [hk']; exact hxk⟩

theorem Blocked.kept {fs fs' : Fs} {D : Path} {cs : List Str} (h : Blocked fs D cs) (hk : Kept fs fs') :
    Blocked fs' D cs := by
  obtain ⟨pre0, hp, hs, x, hx, hxk⟩ := h
  obtain ⟨x', hx', hk'⟩ := hk _ x hx
  exact ⟨pre0, hp, hs.kept hk, x', hx', by rw [hk']; exact hxk⟩

theorem SolidTo.cleanFullL {fs : Fs} {D : Path} {cs : List Str} (h : SolidTo fs D cs) : CleanFullL fs D cs := by
  intro pre hp y hy
  obtain ⟨x, hx, hk⟩ := h pre hp
  rw [hx] at hy; cases hy; exact hk

theorem SolidTo.of_have {fs : Fs} {D : Path} {cs : List Str} (hto : HaveTo fs D cs)
    (hself : ∃ x, fs.node (D ++ cs) = some x ∧ x.kind ≠ .symlink) : SolidTo fs D cs := by
  intro pre hp
  by_cases e : pre = cs
  · rw [e]; exact hself
  · obtain ⟨x, hx, hk⟩ := Fs.isDir_iff.1 (hto pre hp e)
    exact ⟨x, hx, by rw [hk]; decide⟩

theorem Blocked.mono {fs : Fs} {D : Path} {cs cs' : List Str} (h : Blocked fs D cs) (hp : cs <+: cs') :
    Blocked fs D cs' := by
  obtain ⟨pre0, hp0, rest⟩ := h
  exact ⟨pre0, hp0.trans hp, rest⟩

def SolidOrBlocked (fs : Fs) (D : Path) (cs : List Str) : Prop := SolidTo fs D cs ∨ Blocked fs D cs

theorem SolidOrBlocked.kept {fs fs' : Fs} {D : Path} {cs : List Str} (h : SolidOrBlocked fs D cs)
    (hk : Kept fs fs') : SolidOrBlocked fs' D cs :=
  h.imp (fun h => h.kept hk) (fun h => h.kept hk)

theorem resolve_clean_dirs {fs : Fs} {D : Path} {cs : List Str} {follow : Bool}
    (hD : DestOk fs D) (hg : ∀ c ∈ cs, goodName c = true) (hc : CleanTo fs D cs)
    (hfin : follow = false ∨ NotLink (fs.node (D ++ cs)))
    {p : Path} (h : fs.resolve follow (D ++ cs) = .ok p) : p = D ++ cs ∧ HaveTo fs D cs :=
  resolve_clean (trail := []) hD hg (fun _ h => nomatch h) hc (hfin.imp (⟨·, rfl⟩) id) p
    (by rw [List.append_nil]; exact h)

theorem mkdir_result {fs fs1 : Fs} {D : Path} {cs : List Str} {r : Except Errno Unit} (hD : DestOk fs D)
    (hg : ∀ c ∈ cs, goodName c = true) (hc : CleanFullL fs D cs) (h : fs.mkdir (D ++ cs) = (fs1, r)) :
    (r = .ok () → SolidTo fs1 D cs) ∧ (r = .error .EEXIST → fs1 = fs ∧ SolidTo fs D cs) := by
  rw [Fs.mkdir_eq] at h
  rcases Fs.onPath_eq h with ⟨e, hr, he⟩ | ⟨p, hr, hk⟩
  · obtain ⟨rfl, rfl⟩ := Prod.mk.inj he
    refine ⟨(fun e' => by cases e'), fun e' => ?_⟩
    rw [Except.error.inj e'] at hr
    exact absurd hr (resolve_ne_eexist _ _ _)
  · obtain ⟨rfl, hto⟩ := resolve_clean_dirs hD hg hc.to (Or.inl rfl) hr
    have L : Local .dir fs fs1 (D ++ cs) := by
      have e : _ = fs1 := congrArg Prod.fst hk
      rw [← e]; exact Fs.newAt_local rfl
    rcases Fs.newAt_eq hk with ⟨_, rfl, rfl⟩ | ⟨⟨x, hn⟩, rfl, rfl⟩
    · refine ⟨fun _ => ?_, fun e' => by cases e'⟩
      obtain ⟨y, hy, hyk⟩ := Fs.isDir_iff.1 (isDir_createAt_self (fs := fs) (p := D ++ cs)
        (x := .dir (maskMode 0o777 fs.umask + fs.parentSgid (D ++ cs).dropLast) fs.euid
          (fs.newGid (D ++ cs).dropLast) .now) rfl)
      exact SolidTo.of_have (hto.kept L.kept) ⟨y, hy, by rw [hyk]; decide⟩
    · exact ⟨(fun e' => by cases e'), fun _ => ⟨rfl, SolidTo.of_have hto ⟨x, hn, hc cs (List.prefix_refl _) x hn⟩⟩⟩

theorem statIsDir_solid {fs : Fs} {D : Path} {cs : List Str} (hD : DestOk fs D)
    (hg : ∀ c ∈ cs, goodName c = true) (hc : CleanFullL fs D cs) (h : fs.statIsDir (D ++ cs) = true) :
    SolidTo fs D cs := by
  unfold Fs.statIsDir at h
  cases hr : fs.resolve true (D ++ cs) with
  | error e => rw [hr] at h; cases h
  | ok p =>
    rw [hr] at h
    obtain ⟨rfl, hto⟩ := resolve_clean_dirs hD hg hc.to (Or.inr (hc cs (List.prefix_refl _))) hr
    obtain ⟨x, hx, hk⟩ := Fs.isDir_iff.1 h
    exact SolidTo.of_have hto ⟨x, hx, by rw [hk]; decide⟩

theorem eexist_not_dir_blocked {fs : Fs} {D : Path} {cs : List Str} (hD : DestOk fs D)
    (hg : ∀ c ∈ cs, goodName c = true) (hc : CleanFullL fs D cs) {fs1 : Fs}
    (hm : fs.mkdir (D ++ cs) = (fs1, .error .EEXIST)) (hs : fs.statIsDir (D ++ cs) = false) :
    Blocked fs D cs := by
  have hsolid := ((mkdir_result hD hg hc hm).2 rfl).2
  refine ⟨cs, List.prefix_refl _, hsolid, ?_⟩
  obtain ⟨x, hx, hxk⟩ := hsolid cs (List.prefix_refl _)
  refine ⟨x, hx, fun hd => ?_⟩
  -- the no-follow resolution succeeded (EEXIST), so the following one does, at the same place
  have hr : fs.resolve false (D ++ cs) = .ok (D ++ cs) := by
    rcases Fs.onPath_eq ((Fs.mkdir_eq fs _).symm.trans hm) with ⟨e, hr, he⟩ | ⟨p, hr, _⟩
    · rw [← Except.error.inj (Prod.mk.inj he).2] at hr
      exact absurd hr (resolve_ne_eexist _ _ _)
    · rw [hr, (resolve_clean_dirs hD hg hc.to (Or.inl rfl) hr).1]
  have hr' : fs.resolve true (D ++ cs) = .ok (D ++ cs) :=
    walk_true_of_false fs _ _ _ _ _ hr (hc cs (List.prefix_refl _))
  unfold Fs.statIsDir at hs
  rw [hr'] at hs
  dsimp only at hs
  rw [Fs.isDir_iff.2 ⟨x, hx, hd⟩] at hs
  cases hs

theorem mkdirOrDir_result {fs fs1 : Fs} {D : Path} {cs : List Str} {r : Except Errno Unit}
    (hD : DestOk fs D) (hg : ∀ c ∈ cs, goodName c = true) (hc : CleanFullL fs D cs)
    (h : mkdirOrDir fs (D ++ cs) = (fs1, r)) :
    Grows D (· <+: cs) (fun _ => False) fs fs1 ∧
      (r = .ok () → SolidTo fs1 D cs) ∧ (r = .error .EEXIST → Blocked fs1 D cs) := by
  have G := mkdir_grows hD hg hc
  unfold mkdirOrDir at h
  split at h
  · rename_i heq
    obtain ⟨rfl, rfl⟩ := Prod.mk.inj h
    rw [heq] at G
    exact ⟨G, fun _ => (mkdir_result hD hg hc heq).1 rfl, fun e => by cases e⟩
  · rename_i heq
    split at h
    · rename_i hst
      obtain ⟨rfl, rfl⟩ := Prod.mk.inj h
      exact ⟨Grows.refl _ _ _ _, fun _ => statIsDir_solid hD hg hc hst, fun e => by cases e⟩
    · rename_i hst
      obtain ⟨rfl, rfl⟩ := Prod.mk.inj h
      refine ⟨Grows.refl _ _ _ _, (fun e' => by cases e'), fun e' => ?_⟩
      rw [Except.error.inj e'] at heq
      exact eexist_not_dir_blocked hD hg hc heq (by simpa using hst)

theorem mkdirAll_result {D : Path} : ∀ (k : Nat) (fs : Fs) (cs : List Str), DestOk fs D →
    (∀ c ∈ cs, goodName c = true) → CleanFullL fs D cs →
    ∀ fs1 r, Fs.mkdirAll k fs (D ++ cs) = (fs1, r) →
      Grows D (· <+: cs) (fun _ => False) fs fs1 ∧
        (r = .ok () → SolidTo fs1 D cs) ∧ (r = .error .EEXIST → Blocked fs1 D cs) := by
  intro k
  induction k with
  | zero =>
    intro fs cs _ _ _ fs1 r h
    obtain ⟨rfl, rfl⟩ := Prod.mk.inj h
    exact ⟨Grows.refl _ _ _ _, (fun e => by cases e), fun e => by cases e⟩
  | succ k ih =>
    intro fs cs hD hg hc fs1 r h
    rcases hm : fs.mkdir (D ++ cs) with ⟨fs', r'⟩
    by_cases he : r' = .error .ENOENT
    · -- the parent first, then once more
      subst he
      have hcs := mkdir_cs_ne_nil hD hm
      have hpre : cs.dropLast <+: cs := List.dropLast_prefix cs
      rw [Fs.mkdirAll_of_enoent hm (by simp [hcs]), dropLast_dest_append hcs] at h
      rcases hm2 : Fs.mkdirAll k fs (D ++ cs.dropLast) with ⟨fs2, r2⟩
      obtain ⟨G2, -, hB2⟩ := ih fs cs.dropLast hD (fun c h => hg c (List.dropLast_subset cs h))
        (hc.prefix hpre) fs2 r2 hm2
      have G2 := G2.mono (T' := (· <+: cs)) (N' := fun _ => False) (fun c h => h.trans hpre) (fun _ h => h)
      rw [hm2] at h
      cases r2 with
      | error e =>
        obtain ⟨rfl, rfl⟩ := Prod.mk.inj h
        exact ⟨G2, (fun e' => by cases e'), fun e' => (hB2 e').mono hpre⟩
      | ok u =>
        obtain ⟨G3, hR⟩ := mkdirOrDir_result (G2.destOk hD) hg (G2.cleanFullL hc) h
        exact ⟨G2.trans G3, hR⟩
    · rw [Fs.mkdirAll_of_ne_enoent (by rw [hm]; exact he)] at h
      exact mkdirOrDir_result hD hg hc h

theorem restoreDirFs_ok {fs fs1 : Fs} {path : List Str} {u : Unit} (h : restoreDirFs fs path = (fs1, .ok u)) :
    Fs.mkdirAll (path.length + 1) fs path = (fs1, .ok ()) ∨
    Fs.mkdirAll (path.length + 1) fs path = (fs1, .error .EEXIST) := by
  unfold restoreDirFs at h
  split at h
  · rename_i fs2 heq
    simp only [Prod.mk.injEq] at h
    rw [heq, h.1]; exact Or.inr rfl
  · rcases hm : Fs.mkdirAll (path.length + 1) fs path with ⟨fs2, r⟩
    rw [hm] at h
    simp only [Prod.mk.injEq] at h
    obtain ⟨rfl, rfl⟩ := h
    exact Or.inl rfl

theorem resolve_blocked {fs : Fs} {D : Path} {cs trail : List Str} {follow : Bool} (hD : DestOk fs D)
    (hg : ∀ c ∈ cs, goodName c = true) (hb : Blocked fs D cs) (hns : ¬ SolidTo fs D cs) :
    ∀ p, fs.resolve follow (D ++ cs ++ trail) ≠ .ok p := by
  obtain ⟨pre0, hp0, hs0, x, hx, hxk⟩ := hb
  obtain ⟨t, rfl⟩ := hp0
  cases t with
  | nil => rw [List.append_nil] at hns; exact absurd hs0 hns
  | cons c rest =>
    intro p
    unfold Fs.resolve
    have e : D ++ (pre0 ++ c :: rest) ++ trail = (D ++ pre0) ++ c :: (rest ++ trail) := by simp
    rw [e]
    exact walk_blocked fs follow resolveFuel maxSymlinks [] (D ++ pre0) c (rest ++ trail)
      (hD.good_append fun d hd => hg d (List.mem_append_left _ hd))
      (fun pre hp hne => by
        by_cases e : pre = D ++ pre0
        · rw [e]; exact hs0 pre0 (List.prefix_refl _)
        · exact hD.prefixes (Q := fun q => ∃ x, fs.node q = some x ∧ x.kind ≠ .symlink)
            (fun q hq => by
              obtain ⟨y, hy, hk⟩ := Fs.isDir_iff.1 hq
              exact ⟨y, hy, by rw [hk]; decide⟩)
            (fun q hq _ => hs0 q hq) pre hp hne e)
      (fun y hy => by rw [List.nil_append, hx] at hy; cases hy; exact hxk) p

theorem applyDeferralFs_unresolved {uidOf gidOf : Str → Option Nat} {fs : Fs} {d : Deferral}
    (h : ∀ follow p, fs.resolve follow d.path ≠ .ok p) : (applyDeferralFs uidOf gidOf fs d).1 = fs := by
  have h1 : ∀ u g, (fs.lchown d.path u g).1 = fs := fun u g => Fs.onPath_fst_unresolved (h false)
  have h2 : ∀ m, (fs.chmod d.path m).1 = fs := fun m => Fs.onPath_fst_unresolved (h true)
  have h3 : ∀ t, (fs.utimes true d.path t).1 = fs := fun t => Fs.onPath_fst_unresolved (h true)
  have e1 : (setOwnerFs uidOf gidOf fs d.path d.node).1 = fs := by rw [setOwnerFs_fst]; exact h1 _ _
  have e2 : (setPermsFs fs d.path d.node).1 = fs := by
    rw [setPermsFs_fst]
    cases d.node.unixMode with
    | none => rfl
    | some m => exact h2 m
  unfold applyDeferralFs
  dsimp only
  rw [e1, e2]
  exact h3 _

end Conserve
