import ConserveModel.StitchSpec
import ConserveModel.Proofs.QuietWorld
/-
Specification side for `validate` (property C09): what `Archive::validate` reports on a
fault-free world, as pure functions of the store.  Nothing here mentions programs.

The listing-level parts (`listSpec`, `listErrors`) are those of StitchSpec.lean (C08); the
block names `list_blocks` sees are `blockNamesOf` (Proofs/QuietWorld.lean).
-/
namespace Conserve

/-- What `Archive::open` says about the archive header: `none` = it opens. -/
def headerError (s : Store) : Option Err :=
  match s.get? .header with
  | none => some .notAnArchive
  | some .dir => some (.transport .other)
  | some (.header v) => if v = [48, 46, 54] then none else some .unsupportedArchiveVersion
  | some _ => some .json

/-- What `Band::open` says about the head of version `b`: `none` = it opens. -/
def headError (s : Store) (b : Nat) : Option Err :=
  match s.get? (.bandHead b) with
  | none => some (.bandHeadMissing b)                           -- no head file
  | some .dir => some (.transport .other)                       -- the head is a directory
  | some (.head .invalid _) => some (.unsupportedBandVersion b) -- version string that is not a semver
  | some (.head .tooNew _) => some (.unsupportedBandVersion b)  -- written by a newer conserve
  | some (.head _ flags) => if flags.isEmpty then none else some (.unsupportedBandFlags b)
  | some _ => some .json                                        -- empty or undecodable head

/-- The errors `validate_bands` reports for version `b`: the one from `Band::open` if the head
does not open; otherwise whatever listing the whole version (the stitched walk, C08) reports. -/
def bandValidateErrors (s : Store) (b : Nat) : List Err :=
  match headError s b with
  | some e => [e]
  | none => listErrors s b

/-- `merge_block_lens` after version `b`: the file entries of its listing are added to the
(hash, needed length) table; a version that does not open contributes nothing. -/
def bandRefs (s : Store) (m : List (Str × Nat)) (b : Nat) : List (Str × Nat) :=
  match headError s b with
  | some _ => m
  | none => entryLens m (listSpec s b)

/-- `referenced_lens`: every block hash some file entry of some version's listing refers to,
with the largest `start + len` asked of it. -/
def referencedOf (s : Store) : List (Str × Nat) := (bandIdsOf s).foldl (bandRefs s) []

section
variable (H : Str → Str)

/-- `get_async_uncached` on a store: read, decompress, compare the hash with the name. -/
def blockRead (s : Store) (h : Str) : Except Err Str :=
  match s.get? (.block h) with
  | none => .error (.transport .notFound)
  | some .dir => .error (.transport .other)
  | some (.blockData c) => if H c = h then .ok c else .error (.blockCorrupt h)
  | some _ => .error .json

/-- The error `BlockDir::validate` reports for a present block, if any. -/
def blockReadError (s : Store) (h : Str) : Option Err :=
  match blockRead H s h with
  | .ok _ => none
  | .error e => some e

/-- The order in which the model validates the present blocks (the code does it concurrently). -/
def presentSorted (s : Store) : List Str := (blockNamesOf s).mergeSort strLe

/-- Quick validation of one referenced hash: it must be among the non-empty block files. -/
def refErrorQuick (s : Store) (p : Str × Nat) : Option Err :=
  if (blockNamesOf s).contains p.1 then none else some (.blockMissing p.1)

/-- Full validation of one referenced (hash, needed length): the block must be present, must
have decoded and hashed to its name, and must be long enough. -/
def refErrorFull (s : Store) (p : Str × Nat) : Option Err :=
  if (blockNamesOf s).contains p.1 then
    match blockRead H s p.1 with
    | .ok c => if p.2 > c.length then some (.blockTooShort p.1) else none
    | .error _ => some (.blockMissing p.1)
  else some (.blockMissing p.1)

/-- Everything `validate` reports, in order: per version (ascending id) the errors of
`validate_bands`; then, quick: one `blockMissing` per referenced hash that is not a non-empty
block file; full: one error per present block that does not read back (transport error / does not
decompress / hash differs from the name), then `blockTooShort` / `blockMissing` per referenced hash. -/
def validateErrors (quick : Bool) (s : Store) : List Err :=
  (bandIdsOf s).flatMap (bandValidateErrors s) ++
    if quick then (referencedOf s).filterMap (refErrorQuick s)
    else (presentSorted s).filterMap (blockReadError H s) ++ (referencedOf s).filterMap (refErrorFull H s)

end

/-- What `validate` needs in order to run to the end: the store is a function and a tree, each
version's usable hunks are sorted (`ArchWF`, C08), and the archive directory and `d/` exist. -/
structure ArchOK (s : Store) : Prop where
  wf : ArchWF s
  root : s.get? .root = some .dir
  blockRoot : s.get? .blockRoot = some .dir

instance (s : Store) : Decidable (ArchOK s) :=
  if h : ArchWF s ∧ s.get? .root = some .dir ∧ s.get? .blockRoot = some .dir then
    isTrue ⟨h.1, h.2.1, h.2.2⟩
  else isFalse fun w => h ⟨w.wf, w.root, w.blockRoot⟩

/-- Some version's listing has a file entry with an address inside block `h`: restoring that
version reads the block. -/
def Referenced (s : Store) (h : Str) : Prop :=
  ∃ b ∈ bandIdsOf s, ∃ e ∈ listSpec s b, e.kind = .file ∧ ∃ a ∈ e.addrs, a.hash = h

/-! ### "Healthy archive" -/

/-- Every version that has a directory can be read: its head decodes, names a supported format
version and no unknown flags, and its index directory is there ("interrupted-WITH-header": a
version directory whose head was never (completely) written is not covered by C09). -/
def AllHeadsReadable (s : Store) : Prop := ∀ b ∈ bandIdsOf s, bandReadable s b = true

/-- Is the entry's time representable and does no address overflow `u64`? -/
def entryInRange (e : IndexEntry) : Bool :=
  (entryTimeNs e.mtime e.mtimeNanos).isSome &&
  e.addrs.all fun a => a.start + a.len < 18446744073709551616

/-- Stored values are in the range every version of conserve writes: the time of each index
entry is representable and no address overflows `u64`.  (`Conforms` does not say this; it is what
`IndexEntry::check` / `entryUsable` asks beyond `entryConforms`.)  Executable, like `Conforms`. -/
def entriesInRange (s : Store) : Bool :=
  s.all fun kv =>
    match kv.2 with
    | .hunk es => es.all entryInRange
    | _ => true

/-- A healthy archive: it conforms to the documented format (`Conforms`, Invariants.lean — this
allows the leftovers of interrupted writes), the store is a function and a tree, every version
directory has a readable head, and stored values are in range. -/
structure Good (H : Str → Str) (s : Store) : Prop where
  conforms : Conforms H s = true
  nodup : keysNodup s = true
  tree : treeShaped s = true
  heads : AllHeadsReadable s
  inRange : entriesInRange s = true

end Conserve
